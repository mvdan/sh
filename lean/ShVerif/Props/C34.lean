import ShVerif.Model.C34
import ShVerif.Proofs.C34
/-
  C34 — Environment lists behave like an ordered map.  Property theorems.

  `listEnvironF fold`, `getF fold` are the code with `listEnviron.compare`'s folding as a parameter.
  The theorems are proved once, for every byte-wise folding `List.map f` that moves no byte across
  `=` (`EqPreserving f`, defined with `specGetF` at the top of Proofs/C34.lean), and then read off
  for `fold = id`, which is the case-sensitive code `listEnviron`, `get` (`caseInsensitive = false`,
  every platform but Windows), and for `fold = upperAscii` (`caseInsensitive = true`).
-/
namespace ShVerif.C34

/-- The result `Get` must give according to the left-to-right map. -/
def ofSpec : Option Bytes → GetRes
  | some v => .val v
  | none => .unset

/-- Strictly increasing sort keys (`name=`): the order `Each` yields in. -/
def KeysIncreasing : List (Bytes × Bytes) → Prop
  | [] => True
  | [_] => True
  | a :: b :: rest =>
    cmpBytes (a.1 ++ [eqByte]) (b.1 ++ [eqByte]) = .lt ∧ KeysIncreasing (b :: rest)

def KeysIncreasingF (fold : Bytes → Bytes) : List (Bytes × Bytes) → Prop
  | [] => True
  | [_] => True
  | a :: b :: rest =>
    cmpBytes (fold a.1 ++ [eqByte]) (fold b.1 ++ [eqByte]) = .lt ∧ KeysIncreasingF fold (b :: rest)

set_option linter.unusedVariables false in
/-- The folded `listEnviron_` never hits the `slices.Delete(list, i-1, i)` panic.  (`hf` is not
    used: the sort and the dedup loop need nothing of `f`.) -/
theorem listEnvironF_total (f : UInt8 → UInt8) (hf : EqPreserving f) (pairs : List Bytes) :
    ∃ l, listEnvironF (List.map f) pairs = some l := by
  obtain ⟨l, h, _⟩ := listEnvironF_inv f pairs
  exact ⟨l, h⟩

/-- Folded Get returns the last value given for a name that folds like `name`, and nothing when
    there is none — for every pair list and every name (with or without `=`, empty or not). -/
theorem getF_spec (f : UInt8 → UInt8) (hf : EqPreserving f) (pairs : List Bytes) (name : Bytes)
    (l : List Bytes) (h : listEnvironF (List.map f) pairs = some l) :
    getF (List.map f) l name = ofSpec (specGetF (List.map f) pairs name) := by
  obtain ⟨l', h1, hv, hs, hg⟩ := listEnvironF_inv f pairs
  cases h.symm.trans h1
  rw [← hg name]
  exact getF_inv hf l name hv hs

/-- Folded Get never panics. -/
theorem getF_no_panic (f : UInt8 → UInt8) (hf : EqPreserving f) (pairs : List Bytes) (name : Bytes)
    (l : List Bytes) (h : listEnvironF (List.map f) pairs = some l) :
    getF (List.map f) l name ≠ .panic := by
  rw [getF_spec f hf pairs name l h]; cases specGetF (List.map f) pairs name <;> simp [ofSpec]

/-- Each on the folded list never panics, yields every surviving folded name exactly once (folded
    keys strictly increasing, hence pairwise distinct) with the last value given for it, and nothing
    else.  The yielded spelling of the name is that of one of the given pairs. -/
theorem eachF_spec (f : UInt8 → UInt8) (hf : EqPreserving f) (pairs : List Bytes) (l : List Bytes)
    (h : listEnvironF (List.map f) pairs = some l) :
    ∃ nvs, each l = some nvs ∧ KeysIncreasingF (List.map f) nvs ∧
      (∀ n v, (n, v) ∈ nvs → specGetF (List.map f) pairs n = some v) ∧
      ∀ n v, specGetF (List.map f) pairs n = some v ↔
        ∃ n', List.map f n' = List.map f n ∧ (n', v) ∈ nvs := by
  obtain ⟨l', h1, hv, hs, hg⟩ := listEnvironF_inv f pairs
  cases h.symm.trans h1
  -- the pairs yielded are the valid pairs of `l`, that is all of them
  have hmem : ∀ n v, (n, v) ∈ l.filterMap cut ↔ ∃ p ∈ l, validPair p = some (n, v) := by
    intro n v
    rw [List.mem_filterMap]
    refine exists_congr fun p => and_congr_right fun hp => ?_
    obtain ⟨n', v', hc, hn⟩ := hv p hp
    rw [validPair_of_cut hc hn, hc]
  have hiff : ∀ n v, specGetF (List.map f) pairs n = some v ↔
      ∃ n', List.map f n' = List.map f n ∧ (n', v) ∈ l.filterMap cut := by
    intro n v
    rw [← hg n, specGetF_eq_some_iff f hs]
    constructor
    · rintro ⟨p, hp, n', hc, e⟩
      exact ⟨n', e, (hmem n' v).2 ⟨p, hp, hc⟩⟩
    · rintro ⟨n', e, hm⟩
      obtain ⟨p, hp, hc⟩ := (hmem n' v).1 hm
      exact ⟨p, hp, n', hc, e⟩
  -- the names yielded have strictly increasing folded keys, because the pairs have
  have hinc : (l.filterMap cut).Pairwise fun a b =>
      cmpBytes (a.1.map f ++ [eqByte]) (b.1.map f ++ [eqByte]) = .lt := by
    rw [List.pairwise_filterMap]
    refine hs.imp fun {a b} hab na ha nb hb => ?_
    rwa [KLt, fkey_of_cut f ha, fkey_of_cut f hb, hf.map_eqByte, ← cmpBytes_lt_iff] at hab
  refine ⟨_, each_of_valid l hv, ?_, fun n v hm => (hiff n v).2 ⟨n, rfl, hm⟩, hiff⟩
  generalize l.filterMap cut = nvs at hinc
  induction nvs with
  | nil => trivial
  | cons a rest ih =>
    rw [List.pairwise_cons] at hinc
    cases rest with
    | nil => trivial
    | cons b rest => exact ⟨hinc.1 b (List.mem_cons_self ..), ih hinc.2⟩

/-- With `fold = id` the folded code is the case-sensitive code, so the theorems below are
    instances of the ones above. -/
theorem listEnvironF_id : listEnvironF id = listEnviron ∧ getF id = get :=
  ⟨funext listEnvironF_id_apply, funext fun l => funext fun name => getF_id_apply l name⟩

/-- `listEnviron_` never hits the `slices.Delete(list, i-1, i)` panic. -/
theorem listEnviron_total (pairs : List Bytes) : ∃ l, listEnviron pairs = some l := by
  have := listEnvironF_total id id_eqPreserving pairs
  rwa [map_id_eq, listEnvironF_id.1] at this

/-- Get returns the last value given for a name, and nothing for names never given — for every
    pair list and **every** name (including names containing `=`, empty names). -/
theorem get_spec (pairs : List Bytes) (name : Bytes) (l : List Bytes)
    (h : listEnviron pairs = some l) : get l name = ofSpec (specGet pairs name) := by
  have := getF_spec id id_eqPreserving pairs name l
  rw [map_id_eq, listEnvironF_id.1, listEnvironF_id.2, specGetF_id] at this
  exact this h

/-- Get never panics. -/
theorem get_no_panic (pairs : List Bytes) (name : Bytes) (l : List Bytes)
    (h : listEnviron pairs = some l) : get l name ≠ .panic := by
  rw [get_spec pairs name l h]; cases specGet pairs name <;> simp [ofSpec]

/-- Each never panics, yields every surviving name exactly once (keys strictly increasing, hence
    pairwise distinct) with the last value given, and nothing else. -/
theorem each_spec (pairs : List Bytes) (l : List Bytes) (h : listEnviron pairs = some l) :
    ∃ nvs, each l = some nvs ∧ KeysIncreasing nvs ∧
      ∀ n v, (n, v) ∈ nvs ↔ specGet pairs n = some v := by
  have := eachF_spec id id_eqPreserving pairs l
  rw [map_id_eq, listEnvironF_id.1, specGetF_id] at this
  obtain ⟨nvs, e1, e2, e3, e4⟩ := this h
  refine ⟨nvs, e1, ?_, fun n v => ⟨e3 n v, fun hs => ?_⟩⟩
  · clear e1 e3 e4
    induction nvs with
    | nil => trivial
    | cons a rest ih =>
      cases rest with
      | nil => trivial
      | cons b rest => exact ⟨e2.1, ih e2.2⟩
  · obtain ⟨n', rfl, hm⟩ := (e4 n v).1 hs
    exact hm

/-- Invalid pairs (no `=`, or empty name) are ignored: they never influence any lookup. -/
theorem invalid_ignored (pairs : List Bytes) (name : Bytes) :
    specGet pairs name = specGet (pairs.filter fun p => (validPair p).isSome) name :=
  foldl_stepF_filter_valid id pairs name none

/-- FuncEnviron treats an empty value as unset. -/
theorem func_environ (f : Bytes → Bytes) (name : Bytes) :
    (funcGet f name = none ↔ f name = []) ∧ (∀ v, funcGet f name = some v → v = f name ∧ v ≠ []) := by
  unfold funcGet
  by_cases h : f name = []
  · simp [h]
  · simp only [h, if_false]
    refine ⟨by simp, ?_⟩
    intro v hv
    cases hv
    exact ⟨rfl, h⟩

/-! Non-vacuity: a concrete list with duplicates, an invalid pair and prefix-related names. -/
example : listEnviron [[65,61,49], [65,49,61,50], [122], [65,61,51]]
    = some [[65,49,61,50], [65,61,51]] := by decide +kernel
example : get [[65,49,61,50], [65,61,51]] [65] = .val [51] := by decide +kernel
example : get [[65,61,66]] [65,61,66] = .unset := by decide +kernel

/-! ## `fold = upperAscii`: what `listEnviron_(true, …)` does on ASCII names -/

theorem listEnvironCI_total (pairs : List Bytes) : ∃ l, listEnvironF upperAscii pairs = some l :=
  listEnvironF_total upperByte upperByte_eqPreserving pairs

/-- Case-insensitive Get returns the last value given for a name equal to `name` up to ASCII case. -/
theorem getCI_spec (pairs : List Bytes) (name : Bytes) (l : List Bytes)
    (h : listEnvironF upperAscii pairs = some l) :
    getF upperAscii l name = ofSpec (specGetCI pairs name) :=
  getF_spec upperByte upperByte_eqPreserving pairs name l h

theorem getCI_no_panic (pairs : List Bytes) (name : Bytes) (l : List Bytes)
    (h : listEnvironF upperAscii pairs = some l) : getF upperAscii l name ≠ .panic :=
  getF_no_panic upperByte upperByte_eqPreserving pairs name l h

theorem eachCI_spec (pairs : List Bytes) (l : List Bytes)
    (h : listEnvironF upperAscii pairs = some l) :
    ∃ nvs, each l = some nvs ∧ KeysIncreasingF upperAscii nvs ∧
      (∀ n v, (n, v) ∈ nvs → specGetCI pairs n = some v) ∧
      ∀ n v, specGetCI pairs n = some v ↔ ∃ n', upperAscii n' = upperAscii n ∧ (n', v) ∈ nvs :=
  eachF_spec upperByte upperByte_eqPreserving pairs l h

/-! Non-vacuity: names differing only by case, a lower-case value longer than the looked-up name
    (the too-short branch of `Get` folds it), and a name that is a case-variant prefix. -/
example : listEnvironF upperAscii [[97,61,49], [65,98,61,122], [65,61,50], [122]]
    = some [[65,61,50], [65,98,61,122]] := by decide +kernel
example : getF upperAscii [[65,61,50], [65,98,61,122]] [97] = .val [50] := by decide +kernel
example : getF upperAscii [[65,61,50], [65,98,61,122]] [97,66] = .val [122] := by decide +kernel
example : getF upperAscii [[65,61,50], [65,98,61,122]] [97,66,67] = .unset := by decide +kernel
example : specGetCI [[97,61,49], [65,98,61,122], [65,61,50], [122]] [97] = some [50] := by decide +kernel

end ShVerif.C34
