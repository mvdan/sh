import ShVerif.Proofs.C20Eval
import ShVerif.Proofs.C20Parse
/-
  C20 — Arithmetic evaluation matches bash.  Property theorems.

  Model: `evalArith` (expand.Arithm), `atoi`, `binArit`, `intPow`, `parseArith`
  (syntax/parser_arithm.go), `arithCmdStatus`/`letStatus`/`expansionStatus` (interp/runner.go).
  Specification: `specEval` = BashArith (bash's arithmetic on mathematical integers; results that
  leave int64 or shift counts outside 0..63 are `outOfDomain`), `specNumber` (bash constants),
  `spec…Status`.
-/
namespace ShVerif.C20

def envOf (l : List (Bytes × Bytes)) : Env :=
  { get := fun n => match l.lookup n with | some v => v | none => []
    ro := fun _ => false }

def nx : Bytes := [120]   -- "x"
def ny : Bytes := [121]   -- "y"
def nz : Bytes := [122]   -- "z"

/-- The property's statement on its stated domain (no signed overflow, shift counts 0..63): for
    every tree of bash's grammar and every environment, whenever bash's semantics pronounces a
    result (a value or one of bash's errors) the implementation returns the same result and leaves
    the same environment.  Still FALSE of the code — see the counter-examples below (all open known
    findings). -/
def eval_eq_spec_statement : Prop :=
  ∀ (fuel : Nat) (env : Env) (e : Expr) (r : Res) (env' : Env), WF e = true →
    specEval fuel bashMaxDepth env e = (r, env') → r.inDomain → evalArith env e = (r, env')

/-- `eval_eq_spec` for environments whose variables hold nothing, an integer literal, a name, or
    **an arbitrary expression text** (`EnvOK`: the text lexes and parses completely and its constants
    are valid; blank-only values are allowed as well), for expressions with valid constants
    (`LitsOK`), whenever the evaluation needs at most 99 levels of nesting through variable values
    (the code's limits are 99 names / 100 texts, bash's 1024; `r.good`): the code returns bash's
    result — value or error, and final environment — bash's own budget gives that same result, the
    invariant `EnvOK` is preserved, and no wrap-around is observed.  Targets of `op=`, `++`, `--`
    need no extra hypothesis. -/
theorem eval_eq_spec_partial (fuel : Nat) (env : Env) (e : Expr) (r : Res) (env' : Env)
    (hwf : WF e = true) (henv : EnvOK env) (hlit : LitsOK e)
    (h : specEval fuel codeDepth env e = (r, env')) (hd : r.good) :
    evalArith env e = (r, env') ∧ specEval fuel bashMaxDepth env e = (r, env') ∧ EnvOK env' ∧
      (∀ v, r = .ok v → inI64 v = true) :=
  eval_eq_spec_core fuel env e r env' hwf henv hlit h hd

/-- Non-vacuity, with expression-text values, a name-valued `op=` target and side effects inside a
    value: `x=5; y="x*2+1"; z=y; w="x++"; $(( z + (y += 1) + w + x ))` is 11 + 12 + 5 + 6 = 34. -/
example :
    let env := envOf [(nx, [53]), (ny, [120, 42, 50, 43, 49]), (nz, ny), ([119], [120, 43, 43])]
    let e : Expr := .binary .add (.binary .add (.binary .add (.word nz)
      (.paren (.binary .addAssgn (.word ny) (.word [49])))) (.word [119])) (.word nx)
    (specEval 200 codeDepth env e).1 = .ok 34 ∧ (evalArith env e).1 = .ok 34 := by decide +kernel

/-- Blank-only values are covered too: `x="  "; $((x + 1))` is 1 in the specification and in the code. -/
example :
    (specEval 100 codeDepth (envOf [(nx, [32, 9])]) (.binary .add (.word nx) (.word [49]))).1 = .ok 1 ∧
    (evalArith (envOf [(nx, [32, 9])]) (.binary .add (.word nx) (.word [49]))).1 = .ok 1 := by decide +kernel

/-- Repaired (19b4ebf, 5f53769): `x="1+2"; $((x))` is 3 and `y=x; x=5; $((y+=1))` is 6, in the
    specification and in the code. -/
theorem pinned_expr_text_and_lvalue :
    (specEval 100 bashMaxDepth (envOf [(nx, [49, 43, 50])]) (.word nx)).1 = .ok 3 ∧
    (evalArith (envOf [(nx, [49, 43, 50])]) (.word nx)).1 = .ok 3 ∧
    (specEval 100 bashMaxDepth (envOf [(ny, nx), (nx, [53])])
      (.binary .addAssgn (.word ny) (.word [49]))).1 = .ok 6 ∧
    (evalArith (envOf [(ny, nx), (nx, [53])]) (.binary .addAssgn (.word ny) (.word [49]))).1 = .ok 6 := by
  decide +kernel

/-- Counter-example (C20-invalid-literal-no-error): `$((08))` is an error in bash, 0 in the code. -/
theorem eval_eq_spec_counterexample_literal :
    (specEval 100 bashMaxDepth (envOf []) (.word [48, 56])).1 = .err .badNumber ∧
    (evalArith (envOf []) (.word [48, 56])).1 = .ok 0 := by decide +kernel

/-- Counter-example (C20-name-cycle, documented upstream): `x=x; $((x))` exceeds bash's recursion
    limit (an error), the code gives 0. -/
theorem eval_eq_spec_counterexample_cycle :
    (specEval 3000 bashMaxDepth (envOf [(nx, nx)]) (.word nx)).1 = .err .recursion ∧
    (evalArith (envOf [(nx, nx)]) (.word nx)).1 = .ok 0 :=
  ⟨congrArg Prod.fst (specEval_name_cycle (env := envOf [(nx, nx)]) (n := nx) rfl rfl bashMaxDepth 3000 (by decide)), by decide⟩

/-- Repaired (650c7ba): `x=5; y=-x; $((y))` is -5 and `z=" x "; $((z))` is 5, as in bash. -/
theorem pinned_signed_name :
    (specEval 100 bashMaxDepth (envOf [(nx, [53]), (ny, [45, 120])]) (.word ny)).1 = .ok (-5) ∧
    (evalArith (envOf [(nx, [53]), (ny, [45, 120])]) (.word ny)).1 = .ok (-5) ∧
    (evalArith (envOf [(nx, [53]), (nz, [32, 120, 32])]) (.word nz)).1 = .ok 5 := by decide +kernel

/-- Counter-example (C20-value-trailing-tokens): `y="1 2"; $((y))` is a syntax error in bash, 1 in
    the code. -/
theorem eval_eq_spec_counterexample_trailing :
    (specEval 100 bashMaxDepth (envOf [(ny, [49, 32, 50])]) (.word ny)).1 = .err .syntaxErr ∧
    (evalArith (envOf [(ny, [49, 32, 50])]) (.word ny)).1 = .ok 1 := by decide +kernel

theorem eval_eq_spec_statement_false : ¬ eval_eq_spec_statement := by
  intro h
  have h2 := eval_eq_spec_counterexample_trailing
  have h1 := h 100 (envOf [(ny, [49, 32, 50])]) (.word ny)
    (specEval 100 bashMaxDepth (envOf [(ny, [49, 32, 50])]) (.word ny)).1
    (specEval 100 bashMaxDepth (envOf [(ny, [49, 32, 50])]) (.word ny)).2 (by decide)
    rfl
  rw [h2.1] at h1
  have h3 := congrArg Prod.fst (h1 trivial)
  rw [h2.2] at h3
  exact absurd h3 (by decide)

/-- `x op= e` ≡ `x = x op e`.  Holds in full since 5f53769: for every word `x`, environment and expression, also when `e`
    modifies `x` (`a += a++`: the old value is read first on both sides). -/
theorem assign_ops (env : Env) (op aop : BinOp) (x : Bytes) (e : Expr)
    (hop : assignOp op = some aop) :
    evalArith env (.binary op (.word x) e) =
      evalArith env (.binary .assgn (.word x) (.binary aop (.word x) e)) := by
  unfold evalArith
  rw [evalAt_eq]
  exact assign_ops_with _ env op aop x e hop

/-- `a=3; $((a += a++))` is 6 and leaves a=6 (the class of an independently seeded change:
    reading the old value after the right-hand side would give 7). -/
theorem pinned_assign_reads_old_value_first :
    (evalArith (envOf [([97], [51])]) (.binary .addAssgn (.word [97]) (.unary .inc true (.word [97])))).1
      = .ok 6 ∧
    ((evalArith (envOf [([97], [51])])
      (.binary .addAssgn (.word [97]) (.unary .inc true (.word [97])))).2.get [97]) = [54] := by
  decide +kernel

/-- The target of a plain `=` is never evaluated: `x='y++'; y=1; $((x = 5))` leaves y = 1, and
    `x='1/0'; $((x = 7))` is 7 (the class of the seeded change C20-2). -/
theorem pinned_plain_assign_does_not_read_target :
    ((evalArith (envOf [(nx, [121, 43, 43]), (ny, [49])])
      (.binary .assgn (.word nx) (.word [53]))).2.get ny) = [49] ∧
    (evalArith (envOf [(nx, [49, 47, 48])]) (.binary .assgn (.word nx) (.word [55]))).1 = .ok 7 ∧
    (specEval 100 bashMaxDepth (envOf [(nx, [49, 47, 48])])
      (.binary .assgn (.word nx) (.word [55]))).1 = .ok 7 := by
  decide +kernel

/-- `(( e ))`: status 0 iff the expression evaluates, without error, to a non-zero value. -/
theorem status_arithCmd (env : Env) (e : Expr) :
    (arithCmdStatus env e).1 = 0 ↔ ∃ v, (evalArith env e).1 = .ok v ∧ v ≠ 0 := by
  unfold arithCmdStatus runnerArithm
  cases h : evalArith env e with
  | mk r env' =>
    cases r with
    | ok v =>
      by_cases hv : v = 0
      · simp [hv]
      · simp [hv]
    | err er => simp
    | panic => simp

/-- `let e`: the same rule … -/
theorem status_let_single (env : Env) (e : Expr) :
    (letStatus env [e]).1 = 0 ↔ ∃ v, (evalArith env e).1 = .ok v ∧ v ≠ 0 := by
  rw [← status_arithCmd]
  unfold letStatus letLoop arithCmdStatus runnerArithm
  cases evalArith env e with
  | mk r env' => cases r <;> rfl

/-- … `let` stops at the first argument that fails, with status 1 (since 6b57f6d) … -/
theorem status_let_error (env : Env) (e : Expr) (rest : List Expr)
    (h : ∀ v, (evalArith env e).1 ≠ .ok v) :
    letStatus env (e :: rest) = (1, (evalArith env e).2) := by
  unfold letStatus letLoop runnerArithm
  cases hh : evalArith env e with
  | mk r env' =>
    rw [hh] at h
    cases r with
    | ok v => exact absurd rfl (h v)
    | err er => simp
    | panic => simp

/-- … and otherwise continues with the next argument in the environment left by the previous one. -/
theorem status_let_step (env env' : Env) (e e2 : Expr) (rest : List Expr) (v : Int)
    (h : evalArith env e = (.ok v, env')) :
    letStatus env (e :: e2 :: rest) = letStatus env' (e2 :: rest) := by
  unfold letStatus
  rw [letLoop]
  unfold runnerArithm
  rw [h]
  simp only []
  rw [letLoop, letLoop]

/-- On the domain of `eval_eq_spec_partial`, `(( e ))` has bash's status and side effects. -/
theorem status_arithCmd_eq_spec (fuel : Nat) (env : Env) (e : Expr)
    (hwf : WF e = true) (henv : EnvOK env) (hlit : LitsOK e)
    (hd : (specEval fuel codeDepth env e).1.good) :
    arithCmdStatus env e = specArithCmdStatus fuel env e := by
  obtain ⟨hm, hb, _, _⟩ := eval_eq_spec_partial fuel env e _ _ hwf henv hlit rfl hd
  unfold arithCmdStatus runnerArithm specArithCmdStatus
  rw [hm, hb]
  cases (specEval fuel codeDepth env e).1 <;> rfl

/-- `let e₁ … eₙ` has bash's status and side effects whenever every argument, evaluated in the
    environment the previous ones leave, stays inside the domain (`LetDomain`) — errors included. -/
theorem status_let (fuel : Nat) (env : Env) (es : List Expr) (henv : EnvOK env)
    (hdom : LetDomain fuel env es) : letStatus env es = specLetStatus fuel env es := by
  unfold letStatus specLetStatus
  rw [letLoop_eq_spec fuel es env 0 henv hdom]
  cases h : specLetLoop fuel env 0 es with
  | mk o env2 =>
    cases o <;> rfl

/-- `let 1/0 x=5` (C20-let-continues-after-error, repaired): status 1 and x untouched, as in bash. -/
theorem pinned_let_stops :
    (letStatus (envOf []) [.binary .quo (.word [49]) (.word [48]), .binary .assgn (.word nx) (.word [53])]).1 = 1 ∧
    ((letStatus (envOf []) [.binary .quo (.word [49]) (.word [48]),
      .binary .assgn (.word nx) (.word [53])]).2.get nx) = [] ∧
    (specLetStatus 100 (envOf [])
      [.binary .quo (.word [49]) (.word [48]), .binary .assgn (.word nx) (.word [53])]).1 = 1 := by
  decide +kernel

/-- A command with `$(( e ))`: full statement — FALSE, because `expandErr` recognises only two
    arithmetic error messages (C20-value-error-status). -/
def status_expansion_statement : Prop :=
  ∀ (fuel : Nat) (env : Env) (e : Expr), WF e = true → LitsOK e → EnvOK env →
    (specEval fuel codeDepth env e).1.good →
    (expansionStatus env e).1 = (specExpansionStatus fuel env e).1

/-- True when the result is a value, a division by zero or a negative exponent (since 1704f80). -/
theorem status_expansion_partial (fuel : Nat) (env : Env) (e : Expr)
    (hwf : WF e = true) (henv : EnvOK env) (hlit : LitsOK e)
    (hd : (specEval fuel codeDepth env e).1.good)
    (herr : (∃ v, (specEval fuel codeDepth env e).1 = .ok v) ∨
      (specEval fuel codeDepth env e).1 = .err .divZero ∨
      (specEval fuel codeDepth env e).1 = .err .negExp) :
    expansionStatus env e = specExpansionStatus fuel env e := by
  obtain ⟨hm, hb, _, _⟩ := eval_eq_spec_partial fuel env e _ _ hwf henv hlit rfl hd
  unfold expansionStatus specExpansionStatus
  rw [hm, hb]
  rcases herr with ⟨v, hv⟩ | hv | hv <;> rw [hv]

/-- `echo $((1/0))` has status 1 now; `y="x+"; echo $((y))` (a syntax error in the value) still has
    status 0 where bash has 1. -/
theorem status_expansion_counterexample :
    (expansionStatus (envOf []) (.binary .quo (.word [49]) (.word [48]))).1 = 1 ∧
    (expansionStatus (envOf [(ny, [120, 43])]) (.word ny)).1 = 0 ∧
    (specExpansionStatus 100 (envOf [(ny, [120, 43])]) (.word ny)).1 = 1 := by decide +kernel

/-- `binArit` fails exactly on division/remainder by zero and on negative exponents (for the
    operators bash has). -/
theorem errors_iff_binArit (op : BinOp) (x y : Int) (hop : plainBin op = true) :
    (∃ err, binArit op x y = .err err) ↔
      ((op = .quo ∨ op = .rem) ∧ y = 0) ∨ (op = .pow ∧ y < 0) := by
  cases op <;> simp [plainBin] at hop <;> simp [binArit]
  · by_cases h : y = 0 <;> simp [h]
  · by_cases h : y = 0 <;> simp [h]
  · by_cases h : y < 0 <;> simp [h]

/-- On the domain of `eval_eq_spec_partial` the implementation reports an error iff bash does, and
    it is the same error. -/
theorem errors_iff (fuel : Nat) (env : Env) (e : Expr) (err : Err)
    (hwf : WF e = true) (henv : EnvOK env) (hlit : LitsOK e)
    (hd : (specEval fuel codeDepth env e).1.good) :
    (evalArith env e).1 = .err err ↔ (specEval fuel bashMaxDepth env e).1 = .err err := by
  obtain ⟨hm, hb, _, _⟩ := eval_eq_spec_partial fuel env e _ _ hwf henv hlit rfl hd
  rw [hm, hb]

/-- `Arithm`'s panic site, the type assertion `expr.Y.(*syntax.BinaryArithm)` of the conditional, is not
    reachable on trees of bash's grammar, at any nesting level whose nested evaluations do not panic. -/
theorem no_panic (deeper : Env → Bytes → Res × Env)
    (hd : ∀ env s, (deeper env s).1 ≠ .panic) (env : Env) (e : Expr) (hwf : WF e = true) :
    (evalWith deeper env e).1 ≠ .panic :=
  (no_panic_both hd e).1 env hwf

/-- Repaired (9f1cf54): `++x++` is a parse error (bash fails at run time), while `--5` still is
    `-(-5)`. -/
theorem pinned_preinc_postinc_rejected :
    parseArith [.sym .addAdd, .word nx, .sym .addAdd] = none ∧
    parseArith [.sym .subSub, .word [53]] =
      some (.unary .minus false (.unary .minus false (.word [53]))) := by
  decide +kernel

/-- On every valid bash constant — decimal, `0`octal, `0x`hex, `base#digits` with bases 2..64 and
    bash's digit alphabets (letters case-insensitive up to base 36; `a-z`=10..35, `A-Z`=36..61,
    `@`=62, `_`=63 above) — whose value fits int64, `atoi` returns the mathematical value. -/
theorem atoi_spec (w : Bytes) (n : Nat) (h : specNumber w = some n) (hn : n < 2 ^ 63) :
    atoi w = Int.ofNat n :=
  atoi_lit h hn

/-- … also with blanks and a sign around it, as in a variable value. -/
theorem atoi_spec_signed (v : Bytes) (neg : Bool) (n : Nat) (h : IntLit v neg n) (hn : n < 2 ^ 63) :
    atoi v = if neg then -(Int.ofNat n) else Int.ofNat n :=
  atoi_intLit h hn

example : atoi ([54, 52, 35, 64, 95] : Bytes) = 4031 ∧ specNumber ([54, 52, 35, 64, 95] : Bytes) = some 4031 := by decide +kernel
example : atoi ([51, 54, 35, 90, 122] : Bytes) = 1295 ∧ atoi ([32, 45, 48, 120, 49, 70, 32] : Bytes) = -31 := by decide +kernel

/-- Invalid constants are 0 for `atoi` (bash: error) — C20-invalid-literal-no-error. -/
theorem atoi_invalid_examples :
    atoi ([48, 56] : Bytes) = 0 ∧ specNumber ([48, 56] : Bytes) = none ∧
    atoi ([50, 35, 50] : Bytes) = 0 ∧ specNumber ([50, 35, 50] : Bytes) = none ∧
    atoi ([54, 53, 35, 49] : Bytes) = 0 ∧ specNumber ([54, 53, 35, 49] : Bytes) = none := by decide +kernel

def tX : Tok := .word nx
def tY : Tok := .word ny
def tZ : Tok := .word nz
def eX : Expr := .word nx
def eY : Expr := .word ny
def eZ : Expr := .word nz

/-- bash manual, "ARITHMETIC EVALUATION": infix operators in order of decreasing precedence
    (larger number = binds tighter); operators of one class associate to the left, `**` to the
    right. -/
def bashPrec : BinOp → Option Nat
  | .pow => some 12
  | .mul | .quo | .rem => some 11
  | .add | .sub => some 10
  | .shl | .shr => some 9
  | .leq | .geq | .lss | .gtr => some 8
  | .eql | .neq => some 7
  | .and => some 6
  | .xor => some 5
  | .or => some 4
  | .andL => some 3
  | .orL => some 2
  | .comma => some 0
  | _ => none

def infixOps : List BinOp :=
  [.pow, .mul, .quo, .rem, .add, .sub, .shl, .shr, .leq, .geq, .lss, .gtr, .eql, .neq,
   .and, .xor, .or, .andL, .orL, .comma]

def bashAssignOps : List BinOp :=
  [.assgn, .mulAssgn, .quoAssgn, .remAssgn, .addAssgn, .subAssgn, .shlAssgn, .shrAssgn,
   .andAssgn, .xorAssgn, .orAssgn]

def symOf (o : BinOp) : Tok := match o.sym with | some s => .sym s | none => .rparen

/-- how `x o1 y o2 z` groups according to the manual -/
def bashGroup (o1 o2 : BinOp) : Option Expr :=
  match bashPrec o1, bashPrec o2 with
  | some p1, some p2 =>
    if p1 < p2 ∨ (p1 = p2 ∧ o1 = .pow) then some (.binary o1 eX (.binary o2 eY eZ))
    else some (.binary o2 (.binary o1 eX eY) eZ)
  | _, _ => none

/-- Binding order and associativity of every pair of infix operators equal bash's table. -/
theorem prec_assoc_infix : infixOps.all (fun o1 => infixOps.all (fun o2 =>
    parseArith [tX, symOf o1, tY, symOf o2, tZ] == bashGroup o1 o2)) = true :=
  all_imp (fun _ => all_imp fun _ => parse_of_print) (by decide +kernel)

/-- Assignments bind looser than every infix operator except `,`, and associate to the right. -/
theorem prec_assoc_assign : bashAssignOps.all (fun a =>
    infixOps.all (fun o =>
      parseArith [tX, symOf a, tY, symOf o, tZ] ==
        (if o = .comma then some (.binary .comma (.binary a eX eY) eZ)
         else some (.binary a eX (.binary o eY eZ)))) &&
    bashAssignOps.all (fun b =>
      parseArith [tX, symOf a, tY, symOf b, tZ] == some (.binary a eX (.binary b eY eZ)))) = true :=
  all_imp (fun _ => band_imp (all_imp fun _ => parse_of_print) (all_imp fun _ => parse_of_print))
    (by decide +kernel)

/-- `?:` binds looser than `||`, tighter than assignment and `,`, nests to the right, and its
    middle operand is a full expression. -/
theorem prec_assoc_ternary :
    parseArith [tX, .sym .orOr, tY, .sym .quest, tZ, .sym .colon, tX, .sym .orOr, tY] =
      some (.binary .ternQuest (.binary .orL eX eY) (.binary .ternColon eZ (.binary .orL eX eY))) ∧
    parseArith [tX, .sym .assgn, tY, .sym .quest, tZ, .sym .colon, tX] =
      some (.binary .assgn eX (.binary .ternQuest eY (.binary .ternColon eZ eX))) ∧
    parseArith [tX, .sym .quest, tY, .sym .colon, tZ, .sym .quest, tX, .sym .colon, tY] =
      some (.binary .ternQuest eX (.binary .ternColon eY
        (.binary .ternQuest eZ (.binary .ternColon eX eY)))) ∧
    parseArith [tX, .sym .quest, tY, .sym .comma, tZ, .sym .colon, tX, .sym .comma, tY] =
      some (.binary .comma (.binary .ternQuest eX (.binary .ternColon (.binary .comma eY eZ) eX)) eY) := by
  decide +kernel

/-- Prefix `! ~ + -` bind tighter than `**` (`-x ** y` is `(-x) ** y`, as in bash) and hence than
    every infix operator; `++`/`--` bind tighter still. -/
theorem prec_assoc_unary :
    parseArith [.sym .minus, tX, .sym .power, tY] = some (.binary .pow (.unary .minus false eX) eY) ∧
    parseArith [tX, .sym .power, .sym .minus, tY] = some (.binary .pow eX (.unary .minus false eY)) ∧
    parseArith [.sym .exclMark, tX, .sym .star, tY] = some (.binary .mul (.unary .not false eX) eY) ∧
    parseArith [.sym .tilde, tX, .sym .addAdd] = some (.unary .bitNeg false (.unary .inc true eX)) ∧
    parseArith [.sym .minus, .sym .subSub, tX] = some (.unary .minus false (.unary .dec false eX)) := by
  decide +kernel

/-- The round trip: a tree whose operands sit at the levels of the chain (`PrecOK`: left-associative
    operators take a left operand of their own level or tighter and a strictly tighter right
    operand, `**` and assignment the other way round, `c ? t : f` any `t`, prefix operators bind
    tighter than `**`, `++`/`--` apply to names) prints, without any parenthesis of its own, to a
    token list that parses back to exactly the same tree — with the fuel `parseArith` itself uses. -/
theorem prec_assoc (e : Expr) (h : PrecOK e = true) : parseArith (printArith e) = some e :=
  parse_print e h

example :
    let e : Expr := .binary .assgn eX (.binary .add (.binary .mul eY (.paren (.binary .comma eX eZ)))
      (.unary .minus false (.unary .inc true eX)))
    PrecOK e = true ∧ parseArith (printArith e) = some e := by decide +kernel

end ShVerif.C20
