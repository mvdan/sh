import ShVerif.Model.C08
import ShVerif.Gen.C08
import ShVerif.Expect.C08Scratch
import ShVerif.Proofs.C08
/-
  C08 — Streaming, interactive and reused parsers agree with Parse.

  Reuse: obligations about the tables regenerated from /repo/syntax/{parser,printer}.go on every
  run (`decide +kernel`): every field of Parser/Printer is reset, configuration, initialised by
  every entry point, or hand-justified scratch; the two statement entry points run the same loop.
  The statement loop: StmtsSeq yields what Parse collects.
  The glue of InteractiveSeq (wrappedReader.Read + the loop), over every parser event trace.
-/
namespace ShVerif.C08
open ShVerif.Gen.C08 ShVerif.Expect.C08

/-- The classification lists exactly the fields of the structs, in declaration order: a new or
    removed field breaks this. -/
theorem fields_classified :
    classifiedExactly Gen.C08.parser Expect.C08.parser = true ∧
    classifiedExactly Gen.C08.printer Expect.C08.printer = true := by
  decide +kernel

/-- reset() exists and consists of field assignments only. -/
theorem reset_frames : resetFrameOk Gen.C08.parser = true ∧ resetFrameOk Gen.C08.printer = true := by
  decide +kernel

/-- `reset_covers` for Parser: every field is assigned by reset() (with a right-hand side that is a
    constant, a self pointer, its own `[:0]`, or a function of configuration), or is configuration
    (no write outside option functions and constructors), or is assigned by every entry point right
    after reset(), or is in the hand-justified scratch list; none is a recorded defect. -/
theorem parser_reset_covers : covers Gen.C08.parser Expect.C08.parser = true := by
  decide +kernel

/-- `reset_covers` for Printer (full statement; `wroteSemi` was the recorded finding
    C08-printer-stale-wrotesemi until reset() was given `p.wroteSemi = false`). -/
theorem printer_reset_covers : covers Gen.C08.printer Expect.C08.printer = true := by
  decide +kernel

/-- Every exported method of Parser/Printer starts with `reset()`, or touches the object only
    through other exported methods (no unexported call, no field write). -/
theorem entry_points_reset_first : entriesOk Gen.C08.parser = true ∧ entriesOk Gen.C08.printer = true := by
  decide +kernel

/-- State reachable through pointer fields does not outlive a call: every pointer-typed field of
    Parser/Printer is re-pointed by reset(), initialised by every entry point, or (tabsPrinter)
    assigned the address of a new composite literal before any use in every function touching it. -/
theorem pointer_fields_covered :
    pointerFieldsOk Gen.C08.parser Expect.C08.parser = true ∧
    pointerFieldsOk Gen.C08.printer Expect.C08.printer = true := by
  decide +kernel

/-- `Parser.Incomplete()` reads exactly `openNodes` and `litBs` (writes nothing, calls nothing);
    both are reset by reset() and are listed with their idle invariant, which the harness probes on
    the real parser after every statement and every line (A0/A2 streams, legs inter/incl). -/
theorem incomplete_depends_on_probed_fields :
    incompleteFieldsOk Gen.C08.parser Expect.C08.parser Expect.C08.parserInvariants = true := by
  decide +kernel

/-- Option functions write configuration fields (or fields every entry point re-initialises). -/
theorem options_write_config_only :
    optionsWriteConfigOnly Gen.C08.parser Expect.C08.parser = true ∧
    optionsWriteConfigOnly Gen.C08.printer Expect.C08.printer = true := by
  decide +kernel

/-- What `covers` buys: after reset(), every reset/truncated/configuration field has a value that
    depends only on the configuration — whatever the object went through before. -/
theorem reset_determines (t : StructTable) (e : Expect) (s1 s2 : String → Option String)
    (hcfg : ∀ g, e.classOf g = some .config → s1 g = s2 g)
    (f : String) (hok : fieldOk t e f = true)
    (hc : e.classOf f = some .reset ∨ e.classOf f = some .truncated ∨ e.classOf f = some .config) :
    resetSem t e s1 f = resetSem t e s2 f := by
  unfold fieldOk at hok
  unfold resetSem
  rcases hc with hc | hc | hc
  · rw [hc] at hok
    cases hr : t.resetRhs f with
    | none => simp [hr] at hok
    | some rhs =>
      simp only [hr, Bool.and_eq_true] at hok
      apply rhsValue_congr
      intro g hg
      have hk := hok.2
      unfold rhsKnown at hk
      simp only [hg, beq_iff_eq] at hk
      exact hcfg g hk
  · rw [hc] at hok
    cases hr : t.resetRhs f with
    | none => simp [hr] at hok
    | some rhs =>
      simp only [hr] at hok
      simp [rhsValue, hok]
  · rw [hc] at hok
    cases hr : t.resetRhs f with
    | none => exact hcfg f hc
    | some rhs => simp [hr] at hok

theorem reset_determines_of_covers (t : StructTable) (e : Expect) (h : covers t e = true)
    (s1 s2 : String → Option String) (hcfg : ∀ g, e.classOf g = some .config → s1 g = s2 g)
    (f : String) (hf : f ∈ t.fieldNames)
    (hc : e.classOf f = some .reset ∨ e.classOf f = some .truncated ∨ e.classOf f = some .config) :
    resetSem t e s1 f = resetSem t e s2 f :=
  reset_determines t e s1 s2 hcfg f ((Bool.and_eq_true _ _).mp (List.all_eq_true.1 h f hf)).1 hc

/-- … instantiated: two Parsers with the same options agree on every field that is not entry-
    initialised or scratch, right after reset(). -/
theorem parser_reset_determines (s1 s2 : String → Option String)
    (hcfg : ∀ g, Expect.C08.parser.classOf g = some .config → s1 g = s2 g)
    (f : String) (hf : f ∈ Gen.C08.parser.fieldNames)
    (hc : Expect.C08.parser.classOf f = some .reset ∨ Expect.C08.parser.classOf f = some .truncated ∨
          Expect.C08.parser.classOf f = some .config) :
    resetSem Gen.C08.parser Expect.C08.parser s1 f = resetSem Gen.C08.parser Expect.C08.parser s2 f :=
  reset_determines_of_covers _ _ parser_reset_covers s1 s2 hcfg f hf hc

theorem printer_reset_determines (s1 s2 : String → Option String)
    (hcfg : ∀ g, Expect.C08.printer.classOf g = some .config → s1 g = s2 g)
    (f : String) (hf : f ∈ Gen.C08.printer.fieldNames)
    (hc : Expect.C08.printer.classOf f = some .reset ∨ Expect.C08.printer.classOf f = some .truncated ∨
          Expect.C08.printer.classOf f = some .config) :
    resetSem Gen.C08.printer Expect.C08.printer s1 f = resetSem Gen.C08.printer Expect.C08.printer s2 f :=
  reset_determines_of_covers _ _ printer_reset_covers s1 s2 hcfg f hf hc

/-- The call-structure fact that keeps the model honest: Parse runs reset, rune, next, stmtList
    (which is `stmts(fn, stops...)` with a collector that always returns true, called without stop
    words), then doHeredocs unless there is an error; StmtsSeq runs reset, rune, next,
    `stmts(yieldStmt)` with a wrapper that stops exactly when the consumer does, then the same
    doHeredocs. -/
theorem stmts_call_structure :
    Gen.C08.flows.map (·.func) = ["Parse", "StmtsSeq", "stmtList"] ∧
    Gen.C08.flows.map (·.found) = [true, true, true] ∧
    Gen.C08.flows.map (·.skeleton) = [parseSkeleton, stmtsSeqSkeleton, stmtListSkeleton] ∧
    Gen.C08.flows.map (·.closures) = [[], stmtsSeqClosures, stmtListClosures] := by
  decide +kernel

/-- `stmtsSeq_eq_parse`: for every sequence of loop iterations, the statements StmtsSeq yields to
    a consumer that never stops are the statements Parse returns, in order, and an error is yielded
    exactly when Parse returns one. -/
theorem stmtsSeq_eq_parse (steps : List Step) (hdocErr : Bool) :
    (stmtsSeq (fun _ => true) steps hdocErr).filterMap (·.stmt) = (parse steps hdocErr).stmts ∧
    (stmtsSeq (fun _ => true) steps hdocErr).any (·.err) = (parse steps hdocErr).err := by
  unfold stmtsSeq parse
  simp only [loop_true_not_stopped, Bool.false_eq_true, if_false]
  constructor
  · split <;> simp [List.filterMap_append]
  · split
    · rename_i h; simp [h]
    · rename_i h
      have hf : ((stmtsLoop (fun _ => true) steps 0).err || hdocErr) = false := by simpa using h
      rw [hf]
      cases ha : (stmtsLoop (fun _ => true) steps 0).yields.any (·.err) with
      | false => rfl
      | true =>
        have := loop_err_of_yield _ steps 0 ha
        simp [this] at hf

/-- For every consumer: what it is given is a prefix of what a never-stopping consumer is given … -/
theorem stmtsSeq_stop_prefix (cont : Nat → Bool) (steps : List Step) (hdocErr : Bool) :
    stmtsSeq cont steps hdocErr <+: stmtsSeq (fun _ => true) steps hdocErr := by
  unfold stmtsSeq
  obtain ⟨hp, he⟩ := loop_prefix cont steps 0
  simp only [loop_true_not_stopped, Bool.false_eq_true, if_false]
  cases hs : (stmtsLoop cont steps 0).stopped with
  | true =>
    simp only [if_true]
    split
    · exact List.IsPrefix.trans hp (List.prefix_append _ _)
    · exact hp
  | false =>
    rw [he hs]
    simp only [Bool.false_eq_true, if_false]
    exact List.prefix_refl _

/-- … and nothing is yielded after the call at which it returned false. -/
theorem stmtsSeq_no_yield_after_stop (cont : Nat → Bool) (steps : List Step) (hdocErr : Bool)
    (j : Nat) (hc : cont j = false) : (stmtsSeq cont steps hdocErr).length ≤ j + 1 := by
  unfold stmtsSeq
  obtain ⟨h1, h2⟩ := loop_stop_bound cont steps 0 j (by simpa using hc)
  dsimp only
  split
  · rename_i hs; exact h1 hs
  · rename_i hs
    have hs' : (stmtsLoop cont steps 0).stopped = false := by simpa using hs
    have := h2 hs'
    split
    · simp only [List.length_append, List.length_cons, List.length_nil]; omega
    · omega

/-- A consumer that never stops is never called after returning false (no Go runtime panic). -/
theorem no_panic_without_stop (tr : List Ev) : (run none tr).panic = false :=
  (runFrom_live {} live_init tr).2.2.1

/-- Nothing is lost, duplicated or reordered: for every trace of a program that parses, what a
    client runs (the statements of the callbacks that are neither incomplete nor erroring), followed
    by what InteractiveSeq still holds back, is the statement list. -/
theorem interactive_ran_pending (tr : List Ev) (hn : NoErr tr) (h0 : A0 tr) :
    ran (run none tr) ++ (run none tr).acc.filterMap id = allStmts tr :=
  ran_pending tr {} live_init hn h0

/-- Before EOF (i.e. without the final hand-over) the statement list has been delivered completely
    if and only if the last statement was followed by a newline token. -/
theorem interactive_all_iff (tr : List Ev) (hn : NoErr tr) (h0 : A0 tr) :
    ran (run none tr) = allStmts tr ↔ EndsNewl tr := by
  obtain ⟨hacc, hall⟩ := acc_of_last tr {} live_init hn none (by simp)
  rw [EndsNewl, ← hacc, ← accIds_eq_nil_iff _ hall, ← interactive_ran_pending tr hn h0]
  exact List.self_eq_append_right

/-- `interactive_batches`: if the last statement was followed by a newline token (`EndsNewl`: the
    program's last line is terminated), the callbacks made before EOF already deliver exactly the
    statement list. -/
theorem interactive_batches (tr : List Ev) (hn : NoErr tr) (h0 : A0 tr) (he : EndsNewl tr) :
    ran (run none tr) = allStmts tr :=
  (interactive_all_iff tr hn h0).2 he

/-- `interactive_all` (full statement): with the final hand-over at EOF, for every trace of a
    program that parses — whether or not its last line is terminated — the concatenated
    non-incomplete callbacks of InteractiveSeq are exactly the statement list.  (Without the final
    hand-over this was finding C08-interactive-unterminated-last-line.) -/
theorem interactive_all (tr : List Ev) (hn : NoErr tr) (h0 : A0 tr) :
    ran (runAll none tr false 0 0) = allStmts tr := by
  unfold runAll run
  rw [finish_live _ (runFrom_live {} live_init tr)]
  exact ran_pending tr {} live_init hn h0

/-- the real trace of `echo foo` (no final newline): nothing is handed over before EOF, the
    statement is handed over by the final flush -/
def traceEchoFoo : List Ev :=
  [.read false 1 0 0 false false, .read false 1 1 3 false true, .stmt (some 0) false false 1 0 0]

example : ran (run none traceEchoFoo) = [] ∧ ran (runAll none traceEchoFoo false 0 0) = [0] := by decide

/-- Nothing is yielded twice: if the parser's statements are distinct, so are the statements run. -/
theorem no_double_yield (tr : List Ev) (hn : NoErr tr) (h0 : A0 tr) (hd : (allStmts tr).Nodup) :
    (ran (run none tr)).Nodup := by
  have h := interactive_ran_pending tr hn h0
  rw [← h] at hd
  exact (List.nodup_append.1 hd).1

/-- … also with the final hand-over. -/
theorem no_double_yield_all (tr : List Ev) (hn : NoErr tr) (h0 : A0 tr) (hd : (allStmts tr).Nodup) :
    (ran (runAll none tr false 0 0)).Nodup := by
  rw [interactive_all tr hn h0]; exact hd

/-- `Incomplete` is reported only at blocked reads inside an unfinished statement — for every
    consumer, stopping or not: under A0 (no open node at a statement event) and A2 (an open node or
    literal at a blocked read means a statement is in progress), every callback during which
    `Parser.Incomplete()` is true was made by wrappedReader.Read while a statement was in progress. -/
theorem incomplete_only_unfinished (stopAt : Option Nat) (tr : List Ev) (h0 : A0 tr) (h2 : A2 tr) :
    ∀ cb ∈ (run stopAt tr).cbs, cb.inc = true → cb.fromRead = true ∧ cb.inStmt = true := by
  intro cb hcb hinc
  obtain h | ⟨e, he, hcb⟩ := runFrom_cbs stopAt tr {} cb hcb
  · cases h
  have h0 := List.all_eq_true.1 h0 e he
  have h2 := List.all_eq_true.1 h2 e he
  cases e with
  | read nl line o l err ins =>
    obtain ⟨rfl, hfr, hins, hi⟩ := hcb
    simp only [hi hinc, Bool.not_true, Bool.false_or] at h2
    exact ⟨hfr, hins.trans h2⟩
  | stmt id err tn line o l =>
    -- by A0 nothing is open at a statement event
    simp only [Bool.and_eq_true, beq_iff_eq] at h0
    rw [hcb.2, h0.1, h0.2] at hinc
    cases hinc

/-- Batches are line-aligned: whenever the parser blocks after a newline between statements, and
    the trace so far satisfies A1, every statement so far has been handed over in a runnable
    callback and nothing is held back. -/
theorem idle_means_flushed (pre post : List Ev) (line o l : Nat) (err : Bool)
    (h1 : A1 (pre ++ .read true line o l err false :: post)) (hn : NoErr pre) (h0 : A0 pre) :
    (run none pre).acc = [] ∧ ran (run none pre) = allStmts pre := by
  unfold A1 at h1
  rw [checkA1_append, Bool.and_eq_true] at h1
  have hl : lastTokNewl none pre ≠ some false := by
    have := h1.2
    simp only [checkA1, Bool.and_eq_true, bne_iff_ne, ne_eq] at this
    exact this.1
  exact ⟨((acc_of_last pre {} live_init hn none (by simp)).1).2 hl, interactive_batches pre hn h0 hl⟩

/-- Stopping (`no_yield_after_stop`): for every trace in which the parser does not call Read again
    once wrappedReader.Read has returned EOF to a stopping consumer (A3: read errors are sticky in
    `Parser.fill`), the consumer is never called again after it returned false — at whatever
    callback it stops.  (This was finding C08-interactive-yield-after-stop before `w.stopped`.) -/
theorem no_yield_after_stop (stopAt : Option Nat) (tr : List Ev) (err : Bool) (o l : Nat)
    (h3 : noReadAfterStop stopAt {} tr = true) : (runAll stopAt tr err o l).panic = false :=
  finish_noPanic stopAt _ err o l (runFrom_phase stopAt tr {} (phase_init _))
    (runFrom_noPanic stopAt tr {} (phase_init _) rfl h3)

/-- Without A3 a Go runtime panic still needs a stop at a callback made by wrappedReader.Read. -/
theorem no_yield_after_stop_partial (k : Nat) (tr : List Ev) (hp : (run (some k) tr).panic = true) :
    ∃ cb, (run (some k) tr).cbs[k]? = some cb ∧ cb.fromRead = true := by
  -- a panic leaves only the phase in which the consumer stopped inside Read
  cases runFrom_phase (some k) tr {} (phase_init _) with
  | live h => exact not_both h.2.2.1 hp
  | eof k' cb hk hcb hfr => cases hk; exact ⟨cb, hcb, hfr⟩
  | over _ _ _ _ _ h => exact not_both h hp

/-- the real trace of `echo "foo` NEWLINE `bar"` when the consumer stops at its first callback
    (Incomplete): Read returns EOF, the parser reports the unclosed quote, the loop breaks -/
def traceStopIncomplete : List Ev :=
  [.read false 1 0 0 false false, .read true 2 2 4 false true, .stmt none true false 2 0 0]

example : noReadAfterStop (some 0) {} traceStopIncomplete = true ∧
    (runAll (some 0) traceStopIncomplete true 0 0).panic = false ∧
    (runAll (some 0) traceStopIncomplete true 0 0).cbs.length = 1 := by
  decide

/-- the real trace of `cat <<EOF` / `foo` / `EOF` / `echo bar` fed line by line -/
def traceHeredoc : List Ev :=
  [.read false 1 0 0 false false, .read true 2 1 0 false true, .read true 3 1 4 false true,
   .stmt (some 0) false true 3 0 0, .read true 4 0 0 false false, .stmt (some 1) false true 4 0 0,
   .read true 5 0 0 false false]

example : NoErr traceHeredoc ∧ A0 traceHeredoc ∧ A1 traceHeredoc ∧ A2 traceHeredoc ∧ A2conv traceHeredoc ∧
    EndsNewl traceHeredoc := by decide

example : ran (run none traceHeredoc) = [0, 1] ∧ (run none traceHeredoc).cbs.length = 4 := by decide

/-- `echo a; echo b &&` / `echo c`: the first statement is held back while the second is unfinished -/
def traceHeldBack : List Ev :=
  [.read false 1 0 0 false false, .stmt (some 0) false false 1 0 0, .read true 2 1 0 false true,
   .stmt (some 1) false true 2 0 0, .read true 3 0 0 false false]

example : NoErr traceHeldBack ∧ A0 traceHeldBack ∧ A1 traceHeldBack ∧ A2 traceHeldBack ∧ EndsNewl traceHeldBack := by
  decide

example : (run none traceHeldBack).cbs.map (fun cb => (cb.stmts, cb.inc)) =
    [([some 0], true), ([some 0, some 1], false)] := by decide

example : ¬ EndsNewl traceEchoFoo := by decide

example : (parse [⟨some 0, false⟩, ⟨some 1, true⟩] false).stmts = [0, 1] ∧
    stmtsSeq (fun k => k != 0) [⟨some 0, false⟩, ⟨some 1, true⟩] false = [⟨some 0, false⟩] := by decide

end ShVerif.C08
