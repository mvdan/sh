import ShVerif.Model.C15
import ShVerif.Gen.C15
import ShVerif.Proofs.C15
/-
  C15 — Typed JSON round-trips syntax trees.

  First the obligations about the tables regenerated from /repo on every run (evaluated by the
  kernel); then generic theorems about the model of syntax/typedjson, for every schema, every value
  and every JSON document; last the two combined for the real schema.
-/
namespace ShVerif.C15
open ShVerif.Gen.C15

/-- the schema of the code as it is now -/
def real : Schema :=
  mkSchema structs nodeByName impls tokenName tokenIndex unmarshalTables opConsts

/-- The stringer tables belong to the `token` constants of tokens.go: same names and values as the
    stringer's own compile-time checks, one index entry per constant plus one, offsets ascending
    and inside `_token_name`; `token.String()` is the stringer's standard body. -/
theorem stringer_tables_consistent :
    tokenConsts = stringerChecks ∧ tokenIndex.length = tokenConsts.length + 1 ∧
      sortedLE tokenIndex = true ∧ tokenIndex.getLast? = some tokenName.length ∧
      tokenStringSrc = "func (i token) String() string { idx := int(i) - 0 if i < 0 || idx >= len(_token_index)-1 { return \"token(\" + strconv.FormatInt(int64(i), 10) + \")\" } return _token_name[_token_index[idx]:_token_index[idx+1]] }" := by
  -- the two constant tables and the source text are compared as literals; deciding their
  -- equality would instead encode every string to bytes
  refine ⟨rfl, ?_, ?_, ?_, rfl⟩ <;> decide +kernel

/-- For every operator type and every constant of it, `UnmarshalText (String v) = v`
    (operators are encoded as strings and decoded from strings). -/
theorem op_unmarshal_string : opRoundTrip real opConsts = true := by
  -- the offsets ascend, so `token.String()` is evaluated on the table cut into segments once
  rw [real, mkSchema_segTok _ _ _ _ _ _ _ stringer_tables_consistent.2.2.1]
  decide +kernel

/-- Within each operator type the string form determines the value. -/
theorem op_string_injective : opInjective real opConsts = true :=
  -- `UnmarshalText` is a left inverse of `String()` on the constants, so two constants of a type
  -- with the same string would make `op_unmarshal_string` fail first
  opInjective_of_roundTrip real opConsts op_unmarshal_string

/-- `nodeByName` has exactly the node struct types, each under its own name (a node type forgotten
    there cannot be decoded as a root or from an interface field). -/
theorem nodeByName_complete :
    (nodeByName.all fun (k, t) => k == t) = true ∧ (nodeByName.map (·.1)).isPerm nodeTypes = true ∧
      (impls.all fun (_, ts) => ts.all fun t => (nodeByName.map (·.1)).contains t) = true := by
  decide +kernel

/-- Every field of every struct reachable from a node type has a kind that `encodeValue`'s switch
    handles (so its `default: panic` is unreachable), pointers and interfaces refer to known types,
    and no field is unexported or called Type/Pos/End (so `reflect.StructOf` cannot panic). -/
theorem field_kinds_supported :
    schemaOK encodeKinds structs (impls.map (·.1)) = true ∧ encodeDefault = "panic" ∧
      decodeNumKinds = ["Uint8", "Uint32"] := by
  decide +kernel

/-- Named unsigned field types either have both `String()` and `UnmarshalText` (operators, whose
    `String()` is `token(o).String()`) or neither (plain numbers such as OptState); no struct type
    has an `UnmarshalText` method; every generated `UnmarshalText` is a plain string switch. -/
theorem op_types_uniform :
    (uintFieldTypes.all fun (_, u, hs, hu, body) =>
        hs == hu && (!hs || (u == "token" && body == "val o : { return token(o).String() }"))) = true ∧
      (unmarshalerTypes.all fun t => !(structs.map (·.1)).contains t) = true ∧
      (unmarshalShapes.all fun (_, on, dflt, tail) => on == "string(text)" && dflt == "error" && tail == "return nil") = true ∧
      unmarshalShapes.map (·.1) = unmarshalTables.map (·.1) := by
  decide +kernel

/-- The position constants and accessors of nodes.go are the modelled ones. -/
theorem pos_consts :
    posConsts = [("offsetRecovered", "math.MaxUint32 - 10"), ("offsetMax", "math.MaxUint32 - 11"),
      ("lineBitSize", "18"), ("lineMax", "(1 << lineBitSize) - 1"), ("colBitSize", "32 - lineBitSize"),
      ("colMax", "(1 << colBitSize) - 1"), ("colBitMask", "colMax")] ∧
    posFuncs = [("NewPos", "{ offset = min(offset, offsetMax) if line > lineMax { line = 0 } if column > colMax { column = 0 } return Pos{ offs: uint32(offset), lineCol: (uint32(line) << colBitSize) | uint32(column), } }"),
      ("Offset", "{ if p.offs > offsetMax { return 0 } return uint(p.offs) }"),
      ("Line", "{ return uint(p.lineCol >> colBitSize) }"),
      ("Col", "{ return uint(p.lineCol & colBitMask) }"),
      ("IsValid", "{ return p.offs <= offsetMax && p.lineCol != 0 }")] ∧
    posStruct = [("offs", "uint32"), ("lineCol", "uint32")] ∧
    exportedPosFields = [("Offset", "uint"), ("Line", "uint"), ("Col", "uint")] ∧
    offsetRecovered = 4294967285 ∧ offsetMax = 4294967284 ∧ lineMax = 262143 ∧ colMax = 16383 ∧ colBitSize = 14 :=
  ⟨rfl, rfl, rfl, rfl, rfl, rfl, rfl, rfl, rfl⟩

/-- `NewPos(p.Offset(), p.Line(), p.Col()) = p` for every position that is not one of the reserved
    invalid offsets (18 bits of line, 14 bits of column, offsets up to 2^32 - 12). -/
theorem pos_roundtrip (p : Pos) (hr : p.inRange = true) (ho : p.offs ≤ offsetMax) :
    newPos p.offset p.line p.col = p :=
  newPos_parts p hr ho

/-- The clamping limits of `NewPos`: the offset saturates at `offsetMax` (so `NewPos` never builds
    a recovered position), a line above 262143 or a column above 16383 is stored as 0. -/
theorem newPos_clamps (o l c : Nat) :
    (newPos o l c).offs ≤ offsetMax ∧ newPos o l c ≠ Pos.recovered ∧
      (lineMax < l → (newPos o l c).line = 0) ∧ (colMax < c → (newPos o l c).col = 0) := by
  refine ⟨newPos_offs_le o l c, ?_, newPos_line_overflow o l c, newPos_col_overflow o l c⟩
  intro e
  have h := newPos_offs_le o l c
  rw [e] at h
  revert h; decide

/-- `decodePos` inverts `encodePos` on every valid position. -/
theorem decodePos_encodePos (p : Pos) (hr : p.inRange = true) (hv : p.isValid = true) :
    ∃ j, encPos p = some j ∧ decodePos j = .ok p :=
  decodePos_encPos p hr hv

/-- Decode never reaches a reflect call that panics — for EVERY JSON value and EVERY target type
    (`val.Addr()` is only called on addressable values; every `Set*` is preceded by its check). -/
theorem decode_no_panic (σ : Schema) (τ : GoType) (j : J) :
    decodeValue σ true τ j ≠ .panic ∧ decodeRoot σ j ≠ .panic :=
  ⟨decodeValue_no_panic σ j τ, decodeRoot_no_panic σ j⟩

/-- Decode always returns a value or an error. -/
theorem decode_total (σ : Schema) (j : J) :
    (∃ v, decodeRoot σ j = .ok v) ∨ (∃ e, decodeRoot σ j = .err e) := by
  cases h : decodeRoot σ j with
  | ok v => exact Or.inl ⟨v, rfl⟩
  | err e => exact Or.inr ⟨e, rfl⟩
  | panic => exact absurd h (decodeRoot_no_panic σ j)

/-- Value level, any static type: a JsonWF value either encodes to nothing and is the zero value
    of its type up to canonical form, or encodes to a document that decodes to its canonical form;
    `Encode` does not panic. -/
theorem decode_encode_value (σ : Schema) (τ : GoType) (v : Val) (h : wf σ τ v = true)
    (hp : ∀ p, v ≠ .pos p) :
    (∃ tn, encodeValue σ v = .res none tn ∧ zero τ = canon v) ∨
    (∃ j tn, encodeValue σ v = .res (some j) tn ∧ decodeValue σ true τ j = .ok (canon v)) :=
  (roundV σ v τ h hp).imp And.right id

/-- The full statement without the hypothesis on positions: any two `uint32`s as a position.
    It is FALSE of the model and of the code (`decode_encode_statement_false`). -/
def decode_encode_statement : Prop :=
  ∀ (σ : Schema) (v : Val), wfAnyPos σ (.iface "Node") (.iface v) = true →
    ∃ j, encodeRoot σ v = .val j ∧ decodeRoot σ j = .ok (canon (.iface v))

/-- `Decode(Encode(node))` is the node with recovered positions cleared (and empty slices nil, which
    `Encode` cannot tell from nil slices), for every schema and every JsonWF root; `Encode` does not
    panic.  The extra hypothesis w.r.t. `decode_encode_statement` is exactly `posWF` on every
    position: valid, zero or recovered. -/
theorem decode_encode_partial (σ : Schema) (v : Val) (h : wf σ (.iface "Node") (.iface v) = true) :
    ∃ j, encodeRoot σ v = .val j ∧ decodeRoot σ j = .ok (canon (.iface v)) :=
  round_root σ v h

/-- …and with no empty-but-non-nil slice the result is literally `dropRecovered`. -/
theorem decode_encode (σ : Schema) (v : Val) (h : wf σ (.iface "Node") (.iface v) = true)
    (hne : noEmptySlice v = true) :
    ∃ j, encodeRoot σ v = .val j ∧ decodeRoot σ j = .ok (dropRecovered (.iface v)) := by
  obtain ⟨j, h1, h2⟩ := round_root σ v h
  refine ⟨j, h1, ?_⟩
  rw [h2, canon_eq_dropRecovered (.iface v) (by simpa only [noEmptySlice] using hne)]

/-- Re-encoding the decoded tree gives the identical document (same keys in the same order, same
    values), for every `Pos()`/`End()` function `ann` whose encoded results are stable under the
    round trip (`peStable`: the assumption about the methods of nodes.go, checked per tree by the
    harness through byte equality). -/
theorem encode_decode_encode (σ : Schema) (ann : Ann) (t : Val)
    (h : wf σ (.iface "Node") (.iface (annotate ann t)) = true) (hs : peStable ann t) :
    ∃ j d, encodeRoot σ (annotate ann t) = .val j ∧ decodeRoot σ j = .ok (.iface d) ∧
      encodeRoot σ (annotate ann d) = .val j := by
  obtain ⟨j, h1, h2⟩ := round_root σ (annotate ann t) h
  refine ⟨j, canon t, h1, ?_, ?_⟩
  · rw [h2]; simp only [canon, canon_annotate]
  · rw [reencode_root σ ann t hs, h1]

/-- Byte-identical re-encoding on the well-formed region, for EVERY `Pos()`/`End()` function: the
    extra hypotheses w.r.t. `encode_decode_encode_statement` are exactly that the tree holds no
    recovered position (the region of the open finding C15-reencode-recovered-posend, see
    `reencode_recovered_differs`) and no empty-but-non-nil slice (so that the decoded tree is the
    original one as far as any method can see: `canon t = forget t`). -/
theorem encode_decode_encode_partial (σ : Schema) (ann : Ann) (t : Val)
    (h : wf σ (.iface "Node") (.iface (annotate ann t)) = true)
    (hr : noRecovered t = true) (hne : noEmptySlice t = true) :
    ∃ j d, encodeRoot σ (annotate ann t) = .val j ∧ decodeRoot σ j = .ok (.iface d) ∧
      encodeRoot σ (annotate ann d) = .val j :=
  encode_decode_encode σ ann t h (peStable_of_noRecovered ann t hr hne)

/-- The strongest form given the open finding: for every `Pos()`/`End()` function that cannot tell
    a nil slice from an empty one (true of nodes.go: the methods only use `len` and `range`), the
    re-encoding is byte-identical for EVERY JsonWF tree without a recovered position — recovered
    positions are excluded exactly (`reencode_recovered_differs` is the counter-example there). -/
theorem encode_decode_encode_no_recovered (σ : Schema) (ann : Ann) (hb : annSliceBlind ann) (t : Val)
    (h : wf σ (.iface "Node") (.iface (annotate ann t)) = true) (hr : noRecovered t = true) :
    ∃ j d, encodeRoot σ (annotate ann t) = .val j ∧ decodeRoot σ j = .ok (.iface d) ∧
      encodeRoot σ (annotate ann d) = .val j :=
  encode_decode_encode σ ann t h (peStable_of_blind ann hb t hr)

/-- …and the decoded tree is then literally the original one (annotations aside). -/
theorem decode_encode_no_recovered (σ : Schema) (v : Val) (h : wf σ (.iface "Node") (.iface v) = true)
    (hr : noRecovered v = true) (hne : noEmptySlice v = true) :
    ∃ j, encodeRoot σ v = .val j ∧ decodeRoot σ j = .ok (forget (.iface v)) := by
  obtain ⟨j, h1, h2⟩ := round_root σ v h
  refine ⟨j, h1, ?_⟩
  rw [h2, canon_eq_forget (.iface v) (by simpa only [noRecovered] using hr)
    (by simpa only [noEmptySlice] using hne)]

/-- The full statement of byte-identical re-encoding, without the hypothesis on `Pos()`/`End()`.
    It is FALSE (`encode_decode_encode_statement_false`): a `Pos()`/`End()` that looks at a recovered
    position may give another answer once the position is cleared. -/
def encode_decode_encode_statement : Prop :=
  ∀ (σ : Schema) (ann : Ann) (t : Val), wf σ (.iface "Node") (.iface (annotate ann t)) = true →
    ∃ j d, encodeRoot σ (annotate ann t) = .val j ∧ decodeRoot σ j = .ok (.iface d) ∧
      encodeRoot σ (annotate ann d) = .val j

/-- a literal at byte offset 278534 of an input whose line and column counters both overflowed -/
def litOverflowed : Val :=
  .ptr (.struct "Lit" (some (⟨278534, 0⟩, ⟨278538, 0⟩))
    [("ValuePos", .pos ⟨278534, 0⟩), ("ValueEnd", .pos ⟨278538, 0⟩), ("Value", .str [101, 99, 104, 111])])

/-- The known finding C15-invalid-pos-dropped on the model of the real schema: the literal is well
    typed, its positions are neither valid, zero nor recovered, `Encode` drops them and `Decode`
    returns a tree that differs from the original (offset 278534 became 0). -/
theorem invalid_pos_not_roundtrip :
    wfAnyPos real (.iface "Node") (.iface litOverflowed) = true ∧
      wf real (.iface "Node") (.iface litOverflowed) = false ∧
      (match encodeRoot real litOverflowed with
       | .val j =>
         match decodeRoot real j with
         | .ok d => beqVal d (canon (.iface litOverflowed)) || beqVal d (dropRecovered (.iface litOverflowed))
         | _ => true
       | .panic => true) = false := by
  decide +kernel

theorem decode_encode_statement_false : ¬ decode_encode_statement := by
  intro hst
  obtain ⟨h1, _, h3⟩ := invalid_pos_not_roundtrip
  obtain ⟨j, he, hd⟩ := hst real litOverflowed h1
  rw [he] at h3
  dsimp only at h3
  rw [hd] at h3
  dsimp only at h3
  rw [beqVal_refl] at h3
  exact Bool.noConfusion h3

/-- a `Pos()`/`End()` in the style of nodes.go: the first position field, or a fallback when it is unset -/
def annFallback : Ann := fun _ fs =>
  match fs with
  | (_, .pos p) :: _ => if p = Pos.zero then some (⟨1, 16385⟩, ⟨1, 16385⟩) else some (p, p)
  | _ => none

/-- a literal whose positions are recovered ones -/
def litRecovered : Val :=
  .ptr (.struct "Lit" none
    [("ValuePos", .pos Pos.recovered), ("ValueEnd", .pos Pos.recovered), ("Value", .str [97])])

/-- The known finding C15-reencode-recovered-posend on the model: the tree is JsonWF, yet the
    re-annotated decoded tree encodes differently (a "Pos"/"End" appears). -/
theorem reencode_recovered_differs :
    wf real (.iface "Node") (.iface (annotate annFallback litRecovered)) = true ∧
      beqEnc (encodeRoot real (annotate annFallback (canon litRecovered)))
        (encodeRoot real (annotate annFallback litRecovered)) = false := by
  decide +kernel

theorem encode_decode_encode_statement_false : ¬ encode_decode_encode_statement := by
  intro hst
  obtain ⟨hw, hne⟩ := reencode_recovered_differs
  obtain ⟨j, d, h1, h2, h3⟩ := hst real annFallback litRecovered hw
  obtain ⟨j', h1', h2'⟩ := round_root real (annotate annFallback litRecovered) hw
  rw [h1] at h1'
  injection h1' with hj
  subst hj
  rw [h2] at h2'
  injection h2' with hd
  rw [canon, canon_annotate] at hd
  injection hd with hd
  subst hd
  rw [h3, h1, beqEnc_refl] at hne
  exact Bool.noConfusion hne

/-- A string that is not valid UTF-8 does not survive `encoding/json` (outside the property: the
    parser rejects such input; shown for hand-built trees and partial trees next to a parse error). -/
theorem invalid_utf8_not_roundtrip :
    (match encodeRoot real (.ptr (.struct "Lit" none [("ValuePos", .pos Pos.zero), ("ValueEnd", .pos Pos.zero), ("Value", .str [255])])) with
     | .val j =>
       match decodeRoot real j with
       | .ok d => beqVal d (.iface (.ptr (.struct "Lit" none [("ValuePos", .pos Pos.zero), ("ValueEnd", .pos Pos.zero), ("Value", .str [0xEF, 0xBF, 0xBD])])))
       | _ => false
     | .panic => false) = true := by
  decide +kernel

/-- Non-vacuity of `annSliceBlind`: the constant method is slice-blind; `annFallback`, which looks at
    the first position field only, is too (positions are untouched by `nilEmpty`/`forget`). -/
example : annSliceBlind (fun _ _ => some (⟨1, 16385⟩, ⟨2, 16386⟩)) := fun _ _ => rfl

/-- The round trip for the code as it is now: every JsonWF tree over the current node schema. -/
theorem decode_encode_real (v : Val) (h : wf real (.iface "Node") (.iface v) = true) :
    ∃ j, encodeRoot real v = .val j ∧ decodeRoot real j = .ok (canon (.iface v)) :=
  decode_encode_partial real v h

/-- Non-vacuity: a small parsed tree (`echo`) is JsonWF in the real schema, and its round trip,
    evaluated, is the tree itself. -/
example :
    wf real (.iface "Node") (.iface (.ptr (.struct "Lit" (some (⟨0, 16385⟩, ⟨4, 16389⟩))
      [("ValuePos", .pos ⟨0, 16385⟩), ("ValueEnd", .pos ⟨4, 16389⟩), ("Value", .str [101, 99, 104, 111])]))) = true := by
  decide +kernel

/-- Non-vacuity of the operator condition in JsonWF: `&&` as a BinCmdOperator. -/
example : real.unm "BinCmdOperator" (real.tokStr 11) = some 11 ∧ real.tokStr 11 = [38, 38] := by
  decide +kernel

end ShVerif.C15
