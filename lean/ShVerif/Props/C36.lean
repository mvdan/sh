import ShVerif.Model.C36
import ShVerif.Proofs.C36
/-
  C36 — shfmt's list, diff, write and stdin modes agree.  Property theorems about the model of
  cmd/shfmt/main.go (ShVerif/Model/C36.lean).

  The formatter `F` (parser + printer) and the diff printer `D` are parameters: every theorem
  holds for all of them, under the hypotheses it names (`Idempotent F` is property C02).
-/
namespace ShVerif.C36

/-- Tail of formatBytes: the path is printed by `-l` exactly when the formatted output differs. -/
theorem l_lists_iff (list : Tri) (w d : Bool) (path src res dt : Bytes) (reg : Bool) :
    (outcome list w d path src res dt reg).listed = true ↔ (list ≠ .off ∧ res ≠ src) :=
  outcome_listed list w d path src res dt reg

/-- …and at the level of a visited file: it is listed iff the formatter succeeded (under the
    options the decision logic resolved) with bytes different from the file's. -/
theorem l_lists_iff_file (F : Fmt) (D : Dif) (f : Flags) (e : Entry) (hl : f.list ≠ .off)
    (hfind : f.find = .off) (o : Opts) (b : Bool)
    (hro : resolveOpts f e (fileLang f e.path e.src) = some (o, b)) :
    (formatPath F D f e false).listed = true ↔ ∃ r, F o e.path e.src = .ok r ∧ r ≠ e.src := by
  constructor
  · intro h
    obtain ⟨_, o', b', r, g1, g2, g3⟩ := formatPath_listed h
    rw [hro] at g1
    cases g1
    exact ⟨r, g2, g3⟩
  · rintro ⟨r, g1, g2⟩
    rw [formatPath_passes ⟨rfl, rfl, hfind⟩, formatBytes_ok hro g1]
    exact (outcome_listed _ _ _ _ _ _ _ _).mpr ⟨hl, g2⟩

/-- Exact stdout of plain `-l` for one file. -/
theorem l_stdout (path src res dt : Bytes) (reg : Bool) :
    (outcome .nl false false path src res dt reg).stdout = if res ≠ src then path ++ [nl] else [] := by
  rw [outcome_eq]
  simp [listLine]

/-- `shfmt -l` (without `-w`) exits non-zero exactly when it listed a file or reported an error
    (a parse error, a missing path).  Whole run, any arguments. -/
theorem l_status (F : Fmt) (D : Dif) (f : Flags) (es : List Entry)
    (hs : startupError f = false) (hn : f.filename = [])
    (hl : f.list ≠ .off) (hw : f.write = false)
    (hp : (runWalk F D f es).panicked = false) :
    (runWalk F D f es).status ≠ 0 ↔
      ((∃ ev ∈ visits F D f es none, listedV ev.2 = true) ∨
       (∃ ev ∈ visits F D f es none, errorV ev.2 = true)) := by
  unfold runWalk at hp ⊢
  simp only [hs, hn, Bool.false_eq_true, ↓reduceIte, ne_eq, not_true_eq_false] at hp ⊢
  rw [← ne_eq, collect_status _ _ hp]
  have key : ∀ ev : Entry × Visit, ev ∈ visits F D f es none →
      (visitFails ev.2 = true ↔ (listedV ev.2 = true ∨ errorV ev.2 = true)) := by
    intro ⟨e, v⟩ hev
    rw [visits_mem F D f es none e v hev]
    exact visit_fail_iff F D f e hl hw
  rw [exists_congr fun ev => and_congr_right (key ev)]
  simp [and_or_left, exists_or]

/-- The property's sentence, for runs without errors: exit status ≠ 0 ⇔ something was listed. -/
theorem l_status_clean (F : Fmt) (D : Dif) (f : Flags) (es : List Entry)
    (hs : startupError f = false) (hn : f.filename = [])
    (hl : f.list ≠ .off) (hw : f.write = false)
    (hp : (runWalk F D f es).panicked = false)
    (hne : ∀ ev ∈ visits F D f es none, errorV ev.2 = false) :
    (runWalk F D f es).status ≠ 0 ↔ ∃ ev ∈ visits F D f es none, listedV ev.2 = true := by
  rw [l_status F D f es hs hn hl hw hp, or_iff_left]
  rintro ⟨ev, hev, h⟩
  rw [hne ev hev] at h
  cases h

/-- `g` is `f` with other mode flags (`-l`, `-w`, `-d`) — same parser/printer/walk flags. -/
def SameFormatting (f g : Flags) : Prop :=
  g = { f with list := g.list, write := g.write, diff := g.diff }

/-- The mode flags do not take part in resolving the language or the options (incl. `simplify` and
    `minify`, from flags or from EditorConfig): list-only, diff, write and plain runs hand the formatter
    the same option record, hence compare against the same formatted bytes. -/
theorem modes_same_pipeline (f g : Flags) (h : SameFormatting f g) (e : Entry) (l : Lang) (p s : Bytes) :
    resolveOpts g e l = resolveOpts f e l ∧ fileLang g p s = fileLang f p s ∧
    stdinLang g p s = stdinLang f p s := by
  rw [h]; exact ⟨rfl, rfl, rfl⟩

/-- List-only mode under simplification: with `-s` (or `-mn`) the file is listed exactly when the
    *simplified* formatted bytes differ — `F` receives `simplify = true`. -/
theorem l_lists_simplified (F : Fmt) (D : Dif) (f : Flags) (e : Entry) (hl : f.list ≠ .off)
    (hfind : f.find = .off) (hs : f.simplify = some true ∨ f.mn = some true) :
    ∃ o, o.simplify = true ∧ o = optsOfFlags f (fileLang f e.path e.src) ∧
      ((formatPath F D f e false).listed = true ↔ ∃ r, F o e.path e.src = .ok r ∧ r ≠ e.src) := by
  have hec : useEC f = false := by
    unfold useEC; rcases hs with h | h <;> simp [h]
  refine ⟨_, ?_, rfl, l_lists_iff_file F D f e hl hfind _ false (resolveOpts_flags f e _ hec)⟩
  unfold optsOfFlags; rcases hs with h | h <;> simp [h]

/-- A diff is printed exactly when the formatted output differs (and `-w` did not refuse). -/
theorem d_iff (list : Tri) (w : Bool) (path src res dt : Bytes) (reg : Bool) :
    (outcome list w true path src res dt reg).diffed = true ↔
      (res ≠ src ∧ ¬ (w = true ∧ reg = false)) := by
  rw [outcome_eq]
  cases w <;> simp

/-- Without `-d` no diff is printed. -/
theorem d_off (list : Tri) (w : Bool) (path src res dt : Bytes) (reg : Bool) :
    (outcome list w false path src res dt reg).diffed = false := by
  rw [outcome_eq]
  simp

/-- What is printed is the `-l` line (if any) followed by the diff text, unmodified. -/
theorem d_stdout (list : Tri) (w : Bool) (path src res dt : Bytes) (reg : Bool)
    (h : (outcome list w true path src res dt reg).diffed = true) :
    (outcome list w true path src res dt reg).stdout = listLine list path ++ dt := by
  rw [outcome_eq] at h ⊢
  simp only [Bool.and_true] at h ⊢
  -- `diffed` is the condition of the second `if`, and implies that of the first
  rw [if_pos (by simp_all), if_pos h]

/-- Diff model: any diff printer `D` with a patcher `apply` satisfying the apply law. -/
def DiffLaw (D : Dif) (apply : Bytes → Bytes → Option Bytes) : Prop :=
  ∀ path a b, a ≠ b → apply (D path a b) a = some b

/-- Applying the text printed by plain `-d` to the file's bytes yields the formatted output. -/
theorem d_applies (D : Dif) (apply : Bytes → Bytes → Option Bytes) (law : DiffLaw D apply)
    (w : Bool) (path src res : Bytes) (reg : Bool)
    (h : (outcome .off w true path src res (D path src res) reg).diffed = true) :
    apply (outcome .off w true path src res (D path src res) reg).stdout src = some res := by
  rw [d_stdout _ _ _ _ _ _ _ h]
  have hne := ((d_iff _ _ _ _ _ _ _).mp h).1
  simpa [listLine] using law path src res (fun e => hne e.symm)

/-- The apply law is satisfiable: the reference diff (one hunk after the common prefix) and the
    hunk patcher `applyScript` (the algorithm of the harness' reference patcher) satisfy it. -/
theorem diff_apply_law (a b : List Bytes) : applyScript (simpleDiff a b) a = some b := by
  unfold simpleDiff applyScript
  by_cases h : a = b
  · subst h; simp [applyFrom]
  · -- one hunk at the common prefix: it deletes the rest of `a` and inserts the rest of `b`
    simp only [h, ↓reduceIte, applyFrom, Nat.not_lt_zero, Nat.sub_zero, Nat.not_lt.mpr (commonPrefix_le a b),
      List.take_length, List.drop_length, List.append_nil]
    rw [commonPrefix_take a b, List.take_append_drop]

/-- The statement with formatter idempotence (C02) as its only hypothesis.  It is FALSE of the
    model (and of shfmt): see `w_then_l_counterexample`. -/
def w_then_l_statement : Prop :=
  ∀ (F : Fmt) (D : Dif), Idempotent F → ∀ (f : Flags) (e : Entry) (cs : Bool),
    e.kind = .reg → f.write = true →
    (formatPath F D (lFlags f)
      { e with src := contentAfter (formatPath F D f e cs) e.src } cs).listed = false

/-- With idempotence AND stability of the language resolved for the file (the bytes written by
    `-w` must resolve to the language the source resolved to), `-l` lists nothing after `-w`. -/
theorem w_then_l_partial (F : Fmt) (D : Dif) (idem : Idempotent F) (f : Flags) (e : Entry) (cs : Bool)
    (hreg : e.kind = .reg) (hw : f.write = true)
    (stable : ∀ r, (formatPath F D f e cs).write = some r →
        fileLang f e.path r = fileLang f e.path e.src) :
    (formatPath F D (lFlags f)
      { e with src := contentAfter (formatPath F D f e cs) e.src } cs).listed = false := by
  apply Bool.eq_false_iff.mpr
  intro hl
  -- a listing run got as far as the formatter and found its result `r'` to differ
  obtain ⟨hp, o', b', r', g1, g2, g3⟩ := formatPath_listed hl
  cases hwr : (formatPath F D f e cs).write with
  | some r =>
    -- the first run wrote the formatter's output, which the formatter (same options) leaves alone
    obtain ⟨o, b, hro, hF, _⟩ := formatPath_write hwr
    simp only [contentAfter, hwr, Option.getD_some] at g1 g2 g3
    rw [fileLang_lFlags, stable r hwr, resolveOpts_lFlags, hro] at g1
    cases g1
    rw [idem _ _ _ _ hF] at g2
    cases g2
    exact g3 rfl
  | none =>
    -- nothing was written, so the second run sees the file the first one saw: and would have written `r'`
    simp only [contentAfter, hwr, Option.getD_none] at hp g1 g2 g3
    rw [fileLang_lFlags, resolveOpts_lFlags] at g1
    rw [formatPath_passes (f := f) hp, formatBytes_ok g1 g2, outcome_eq, hw, hreg] at hwr
    simp [g3] at hwr

/-- The same at the level of the walk callback: whatever the callback decides for the entry. -/
theorem w_then_l_visit (F : Fmt) (D : Dif) (idem : Idempotent F) (f : Flags) (e : Entry)
    (hreg : e.kind = .reg) (hw : f.write = true) (s1 : Step)
    (h1 : visit F D f e = .step s1)
    (stable : ∀ r, s1.write = some r → fileLang f e.path r = fileLang f e.path e.src) :
    listedV (visit F D (lFlags f) { e with src := contentAfter s1 e.src }) = false := by
  unfold visit at h1 ⊢
  rw [visitDecision_lFlags]
  cases hd : visitDecision f e with
  | format cs =>
    simp only [hd] at h1
    cases h1
    simp only [listedV]
    exact w_then_l_partial F D idem f e cs hreg hw stable
  | _ => simp [listedV]

/-- With `-ln <lang>` on the command line the language cannot move, so idempotence suffices. -/
theorem w_then_l_ln (F : Fmt) (D : Dif) (idem : Idempotent F) (f : Flags) (e : Entry) (cs : Bool)
    (hreg : e.kind = .reg) (hw : f.write = true) (hln : lnVal f ≠ .auto) :
    (formatPath F D (lFlags f)
      { e with src := contentAfter (formatPath F D f e cs) e.src } cs).listed = false :=
  w_then_l_partial F D idem f e cs hreg hw fun r _ => by rw [fileLang_ln hln, fileLang_ln hln]

/-- A (constant, hence idempotent) formatter shaped like the real witness
    `printf '  #!/bin/sh\n((x))\n' > a.sh`: bash prints `((x))`, POSIX prints `( (x))`. -/
def witnessF : Fmt := fun o _ _ =>
  if o.lang = .posix then .ok (asc "#!/bin/sh\n( (x))\n") else .ok (asc "#!/bin/sh\n((x))\n")

def witnessEntry : Entry := { path := asc "a.sh", explicit := true, src := asc "  #!/bin/sh\n((x))\n" }

theorem witnessF_idempotent : Idempotent witnessF := fun _ _ _ _ h => h

/-- `a.sh` resolves to bash before `-w` (the indented `#!` is no shebang) … -/
example : fileLang {} witnessEntry.path witnessEntry.src = .bash := by decide +kernel
/-- … and to POSIX afterwards. -/
example : fileLang {} witnessEntry.path (asc "#!/bin/sh\n((x))\n") = .posix := by decide +kernel

/-- Idempotence alone does not make `-l` silent after `-w`: the formatted bytes can resolve to a
    different language than the source (genuine defect, replayed from corpus/C36-known.txt). -/
theorem w_then_l_counterexample : ¬ w_then_l_statement := by
  intro h
  have := h witnessF (fun _ _ _ => []) witnessF_idempotent { write := true } witnessEntry false rfl rfl
  revert this
  decide +kernel

/-- `shfmt --filename p < p` does exactly what `shfmt p` does whenever both resolve to the same
    language (same name ⇒ same EditorConfig section, same options). -/
theorem stdin_eq_file (F : Fmt) (D : Dif) (f : Flags) (e : Entry)
    (hw : f.write = false) (hfind : f.find = .off)
    (hig : (f.applyIgnore && pget e.pShell (asc "ignore") = asc "true") = false)
    (hlang : stdinLang f e.path e.src = fileLang f e.path e.src) :
    stdinStep F D f e = formatPath F D f e false := by
  unfold stdinStep formatPath
  simp [hw, hfind, hig, hlang]

/-- Different names, language given with `-ln`: both sides use the options of the flags, and
    the formatted bytes (hence stdout and the exit status) agree. -/
theorem stdin_eq_file_ln (F : Fmt) (D : Dif) (ni : NameIndependent F) (f : Flags) (e es : Entry)
    (hplain : f.list = .off ∧ f.write = false ∧ f.diff = false ∧ f.find = .off)
    (hai : f.applyIgnore = false) (hln : f.ln.isSome = true) (hauto : lnVal f ≠ .auto)
    (hsrc : es.src = e.src) (r : Bytes)
    (hr : F (optsOfFlags f (lnVal f)) e.path e.src = .ok r) :
    (stdinStep F D f es).stdout = r ∧ (formatPath F D f e false).stdout = r ∧
    (stdinStep F D f es).fail = false ∧ (formatPath F D f e false).fail = false := by
  obtain ⟨h1, h2, h3, h4⟩ := hplain
  have hec : useEC f = false := by
    unfold useEC; cases hl : f.ln <;> simp_all
  have hr' : F (optsOfFlags f (lnVal f)) es.path es.src = .ok r := by
    rw [hsrc]; exact ni _ _ _ _ _ hr
  -- both sides reach `formatBytes` with the language of the flags, hence `outcome` on `r`
  have e1 : stdinStep F D f es = formatBytes F D f es es.path es.src (lnVal f) := by
    simp [stdinStep, h2, hai, stdinLang_ln hauto]
  rw [e1, formatPath_passes ⟨rfl, rfl, h4⟩, fileLang_ln hauto,
    formatBytes_ok (resolveOpts_flags _ _ _ hec) hr, formatBytes_ok (resolveOpts_flags _ _ _ hec) hr',
    outcome_eq, outcome_eq, h1, h2, h3]
  simp [listLine]

/-- When does the automatic language agree?  Always if the input is at most 32 bytes long (what
    formatPath reads for the shebang) or the name decides. -/
theorem stdin_lang_short (f : Flags) (n s : Bytes) (h : s.length ≤ 32) :
    stdinLang f n s = fileLang f n s :=
  stdinLang_eq_fileLang f n s (.inr (.inr (by rw [headOf, List.take_of_length_le h])))

theorem stdin_lang_name (f : Flags) (n s : Bytes) (h : langFromFilename n ≠ .auto) :
    stdinLang f n s = fileLang f n s := stdinLang_eq_fileLang f n s (.inr (.inl h))

/-- …but not in general: a shebang line that does not fit into 32 bytes is seen on stdin only
    (observed on the binary: `shfmt a` ≠ `shfmt --filename a < a`). -/
theorem stdin_lang_differs_example :
    stdinLang {} (asc "a") (asc "#!/usr/bin/env                  sh\n((x))\n") = .posix ∧
    fileLang {} (asc "a") (asc "#!/usr/bin/env                  sh\n((x))\n") = .bash := by decide +kernel

/-- An EditorConfig section says what the flags say. -/
structure Equivalent (f : Flags) (p : Props) : Prop where
  lang : langOfName (pget p (asc "shell_variant")) = (if lnVal f = .auto then none else some (lnVal f))
  indent : propsIndent p = f.indent.getD 0
  bn : ptrue p "binary_next_line" = f.bn.getD false
  ci : ptrue p "switch_case_indent" = f.ci.getD false
  sr : ptrue p "space_redirects" = f.sr.getD false
  kp : ptrue p "keep_padding" = f.kp.getD false
  fn : ptrue p "function_next_line" = f.fn.getD false
  mn : ptrue p "minify" = f.mn.getD false
  simplify : (ptrue p "minify" || ptrue p "simplify") = (f.simplify.getD false || f.mn.getD false)

/-- Equivalent settings give the same option record: for a file whose detected language is `l`,
    the record built from the properties equals the record built from the flags. -/
theorem flags_vs_editorconfig (f : Flags) (p : Props) (l : Lang) (hl : l ≠ .auto)
    (h : Equivalent f p) :
    propsOptions l p =
      some (optsOfFlags f (if lnVal f = .auto then l else lnVal f), lnVal f != .auto) := by
  obtain ⟨h1, h2, h3, h4, h5, h6, h7, h8, h9⟩ := h
  rw [h8] at h9
  unfold propsOptions optsOfFlags
  by_cases ha : lnVal f = .auto <;> simp [h1, ha, hl, h2, h3, h4, h5, h6, h7, h8, h9]

/-- Non-vacuity: `-i 4 -bn -ci -ln mksh` and the section a user would write for it. -/
def exFlags : Flags := { indent := some 4, bn := some true, ci := some true, ln := some .mksh }
def exProps : Props :=
  [(asc "indent_style", asc "space"), (asc "indent_size", asc "4"), (asc "binary_next_line", asc "true"),
   (asc "switch_case_indent", asc "true"), (asc "shell_variant", asc "mksh")]

theorem exProps_equivalent : Equivalent exFlags exProps := by
  constructor <;> decide

example : propsOptions .bash exProps = some (optsOfFlags exFlags .mksh, true) :=
  flags_vs_editorconfig exFlags exProps .bash (by decide) exProps_equivalent

/-- `-s -mn` ≍ `minify = true`; tabs ≍ no indent_style. -/
example : Equivalent { simplify := some true, mn := some true } [(asc "minify", asc "true")] := by
  constructor <;> decide +kernel

/-- The language handed to formatBytes is never `auto`… -/
theorem lang_resolved (f : Flags) (p s : Bytes) :
    fileLang f p s ≠ .auto ∧ stdinLang f p s ≠ .auto :=
  ⟨firstSet_ne_auto (langFromShebang_ne_auto _), firstSet_ne_auto (langFromShebang_ne_auto _)⟩

/-- …so `syntax.Variant` never panics, with flags or with EditorConfig properties — including
    `shell_variant = auto` (repaired in /repo by 349239f; it used to panic) — for every detected
    language `l ≠ auto`. -/
theorem no_panic (f : Flags) (e : Entry) (l : Lang) (hl : l ≠ .auto) :
    resolveOpts f e l ≠ none := by
  unfold resolveOpts
  split
  · exact propsOptions_ne_none l _ hl
  · simp

/-- With parser/printer flags no hypothesis on the language is needed. -/
theorem no_panic_flags (f : Flags) (e : Entry) (l : Lang) (h : useEC f = false) :
    resolveOpts f e l ≠ none := by
  rw [resolveOpts_flags f e l h]; simp

/-- No step of a run on a path or on stdin panics in `resolveOpts`. -/
theorem no_panic_run (f : Flags) (e : Entry) (p s : Bytes) :
    resolveOpts f e (fileLang f p s) ≠ none ∧ resolveOpts f e (stdinLang f p s) ≠ none :=
  ⟨no_panic f e _ (lang_resolved f p s).1, no_panic f e _ (lang_resolved f p s).2⟩

/-- `shell_variant = auto` keeps the detected language (and counts as a valid setting). -/
theorem shell_variant_auto_keeps (l : Lang) (hl : l ≠ .auto) :
    (propsOptions l [(asc "shell_variant", asc "auto")]).map (fun r => (r.1.lang, r.2)) = some (l, true) := by
  have : langOfName (pget [(asc "shell_variant", asc "auto")] (asc "shell_variant")) = some .auto := by
    decide +kernel
  simp [propsOptions, this, hl]

/-- Row "not checking for a shebang" (explicit regular file, or a shell extension found by walking):
    whatever the sniff reports — nothing read, a short read, a full window — the file is formatted
    (or printed by `-f`); the sniff only feeds language detection. -/
theorem sniff_unchecked (F : Fmt) (D : Dif) (f : Flags) (e : Entry) :
    formatPath F D f e false =
      match f.find with
      | .nl => { stdout := e.path ++ [nl] }
      | .nul => { stdout := e.path ++ [0] }
      | .off => formatBytes F D f e e.path e.src (fileLang f e.path e.src) := by
  cases h : f.find <;> simp [formatPath, h]

/-- Rows "checking for a shebang" (extension-less file found by walking, `--detect`): EOF and short
    reads are dropped silently … -/
theorem sniff_checked_short (F : Fmt) (D : Dif) (f : Flags) (e : Entry) (h : sniffOf e.src ≠ .window) :
    formatPath F D f e true = {} := by
  simp [formatPath, (headOf_short_iff _).mpr h]

/-- … and a full window decides by the shebang. -/
theorem sniff_checked_window (F : Fmt) (D : Dif) (f : Flags) (e : Entry) (h : sniffOf e.src = .window) :
    formatPath F D f e true =
      if shebang (headOf e.src) = [] then {} else formatPath F D f e false := by
  have hlen : ¬ (headOf e.src).length < 9 := fun hlt => (headOf_short_iff _).mp hlt h
  by_cases hs : shebang (headOf e.src) = [] <;> simp [formatPath, hlen, hs]

/-- An empty script is not a fixed point of the formatter (it prints a newline), so `-l` on an
    explicitly named or `.sh` empty file lists it: the EOF row must not skip the file. -/
theorem empty_file_listed (F : Fmt) (D : Dif) (f : Flags) (e : Entry) (hsrc : e.src = [])
    (hl : f.list ≠ .off) (hfind : f.find = .off) (o : Opts) (b : Bool)
    (hro : resolveOpts f e (fileLang f e.path e.src) = some (o, b))
    (hF : F o e.path [] = .ok [nl]) :
    (formatPath F D f e false).listed = true := by
  rw [l_lists_iff_file F D f e hl hfind o b hro]
  exact ⟨[nl], by rw [hsrc]; exact hF, by rw [hsrc]; simp⟩

example : sniffOf [] = .eof ∧ sniffOf (asc "#!/b") = .short ∧ sniffOf (asc "#!/bin/sh") = .window := by
  decide +kernel

/-- Language by file name (`langFromFilename`); `.sh` and unknown extensions leave it to the shebang. -/
theorem lang_by_name :
    langFromFilename (asc "x.bash") = .bash ∧ langFromFilename (asc "x.mksh") = .mksh ∧
    langFromFilename (asc "x.bats") = .bats ∧ langFromFilename (asc "x.zsh") = .zsh ∧
    langFromFilename (asc "x.posix") = .posix ∧ langFromFilename (asc "x.dash") = .posix ∧
    langFromFilename (asc "x.sh") = .auto ∧ langFromFilename (asc "x") = .auto ∧
    langFromFilename (asc "x.txt") = .auto ∧ langFromFilename (asc "d.bash/x") = .auto ∧
    langFromFilename (asc ".bashrc") = .bash ∧ langFromFilename (asc "dir/.zshrc") = .zsh ∧
    langFromFilename (asc "bash_profile") = .bash ∧ langFromFilename (asc "<standard input>") = .auto := by
  decide +kernel

/-- Language by shebang, with the bash fallback. -/
theorem lang_by_shebang :
    langFromShebang (asc "#!/bin/sh\n") = .posix ∧ langFromShebang (asc "#!/bin/dash\n") = .posix ∧
    langFromShebang (asc "#!/usr/bin/env bash\n") = .bash ∧ langFromShebang (asc "#! /bin/mksh\n") = .mksh ∧
    langFromShebang (asc "#!/usr/bin/env  zsh") = .zsh ∧ langFromShebang (asc "#!/usr/bin/env bats\n") = .bats ∧
    langFromShebang (asc "#!/bin/shx\n") = .bash ∧ langFromShebang (asc "#!/usr/bin/python\n") = .bash ∧
    langFromShebang (asc "echo hi\n") = .bash ∧ langFromShebang (asc " #!/bin/sh\n") = .bash := by
  decide +kernel

/-- Precedence: `-ln`/`-p`, then the name, then the shebang. -/
theorem lang_precedence (f : Flags) (p s : Bytes) :
    fileLang f p s =
      if lnVal f ≠ .auto then lnVal f
      else if langFromFilename p ≠ .auto then langFromFilename p
      else langFromShebang (s.take 32) := by
  unfold fileLang headOf
  by_cases h1 : lnVal f = .auto <;> by_cases h2 : langFromFilename p = .auto <;> simp [h1, h2]

/-- Which walked names are shell files (`CouldBeScript2`). -/
theorem could_be_script_table :
    couldBeScript2 (asc "a.sh") .reg = some .isScript ∧ couldBeScript2 (asc "a.bats") .reg = some .isScript ∧
    couldBeScript2 (asc "noext") .reg = some .ifShebang ∧ couldBeScript2 (asc "a.txt") .reg = some .notScript ∧
    couldBeScript2 (asc ".a.sh") .reg = some .notScript ∧ couldBeScript2 (asc "a.sh") .lnk = some .notScript ∧
    couldBeScript2 (asc "a.sh") .dir = some .notScript ∧ couldBeScript2 (asc "a.sh.bak") .reg = some .notScript := by
  decide +kernel

end ShVerif.C36
