import ShVerif.Model.C25
import ShVerif.Proofs.C25
/-
  C25 — shell.Expand and shell.Fields behave like bash.  Property theorems about the model
  (ShVerif/Model/C25.lean: the two parsers of the fragment and the staged expansion of
  expand.Document / expand.Fields over expand.FuncEnviron) against the one-pass specifications
  `hdocSem` / `argsSem`.  The model is tied to shell/expand.go on every run (streams `expand`,
  `fields`); the specifications are run against the implementation (`specexpand`, `specfields`) and
  the implementation against bash (search leg).
-/
namespace ShVerif.C25
open ShVerif

/-- `FuncEnviron(f).Get(name)` is unset exactly when `f name` is the empty string. -/
theorem func_environ_unset (env : Env) (n : Bytes) : envGet env n = none ↔ envF env n = [] := by
  unfold envGet
  cases h : envF env n with
  | nil => simp
  | cons b rest => simp

/-- A value that is set is never empty, so "unset" and "unset or null" cannot be told apart … -/
theorem func_environ_set_nonempty (env : Env) (n v : Bytes) (h : envGet env n = some v) : v ≠ [] := by
  unfold envGet at h
  cases hv : envF env n with
  | nil => simp [hv] at h
  | cons b rest => simp [hv] at h; rw [← h]; simp

/-- … hence `${x:-w}` = `${x-w}` and `${x:+w}` = `${x+w}` for every environment function. -/
theorem colon_forms_agree (env : Env) (n : Bytes) (w : List WPart) :
    expandOp env n .colMinus w = expandOp env n .minus w ∧
    expandOp env n .colPlus w = expandOp env n .plus w := by
  unfold expandOp
  cases h : envGet env n with
  | none => exact ⟨rfl, rfl⟩
  | some v =>
    cases v with
    | nil => exact absurd rfl (func_environ_set_nonempty env n [] h)
    | cons b v => exact ⟨rfl, rfl⟩

/-- Both default forms give the default word when the function returns "". -/
theorem default_when_empty (env : Env) (n : Bytes) (w : List WPart) (h : envF env n = []) :
    expandOp env n .colMinus w = expandWParts env w ∧ expandOp env n .minus w = expandWParts env w := by
  unfold expandOp
  rw [(func_environ_unset env n).mpr h]
  exact ⟨rfl, rfl⟩

/-- On the fragment, shell.Expand gives what bash gives for the string as here-document text —
    provided the lexer's line continuation agrees with bash's on the string (no run of three or
    more backslashes right before a newline; see the counter-example) and no continuation sits
    inside a `${` / `$((` / `))` token (`contRisk`, finding C25-continuation-inside-dollar-token). -/
theorem expand_is_heredoc_partial (s : Bytes) (env : Env)
    (hjoin : joinLines false s = bashJoin s) (hrisk : contRisk false 0 s = false)
    (hin : hdocSem s env ≠ .outside ∨ ∃ v, shellExpand s env = .ok v) :
    shellExpand s env = hdocSem s env :=
  have h := shellExpand_refines s env hjoin hrisk
  h.eq (hin.elim id fun ⟨_, hv⟩ => h.ne_outside hv)

/-- Results coincide in both directions, with only the two finding regions as side conditions:
    shell.Expand returns `v` iff the one-pass here-document semantics does. -/
theorem expand_ok_iff (s : Bytes) (env : Env) (v : Bytes)
    (hjoin : joinLines false s = bashJoin s) (hrisk : contRisk false 0 s = false) :
    shellExpand s env = .ok v ↔ hdocSem s env = .ok v := by
  constructor
  · intro h
    rw [← expand_is_heredoc_partial s env hjoin hrisk (Or.inr ⟨v, h⟩)]; exact h
  · intro h
    rw [expand_is_heredoc_partial s env hjoin hrisk (Or.inl (by rw [h]; intro h'; cases h'))]; exact h

/-- The full statement (no side condition on backslashes): FALSE today. -/
def expand_is_heredoc_statement : Prop :=
  ∀ (s : Bytes) (env : Env), hdocSem s env ≠ .outside → shellExpand s env = hdocSem s env

def bs3 : Bytes := [bBS, bBS, bBS, bNL, 120]   -- \\\<newline>x

/-- Finding C25-continuation-after-backslashes.  Three backslashes, a newline, `x`: bash reads `\x`;
    the model (like the Go lexer, which skips the continuation test after any backslash rune) reads
    `\`, `\`, newline, `x`. -/
theorem expand_is_heredoc_counterexample :
    hdocSem bs3 [] = .ok [bBS, 120] ∧ shellExpand bs3 [] = .ok [bBS, bBS, bNL, 120] := by
  constructor <;> decide +kernel

def dollarCont : Bytes := [bDollar, bBS, bNL, bLB, 120, bRB]   -- $\<newline>{x}

/-- `$`, backslash-newline, `{x}`: bash reads `${x}`; the Go lexer does not (the model answers
    `outside`, the harness witness is in corpus/C25-known.txt). -/
theorem dollar_continuation_outside :
    hdocSem dollarCont [([120], [118])] = .ok [118] ∧ shellExpand dollarCont [([120], [118])] = .outside := by
  constructor <;> decide +kernel

theorem expand_is_heredoc_statement_false : ¬ expand_is_heredoc_statement := by
  intro h
  have h1 := h bs3 [] (by rw [expand_is_heredoc_counterexample.1]; intro h'; cases h')
  rw [expand_is_heredoc_counterexample.1, expand_is_heredoc_counterexample.2] at h1
  revert h1
  decide

theorem wordsLoop_eq_wordsArgs (env : Env) : ∀ (ws : List (List Seg)), wordsLoop env ws = wordsArgs env ws := by
  intro ws
  induction ws with
  | nil => rfl
  | cons w rest ih =>
    simp only [wordsLoop, wordsArgs]
    rw [wordFields_eq_wordArgs env w, ih]

/-- On the fragment, shell.Fields gives the words bash produces for the string as arguments: the
    field machine of `wordFields` (tilde prefix, splitAdd, flush, allowEmpty, the empty part of `""`)
    equals "atoms split at separators" — for every string and environment, no side condition. -/
theorem fields_is_args (s : Bytes) (env : Env) : shellFields s env = argsSem s env := by
  unfold shellFields argsSem
  rw [funext (wordsLoop_eq_wordsArgs env)]

def emptyDqInput : Bytes := "\"\"$sp".toUTF8.toList
def emptyDqEnv : Env := [("sp".toUTF8.toList, " a".toUTF8.toList)]

/-- `""$sp` with sp=" a": an empty field and `a`, as in bash (finding C22-empty-dquotes, fixed by fe5aeee). -/
theorem fields_empty_dquotes : shellFields emptyDqInput emptyDqEnv = .ok [[], [97]] := by decide +kernel

/-- In the fragment an error of shell.Expand is a syntax error: it does not depend on the environment. -/
theorem expand_error_env_independent (s : Bytes) (env env' : Env) :
    shellExpand s env = .err → shellExpand s env' = .err := by
  cases hr : contRisk false 0 s with
  | true => intro h; rw [shellExpand, if_pos hr] at h; cases h
  | false =>
    rw [shellExpand_eq_finish s env hr, shellExpand_eq_finish s env' hr]
    cases parseDoc ((joinLines false s).length + 1) (joinLines false s) [] [] with
    | err => intro _; rfl
    | outside => intro h; cases h
    | ok parts =>
      intro h
      simp only [finishDoc] at h
      cases hx : expandPartsQ env false parts <;> simp [hx] at h

/-- The full statement: shell.Expand reports an error exactly when the specification does.  Not
    proved and not refuted: beyond the side conditions below it can only differ where the
    specification answers `outside` before reaching the syntax error. -/
def error_iff_syntax_statement : Prop :=
  ∀ (s : Bytes) (env : Env), hdocSem s env ≠ .outside → (shellExpand s env = .err ↔ hdocSem s env = .err)

/-- shell.Expand reports an error exactly when the specification does (same side conditions as
    `expand_is_heredoc_partial`). -/
theorem error_iff_syntax_partial (s : Bytes) (env : Env)
    (hjoin : joinLines false s = bashJoin s) (hrisk : contRisk false 0 s = false)
    (hin : hdocSem s env ≠ .outside) :
    shellExpand s env = .err ↔ hdocSem s env = .err := by
  rw [expand_is_heredoc_partial s env hjoin hrisk (Or.inl hin)]

/-- One direction needs no fragment condition: a syntax error of the specification is an error of
    shell.Expand. -/
theorem error_of_spec_error (s : Bytes) (env : Env)
    (hjoin : joinLines false s = bashJoin s) (hrisk : contRisk false 0 s = false)
    (h : hdocSem s env = .err) : shellExpand s env = .err := by
  rw [expand_is_heredoc_partial s env hjoin hrisk (Or.inl (by rw [h]; intro h'; cases h'))]; exact h

/-- The same for shell.Fields. -/
theorem fields_error_env_independent (s : Bytes) (env env' : Env)
    (hifs : envF env "IFS".toUTF8.toList = []) (hifs' : envF env' "IFS".toUTF8.toList = []) :
    shellFields s env = .err → shellFields s env' = .err := by
  unfold shellFields
  simp only [hifs, hifs', List.isEmpty_nil, if_true]
  cases parseWords (s.length + 1) s [] with
  | err => intro _; rfl
  | outside => intro h; cases h
  | ok ws =>
    intro h
    cases hx : wordsLoop env ws <;> simp [hx] at h

def envDemo : Env := [("x".toUTF8.toList, "val".toUTF8.toList), ("sp".toUTF8.toList, "a b".toUTF8.toList), ("e".toUTF8.toList, [])]

def okBytes (r : Res Bytes) (v : String) : Bool :=
  match r with
  | .ok x => x == v.toUTF8.toList
  | _ => false

def okFields (r : Res (List Bytes)) (v : List String) : Bool :=
  match r with
  | .ok x => x == v.map (·.toUTF8.toList)
  | _ => false

example : okBytes (shellExpand "a $x ${x} ${u:-d} ${e:-d} ${e-d} ${x:+y} $((1+2*3)) \\$x '$x'".toUTF8.toList envDemo)
    "a val val d d d y 7 $x 'val'" = true := by decide +kernel
example : okBytes (hdocSem "a $x ${u:-d} $((1+2*3)) \\$x \\a".toUTF8.toList envDemo) "a val d 7 $x \\a" = true := by
  decide +kernel
example : okFields (shellFields "$sp \"$sp\" '$x' a\\ b ${u:-c d}".toUTF8.toList envDemo)
    ["a", "b", "a b", "$x", "a b", "c", "d"] = true := by decide +kernel
example : okFields (argsSem "$sp \"$sp\" '$x' a\\ b ${u:-c d} \"\" $e".toUTF8.toList envDemo)
    ["a", "b", "a b", "$x", "a b", "c", "d", ""] = true := by decide +kernel
example : (match shellExpand "${x".toUTF8.toList envDemo with | .err => true | _ => false) = true := by decide +kernel
example : (match shellFields "'abc".toUTF8.toList envDemo with | .err => true | _ => false) = true := by decide +kernel

end ShVerif.C25
