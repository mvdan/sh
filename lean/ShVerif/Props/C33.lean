import ShVerif.Model.C33
import ShVerif.Proofs.C33
/-
  C33 — Indexed arrays behave like a map from indices to values.  Property theorems.

  `Arr`  = the Go representation (`Variable.List`, `Variable.Indexes`; `none` = nil = dense),
  `Var`  = the fields of `expand.Variable` the array code touches, `applyOp` = one statement,
  `SMap` = a finite map Int ⇀ Str as a strictly sorted association list; `SVar` = map + unset/scalar/array tag, with
           bash's semantics of every operation (`specOp`), `Arr.abs`/`Var.abs` the abstraction.
-/
namespace ShVerif.C33

/-- Sorted association lists are canonical representatives of finite maps. -/
theorem map_canonical {m₁ m₂ : SMap} (h₁ : m₁.Sorted) (h₂ : m₂.Sorted)
    (h : ∀ k, m₁.lookup k = m₂.lookup k) : m₁ = m₂ := by
  induction m₁ generalizing m₂ with
  | nil =>
    cases m₂ with
    | nil => rfl
    | cons q m₂ => exact absurd (h q.1) (by rw [SMap.lookup_head]; exact fun c => nomatch c)
  | cons p m₁ ih =>
    obtain ⟨k₁, v₁⟩ := p
    cases m₂ with
    | nil => exact absurd (h k₁) (by rw [SMap.lookup_head]; exact fun c => nomatch c)
    | cons q m₂ =>
      obtain ⟨k₂, v₂⟩ := q
      -- the first keys agree: the smaller one would be bound on one side only
      have hk : k₁ = k₂ := by
        rcases Int.lt_trichotomy k₁ k₂ with lt | e | gt
        · have := h k₁
          rw [SMap.lookup_head, SMap.lookup_cons_of_lt v₂ h₂ lt] at this
          cases this
        · exact e
        · have := h k₂
          rw [SMap.lookup_head, SMap.lookup_cons_of_lt v₁ h₁ gt] at this
          cases this
      subst hk
      have hv := h k₁
      rw [SMap.lookup_head, SMap.lookup_head] at hv
      cases hv
      have s₁ := List.pairwise_cons.1 h₁
      have s₂ := List.pairwise_cons.1 h₂
      rw [ih s₁.2 s₂.2 fun k => ?_]
      by_cases e : k = k₁
      · rw [e, SMap.lookup_none_of_lt s₁.1, SMap.lookup_none_of_lt s₂.1]
      · have := h k
        simp only [SMap.lookup, if_neg e] at this
        exact this

/-- `insert` is map update, and keeps the canonical form. -/
theorem map_insert (m : SMap) (hs : m.Sorted) (k : Int) (v : Str) :
    (m.insert k v).Sorted ∧ ∀ j, (m.insert k v).lookup j = if j = k then some v else m.lookup j :=
  ⟨SMap.insert_sorted hs k v, SMap.lookup_insert m k v⟩

/-- `erase` is map removal, and keeps the canonical form. -/
theorem map_erase (m : SMap) (hs : m.Sorted) (k : Int) :
    (m.erase k).Sorted ∧ ∀ j, (m.erase k).lookup j = if j = k then none else m.lookup j :=
  ⟨SMap.erase_sorted hs k, SMap.lookup_erase hs k⟩

/-- The abstraction of a well-formed representation is a canonical map with non-negative keys. -/
theorem abs_is_map (a : Arr) (h : a.WF) : a.abs.Sorted ∧ ∀ k ∈ a.abs.keys, 0 ≤ k :=
  ⟨abs_sorted h, abs_keys_nonneg h⟩

/-! ### internal/sparse.go -/

/-- `SetIndexedElem` with a non-negative index never panics, preserves the representation
    invariant (indices strictly increasing, non-negative, as many as elements, nil iff dense) and
    is map update. -/
theorem abs_set (a : Arr) (h : a.WF) (k : Int) (v : Str) (hk : 0 ≤ k) :
    ∃ a', setElem a k v = .ok a' ∧ a'.WF ∧ a'.abs = a.abs.insert k v :=
  setElem_spec h k v hk

/-- `DeleteIndexedElem` (any index, also negative or absent) never panics, preserves the
    invariant and is map removal. -/
theorem abs_delete (a : Arr) (h : a.WF) (k : Int) :
    ∃ a', deleteElem a k = .ok a' ∧ a'.WF ∧ a'.abs = a.abs.erase k :=
  deleteElem_spec h k

/-- "The index k must not be negative": on a dense array the Go code indexes `list[k]` and
    panics … -/
theorem set_negative_dense_panics (list : List Str) (k : Int) (v : Str) (hk : k < 0) :
    setElem ⟨list, none⟩ k v = .panic := by
  simp only [setElem]
  rw [if_pos (by omega), if_pos hk]

/-- … and on a sparse array it silently breaks the invariant (a negative index is stored).
    `WF_preserved` below shows that no caller in interp/vars.go ever does this. -/
theorem set_negative_sparse_breaks_invariant (a : Arr) (h : a.WF) (ix : List Int)
    (e : a.idx = some ix) (k : Int) (v : Str) (hk : k < 0) :
    ∃ a', setElem a k v = .ok a' ∧ ¬ a'.WF := by
  obtain ⟨x, xs, rfl⟩ := h.idx_cons e
  have pre := h.pre e
  -- `k` is below the first index: the search stops at position 0 without finding it
  have hkx : k < x := Int.lt_of_lt_of_le hk (pre.nonneg x (List.mem_cons_self ..))
  have hs : search (x :: xs) k = (0, false) := by
    rw [search_eq _ _ pre.inc, lb, foundAt, if_neg (Int.lt_asymm hkx), if_neg (Int.lt_asymm hkx),
      beq_eq_false_iff_ne.2 (Int.ne_of_gt hkx)]
  have hc : canonical (some (k :: x :: xs)) = some (k :: x :: xs) := by
    rw [canonical, isIotaFrom, beq_eq_false_iff_ne.2 (Int.ne_of_lt hk), Bool.false_and,
      if_neg Bool.false_ne_true]
  refine ⟨⟨v :: a.list, some (k :: x :: xs)⟩, ?_, fun w => ?_⟩
  · rw [setElem, e]
    simp only [sparseSet, hs, Bool.false_eq_true, if_false, Nat.zero_le, if_true, insertAt, hc]
  · exact absurd ((w.pre rfl).nonneg k (List.mem_cons_self ..)) (Int.not_le.2 hk)

/-- `CanonicalIndexes`: nil exactly when the indices are 0, 1, 2, … -/
theorem canonical_nil_iff_dense (ix : List Int) :
    canonical (some ix) = none ↔ ix = iotaFrom 0 ix.length := by
  simp only [canonical]
  constructor
  · intro h
    split at h
    · next hi => exact eq_iotaFrom_of_isIotaFrom hi
    · cases h
  · intro h
    rw [if_pos (by rw [h]; exact isIotaFrom_iotaFrom ..)]

/-- `IndexedMax` is the largest key, or -1 for the empty array. -/
theorem max (a : Arr) (h : a.WF) :
    indexedMax a = a.abs.maxKey ∧
    (a.abs = [] → a.abs.maxKey = -1) ∧
    (∀ k ∈ a.abs.keys, k ≤ a.abs.maxKey) ∧
    (a.abs ≠ [] → a.abs.maxKey ∈ a.abs.keys) :=
  ⟨indexedMax_spec h, fun e => by rw [e]; rfl, SMap.le_maxKey (abs_sorted h),
    fun ne => SMap.maxKey_mem ne⟩

/-! ### expand: `${!a[@]}`, `${#a[@]}`, `${a[i]}`, `${a[@]:o:l}` -/

/-- `indexedKeys` yields exactly the domain of the map, strictly increasing. -/
theorem keys_sorted_domain (a : Arr) (h : a.WF) :
    indexedKeys a = .ok a.abs.keys ∧ Increasing a.abs.keys ∧
    ∀ k, k ∈ a.abs.keys ↔ a.abs.lookup k ≠ none :=
  ⟨indexedKeys_spec h, (sorted_iff_keys _).mp (abs_sorted h),
    fun k => (SMap.lookup_ne_none_iff_mem_keys a.abs k).symm⟩

/-- The element count is the size of the map. -/
theorem count (a : Arr) (h : a.WF) :
    a.list.length = a.abs.length ∧ a.abs.keys.length = a.abs.length := by
  obtain ⟨ix, p, e⟩ := abs_eq_zip h
  exact ⟨by rw [e, List.length_zip, p.len, Nat.min_self], List.length_map _⟩

/-- `indexedVal` (non-negative index) is map lookup and never panics. -/
theorem val_spec (a : Arr) (h : a.WF) (i : Int) (hi : 0 ≤ i) :
    indexedVal a i = .ok (a.abs.lookup i) :=
  indexedVal_spec h i hi

/-- `${a[i]}` for every `i`: a negative subscript reads index `i + max + 1` (an error when that is
    still negative); the guard means `indexedVal` is never called with a negative index, so the
    `v.List[i]` panic is unreachable. -/
theorem neg_index (a : Arr) (h : a.WF) (i : Int) :
    elemRead a i = specRead a.abs i ∧ elemRead a i ≠ .panic ∧
    (i < 0 → 0 ≤ i + (a.abs.maxKey + 1) →
      elemRead a i = match a.abs.lookup (i + (a.abs.maxKey + 1)) with
        | some s => .val s
        | none => .unset) := by
  have e : elemRead a i = specRead a.abs i := by
    simp only [elemRead, specRead, resolve_model h]
    by_cases hj : resolve a.abs i < 0
    · rw [if_pos hj, if_pos hj]
    · rw [if_neg hj, if_neg hj, indexedVal_spec h _ (Int.not_lt.1 hj)]
      cases SMap.lookup a.abs (resolve a.abs i) <;> rfl
  refine ⟨e, ?_, fun hi hr => ?_⟩
  · rw [e, specRead]
    by_cases hj : resolve a.abs i < 0
    · rw [if_pos hj]; exact fun c => nomatch c
    · rw [if_neg hj]; cases SMap.lookup a.abs (resolve a.abs i) <;> exact fun c => nomatch c
  · rw [e, specRead, resolve, if_pos hi, if_neg (Int.not_lt.2 hr)]
    cases SMap.lookup a.abs (i + (a.abs.maxKey + 1)) <;> rfl

/-- `${a[@]:off:len}` with an absent or non-negative length: the elements whose index is at least
    the offset (negative: counted from one past the largest index), the first `len` of them. -/
theorem slice_spec (a : Arr) (h : a.WF) (offset length : Option Int)
    (hl : ∀ l, length = some l → 0 ≤ l) :
    ∃ r, sliceElems a offset length = .ok r ∧ specSlice a.abs offset length = some r := by
  simp only [sliceElems, specSlice, sliceOffset_spec h]
  cases length with
  | none => exact ⟨_, rfl, rfl⟩
  | some l =>
    have hl0 := hl l rfl
    simp only
    rw [if_neg (Int.not_lt.2 hl0)]
    exact ⟨_, rfl, by rw [slicePos_nonneg _ _ hl0, ← List.take_eq_take_min]⟩

/-! ### interp/vars.go: every statement, every sequence -/

/-- Every operation, on every well-formed variable, terminates without a Go panic (in
    particular `SetIndexedElem` is never reached with a negative index) and re-establishes the
    invariant. -/
theorem WF_preserved (v : Var) (op : Op) (h : v.WF) : ∃ v', applyOp v op = .ok v' ∧ v'.WF :=
  let ⟨v', e, w, _⟩ := applyOp_spec v op h
  ⟨v', e, w⟩

/-- … hence so does every operation sequence from an unset variable. -/
theorem WF_run (ops : List Op) : ∃ v, runOps Var.zero ops = .ok v ∧ v.WF :=
  let ⟨v', e, w, _⟩ := runOps_spec ops Var.zero Var.WF.zero_var (fun c => (c rfl).elim)
  ⟨v', e, w⟩

/-- Every operation on a well-formed variable that `IsSet()` whenever it has a value (both kept
    by every operation) is the bash operation on the abstract variable (map + unset/scalar/array
    tag). -/
theorem op_refine (v : Var) (op : Op) (h : v.WF) (hs : v.SetOK) :
    ∃ v', applyOp v op = .ok v' ∧ v'.WF ∧ v'.SetOK ∧ v'.abs = specOp v.abs op :=
  let ⟨v', e, w, so, ab⟩ := applyOp_spec v op h
  ⟨v', e, w, so hs, ab (opOK_of_setOK hs op)⟩

/-- From any such variable: running the code's operations and abstracting = running bash's
    operations on the abstraction. -/
theorem ops_refine_from (v : Var) (h : v.WF) (hs : v.SetOK) (ops : List Op) :
    ∃ v', runOps v ops = .ok v' ∧ v'.WF ∧ v'.abs = specRun v.abs ops :=
  runOps_spec ops v h hs

/-- The property, at full strength: for EVERY operation sequence (element and whole-array
    assignment, `+=` of arrays, strings and elements, explicit `[i]=` resetting the counter,
    `read -a`, `mapfile`, negative and out-of-range subscripts, unset of elements and of the
    variable) starting from an unset variable, the code never panics, keeps the representation
    invariant, and the array it ends with is the one bash's semantics gives. -/
theorem ops_refine (ops : List Op) :
    ∃ v, runOps Var.zero ops = .ok v ∧ v.WF ∧ v.abs = specRun SVar.unset ops :=
  ops_refine_from Var.zero Var.WF.zero_var (fun c => (c rfl).elim) ops

/-! ### Repaired by `fix:` commits 1543c4b, 52fb9f0, 4e7d138, 87a26e0 (witnesses in corpus/C33-fixed.txt):
    the model of the current code gives bash's answer on the former counter-examples -/

def bX : Str := [120]
def bY : Str := [121]
def bZ : Str := [122]
def bQ : Str := [113]
def bR : Str := [114]

/-- `a=(x y); a[1]+=z` is `(x yz)`; on a sparse array `a=([3]=x); a[3]+=z; a[-1]+=y; a[1]+=q`. -/
theorem elem_append_fixed :
    runOps Var.zero [.assign [.plain bX, .plain bY], .appElem 1 bZ]
      = .ok ⟨.indexed, true, [], ⟨[bX, bY ++ bZ], none⟩, false⟩ ∧
    runOps Var.zero [.assign [.at 3 bX], .appElem 3 bZ, .appElem (-1) bY, .appElem 1 bQ]
      = .ok ⟨.indexed, true, [], ⟨[bQ, bX ++ bZ ++ bY], some [1, 3]⟩, false⟩ := by
  decide +kernel

/-- `a=(x y [-5]=q r)`: the bad subscript only skips its element: `(x y r)`, as in bash. -/
theorem literal_bad_subscript_fixed :
    runOps Var.zero [.assign [.plain bX, .plain bY, .at (-5) bQ, .plain bR]]
      = .ok ⟨.indexed, true, [], ⟨[bX, bY, bR], none⟩, false⟩ ∧
    specRun SVar.unset [.assign [.plain bX, .plain bY, .at (-5) bQ, .plain bR]]
      = ⟨.indexed, [(0, bX), (1, bY), (2, bR)]⟩ := by
  decide +kernel

/-- `a[0]=x; unset a`: an array created by an element assignment `IsSet()` and can be unset. -/
theorem unset_after_elem_assign_fixed :
    runOps Var.zero [.setElem 0 bX, .unsetAll] = .ok Var.zero ∧
    specRun SVar.unset [.setElem 0 bX, .unsetAll] = SVar.unset := by
  decide +kernel

/-- `mapfile -t a <<< z; unset a`: the array made by `mapfile` `IsSet()` and is unset, as in bash. -/
theorem mapfile_unset_fixed :
    runOps Var.zero [.mapfile [[122]], .unsetAll] = .ok Var.zero ∧
    specRun SVar.unset [.mapfile [[122]], .unsetAll] = SVar.unset := by
  decide +kernel

/-- A run through dense → sparse → dense representations with negative subscripts, an explicit
    `[i]=` resetting the counter, an out-of-range subscript, `+=` of all three kinds, unsets. -/
def demoOps : List Op :=
  [.assign [.plain bX, .at 5 bY, .plain bZ],   -- a=(x [5]=y z)        {0:x 5:y 6:z}
   .setElem (-1) bQ,                           -- a[-1]=q              {0:x 5:y 6:q}
   .append [.plain bR, .at (-8) bZ, .at (-20) bQ], -- a+=(r [-8]=z [-20]=q) {0:z 5:y 6:q 7:r} (last skipped)
   .unsetElem (-2),                            -- unset 'a[-2]'        {0:z 5:y 7:r}
   .appStr bX,                                 -- a+=x                 {0:zx 5:y 7:r}
   .unsetElem 5, .unsetElem 7,                 -- back to dense        {0:zx}
   .setStr bY, .setElem 1 bQ,                  -- a=y; a[1]=q          {0:y 1:q}
   .appElem (-1) bR, .appElem 4 bZ]            -- a[-1]+=r; a[4]+=z    {0:y 1:qr 4:z}

example : runOps Var.zero demoOps
    = .ok ⟨.indexed, true, [], ⟨[bY, bQ ++ bR, bZ], some [0, 1, 4]⟩, false⟩ := by decide +kernel
example : specRun SVar.unset demoOps = ⟨.indexed, [(0, bY), (1, bQ ++ bR), (4, bZ)]⟩ := by decide +kernel
/-- `read -a` / `mapfile` replace a sparse array wholesale: indices restart at 0. -/
example : runOps Var.zero [.assign [.at 3 bX, .at 7 bY], .readArr [bQ, bR, bZ], .unsetElem 1]
    = .ok ⟨.indexed, true, [], ⟨[bQ, bZ], some [0, 2]⟩, false⟩ := by decide +kernel
/-- Scalars: `s=x; s+=y; unset 's[-1]'` (refused, like bash); `unset 's[0]'` unsets. -/
example : specRun SVar.unset [.setStr bX, .appStr bY, .unsetElem (-1)] = ⟨.str, [(0, bX ++ bY)]⟩ := by decide +kernel
example : runOps Var.zero [.setStr bX, .appStr bY, .unsetElem (-1), .unsetElem 0] = .ok Var.zero := by decide +kernel
example : runOps Var.zero (demoOps.take 4)
    = .ok ⟨.indexed, true, [], ⟨[bZ, bY, bR], some [0, 5, 7]⟩, false⟩ := by decide +kernel
/-- A scalar becomes a one-element array: `s=x; s+=(y)`. -/
example : runOps Var.zero [.setStr bX, .append [.plain bY]]
    = .ok ⟨.indexed, true, bX, ⟨[bX, bY], none⟩, false⟩ := by decide +kernel
/-- Sparse slicing: `a=([2]=x [5]=y [9]=z); ${a[@]: -5:2}` = elements from index 5: `y z`. -/
example : sliceElems ⟨[bX, bY, bZ], some [2, 5, 9]⟩ (some (-5)) (some 2) = .ok [bY, bZ] := by decide +kernel
example : specSlice [(2, bX), (5, bY), (9, bZ)] (some (-5)) (some 2) = some [bY, bZ] := by decide +kernel
/-- A well-formed sparse representation exists (the hypotheses `a.WF` are satisfiable). -/
example : (Arr.mk [bX, bY] (some [2, 5])).WF :=
  ⟨fun ix e => by cases e; exact ⟨rfl, by unfold Increasing; decide, by decide, by decide⟩⟩

end ShVerif.C33
