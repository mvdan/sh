import ShVerif.Proofs.C05Main
/-
  C05 — Formatting keeps every comment: the property theorems about the comment-skeleton model
  of `syntax/printer.go` (`ShVerif/Model/C05.lean`).

  `emitted o f` is the ghost output of the model printer (the comments it writes, in order),
  `allComments f` every comment field of the tree in the canonical field order, `sourceOrder f`
  the same comments sorted by offset.  `WFComments` is an assume/guarantee predicate: it is
  executable, checked on every tree the Go parser returns during a run (harness op `tree`), and
  NOT proved of the parser.
-/
namespace ShVerif.C05

theorem printFile_step (o : Opts) (hm : o.minify = false) (f : File) (hw : WFComments f = true) :
    Step (initSt o) (printFile o f) (allComments f) :=
  (printFile_piece o f).1 hm hw

/-- After `flushComments` nothing is pending: every comment handed to the printer is written
    before `Print` returns. -/
theorem nothing_pending_at_end (o : Opts) (f : File) : (printFile o f).pending = [] := by
  unfold printFile; exact flushComments_pending o _

/-- **Printer order = field order.**  With Minify off, on a tree that satisfies `WFComments`, a
    run that takes none of the state-dependent reordering branches (`lossD = 0`: a `BinaryCmd`
    printed on one line whose non-empty `Y.Comments` is queued behind comments inside `Y`; an
    inline backquote comment written while comments are pending) writes exactly the comment
    fields of the tree, each once, in field order. -/
theorem emitted_eq_allComments (o : Opts) (f : File) (hm : o.minify = false)
    (hw : WFComments f = true) (hl : (printFile o f).lossD = 0) :
    emitted o f = allComments f := by
  have hs := printFile_step o hm f hw
  have hacc := hs.2 (by simpa [initSt] using hl)
  have : (printFile o f).acc = (printFile o f).emitted := by simp [St.acc, nothing_pending_at_end o f]
  rw [this] at hacc
  simpa [emitted, initSt, St.acc] using hacc

theorem insertCom_of_le (c : Com) : ∀ l : List Com, sortedComs (c :: l) = true → insertCom c l = c :: l
  | [], _ => rfl
  | d :: ds, h => by
    simp only [sortedComs, Bool.and_eq_true, decide_eq_true_eq] at h
    simp [insertCom, h.1]

theorem sortedComs_tail : ∀ (c : Com) (l : List Com), sortedComs (c :: l) = true → sortedComs l = true
  | _, [], _ => rfl
  | _, d :: ds, h => by
    simp only [sortedComs, Bool.and_eq_true] at h
    exact h.2

theorem sortComs_of_sorted : ∀ l : List Com, sortedComs l = true → sortComs l = l
  | [], _ => rfl
  | c :: l, h => by
    simp only [sortComs]
    rw [sortComs_of_sorted l (sortedComs_tail c l h)]
    exact insertCom_of_le c l h

/-- The property as stated (all parsed trees, all option sets without Minify).  It is FALSE of
    the model, hence of the code: see the counter-examples below. -/
def comments_conserved_statement : Prop :=
  ∀ (o : Opts) (f : File), WFComments f = true → o.minify = false → emitted o f = sourceOrder f

/-- **Comments are conserved** (multiset and order), with the exact extra hypotheses:
    no state-dependent reordering branch taken, and the canonical field order being the source
    order (`SourceOrdered`, false where the parser stores a comment in a field that the printer
    emits before earlier comments: for-header comments, trailing comments before heredoc bodies). -/
theorem comments_conserved_partial (o : Opts) (f : File) (hm : o.minify = false)
    (hw : WFComments f = true) (hl : (printFile o f).lossD = 0) (ho : SourceOrdered f = true) :
    emitted o f = sourceOrder f := by
  rw [emitted_eq_allComments o f hm hw hl]
  unfold sourceOrder
  exact (sortComs_of_sorted _ ho).symm

/-! Counter-examples to the full statement (each replayed on the Go code: corpus/C05-known.txt),
    and the behaviour since the fix on the witnesses of fixed findings (`pinned_*`). -/

def P (o l c : Nat) : Pos := ⟨true, o, l, c⟩
def word1 (l : Nat) : List Item := [.li (.bsl l), .li (.bsl l), .li (.adv l)]
def comC : Com := ⟨P 4 1 5, 7, [0x20, 0x63]⟩
def com1 : Com := ⟨P 13 1 14, 17, [0x20, 0x63, 0x31]⟩
def com2 : Com := ⟨P 20 2 3, 24, [0x20, 0x63, 0x32]⟩

/-- `a | # c⏎b` as dumped by the harness -/
def exPipe : File :=
  ⟨[.mk (P 0 1 1) (P 0 1 1) (P 9 2 2) Pos.none []
      (.binary (P 2 1 3)
        (.mk (P 0 1 1) (P 0 1 1) (P 1 1 2) Pos.none [] (.flat (word1 1)) [])
        (.mk (P 8 2 1) (P 8 2 1) (P 9 2 2) Pos.none [comC] (.flat (word1 2)) [])) []], []⟩

/-- `a | # c1⏎$(b # c2⏎)` as dumped by the harness -/
def exPipeNested : File :=
  ⟨[.mk (P 0 1 1) (P 0 1 1) (P 19 3 2) Pos.none []
      (.binary (P 2 1 3)
        (.mk (P 0 1 1) (P 0 1 1) (P 1 1 2) Pos.none [] (.flat (word1 1)) [])
        (.mk (P 9 2 1) (P 9 2 1) (P 19 3 2) Pos.none [⟨P 4 1 5, 8, [0x20, 0x63, 0x31]⟩]
          (.flat (word1 2 ++ [.sub .dollar false 2 (P 9 2 1) (P 18 3 1)
            [.mk (P 11 2 3) (P 11 2 3) (P 12 2 4) Pos.none [⟨P 13 2 5, 17, [0x20, 0x63, 0x32]⟩]
              (.flat (word1 2)) []] [], .li (.adv 3)])) [])) []], []⟩

/-- `for i in $(a # c1⏎) # c2⏎do :; done` as dumped by the harness -/
def exFor : File :=
  ⟨[.mk (P 0 1 1) (P 0 1 1) (P 35 3 11) Pos.none [com2]
      (.forc (P 25 3 1) (P 31 3 7)
        [.li (.bsl 1), .li (.bsl 1), .li (.adv 1),
         .sub .dollar false 1 (P 9 1 10) (P 18 2 1)
           [.mk (P 11 1 12) (P 11 1 12) (P 12 1 13) Pos.none [com1] (.flat (word1 1)) []] [],
         .li (.adv 2)]
        3 [.mk (P 28 3 4) (P 28 3 4) (P 29 3 5) (P 29 3 5) [] (.flat (word1 3)) []] []) []], []⟩

/-- `time a <<E # c⏎E` as dumped by the harness -/
def exTime : File :=
  ⟨[.mk (P 0 1 1) (P 0 1 1) (P 10 1 11) Pos.none []
      (.wrap [] (some (.mk (P 5 1 6) (P 5 1 6) (P 6 1 7) Pos.none [⟨P 11 1 12, 14, [0x20, 0x63]⟩]
        (.flat (word1 1)) [.mk (P 7 1 8) (some ⟨false, false, [], [], 0⟩) [.li (.bsl 1), .li (.adv 1)]]))) []], []⟩

/-- Comments between a `for` header and `do` overtake the comments inside the header (open
    finding C05-for-header-comments-queued-early): nothing is lost, the order changes. -/
theorem counter_for_header :
    WFComments exFor = true ∧ (printFile {} exFor).lossD = 0 ∧ SourceOrdered exFor = false ∧
    emitted {} exFor = [com2, com1] ∧ sourceOrder exFor = [com1, com2] := by decide +kernel

/-- SingleLine queues the comment between `|` and the next command behind the comments inside
    that command (open finding C05-singleline-ycomments-after-nested): the order changes. -/
theorem counter_singleLine_nested :
    WFComments exPipeNested = true ∧ SourceOrdered exPipeNested = true ∧
    (printFile { singleLine := true } exPipeNested).lossD = 1 ∧
    (emitted { singleLine := true } exPipeNested).map (·.pos.offs) = [13, 4] ∧
    (sourceOrder exPipeNested).map (·.pos.offs) = [4, 13] := by decide +kernel

theorem comments_conserved_statement_false : ¬ comments_conserved_statement := by
  intro h
  obtain ⟨hw, _, _, he, hs⟩ := counter_for_header
  exact absurd (he.symm.trans ((h {} exFor hw rfl).trans hs)) (by decide)

/-- Fixed by /repo 5414a4f: SingleLine keeps the comment between `|` and the next
    command. -/
theorem pinned_singleLine_pipe :
    emitted { singleLine := true } exPipe = [comC] ∧ emitted {} exPipe = [comC] := by decide +kernel

/-- Fixed by /repo 94a311f: the comment of the statement inside `time` is printed. -/
theorem pinned_time_inner :
    WFComments exTime = true ∧ emitted {} exTime = sourceOrder exTime ∧
    (sourceOrder exTime).length = 1 := by decide +kernel

/-- Non-vacuity: the hypotheses of `comments_conserved_partial` hold of `a | # c⏎b` with
    SingleLine, and a comment is written. -/
example : WFComments exPipe = true ∧ (printFile { singleLine := true } exPipe).lossD = 0 ∧
    SourceOrdered exPipe = true ∧ emitted { singleLine := true } exPipe = [comC] := by decide +kernel

/-- On a tree without reordering sites (`NoReorderSites`: no `BinaryCmd` whose right operand
    carries comments both in `Y.Comments` and inside `Y`; no backquoted substitution consisting of
    one comment) the printer never takes a state-dependent reordering branch, whatever the
    options. -/
theorem lossD_zero_of_noReorderSites (o : Opts) (f : File) (hn : NoReorderSites f = true) :
    (printFile o f).lossD = 0 :=
  (printFile_piece o f).2.2 hn

/-- **Printer order = field order**, all hypotheses syntactic: Minify off, `WFComments`,
    `NoReorderSites`. -/
theorem emitted_eq_allComments_static (o : Opts) (f : File) (hm : o.minify = false)
    (hw : WFComments f = true) (hn : NoReorderSites f = true) : emitted o f = allComments f :=
  emitted_eq_allComments o f hm hw (lossD_zero_of_noReorderSites o f hn)

/-- **Comments are conserved** (multiset and order) with syntactic hypotheses only: Minify off,
    `WFComments` (parser guarantee, checked per run), `NoReorderSites` (regions of the open
    findings C05-singleline-ycomments-after-nested, C05-binary-y-for-header-comments-after-body,
    C05-singleline-inline-backquote-comment-overtakes-pending) and `SourceOrdered` (regions of
    C05-for-header-comments-queued-early, C05-funcdecl-body-trailing-comment-printed-first,
    C05-redirect-only-stmt-trailing-comment-printed-first,
    C05-trailing-comment-before-heredoc-body-printed-first). -/
theorem comments_conserved_static (o : Opts) (f : File) (hm : o.minify = false)
    (hw : WFComments f = true) (hn : NoReorderSites f = true) (ho : SourceOrdered f = true) :
    emitted o f = sourceOrder f :=
  comments_conserved_partial o f hm hw (lossD_zero_of_noReorderSites o f hn) ho

/-- Non-vacuity and sharpness: `a | # c⏎b` satisfies all three syntactic hypotheses;
    `a | # c1⏎$(b # c2⏎)` fails exactly `NoReorderSites`; the `for` witness fails exactly
    `SourceOrdered`. -/
example : (WFComments exPipe && NoReorderSites exPipe && SourceOrdered exPipe) = true ∧
    (WFComments exPipeNested && SourceOrdered exPipeNested) = true ∧ NoReorderSites exPipeNested = false ∧
    (WFComments exFor && NoReorderSites exFor) = true ∧ SourceOrdered exFor = false := by decide +kernel

theorem printFile_mstep (o : Opts) (hm : o.minify = true) (f : File) : MStep (initSt o) (printFile o f) :=
  (printFile_piece o f).2.1 hm

/-- **With Minify the only comment written is a shebang at 1:1** — for every tree and every
    option set with Minify; no well-formedness is needed. -/
theorem minify_shebang (o : Opts) (f : File) (hm : o.minify = true) :
    ∀ c ∈ emitted o f, shebangAt11 c = true := by
  intro c hc
  have h := printFile_mstep o hm f (by simp [initSt])
  rcases h.2 c hc with h | h
  · simp [initSt] at h
  · exact h

theorem shebangAt11_spec (c : Com) (h : shebangAt11 c = true) :
    c.pos.line = 1 ∧ c.pos.col = 1 ∧ isShebang c.text = true := by
  unfold shebangAt11 at h
  simp only [Bool.and_eq_true, decide_eq_true_eq] at h
  exact ⟨h.2, h.1.2, h.1.1⟩

/-- echo `# c` as dumped by the harness -/
def exInline : File :=
  ⟨[.mk (P 0 1 1) (P 0 1 1) (P 10 1 11) Pos.none []
      (.flat (word1 1 ++ [.li (.bsl 1), .li (.bsl 1), .li (.adv 1),
        .sub .backquote false 1 (P 5 1 6) (P 9 1 10) [] [⟨P 6 1 7, 9, [0x20, 0x63]⟩], .li (.adv 1)])) []], []⟩

/-- `#!/bin/sh⏎a # c` as dumped by the harness -/
def exShebang : File :=
  ⟨[.mk (P 10 2 1) (P 10 2 1) (P 11 2 2) Pos.none
      [⟨P 0 1 1, 9, [0x21, 0x2F, 0x62, 0x69, 0x6E, 0x2F, 0x73, 0x68]⟩, ⟨P 12 2 3, 15, [0x20, 0x63]⟩] (.flat (word1 2)) []], []⟩

/-- Fixed by /repo 48c3159: Minify drops an inline backquote comment, the default
    options keep it. -/
theorem pinned_minify_inline :
    emitted { minify := true } exInline = [] ∧ (emitted {} exInline).length = 1 := by decide +kernel

/-- Non-vacuity: with Minify the shebang of `#!/bin/sh⏎a # c` is kept, the other comment is not. -/
example : (emitted { minify := true } exShebang).map (·.pos) = [P 0 1 1] ∧
    (emitted {} exShebang).length = 2 := by decide +kernel

end ShVerif.C05
