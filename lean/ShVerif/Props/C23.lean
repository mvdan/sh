import ShVerif.Proofs.C23Spec
/-
  C23 — `read` splits lines like bash.  Property theorems.
-/
namespace ShVerif.C23

/-- Line reading: for every input and both settings of `-r`, `readLine` never hits the
    `line[:len(line)-1]` panic and returns exactly the line, the unread input and the
    end-of-input flag of the specification (backslash-newline removed, other backslash pairs kept,
    the line ends at the first unescaped newline). -/
theorem readline_spec (raw : Bool) (input : Bytes) :
    readLine raw input = .ok (specReadLine raw input) := by
  unfold readLine
  cases raw
  · rw [readLineLoop_cooked]; simp
  · rw [readLineLoop_raw]; simp

/-- Bare `read`: REPLY is the whole line with each `\c` replaced by `c` (nothing trimmed), or the
    line itself with `-r`. -/
theorem bare_reply (raw : Bool) (line : Bytes) : bareReply raw line = specBareReply raw line := by
  cases raw
  · exact bareReplyLoop_false line
  · cases line <;> rfl

/-- Index safety (feeds C28): for every IFS, line and `-r` setting, with the `n` the builtin can
    pass (`n ≥ 1` names, or `-1`), none of `fpos[len(fpos)-1]`, `runes[lo]`, `runes[hi-1]`,
    `fpos[n-1]`, `fpos[:n]`, `runes[p.start:p.end]` is out of range. -/
theorem readfields_safe (ifs line : List Char) (n : Int) (raw : Bool) (hn : 1 ≤ n ∨ n = -1) :
    ∃ fs, readFields ifs line n raw = .ok fs := by
  obtain ⟨ms, esc, h1, h2⟩ :=
    loop_wf ifs raw line ⟨[], none, []⟩ false ⟨.nil (Nat.le_refl _), Nat.le_refl _⟩
  rw [readFields_of_loop h1]
  exact finishM_safe ifs n hn h2.closeAll

/-- `expand.ReadFields(cfg, "x", 0, raw)` does panic (`fpos[n-1]` with n = 0); the builtin never
    passes 0. -/
theorem readfields_n0_panics : ∃ m, readFields [' '] ['x'] 0 false = .error m := ⟨_, rfl⟩

/-- The property at full strength: for every IFS, line, number of names (≥ 1, or `read -a`) and
    `-r` setting, ReadFields succeeds and the assigned values are those of POSIX/bash `read`. -/
def readfields_spec_statement : Prop :=
  ∀ (ifs line : List Char) (names : Option Nat) (raw : Bool), (∀ k, names = some k → 1 ≤ k) →
    ∃ fs, readFields ifs line (nOf names) raw = .ok fs ∧
      valuesOf names fs = specRead ifs line names raw

/-- … which the code does not meet: `IFS=: read a b c <<<x::y` (bash: a=x b= c=y). -/
theorem readfields_spec_counterexample : ¬ readfields_spec_statement := by
  intro h
  obtain ⟨fs, h1, h2⟩ := h [':'] ['x', ':', ':', 'y'] (some 3) false (by intro k hk; cases hk; decide)
  have e : readFields [':'] ['x', ':', ':', 'y'] (nOf (some 3)) false = .ok [['x'], ['y']] := by decide
  rw [e] at h1
  cases h1
  revert h2
  decide

/-- The splitting theorem on the region the code gets right: for every IFS, every number of names
    (≥ 1, or `read -a`), both `-r` settings and every line that is `Clean` — every non-white-space
    IFS delimiter stands strictly between two field characters (modulo IFS white space), no
    backslash in IFS unless `-r`, no unpaired final backslash — ReadFields succeeds and the values
    assigned are exactly those of the POSIX/bash `read` algorithm.  IFS made of white space only
    (or unset, or empty) is the special case without any delimiter condition. -/
theorem readfields_spec_partial (ifs line : List Char) (names : Option Nat) (raw : Bool)
    (hk : ∀ k, names = some k → 1 ≤ k) (hc : Clean ifs raw line) :
    ∃ fs, readFields ifs line (nOf names) raw = .ok fs ∧
      valuesOf names fs = specRead ifs line names raw :=
  readfields_spec_of_isolated ifs line names raw hk (hc.1.imp_right fun h _ => h) hc.2.1 hc.2.2

/-- IFS made of white space only (in particular unset or empty IFS): no delimiter condition is
    needed. -/
theorem readfields_spec_ws (ifs line : List Char) (names : Option Nat) (raw : Bool)
    (hk : ∀ k, names = some k → 1 ≤ k)
    (hws : ∀ c ∈ ifs, c = ' ' ∨ c = '\t' ∨ c = '\n')
    (hl : raw = true ∨ loneBackslash line = false) :
    ∃ fs, readFields ifs line (nOf names) raw = .ok fs ∧
      valuesOf names fs = specRead ifs line names raw := by
  refine readfields_spec_of_isolated ifs line names raw hk (Or.inr fun _ => ?_) hl
    (isolated_of_ws ifs hws _ .start Scan.noConfusion)
  refine Bool.eq_false_iff.mpr fun h => ?_
  rcases hws '\\' (List.contains_iff_mem.mp h) with h | h | h <;> exact absurd h (by decide)

/-- Lines without a backslash: neither the `-r` flag nor a backslash in IFS matters; the only
    hypothesis left is the delimiter condition (findings C23-adjacent-delims, -leading-delim,
    -trailing-delim-single, -trailing-delim-rest, -array-empty-fields). -/
theorem readfields_spec_no_backslash (ifs line : List Char) (names : Option Nat) (raw : Bool)
    (hk : ∀ k, names = some k → 1 ≤ k)
    (hb : line.contains '\\' = false)
    (hi : isolated ifs .start (unescape true line) = true) :
    ∃ fs, readFields ifs line (nOf names) raw = .ok fs ∧
      valuesOf names fs = specRead ifs line names raw := by
  have hm : '\\' ∉ line := fun hm => Bool.false_ne_true (hb.symm.trans (List.contains_iff_mem.mpr hm))
  refine readfields_spec_of_isolated ifs line names raw hk (Or.inr fun h => absurd h hm)
    (Or.inr (loneBackslash_no_backslash line hm)) ?_
  cases raw
  · rw [unescape_no_backslash line hm]; exact hi
  · exact hi

/-- The builtin as a whole on a clean first line: `read` through readLine + ReadFields (+ the
    REPLY loop) assigns what the specification of the builtin says, consumes the same input and
    returns the same status. -/
theorem read_builtin_spec_partial (ifs : Option Bytes) (raw : Bool) (mode : Mode) (input : Bytes)
    (hm : ∀ k, mode = .names k → 1 ≤ k)
    (hc : mode ≠ .bare → Clean (ifsOf ifs) raw (decodeRunes (specReadLine raw input).line)) :
    readBuiltin ifs raw mode input = .ok (specBuiltin ifs raw mode input) := by
  unfold readBuiltin specBuiltin
  rw [readline_spec]
  cases mode with
  | bare => simp [bare_reply]
  | array =>
    obtain ⟨fs, h1, h2⟩ := readfields_spec_partial (ifsOf ifs)
      (decodeRunes (specReadLine raw input).line) none raw nofun (hc Mode.noConfusion)
    simp only [nOf] at h1
    simp only [valuesOf] at h2
    simp [h1, h2]
  | names k =>
    obtain ⟨fs, h1, h2⟩ := readfields_spec_partial (ifsOf ifs)
      (decodeRunes (specReadLine raw input).line) (some k) raw
      (fun _ hk => Option.some.inj hk ▸ hm k rfl) (hc Mode.noConfusion)
    simp only [nOf] at h1
    simp only [valuesOf] at h2
    simp [h1, h2]

/-! Further counter-examples (each replayed against bash by the harness, corpus/C23-known.txt). -/

/-- `IFS=: read a b <<<:x` — model a=x b=, spec a= b=x. -/
theorem counterexample_leading_delim :
    readFields [':'] [':', 'x'] 2 false = .ok [['x']] ∧
    specRead [':'] [':', 'x'] (some 2) false = [[], ['x']] := by decide
/-- `IFS=: read a <<<x:` — model a=x:, spec a=x. -/
theorem counterexample_trailing_delim_single :
    readFields [':'] ['x', ':'] 1 false = .ok [['x', ':']] ∧
    specRead [':'] ['x', ':'] (some 1) false = [['x']] := by decide
/-- `IFS=: read a b <<<x:y:z:` — model b=y:z, spec b=y:z: . -/
theorem counterexample_trailing_delim_rest :
    readFields [':'] ['x', ':', 'y', ':', 'z', ':'] 2 false = .ok [['x'], ['y', ':', 'z']] ∧
    specRead [':'] ['x', ':', 'y', ':', 'z', ':'] (some 2) false = [['x'], ['y', ':', 'z', ':']] := by
  decide
/-- `IFS=: read -a arr <<<x::y` — model 2 fields, spec 3. -/
theorem counterexample_array :
    readFields [':'] ['x', ':', ':', 'y'] (-1) false = .ok [['x'], ['y']] ∧
    specRead [':'] ['x', ':', ':', 'y'] none false = [['x'], [], ['y']] := by decide
/-- `IFS='\' read a b <<<'a\xy'` — model a=a b=y, spec a=axy b= . -/
theorem counterexample_backslash_ifs :
    readFields ['\\'] ['a', '\\', 'x', 'y'] 2 false = .ok [['a'], ['y']] ∧
    specRead ['\\'] ['a', '\\', 'x', 'y'] (some 2) false = [['a', 'x', 'y'], []] := by decide
/-- Invalid UTF-8 does not survive the `[]rune` round trip of ReadFields (`read a` on a\xffb). -/
theorem counterexample_invalid_utf8 :
    encodeRunes (decodeRunes [0x61, 0xff, 0x62]) = [0x61, 0xef, 0xbf, 0xbd, 0x62] := by decide

/-! Non-vacuity of `Clean`. -/
example : Clean [':', ' '] false [' ', 'x', ' ', ':', ' ', 'y', '\\', ':', 'z', ' '] := by decide
example : ¬ Clean [':'] false ['x', ':', ':', 'y'] := by decide
example : ¬ Clean [':'] false ['x', ':'] := by decide

end ShVerif.C23
