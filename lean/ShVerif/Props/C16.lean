import ShVerif.Model.C16
import ShVerif.Proofs.C16Bash
/-
  C16 — Brace expansion matches bash.  Property theorems.  A statement that is false of the model
  (hence of the Go code: the model is tied to it on every run) is kept as `def …_statement`, with
  a proved `…_partial` theorem, and a proved counter-example (`…_counterexample`).
  `pinned_…` lemmas keep the witnesses of repaired defects (f5e7d25, bbca746, 9b7d1dc) in place.
-/
namespace ShVerif.C16

/-- `SplitBraces` never changes the printed form of a literal word — for every byte string. -/
theorem split_render (w : Bytes) : render (splitBraces w).1 = w := render_split w

/-- The documented contract, for every byte string: the bool says whether the result contains a
    `BraceExp`, and a word without one is left untouched. -/
theorem split_reports (w : Bytes) :
    ((splitBraces w).2 = true ↔ hasBrace (splitBraces w).1 = true) ∧
    ((splitBraces w).2 = false → (splitBraces w).1 = [.lit w]) := by
  unfold splitBraces
  split
  · simp [hasBrace, Part.isLit]
  · simp only
    split
    · rename_i hb; simp [hb]
    · simp [hasBrace, Part.isLit]

/-- `a{b` (finding C16-reports-true-without-braceexp, fixed by f5e7d25). -/
theorem pinned_reports_a_lbrace_b : splitBraces [97, 123, 98] = ([.lit [97, 123, 98]], false) := by
  rfl

/-- The loop parameters `bracesSeqRec` computes for `{fr..to..inc}` (inc = 1 when absent). -/
def mkSeq (fr to inc : Int) : SeqParams :=
  { chars := false, «from» := fr, to := to, width := 0,
    step := goStep inc, upward := decide (fr ≤ to) }

/-- A sequence `{fr..to[..inc]}` visits exactly the `⌊|to−fr|/|inc|⌋+1` values of the ideal
    arithmetic progression, in order — for all Int64 endpoints and increments, including
    increment −2^63 and ranges that end at the Int64 limits (`k` bounds the number of iterations
    looked at). -/
theorem seq_exact (fr to inc : Int) (hfr : In64 fr) (hto : In64 to) (hinc : In64 inc) (k : Nat) :
    seqVals (mkSeq fr to inc) k fr = (idealSeq fr to (idealStep inc)).take k :=
  seq_exact_core (mkSeq fr to inc) fr inc hfr hto hinc rfl rfl k

/-- `{9223372036854775806..9223372036854775807}`, `{0..1..-9223372036854775808}` and
    `{-9223372036854775807..-9223372036854775808..-2}` (finding C16-seq-int64-overflow, fixed by
    bbca746). -/
theorem pinned_seq_at_int64_limit :
    seqVals (mkSeq 9223372036854775806 9223372036854775807 1) 5 9223372036854775806 =
      [9223372036854775806, 9223372036854775807] ∧
    seqVals (mkSeq 0 1 minI64) 5 0 = [0] ∧
    seqVals (mkSeq (minI64 + 1) minI64 (-2)) 5 (minI64 + 1) = [minI64 + 1] := by
  decide +kernel

/-- Number of results = product over the concatenated parts of the sum over the alternatives
    (`count`), a sequence counting `⌊|to−from|/step⌋+1`. -/
theorem count_denot (t : Word) : (denot t).length = count t := denot_length t

/-- The expansion of a well-formed tree is its denotation (alternatives in order, sequences as
    ideal progressions, left-major products), or the limit error exactly when there are more than
    16384 results. -/
theorem expand_spec (t : Word) (hwf : wf t = true) :
    expand t = if count t > limit then .error .limit else .ok (denot t) := by
  obtain ⟨r, hr, hrr⟩ := bracesRec_spec (bracesIn t + 1) (limit + 1) t hwf (by omega) (by omega)
  -- `r`: the first `limit + 1` words, one more than allowed, so that its length tells an excess
  have hlen : r.length = min (limit + 1) (count t) := by
    have := congrArg List.length hrr
    simpa [List.length_take, denot_length] using this
  unfold expand bracesSeq
  rw [hr]
  simp only
  by_cases hc : count t > limit
  · rw [if_pos hc, if_pos (by omega)]
  · rw [if_neg hc, if_neg (by omega)]
    simp only [hrr]
    rw [List.take_of_length_le (by rw [denot_length]; omega)]

/-- `bracesSeqRec` never panics (index out of range on `br.Elems[1]`, `fromLit[0]`) on what
    `SplitBraces` produces — for every byte string. -/
theorem expand_no_panic (w : Bytes) : expand (splitBraces w).1 ≠ .error .panic := by
  rw [expand_spec _ (wf_split w)]
  split <;> simp

/-- `count`: when the expansion succeeds it has exactly `count` elements — for every byte string. -/
theorem count_results (w : Bytes) (rs : List Bytes)
    (h : expand (splitBraces w).1 = .ok rs) : rs.length = count (splitBraces w).1 := by
  rw [expand_spec _ (wf_split w)] at h
  split at h
  · cases h
  · cases h; exact denot_length _

/-- The documented limit, for every byte string: an error **iff** the list would exceed 16384
    elements. -/
theorem limit_iff (w : Bytes) :
    isLimitErr (expand (splitBraces w).1) = true ↔ count (splitBraces w).1 > limit := by
  rw [expand_spec _ (wf_split w)]
  split <;> simp_all [isLimitErr]

/-- `{9223372036854775806..9223372036854775807}` (finding C16-seq-int64-overflow). -/
def overflowWitness : Bytes :=
  [123, 57, 50, 50, 51, 51, 55, 50, 48, 51, 54, 56, 53, 52, 55, 55, 53, 56, 48, 54, 46, 46,
   57, 50, 50, 51, 51, 55, 50, 48, 51, 54, 56, 53, 52, 55, 55, 53, 56, 48, 55, 125]

/-- Two words, not the limit error that the overflowing loop ended in before bbca746. -/
theorem pinned_overflow_witness :
    isLimitErr (expand (splitBraces overflowWitness).1) = false ∧
    count (splitBraces overflowWitness).1 = 2 := by
  have hc : count (splitBraces overflowWitness).1 = 2 := by decide +kernel
  refine ⟨Bool.eq_false_iff.mpr fun h => ?_, hc⟩
  have := (limit_iff overflowWitness).mp h
  rw [hc] at this
  exact absurd this (by decide)

/-- `{,x}` (finding C16-empty-word-becomes-field, fixed by 9b7d1dc): no empty trailing `Lit`, the
    empty alternative is a word without parts, and `Fields` yields the single field `x`. -/
theorem pinned_empty_alternative :
    (splitBraces [123, 44, 120, 125]).1 = [.brace false [[], [.lit [120]]]] ∧
    fields [123, 44, 120, 125] = .ok [[120]] := by
  constructor <;> rfl

/-- Go side of the equivalence, for every `canonTop` tree `t` (the class is described at
    `bash_equiv_partial`): splitting the *text* of `t` and expanding gives the denotation of `t` —
    alternatives in order, ideal sequences, left-major products — or the limit error iff it has more
    than 16384 elements. -/
theorem expand_canon (t : Word) (hc : canonTop t = true) :
    expand (splitBraces (render t)).1 =
      if count t > limit then .error .limit else .ok (denot t) := by
  have hd := split_canonTop_denot t hc
  rw [expand_spec _ (wf_split _), hd]
  have : count (splitBraces (render t)).1 = count t := by
    rw [← denot_length, ← denot_length, hd]
  rw [this]

/-- Every `canon` tree (the literals outside groups restricted like those inside) is `canonTop`. -/
theorem canon_is_canonTop (t : Word) (h : canon t = true) : canonTop t = true :=
  canon_canonTop t h

/-- Sequence terms: whenever SplitBraces' validity test accepts `{x..y[..z]}` (endpoints and
    increment of ordinary bytes), bash's `expand_seqterm` reads the same kind, endpoints, padding
    width and step. -/
theorem seq_terms_agree (elems : List Word) (hv : seqValid elems = true)
    (hs : seqShape elems = true) : seqAgree elems = true := seqAgree_of_valid elems hv hs

/-- bash side of the equivalence: on the text of a well-formed tree, bash's `brace_expand`
    (gobbler scans, `expand_amble`, `expand_seqterm`, recursion on pieces and postscript) yields
    the denotation. -/
theorem bash_canon_denot (t : Word) (hc : canonTop t = true) :
    bashBraces (render t) = denot t :=
  bash_canonTop _ t hc (by omega)

/-- `bashCount` really is the number of words bash produces — for every byte string. -/
theorem bashCount_length (w : Bytes) : bashCount w = (bashBraces w).length :=
  bashCountRec_eq _ _

/-- "Expanding the word gives exactly the list of words bash's brace expansion gives, or an error
    only when that list would exceed the 16384-element limit" — for every literal word. -/
def bash_equiv_statement : Prop :=
  ∀ w : Bytes, cDollar ∉ w →
    (isLimitErr (expand (splitBraces w).1) = true ↔ bashCount w > limit) ∧
    (bashCount w ≤ limit → expand (splitBraces w).1 = .ok (bashBraces w))

/-- The equivalence holds for the text of every well-formed brace expression tree (`canonTop`):
    nested list groups with at least two alternatives, `{x..y[..z]}` sequences that pass the
    validity test (any Int64 endpoints and increment, letters with a step); literals *inside*
    groups of bytes other than `{ } , \ $`, with single dots only (every `.` followed by a
    non-dot byte of the same literal); literals *outside* any group of any bytes other than `{`,
    backslash and `$` — so `file.{c,h}`, `a,b{1..3}.tar.gz`, `{a.b,.c}` and `x}{a,b}` are covered. -/
theorem bash_equiv_partial (t : Word) (hc : canonTop t = true) :
    (isLimitErr (expand (splitBraces (render t)).1) = true ↔ bashCount (render t) > limit) ∧
    (bashCount (render t) ≤ limit →
      expand (splitBraces (render t)).1 = .ok (bashBraces (render t))) := by
  have hb := bash_canon_denot t hc
  have hcount : bashCount (render t) = count t := by
    rw [bashCount_length, hb, denot_length]
  rw [expand_canon t hc, hcount, hb]
  constructor
  · split <;> simp_all [isLimitErr]
  · intro hle
    rw [if_neg (by omega)]

/-- Non-vacuity: `file.{c,h}` and `a,b}{x..z..2}.tar.gz` are such trees. -/
example :
    let t : Word := [.lit [102, 105, 108, 101, 46], .brace false [[.lit [99]], [.lit [104]]]]
    canonTop t = true ∧ render t = [102, 105, 108, 101, 46, 123, 99, 44, 104, 125] := by
  decide
example :
    canonTop [.lit [97, 44, 98, 125], .brace true [[.lit [120]], [.lit [122]], [.lit [50]]],
      .lit [46, 116, 97, 114, 46, 103, 122]] = true := by
  decide +kernel
/-- `{a.b,.c}x.y`: dots inside a group. -/
example :
    canonTop [.brace false [[.lit [97, 46, 98]], [.lit [46, 99]]], .lit [120, 46, 121]] = true := by
  decide +kernel

/-- Non-vacuity: `a{b,c{1..3}}d{x,}` is such a tree. -/
example :
    let t : Word := [.lit [97], .brace false [[.lit [98]], [.lit [99], .brace true [[.lit [49]], [.lit [51]]]]],
      .lit [100], .brace false [[.lit [120]], []]]
    canon t = true ∧ canonTop t = true ∧
      render t = [97, 123, 98, 44, 99, 123, 49, 46, 46, 51, 125, 125, 100, 123, 120, 44, 125] := by
  decide +kernel

/-- `{a},}`: bash keeps scanning after a `}` that closes a group without separator and expands
    to `a}` and the empty word; SplitBraces closes the group at the first `}`
    (finding C16-close-without-separator). -/
theorem bash_equiv_counterexample : ¬ bash_equiv_statement := by
  intro h
  have h2 := (h [123, 97, 125, 44, 125] (by decide)).2 (by decide)
  have e1 : expand (splitBraces [123, 97, 125, 44, 125]).1 = .ok [[123, 97, 125, 44, 125]] := by rfl
  have e2 : bashBraces [123, 97, 125, 44, 125] = [[97, 125], []] := by decide +kernel
  rw [e1, e2] at h2
  cases h2

/-- `{a..{b,c}}`: bash drops the outer braces (`a..b a..c`), mvdan/sh keeps them
    (finding C16-invalid-seq-nested-a). -/
theorem bash_equiv_counterexample_nested :
    expand (splitBraces [123, 97, 46, 46, 123, 98, 44, 99, 125, 125]).1 =
      .ok [[123, 97, 46, 46, 98, 125], [123, 97, 46, 46, 99, 125]] ∧
    bashBraces [123, 97, 46, 46, 123, 98, 44, 99, 125, 125] =
      [[97, 46, 46, 98], [97, 46, 46, 99]] :=
  ⟨rfl, by decide +kernel⟩

end ShVerif.C16
