import ShVerif.Model.C04
import ShVerif.Proofs.C04
import ShVerif.Proofs.C04Change
import ShVerif.Proofs.C04Bridge
/-
  C04 — Simplify preserves behaviour.  Property theorems.  Where the unchanged code violates the
  property the full statement is kept as `def …_statement : Prop`, refuted on a concrete witness
  (`…_counterexample`) and proved under the exact extra hypothesis (`…_partial`).  `word_sem` and
  `test_sem` are full theorems since the fixes 16d3528 and 2e8be01.
-/
namespace ShVerif.C04

/-! ## Double-quoted literals → single quotes (`simplifyWord`) -/

/-- Whenever `"lit"` / `$"lit"` is rewritten to `'nv'` / `$'nv'`, the new word denotes the same
    string — for both kinds of string (since fix 16d3528 a `$"…"` string is never rewritten; before
    it, `$"a\\n"` became `$'a\n'`, a newline). -/
theorem word_sem (dollar : Bool) (lit nv v : Bytes)
    (h : rewriteDq dollar lit = some nv) (hv : dqValue lit = some v) : sqValue dollar nv = v := by
  cases dollar with
  | true => cases h
  | false =>
    simp only [rewriteDq, Bool.false_eq_true, if_false] at h
    split at h
    · rename_i nv' hs
      split at h
      · cases h
      · cases h; exact dqScan_value lit false nv v hs hv
    · cases h

/-- `$"…"` is left alone. -/
theorem word_dollar_kept (lit : Bytes) : rewriteDq true lit = none := rfl

/-- Why it must be: the old rewrite `$"a\\n"` → `$'a\n'` changes the string. -/
theorem word_dollar_would_differ :
    dqToSq [97, 92, 92, 110] = some [97, 92, 110] ∧ dqValue [97, 92, 92, 110] = some [97, 92, 110] ∧
    sqValue true [97, 92, 110] = [97, 10] := by decide

/-- The literal is only rewritten when it cannot change: no `'` in it, and every backslash it has
    is one the double quotes remove. -/
theorem word_no_single_quote (lit nv : Bytes) (h : dqToSq lit = some nv) : (39 : UInt8) ∉ nv :=
  dqScan_no_quote lit false nv h

/-! ## `[[ ]]` rewrites (`removeParensTest`, `removeNegateTest`, `unquoteParams`, `=` → `==`) -/

/-- The simplified test expression evaluates like the original under every semantics of strings,
    patterns and operators (`TSem`: an expansion without operator word has one value, an expansion
    with a word has a quoted and an unquoted value).  Full statement since fix 2e8be01: only
    expansions without a word are unquoted. -/
theorem test_sem (S : TSem) (x : Test) : S.eval (Test.top x) = S.eval x := eval_top S x

/-- `"${a:-'x'}"` keeps its quotes … -/
theorem test_word_param_kept (p : Nat) : Test.unqW (.quotedW p) = .quotedW p := rfl

/-- … and must: a semantics in which parameter 0 is `${a:-'x'}` with `a` unset (quoted it yields
    `'x'`, unquoted `x`) tells `[[ "${a:-'x'}" == x ]]` from `[[ ${a:-'x'} == x ]]`. -/
def quoteSensitiveSem : TSem where
  sval := fun _ => []
  pval := fun q _ => if q then [39, 120, 39] else [120]
  wval := fun _ => [120]
  wpat := fun _ => ([120], true)
  patMatch := fun p s => p.1 == s
  reMatch := fun p s => p.1 == s
  unOp := fun _ _ => false
  binOp := fun _ _ _ => false

theorem test_word_param_would_differ :
    quoteSensitiveSem.eval (.bin tsMatch (.quotedW 0) (.other 0)) ≠
    quoteSensitiveSem.eval (.bin tsMatch (.bareW 0) (.other 0)) := by decide

/-- The quoting rule of `==`, `!=`, `=~`: their right-hand side is never unquoted (it would turn a
    literal into a pattern), every other word operand is. -/
theorem test_rhs_kept (f op : Nat) (a b : TWord) (h : op = tsMatch ∨ op = tsNoMatch ∨ op = tsReMatch) :
    Test.walk (f + 1) (.bin op a b) = .bin op (Test.unqW a) b := by
  rcases h with h | h | h <;> subst h <;> simp [Test.walk, Test.noUnquoteRhs, tsMatch, tsNoMatch, tsReMatch, tsMatchShort]

theorem test_short_match (f : Nat) (a b : TWord) :
    Test.walk (f + 1) (.bin tsMatchShort a b) = .bin tsMatch (Test.unqW a) b := by
  simp [Test.walk, Test.noUnquoteRhs]

/-- Simplify is not idempotent on tests: `[[ ! ! ! -n x ]]` gives `[[ ! -n x ]]`, a second run
    gives `[[ -z x ]]` (the merged node is not looked at again). -/
theorem test_not_idempotent :
    Test.top (.not (.not (.not (.un tsNempStr (.other 0))))) = .not (.un tsNempStr (.other 0)) ∧
    Test.top (.not (.un tsNempStr (.other 0))) = .un tsEmpStr (.other 0) := by
  decide

/-! ## Arithmetic (`removeParensArithm`, `inlineSimpleParams`) -/

/-- Full statement for the interpreter (`expand.Arithm`): unconditional.  False: name chains of
    exactly `maxNameRefDepth` links (finding C04-interp-nameref-depth). -/
def arith_sem_statement : Prop :=
  ∀ (P : Prims), P.Lawful → ∀ (env : Env) (e : Arith), e.WF P →
    evalI P env e.top = evalI P env e

/-- Holds whenever the variables read through an inlined-or-not `$name` operand of the expression do
    not hold a valid name (in particular when they hold integers) — other variables may hold names
    (`x=y; $(( x + $a ))`), and side effects are included: the interpreter expands `$a` when the
    operand is evaluated. -/
theorem arith_sem_partial (P : Prims) (hP : P.Lawful) (env : Env) (e : Arith) (hw : e.WF P)
    (hE : ∀ n, n ∈ e.dollars → validName (env n) = false) : evalI P env e.top = evalI P env e :=
  (evalI_simpl_on P hP (· ∈ e.dollars) e hw (fun _ h => h) env hE).1

/-- The narrower form: no variable at all holds a name. -/
theorem arith_sem_partial_noNames (P : Prims) (hP : P.Lawful) (env : Env) (e : Arith) (hw : e.WF P)
    (hE : env.NoNames) : evalI P env e.top = evalI P env e :=
  arith_sem_partial P hP env e hw (fun n _ => hE n)

/-- `x=y; a=3; $(( x + $a ))`: `x` holds a name, `$a` does not — covered by
    `arith_sem_partial` only. -/
example : (∀ n, n ∈ (Arith.binary opAdd (.lit [120]) (.dollar false [97])).dollars →
      validName ((fun n => if n = [120] then [121] else if n = [97] then [51] else []) n) = false) ∧
    ¬ Env.NoNames (fun n => if n = [120] then [121] else if n = [97] then [51] else []) := by
  constructor
  · intro n hn
    simp [Arith.dollars] at hn
    subst hn
    decide
  · intro h
    have := h [120]
    revert this
    decide

/-- The chain `a → aa → aaa → … → a¹⁰⁰ = 7`. -/
def chainEnv : Env := fun n =>
  if n.all (· == 97) && !n.isEmpty then (if n.length < 100 then 97 :: n else [55]) else []

theorem arith_sem_counterexample : ¬ arith_sem_statement := by
  intro h
  have := h demoPrims demoPrims_lawful chainEnv (.dollar false [97]) trivial
  have := congrArg (Option.map Prod.fst) this
  revert this
  decide +kernel

/-- Full statement for bash with integer-valued variables.  False when the expression assigns a
    variable it also reads through `$` (finding C04-arith-expansion-order). -/
def arith_sem_bash_statement : Prop :=
  ∀ (P : Prims) (env : IEnv) (e : Arith), e.WF P → evalBash P env e.top = evalBash P env e

/-- Holds whenever no *inlinable* `$name` operand (valid name: `$1`, `$#`, `$?` are never inlined) is
    assigned in the expression — assignments, `++`/`--` to other variables and positional or special
    parameters next to assignments are all fine. -/
theorem arith_sem_bash_partial (P : Prims) (env : IEnv) (e : Arith) (hw : e.WF P)
    (hd : ∀ n, n ∈ e.dollars → validName n = true → n ∉ e.assigned P) :
    evalBash P env e.top = evalBash P env e :=
  (evalB_simpl P env (fun n => n ∈ e.dollars ∧ validName n = true) e hw (fun _ h hv => ⟨h, hv⟩)
    (fun n h => hd n h.1 h.2) env (fun _ _ => rfl)).1

/-- The narrower form: no `$name` operand at all is assigned. -/
theorem arith_sem_bash_partial_all (P : Prims) (env : IEnv) (e : Arith) (hw : e.WF P)
    (hd : ∀ n, n ∈ e.dollars → n ∉ e.assigned P) : evalBash P env e.top = evalBash P env e :=
  arith_sem_bash_partial P env e hw (fun n h _ => hd n h)

/-- The hypothesis of `arith_sem_bash_partial` on `(1 = 5) + $1`, the assigned name spelt like the
    positional parameter: `1` is a `$` operand and assigned (`arith_sem_bash_partial_all` does not
    apply), but it is not a valid name and is never inlined. -/
example : ∀ n, n ∈ (Arith.binary opAdd (.paren (.binary opAssgn (.lit [49]) (.lit [53]))) (.dollar false [49])).dollars →
    validName n = true →
    n ∉ (Arith.binary opAdd (.paren (.binary opAssgn (.lit [49]) (.lit [53]))) (.dollar false [49])).assigned demoPrims := by
  intro n hn hv
  simp [Arith.dollars] at hn
  subst hn
  exact absurd hv (by decide)

/-- `a=1; $(( (a = 5) + $a ))` is 6, `$(( (a = 5) + a ))` is 10. -/
theorem arith_sem_bash_counterexample : ¬ arith_sem_bash_statement := by
  intro h
  have := h demoPrims (fun _ => 1)
    (.binary opAdd (.paren (.binary opAssgn (.lit [97]) (.lit [53]))) (.dollar false [97]))
    (by simp [Arith.WF, demoPrims, opAdd, opAssgn, opAddAssgn])
  have := congrArg (Option.map Prod.fst) this
  revert this
  decide

/-- Redundant parentheses never matter to the interpreter, whatever the operators. -/
theorem arith_strip_sem (P : Prims) (env : Env) (e : Arith) : evalI P env e.strip = evalI P env e := by
  induction e with
  | paren x ih => simpa [Arith.strip, evalI] using ih
  | _ => rfl

/-! ## Nested subshells (`inlineSubshell`) -/

/-- `( ( S ) )` has the output, status and (non-)effects of `( S )`. -/
theorem subshell_sem (f : Nat) (stmts : List Stmt) (s : ShState) :
    runCmd (.sub (inlineSub f stmts)) s = runCmd (.sub stmts) s :=
  inlineSub_pres (fun st => runCmd (.sub st) s) (fun inner => runCmd_sub_sub inner s) f stmts

/-- `$( ( S ) )` captures the output and status of `$( S )`. -/
theorem cmdsubst_sem (f : Nat) (stmts : List Stmt) (s : ShState) :
    cmdSubst (inlineSub f stmts) s = cmdSubst stmts s :=
  inlineSub_pres (cmdSubst · s) (fun inner => cmdSubst_sub inner s) f stmts

/-- The side conditions matter: `( ! ( exit 3 ) )` has status 0, `( exit 3 )` has status 3. -/
theorem subshell_negated_differs :
    (runCmd (.sub [.mk true false (.sub [.mk false false (.exit 3)])]) ⟨fun _ => [], [], 0⟩).1.status = 0 ∧
    (runCmd (.sub [.mk false false (.exit 3)]) ⟨fun _ => [], [], 0⟩).1.status = 3 ∧
    inlineSub 5 [.mk true false (.sub [.mk false false (.exit 3)])] =
      [.mk true false (.sub [.mk false false (.exit 3)])] := by
  refine ⟨by rfl, by rfl, by rfl⟩

/-! ## The whole-tree model (the one tied to `syntax.Simplify` on every run) -/

/-- Simplify reports `true` exactly when it changed the tree. -/
theorem reports_change (n : Node) : (simplify n).2 = true ↔ (simplify n).1 ≠ n :=
  (simp_shrinks _ n).changed_iff

/-- The model's fuel never runs out: every fuel above the weight of the tree (≤ 2·size) gives the
    result of `simplify`. -/
theorem simplify_fuel_irrelevant (f : Nat) (n : Node) (h : weight n < f) : simp f n = simplify n :=
  simp_fuel_irrelevant f n h

/-- Every rewrite makes the tree lighter (nodes + number of `=` operators): Simplify never grows it. -/
theorem simplify_weight_le (n : Node) : weight (simplify n).1 ≤ weight n := (simp_shrinks _ n).le

/-- On an embedded arithmetic expression the tied model is the typed `Arith.top` … -/
theorem arith_model_agrees (q c : Nat) (ty : Ty)
    (hty : ty = .arithmExp ∨ ty = .arithmCmd ∨ ty = .parenArithm) (a : List Nat) (v : Bytes) (e : Arith) :
    (simplify (.mk ty a v [e.toNode q c])).1 = .mk ty a v [e.top.toNode q c] :=
  simplify_arith_holder q c ty hty a v e

/-- … hence, end to end: what `Simplify` leaves in `$(( e ))` evaluates like `e` (interpreter). -/
theorem arith_sem_tied (q c : Nat) (a : List Nat) (v : Bytes) (e : Arith)
    (P : Prims) (hP : P.Lawful) (env : Env) (hw : e.WF P)
    (hE : ∀ n, n ∈ e.dollars → validName (env n) = false) :
    ∃ e', (simplify (.mk .arithmExp a v [e.toNode q c])).1 = .mk .arithmExp a v [e'.toNode q c] ∧
      evalI P env e' = evalI P env e :=
  ⟨e.top, simplify_arith_holder q c .arithmExp (Or.inl rfl) a v e, arith_sem_partial P hP env e hw hE⟩

/-- On an embedded `[[ ]]` expression the tied model is the typed `Test.top`. -/
theorem test_model_agrees (a : List Nat) (v : Bytes) (x : Test) (h : x.WF) :
    (simplify (.mk .testClause a v [x.toNode])).1 = .mk .testClause a v [(Test.top x).toNode] :=
  simplify_testClause a v x h

theorem test_sem_tied (a : List Nat) (v : Bytes) (x : Test) (h : x.WF) (S : TSem) :
    ∃ x', (simplify (.mk .testClause a v [x.toNode])).1 = .mk .testClause a v [x'.toNode] ∧
      S.eval x' = S.eval x :=
  ⟨Test.top x, simplify_testClause a v x h, test_sem S x⟩

/-- On a word that is one double-quoted literal the tied model applies `rewriteDq`. -/
theorem word_model_agrees (a : List Nat) (v : Bytes) (d : Nat) (lit : Bytes) :
    (simplify (dqWord a v d lit)).1 =
      .mk .word a v [match rewriteDq (d != 0) lit with
       | some nv => .mk .sgl [d] nv []
       | none => .mk .dbl [d] [] [.mk .lit [] lit []]] :=
  simplify_dqWord a v d lit

example : rewriteDq false [92, 36, 97] = some [36, 97] := by decide          -- "\$a" → '$a'
example : dqValue [92, 36, 97] = some [36, 97] := by decide
example : rewriteDq false [97, 92, 110] = none := by decide                   -- "a\n" is left alone
example : rewriteDq false [105, 116, 39, 115, 92, 36] = none := by decide     -- "it's\$" is left alone
example : (Arith.paren (.paren (.binary opAdd (.dollar true [97]) (.paren (.dollar false [98]))))).top
    = .binary opAdd (.lit [97]) (.paren (.lit [98])) := by decide
example : (Arith.dollar false [49]).top = .dollar false [49] := by decide   -- $1 is not inlined
example : (Arith.binary opAdd (.lit [97]) (.lit [49])).WF demoPrims := by
  simp [Arith.WF, demoPrims, opAdd, opAssgn, opAddAssgn]
example : Env.NoNames (fun n => if n = [97] then [51] else []) := by
  intro m; by_cases h : m = [97] <;> simp [h, validName] <;> decide
example : Test.top (.paren (.not (.un tsEmpStr (.quoted 0)))) = .un tsNempStr (.bare 0) := by decide
example : Test.top (.not (.bin tsMatch (.quoted 0) (.quoted 1))) = .bin tsNoMatch (.bare 0) (.quoted 1) := by
  decide
example : inlineSub 9 [.mk false false (.sub [.mk false false (.sub [.mk false false (.echo [97])])])]
    = [.mk false false (.echo [97])] := by rfl

end ShVerif.C04
