import ShVerif.Model.C28
import ShVerif.Proofs.C28
import ShVerif.Gen.C28Sites
import ShVerif.Expect.C28Sites
/-
  C28 — The interpreter never panics.  *Partial by nature*: the theorems below prove index /
  assertion safety of the modelled argument-handling code (models in ShVerif/Model/C28.lean, tied
  to the Go code by differential correspondence), and `panic_sites_expected` ties the complete list
  of explicit `panic(` calls and unchecked type assertions of packages interp and expand to a
  reviewed expectation.  Whole-interpreter panic freedom is explored by the harness's search leg
  only.
-/
namespace ShVerif.C28

/-- `shift` never panics, for any positional parameters and any arguments (a negative count is the
    error "shift count out of range" since fix 2d6a9e4). -/
theorem shift_safe (params args : List Bytes) : shift params args ≠ .panic := by
  unfold shift
  cases shiftCount args with
  | none => nofun
  | some n => exact shiftBy_no_panic params n

/-- `getopts.next` is total for every cursor, option string and argument vector (a stale rune
    cursor is reset before use since fix 77cabce). -/
theorem getopts_next_safe (g : GState) (optstr : List Nat) (args : List (List Nat)) :
    gnext g optstr args ≠ .panic := by
  obtain ⟨g', o, hg⟩ := gnext_total g optstr args
  rw [hg]; nofun

/-- For every sequence of calls — any option strings, any (changing) argument vectors, any OPTIND
    values — `getopts.next` never indexes out of range. -/
theorem getopts_safe (calls : List GCall) : grun ⟨0, 0⟩ calls ≠ .panic :=
  grun_total calls ⟨0, 0⟩

/-- `more()`, `value()` never panic; `flag()` does not panic when the call before it was a
    `more()` that returned true — for every argument vector and every client script. -/
theorem flagparser_safe (args : List Bytes) (ops : List FOp)
    (h : fpObeys (FP.init args) false ops = true) : (fpRun (FP.init args) ops).2 = false :=
  fpRun_safe ops (FP.init args) false (fun h => by cases h) h

/-- `Params(args...)` — the `set` builtin, and the option to `New` in any position — never panics
    (in particular `flag[0]`, `flag[1]` are in range and listings are printed through a non-nil
    writer: full statement since fix a1547ff), and the fuel of the model suffices. -/
theorem params_safe (opts : List Bool) (args : List Bytes) :
    params opts args ≠ .panic ∧ params opts args ≠ .outOfFuel := by
  unfold params
  exact paramsLoop_safe _ _ _ (by rw [fpSize_init]; omega) (Or.inl rfl)

theorem break_continue_safe (inLoop : Bool) (args : List Bytes) :
    breakContinue inLoop args ≠ .panic := by
  unfold breakContinue
  split
  · nofun
  · split
    · nofun
    · split <;> nofun
    · nofun

theorem exit_return_safe (args : List Bytes) : exitArgs args ≠ .panic := by
  unfold exitArgs
  split
  · nofun
  · split <;> nofun
  · nofun

/-- `r.bgProcs[pid-1]` is in range for every argument vector and any number of jobs. -/
theorem wait_safe (nprocs : Nat) (args : List Bytes) : wait nprocs args ≠ .panic := by
  unfold wait
  obtain ⟨b, p', hm, _⟩ := (FP.init args).more_spec
  rw [hm]
  cases b with
  | true => nofun
  | false =>
    simp only
    split
    · nofun
    · exact waitArgs_no_panic nprocs args 0 []

/-- Over every sequence of `pushd`/`popd`/`cd`/`dirs` calls (any flags and arguments, any file
    system) from a stack of at least one entry — `Reset` and `subshell` establish that — no
    `r.dirStack[len-1]`, `[len-2]`, `[:len-1]` is out of range, and the stack never gets empty. -/
theorem pushd_popd_safe (fs : List Bytes) (s : DState) (ops : List DOp) (h : 1 ≤ s.stack.length) :
    ∃ s' tr, drun fs s ops = .ok (s', tr) ∧ 1 ≤ s'.stack.length := by
  induction ops generalizing s with
  | nil => exact ⟨s, [], rfl, h⟩
  | cons op ops ih =>
    obtain ⟨s1, code, out, h1, hl1⟩ := dstep_spec fs s op h
    obtain ⟨s2, tr, h2, hl2⟩ := ih s1 hl1
    unfold drun
    rw [h1]
    simp only
    rw [h2]
    exact ⟨s2, _, rfl, hl2⟩

/-- `${s:o:l}`: for every value and every offset / length (absent, negative, huge). -/
theorem slice_safe (rs : List Nat) (off len : Option Int) : sliceStr rs off len ≠ .panic := by
  unfold sliceStr
  obtain ⟨r, hr⟩ := sliceOff_ok rs off
  rw [hr]
  simp only
  cases len with
  | none => nofun
  | some l =>
    simp only
    split
    · nofun
    · obtain ⟨r2, hr2⟩ := sliceLen_ok r (some l)
      rw [hr2]
      nofun

/-- `${a[@]:o:l}`, `${@:o:l}`: for every element list, dense (`indexes = []`) or sparse with one
    index per element (the `Variable.Indexes` invariant), and every offset / length. -/
theorem slice_elems_safe {α : Type} (elems : List α) (indexes : List Int) (off len : Option Int)
    (h : indexes = [] ∨ indexes.length = elems.length) : sliceElems elems indexes off len ≠ .panic := by
  unfold sliceElems
  obtain ⟨r, hr⟩ := sliceElemsOff_ok elems indexes off h
  obtain ⟨r2, hr2⟩ := sliceLen_ok r len
  rw [hr]; simp only; rw [hr2]
  nofun

/-- Whatever operand the parser hands to `++ -- = op=` (a name, `a[i]`, a postfix expression, …),
    `expand.Arithm` neither fails a type assertion nor looks up an empty variable name: a
    non-literal operand is the error "unsupported assignment target" (fix fd86341). -/
theorem arith_name_safe (x : AExpr) : arithLvalue x ≠ .panic := by
  unfold arithLvalue
  simp only
  split <;> nofun

/-- A name that is looked up is never empty. -/
theorem arith_name_nonempty (x : AExpr) (n : Bytes) (h : arithLvalue x = .ok (some n)) : n ≠ [] := by
  unfold arithLvalue at h
  simp only at h
  split at h
  · cases h
  · cases h; assumption

/-- Whatever subscript the parser produces (`k`, `1+2`, `i++`, `(1)`, zsh flags, none), `varInd` /
    `assignElem` / `assignVal` on an associative array do not fail a type assertion (full statement
    since fix 443024b: a non-word subscript is an error). -/
theorem assoc_index_safe (idx : AExpr) : assocIndex idx ≠ .panic := by
  cases idx <;> nofun

/-- `Variable.Resolve` never returns a variable whose `Kind` is still `NameRef` — for every
    environment, including nameref cycles, self references, dangling references and chains of 100
    or more.  This is the invariant that makes the `default:` branches of the `Kind` switches after a
    `Resolve` unreachable. -/
theorem resolve_never_nameref (env : Bytes → Var) (v : Var) : (resolve env v).2.kind ≠ .nameRef :=
  resolveLoop_not_nameref env _ _ _

/-- The `default:` branch of `assignVal`'s `Kind` switch (`panic("unexpected conversion of kind
    %d")`) is unreachable for every stored variable and every environment — namerefs with empty
    targets, cycles, self references and over-long chains included (full statement since fix
    3a8d3f5: an unresolved nameref has its own arm; a resolved variable is never a nameref by
    `resolve_never_nameref`; `KeepValue` is never stored). -/
theorem append_kind_safe (env : Bytes → Var) (v : Var) (hv : v.kind ≠ .keepValue)
    (henv : ∀ n, (env n).kind ≠ .keepValue) : appendKind (prevFor env v).kind ≠ .panic := by
  have key : ∀ k : VKind, k ≠ .keepValue → appendKind k ≠ .panic := by
    intro k h
    cases k with
    | keepValue => exact absurd rfl h
    | _ => nofun
  unfold prevFor
  by_cases hn : (resolve env v).1 ≠ []
  · rw [if_pos hn]
    exact key _ (resolveLoop_kind env (· ≠ .keepValue) (by decide) henv _ _ _ hv)
  · rw [if_neg hn]
    exact key _ hv

/-- Every explicit `panic(` call, every unchecked type assertion `x.(T)` and every shift `x << y`,
    `x >> y`, `<<=`, `>>=` whose count is neither an integer literal nor a conversion to an unsigned
    type (a potential "negative shift amount" panic) in packages interp
    and expand (regenerated from the working tree into `Gen.C28Sites.sites` on every run) is one
    of the reviewed sites of `Expect.C28Sites.expected`, and vice versa: a new site, or a site
    that moved to another function, breaks this obligation. -/
theorem panic_sites_expected :
    Gen.C28Sites.sites = Expect.C28Sites.expected.map (fun e => e.site) :=
  rfl

example : shift [[97], [98], [99]] [[50]] = .ok 1 := by decide +kernel
example : shift [[97]] [[45, 48]] = .ok 1 := by decide +kernel
example : (gcall ⟨0, 0⟩ ⟨1, [97, 58], [[45, 97, 120]]⟩) = .ok (⟨1, 0⟩, ⟨97, [120], false⟩) := by decide +kernel
-- the former counter-examples, now answered without a panic:
example : shift [[97], [98]] [[45, 49]] = .outOfRange := by decide +kernel
example : grun ⟨0, 0⟩ [⟨1, [97, 98, 99], [[45, 97, 98, 99]]⟩, ⟨1, [97, 98, 99], [[45, 97, 98, 99]]⟩,
    ⟨1, [97, 98, 99], [[45, 97]]⟩] = .ok ⟨1, 0⟩ := by decide +kernel
example : arithLvalue (.word [.nakedIndex [97]]) = .ok none := by decide +kernel
example : arithLvalue .unary = .ok none := by decide +kernel
example : assocIndex .binary = .ok false := by decide +kernel
-- a two-cycle of namerefs resolves to the zero variable
example : (resolve (fun n => if n = [97] then ⟨.nameRef, [98]⟩ else ⟨.nameRef, [97]⟩) ⟨.nameRef, [98]⟩).2.kind = .unknown := by decide +kernel
example : fpObeys (FP.init [[45, 97, 98], [120]]) false [.more, .flag, .more, .flag, .more, .args] = true := by decide +kernel
example : (fpRun (FP.init []) [.flag]).2 = true := by decide +kernel
example : (params [false, false, false, false, false, false, false] [[45, 111]]) =
    .ok ⟨[false, false, false, false, false, false, false], none, 1⟩ := by decide +kernel
example : params [false, false, false, false, false, false, false] [[45, 101], [45, 45], [120]]
    = .ok ⟨[false, true, false, false, false, false, false], some [[120]], 0⟩ := by decide +kernel
example : sliceStr [97, 98, 99] (some (-1)) (some 5) = .ok (some [99]) := by decide +kernel
example : sliceStr [97, 98, 99] (some 2) (some (-5)) = .ok none := by decide +kernel
example : sliceElems [0, 1, 2] [0, 5, 9] (some (-2)) none = .ok [2] := by decide +kernel
example : arithLvalue (.word [.lit [97]]) = .ok (some [97]) := by decide +kernel

end ShVerif.C28
