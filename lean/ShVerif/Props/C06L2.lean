import ShVerif.Props.C06
import ShVerif.Proofs.C07Client
/-
  C06 on the byte-source layer: `bytesrc_no_panic_statement` (stated in Props/C06.lean without
  importing anything) instantiated with the L2 model and discharged by C07's refinement theorem
  `client_refines` + `R_init` (Proofs/C07Client.lean) — the same two-line argument as
  `ShVerif.Props.C07.bytesrc_no_panic`; the Proofs layer is imported rather than Props/C07.lean so
  that this file does not rebuild whenever C07's own property file is edited.
-/
namespace ShVerif.C06
open ShVerif ShVerif.L2 ShVerif.C07

/-- A client program over the byte-source primitives (`rune`, `peek`, `peekTwo`, `zshNumRange`,
    the stop-word test, `newLit`, `endLit`, `nextPos`, reads of `p.r`/`p.w`/`p.litBs`, `errPass` …)
    *faults* on `input` delivered in chunks `sched` (EOF together with the last bytes iff `eofWith`)
    when
      * the stop word fits `StopAt`'s contract (at most four bytes),
      * the client stays inside the protocol — computed on the schedule-free machine alone:
        `InProtocol p input stop` = `(specRun p (LSt.init input stop)).2.ok = true`, which excludes
        exactly: reading on after the stop-word test fired, `endLit` with fewer literal bytes than
        the width of the current rune, `nextPos` after an error, `zshNumRange` at `runeEOF` or with
        a positive answer that needs more than 64 bytes —
      * and yet some primitive returns a `Fault`: an index or slice out of range
        (`p.bs[p.bsp]`, `p.bs[p.bsp:]`, `p.readBuf[:left]`, `p.litBs[:len-p.w]`), `fill` spinning on a full buffer,
        or the model's recursion budget running out. -/
def l2Faults (α : Type) (stop : List Byte) (eofWith : Bool) :
    List UInt8 → List Nat → Prog α → Prop :=
  fun input sched p =>
    stop.length ≤ 4 ∧ InProtocol p input stop ∧ ∃ f, p.run (init input sched eofWith stop) = .error f

/-- **bytesrc_no_panic** (the statement of Props/C06.lean, here a theorem): for every input, every
    read schedule, EOF with or after the last bytes, every stop word and every client inside the
    protocol, no primitive of the byte source panics or hangs. -/
theorem bytesrc_no_panic (α : Type) (stop : List Byte) (eofWith : Bool) :
    bytesrc_no_panic_statement (l2Faults α stop eofWith) := by
  intro input sched p ⟨hs, hp, f, hf⟩
  obtain ⟨s', h, _⟩ := client_refines p (R_init input sched eofWith stop hs) hp
  rw [h] at hf
  cases hf

/-- The same, unfolded: the run returns a value. -/
theorem bytesrc_run_ok {α : Type} (p : Prog α) (input stop : List Byte) (sched : List Nat)
    (eofWith : Bool) (hs : stop.length ≤ 4) (hp : InProtocol p input stop) :
    ∃ s', p.run (init input sched eofWith stop) = .ok ((specRun p (LSt.init input stop)).1, s') := by
  obtain ⟨s', h, _⟩ := client_refines p (R_init input sched eofWith stop hs) hp
  exact ⟨s', h⟩

/-- a client that uses every kind of primitive:
    `rune; peekTwo; zshNumRange; rune; newLit(r); rune; endLit; stop-word test; nextPos` -/
def demoClient : Prog (Nat × Nat × Bool × List Byte × Bool × Int) :=
  .rune fun _ => .peekTwo fun _ y => .zshNum fun z => .rune fun r => .newLit r (.rune fun x =>
    .endLit fun l => .stopAt x fun st => .pos fun o _ _ => .ret (r, y, z, l, st, o))

/-- non-vacuity: over `\\`LF`é x`NUL`y` with stop word `xy` the demo client is inside the protocol … -/
theorem demo_in_protocol : InProtocol demoClient [92, 10, 195, 169, 120, 0, 121] [120, 121] := by
  unfold InProtocol; decide +kernel

/-- … so it does not fault under any schedule, e.g. one byte at a time. -/
example : ¬ l2Faults _ [120, 121] false [92, 10, 195, 169, 120, 0, 121] (List.replicate 9 1) demoClient :=
  bytesrc_no_panic _ _ _ _ _ _

end ShVerif.C06
