import ShVerif.Model.C29
import ShVerif.Proofs.C29
import ShVerif.Gen.C29
import ShVerif.Expect.C29
/-
  C29 — Running a program leaves the tree and Env untouched.  Property theorems.

  Env part: `env_never_written` (the root Environ receives no Set in any chain the interpreter
  builds), `env_sites` (the chain-building vocabulary and the uses of Runner.Env, regenerated).

  Tree part: frame theorems for every place in packages interp and expand that writes next to the
  tree (`splitbraces_frame`, `fieldsseq_frame`, `bracesseq_frame`, `alias_frame`, `flatten_frame`,
  `hdoc_frame`, `bgstmt_frame`), and `ast_write_sites`: the regenerated list of all such places is
  the reviewed list, each covered by one of these theorems or writing an object that the same
  function created.
-/
namespace ShVerif.C29
open ShVerif ShVerif.L1

def Untouched {α : Type} (l l' : List α) : Prop := ∀ i, i < l.length → l'[i]? = l[i]?

theorem untouched_of_listFr {α : Type} {l l' : List α} (f : ListFr l.length l l') : Untouched l l' :=
  fun _ hi => f.getElem? hi

/-- **Run never writes the Environ given to `interp.Env`.**  Start from `interp.New(Env(base))` +
    the first `Reset`; let the program make the interpreter perform any sequence of: `Reset`,
    function calls and returns, foreground and background subshells (and leaving them), handler
    calls whose handler writes the `HandlerContext.Env` it was given, and `Set`s of arbitrary
    variables (local or not, set, unset, attribute-only, read-only) on the current `writeEnv`.
    Whether or not the root Environ is a `WriteEnviron`: the run completes (no type assertion
    `o.parent.(expand.WriteEnviron)` fails), the root has received no `Set`, and its variables are
    what they were. -/
theorem env_never_written (rootWritable : Bool) (base : List (Bytes × Var)) (ops : List EOp) :
    ∃ st, erun rootWritable (einit base) ops = some st ∧ st.h.rootSets = [] ∧ st.h.base = base := by
  obtain ⟨st, e, ok⟩ := erun_ok rootWritable ops (einit base) (einit_ok base)
  exact ⟨st, e, ok.2.2.1, ok.2.2.2⟩

/-- The invariant behind it: at every moment a `funcScope` overlay's parent is an overlay (so a
    forwarded `Set` stays inside the interpreter's own overlays), and a parent is older than its
    child (so forwarding terminates). -/
theorem env_chain_invariant (rootWritable : Bool) (base : List (Bytes × Var)) (ops : List EOp) (st : EState)
    (e : erun rootWritable (einit base) ops = some st) :
    ∀ (o : Nat) (s : Scope), st.h.scopes[o]? = some s →
      (∀ p, s.parent = .ov p → p < o) ∧ (s.funcScope = true → ∃ p, s.parent = .ov p) := by
  obtain ⟨st', e', ok⟩ := erun_ok rootWritable ops (einit base) (einit_ok base)
  rw [e] at e'
  cases e'
  exact ok.1

/-- Non-vacuity: the hypothesis-free statement is about runs that really forward: in a function,
    `x=1` on a global goes through the funcScope overlay to the overlay below. -/
example : (erun false (einit [([69], { set := true, kind := 1, val := [101] })])
      [.call, .set [120] { set := true, kind := 1, val := [49] }, .ret]).map
        (fun st => (envGet st.h st.cur.writeEnv [120]).val) = some [49] := by decide +kernel

/-- … and the model can express the violation: a funcScope overlay directly over the root forwards
    to the root (this is the shape the invariant excludes). -/
example : (envSetTop true { scopes := [{ parent := .base, funcScope := true }] } 0 [120] { set := true, kind := 1 }) =
    .ok { scopes := [{ parent := .base, funcScope := true }], rootSets := [[120]] } := by decide +kernel

example : (envSetTop false { scopes := [{ parent := .base, funcScope := true }] } 0 [120] { set := true, kind := 1 }) =
    .panic := by decide +kernel

/-- The chain-building vocabulary is the code's (regenerated): the overlay literals and
    `newOverlayEnviron` calls of package interp are exactly Reset / subshell / handlerCtx / call /
    newOverlayEnviron itself; the only `funcScope: true` overlay is built over `r.writeEnv`;
    `r.writeEnv` is only ever assigned a new overlay or a saved `writeEnv`; the only place that
    forwards a `Set` is `overlayEnviron.Set`; and `Runner.Env` is only compared with nil, assigned by
    the option, read with `Get`, copied into the Runner value and made the parent of the first
    overlay. -/
theorem env_sites :
    ShVerif.Gen.C29.overlaySites = ShVerif.Expect.C29.expectedOverlays.map (·.1) ∧
    (ShVerif.Gen.C29.overlaySites.all fun o => o.funcScope != "true" || (o.form == "literal" && o.parent == "r.writeEnv")) = true ∧
    ShVerif.Gen.C29.writeEnvAssigns = ShVerif.Expect.C29.expectedWriteEnvAssigns ∧
    (ShVerif.Gen.C29.writeEnvAssigns.all fun a => ShVerif.Expect.C29.allowedWriteEnvRhs.contains a.rhs) = true ∧
    ShVerif.Gen.C29.envUses = ShVerif.Expect.C29.expectedEnvUses ∧
    ShVerif.Gen.C29.forwards = ShVerif.Expect.C29.expectedForwards :=
  ⟨rfl, by decide +kernel, rfl, by decide +kernel, rfl, rfl⟩

/-- `syntax.SplitBraces(word)` writes only objects it allocated itself and the one `Word` header
    it was given: every other `Word` header, every `BraceExp` and every backing array that existed
    — in particular the array behind `word.Parts`, spare capacity included — is unchanged, for
    every growth policy of `append`.  When it returns false the given header is unchanged too. -/
theorem splitbraces_frame (g : Grow) (h : Heap) (w : Nat) (h' : Heap) (b : Bool)
    (e : splitBraces g h w = some (h', b)) :
    (∀ i, i < h.words.length → i ≠ w → h'.words[i]? = h.words[i]?) ∧
    Untouched h.braces h'.braces ∧ Untouched h.parr h'.parr ∧ (b = false → Untouched h.words h'.words) := by
  have r := splitBraces_good g h w e
  refine ⟨r.1.words, untouched_of_listFr r.1.braces, untouched_of_listFr r.1.parr, ?_⟩
  intro hb i hi
  by_cases hiw : i = w
  · subst hiw
    rcases r.2 hb with h1 | h1
    · exact h1
    · omega
  · exact r.1.words i hi hiw

/-- `expand.FieldsSeq` copies the header first (`word := *word`), so for a word of the tree nothing
    that existed is written: the tree's `Word`, its `Parts` array and everything else is unchanged;
    the rewritten header is the new copy. -/
theorem fieldsseq_frame (g : Grow) (h : Heap) (w : Nat) (h' : Heap) (c : Nat) (b : Bool)
    (e : fieldsSeqSplit g h w = some (h', c, b)) :
    Untouched h.words h'.words ∧ Untouched h.braces h'.braces ∧ Untouched h.parr h'.parr ∧ c = h.words.length := by
  have r := fieldsSeqSplit_fr g h w e
  exact ⟨untouched_of_listFr r.1.words, untouched_of_listFr r.1.braces, untouched_of_listFr r.1.parr, r.2⟩

/-- `expand.bracesSeqRec` (through `BracesSeq`): whatever word it is started on, it writes only
    words and arrays it allocated itself (`left`, the copies `next`, the yielded words whose
    `Parts` it replaces), and every word it yields is one it created. -/
theorem bracesseq_frame (g : Grow) (fuel : Nat) (h : Heap) (w : Nat) (h' : Heap) (ws : List Nat)
    (e : bracesRec g fuel h w = some (h', ws)) :
    Untouched h.words h'.words ∧ Untouched h.braces h'.braces ∧ Untouched h.parr h'.parr ∧
    ∀ x ∈ ws, h.words.length ≤ x := by
  have r := bracesRec_fr g fuel e
  exact ⟨untouched_of_listFr r.1.words, untouched_of_listFr r.1.braces, untouched_of_listFr r.1.parr, r.2⟩

/-- The brace part of `FieldsSeq` as a whole (copy, SplitBraces, BracesSeq) for a word of the
    tree: nothing that existed is changed and the words handed on to expansion are new ones. -/
theorem fieldsseq_words_frame (g : Grow) (fuel : Nat) (h : Heap) (w : Nat) (h' : Heap) (ws : List Nat)
    (e : fieldsSeqWords g fuel h w = some (h', ws)) :
    Untouched h.words h'.words ∧ Untouched h.braces h'.braces ∧ Untouched h.parr h'.parr ∧
    ∀ x ∈ ws, h.words.length ≤ x := by
  unfold fieldsSeqWords at e
  split at e
  · cases e
  · next h1 c hs =>
    cases e
    have r := fieldsSeqSplit_fr g h w hs
    refine ⟨untouched_of_listFr r.1.words, untouched_of_listFr r.1.braces, untouched_of_listFr r.1.parr, fun x hx => ?_⟩
    rw [List.mem_singleton.mp hx, r.2]
    exact Nat.le_refl _
  · next h1 c hs =>
    -- the recursion keeps what existed after the split, which kept what existed before it
    have r := fieldsSeqSplit_fr g h w hs
    have q := bracesRec_fr g fuel e
    have fr := r.1.trans q.1
    exact ⟨untouched_of_listFr fr.words, untouched_of_listFr fr.braces, untouched_of_listFr fr.parr,
      fun x hx => Nat.le_trans r.1.words.1 (q.2 x hx)⟩

/-- The alias loop of `Runner.cmd` (`args = slices.Concat(args[:i], als.args, args[i+1:])`):
    no array that existed — the CallExpr's `Args`, the alias table's slices — is written. -/
theorem alias_frame (tbl : List (Nat × Slice × Bool)) (fuel : Nat) (h : IdHeap) (args : Slice) (i : Nat)
    (h' : IdHeap) (args' : Slice) (e : aliasLoop tbl fuel h args i = some (h', args')) : Untouched h h' :=
  untouched_of_listFr (aliasLoop_fr tbl fuel (Nat.le_refl _) e)

/-- `Runner.flattenAssigns`: the assignments of the DeclClause are not written; what it yields
    is an argument of the clause itself or an `Assign` it created. -/
theorem flatten_frame (fields : Nat → List Bool) (h : AHeap) (args : List Nat) :
    Untouched h.assigns (flattenAssigns fields h args).1.assigns ∧
    ∀ x ∈ (flattenAssigns fields h args).2, x ∈ args ∨ h.assigns.length ≤ x := by
  have r := flattenAssigns_fr fields args h (Nat.le_refl _)
  exact ⟨untouched_of_listFr r.1, r.2⟩

/-- The `<<-` splitter of `Runner.hdocString`: `cur` starts nil, so its appends and the reuse
    `cur = cur[:0]` only ever touch arrays allocated by the splitter: no existing array (the
    here-document word's `Parts`) is written. -/
theorem hdoc_frame (g : Grow) (h : IdHeap) (parts : List (Nat × Nat)) :
    Untouched h (hdocSplit g h Slice.nil [] parts).1 :=
  untouched_of_listFr ((hdocSplit_step g parts h Slice.nil []).fr (Nat.le_refl _) (Owned.nil _)).1

/-- The background statement copy `st2 := *st; st2.Background = false; st2.Disown = false`:
    the statement of the tree is not written; the flags are cleared on the new copy. -/
theorem bgstmt_frame (h : List StmtObj) (st : Nat) :
    Untouched h (bgStmtCopy h st).1 ∧ (bgStmtCopy h st).2 = h.length ∧
    ((bgStmtCopy h st).1.getD (bgStmtCopy h st).2 {}).background = false := by
  have r := bgStmtCopy_fr h st
  refine ⟨untouched_of_listFr r.1, r.2, ?_⟩
  simp [bgStmtCopy]

/-- Every syntactic write next to a syntax node in packages interp and expand — assignment,
    op-assignment, inc/dec through a selector/index/star, `append`, `copy`, `clear`,
    `slices.Insert/Delete/Sort*/Reverse`, `sort.*`, and every call of `syntax.SplitBraces`, whose
    target mentions a node field or is rooted at an identifier that may hold a node, regenerated
    from the working tree on every run — is one of the reviewed sites, and each reviewed site's
    justification fits the provenance the extractor found: a site whose target may alias the tree
    (parameter, derived from a node field, range variable) must be covered by a frame theorem. -/
theorem ast_write_sites :
    ShVerif.Gen.C29.writeSites = ShVerif.Expect.C29.expected.map (·.site) ∧
    (ShVerif.Expect.C29.expected.all ShVerif.Expect.C29.classOK) = true :=
  ⟨rfl, by decide +kernel⟩

def exGrow : Grow := fun _ _ need => need

/-- the word `a{b,c}` whose Parts array has one spare cell -/
def exHeap : Heap :=
  { words := [{ arr := 0, off := 0, len := 1, cap := 2 }],
    parr := [[.lit [97, 123, 98, 44, 99, 125], .nilp]] }

/-- SplitBraces really splits it (result true, a BraceExp with two elements is created) … -/
example : (fieldsSeqSplit exGrow exHeap 0).map (fun r => (r.2.2, r.1.braces.length, r.2.1)) = some (true, 1, 1) := by
  decide +kernel

/-- … and bracesSeqRec yields two new words. -/
example : (fieldsSeqWords exGrow 8 exHeap 0).map (fun r => r.2.length) = some 2 := by decide +kernel

/-- Calling SplitBraces on the tree's own word — what FieldsSeq avoids — does rewrite its header:
    the exception `i ≠ w` of `splitbraces_frame` is needed. -/
example : ((splitBraces exGrow exHeap 0).map fun r => decide (r.1.words[0]? = exHeap.words[0]?)) = some false := by
  decide +kernel

/-- The alias model can splice: `a0 x` with `alias a0='y z '`. -/
example : (aliasLoop [(0, { arr := 1, len := 2, cap := 2 }, true)] 8 [[0, 4], [5, 6]] { arr := 0, len := 2, cap := 2 } 0).map
    (fun r => cells r.1 r.2) = some [5, 6, 4] := by decide +kernel

end ShVerif.C29
