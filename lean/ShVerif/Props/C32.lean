import ShVerif.Model.C32
import ShVerif.Proofs.C32
import ShVerif.Proofs.C32Sep2
import ShVerif.Gen.C32
import ShVerif.Expect.C32
/-
  C32 — Concurrent shell features are race-free.  Property theorems.

  The Go memory model itself is outside: the theorems prove the *ownership discipline* that excludes
  conflicting accesses — which objects a goroutine can reach and which of them it may write — and
  the `wait` protocol; the race detector (search leg) observes real executions.
-/
namespace ShVerif.C32
open ShVerif ShVerif.L1

/-- **wait_protocol.**  Child: `*bg.exit = v; close(bg.done)`.  Parent: `<-bg.done; exit = *bg.exit`.
    In every interleaving (any schedule, with stuttering) every status the parent reads is `v`, and
    at the moment of the read the child's goroutine is past its `close` (program counter 2): its
    write happens before the read through the close/receive edge. -/
theorem wait_protocol (v : Nat) (sched : List Nat) :
    ∀ r ∈ (exec { prog := [.spawn v, .waitJob 1] } sched).results, r = .status 1 v 2 := by
  intro r hr
  have w := winv_exec (prog0 := [.spawn v, .waitJob 1]) rfl sched _ (winv_init _)
  cases r with
  | notChild pid =>
    -- the only `wait g<pid>` is `wait g1`, after one job was started
    obtain ⟨pre, rest, e, h⟩ := notChild_exec (prog0 := [.spawn v, .waitJob 1]) rfl sched _ (winv_init _)
      (by intro pid h; cases h) pid hr
    match pre, e with
    | [_], e => cases e; exact h.elim (fun x => by cases x) (fun x => absurd x (Nat.lt_irrefl 1))
    | [], e => cases e
    | _ :: _ :: [], e => cases e
    | _ :: _ :: _ :: _, e => cases e
  | status pid x pc =>
    have h := w.results _ hr pid x pc rfl
    match pid, h with
    | 1, h => cases h.2; rw [h.1]
    | 0, h => cases h.2
    | _ + 2, h => cases h.2

/-- **wait_job_id.**  For every parent program of job starts, `wait g<pid>` and `wait`, and every
    schedule: each status that a `wait g<pid>` returns is the exit status of the job started by the
    `pid`-th `&` (or process substitution) of the program, whatever the order in which the jobs
    finish; and it is read after that job's goroutine closed its channel. -/
theorem wait_job_id (prog : List POp) (np : usesPeek prog = false) (sched : List Nat) :
    ∀ r ∈ (exec { prog := prog } sched).results, ∀ pid x pc, r = .status pid x pc →
      pc = 2 ∧ spawnStatus prog pid = some x :=
  (winv_exec np sched _ (winv_init prog)).results

/-- `r.bgProcs` is append-only while a program runs: along every execution the list only grows and
    position `N-1` keeps denoting the job that was started `N`-th (with the status it will report). -/
theorem bgprocs_append_only (st : PState) (sched : List Nat) :
    st.jobs.length ≤ (exec st sched).jobs.length ∧
    ∀ i, i < st.jobs.length → ((exec st sched).jobs[i]?).map (·.status) = (st.jobs[i]?).map (·.status) :=
  jobsExtend_exec sched st

/-- The code's side of `wait_job_id` (regenerated): `r.bgProcs` is written only by the two places
    that start a job — an `append`, outside any goroutine body, by the goroutine that owns the
    Runner — and by `Reset`; it is read only outside goroutine bodies; and in both job goroutines the
    status is written before the channel is closed, while `wait` receives before it reads. -/
theorem bgprocs_sites :
    ShVerif.Gen.C32.bgProcsWrites = ShVerif.Expect.C32.expectedBgProcsWrites ∧
    (ShVerif.Gen.C32.bgProcsWrites.all fun s => !s.inGo) = true ∧
    ShVerif.Gen.C32.bgProcsReaders = ShVerif.Expect.C32.expectedBgProcsReaders ∧
    (ShVerif.Gen.C32.bgProcsReaders.all fun s => !s.2) = true ∧
    ShVerif.Gen.C32.chanOps = ShVerif.Expect.C32.expectedChanOps :=
  ⟨rfl, by decide +kernel, rfl, by decide +kernel, rfl⟩

/-- Non-vacuity: a fair schedule lets the parent finish with the right status … -/
example : (exec { prog := [.spawn 7, .waitJob 1] } [0, 0, 1, 1, 0]).results = [.status 1 7 2] := by decide +kernel

/-- … a parent scheduled before the close stays blocked … -/
example : (exec { prog := [.spawn 7, .waitJob 1] } [0, 0, 0, 1, 0, 0]).results = [] := by decide +kernel

/-- … two jobs finishing in the other order are still told apart … -/
example : (exec { prog := [.spawn 3, .spawn 5, .waitJob 2, .waitJob 1] } [0, 0, 2, 2, 0, 1, 1, 0]).results =
    [.status 2 5 2, .status 1 3 2] := by decide +kernel

/-- … and the protocol matters: reading `*bg.exit` without the receive (`peek`, not in the code)
    sees the zero status while the job is still running. -/
example : (exec { prog := [.spawn 7, .peek 1] } [0, 0]).results = [.status 1 0 0] := by decide +kernel

/-- **subshell_fields.**  Every field of `interp.Runner` (regenerated, with its Go type) and what
    `Runner.subshell` does with it is the reviewed table, and every entry's class fits the type
    and the way the field is filled: value types are copied by the literal; maps, the overlay and
    dirStack get new storage; ecfg/ectx are rebuilt for the copy; handlers are immutable function
    values; stdin/stdout/stderr are shared writers that must be concurrency-safe (documented);
    Params shares its backing array, which nobody writes (all `.Params` writes are whole-slice
    assignments or reslices, regenerated); everything else starts from zero.  A new field, a
    field whose type becomes a reference type, or a field that is merely aliased breaks this. -/
theorem subshell_fields :
    ShVerif.Gen.C32.fields = ShVerif.Expect.C32.expected.map (·.field) ∧
    (ShVerif.Expect.C32.expected.all ShVerif.Expect.C32.classOK) = true ∧
    ShVerif.Gen.C32.subshellOther = ShVerif.Expect.C32.expectedSubshellOther ∧
    ShVerif.Gen.C32.fillAssigns = ShVerif.Expect.C32.expectedFillAssigns ∧
    (ShVerif.Gen.C32.paramsWrites.all fun s => ShVerif.Expect.C32.safeParamsKinds.contains s.kind) = true :=
  ⟨rfl, by decide +kernel, rfl, rfl, by decide +kernel⟩

/-- **spawn_sites.**  The goroutine start sites of package interp (regenerated) are the six reviewed
    ones with the variables each goroutine body captures, and no goroutine body uses the Runner
    that spawned it (the process substitution did, through `r.errf`, until commit f9b9e42: finding
    C32-procsubst-errf, fixed). -/
theorem spawn_sites :
    ShVerif.Gen.C32.spawns = ShVerif.Expect.C32.expectedSpawns ∧
    (ShVerif.Gen.C32.spawns.all fun s => s.parentUses.isEmpty) = true :=
  ⟨rfl, by decide +kernel⟩

/-- **bg_separation.**  After `Runner.subshell(true)` — the child's variable table is a copy of the
    parent's whose `List`/`Indexes`/`Map` values share storage with it, `Params` shares its backing
    array, `dirStack` is copied — for every growth policy of `append`, every operation sequence of
    the parent, every operation sequence of the child (assignments, `+=` on scalars and arrays,
    element and key writes, `unset` of elements, keys and variables, array and map literals with
    and without `+=`, `shift`, `set --`, `pushd -n`, `popd -n`) and every interleaving of the two:
    no step of one side changes an array or a map that the other side can reach through its
    variables, its `Params` or its `dirStack` — contents and spare capacity.  (A side only ever
    touches what it can reach, so no object is written by one side and accessed by the other.) -/
theorem bg_separation (g : Grows) (h : Heap) (p : Side) (wf : WFp h p) (pops cops : List Op) (sched : Sched) :
    Separated g { h := (fork g h p).1, parent := p, child := (fork g h p).2 } pops cops sched :=
  separated_of_inv g sched _ pops cops (fork_inv g h p wf)

/-- What one operation may write at all: every array and map that existed before it is unchanged,
    except the side's own `dirStack` array (`pushd -n`/`popd -n` write it in place); everything else
    an operation writes it has allocated itself (clones first: `slices.Clone`, `maps.Clone`). -/
theorem step_writes_own_storage_only (g : Grows) (h : Heap) (s : Side) (op : Op) (r : Heap × Side)
    (e : step g h s op = some r) :
    (∀ id, id < h.strs.length → r.1.strs[id]? ≠ h.strs[id]? → id ∈ sliceArr s.dirStack) ∧
    (∀ id, id < h.ints.length → r.1.ints[id]? = h.ints[id]?) ∧
    (∀ id, id < h.maps.length → r.1.maps[id]? = h.maps[id]?) := by
  have st := step_ok g op e
  refine ⟨fun id hid hne => ?_, fun id hid => st.ints.1.getElem? hid, fun id hid => st.maps.1.getElem? hid⟩
  by_cases hc : NoStore s.dirStack ∨ id ≠ s.dirStack.arr
  · exact absurd (st.ds.old id hid hc) hne
  · rw [sliceArr_of fun x => hc (Or.inl x), Decidable.not_not.mp fun x => hc (Or.inr x)]
    exact List.mem_singleton_self _

def exGrows : Grows := { strs := fun _ _ n => n, ints := fun _ _ n => n }

/-- parent: `a=(x y z)` in array 1 (with one spare cell), dirStack `[/]` in array 0 -/
def exHeap : Heap := { strs := [[[47]], [[120], [121], [122], []]] }
def exParent : Side :=
  { vars := [([97], { set := true, kind := .indexed, list := { arr := 1, off := 0, len := 3, cap := 4 } })],
    dirStack := { arr := 0, off := 0, len := 1, cap := 1 } }

instance (h : Heap) (p : Side) : Decidable (WFp h p) :=
  if h1 : (∀ id ∈ (reach p).strs, id < h.strs.length) then
    if h2 : (∀ id ∈ (reach p).ints, id < h.ints.length) then
      if h3 : (∀ id ∈ (reach p).maps, id < h.maps.length) then
        if h4 : (∀ id ∈ p.vars.flatMap (fun nv => sliceArr nv.2.list) ++ sliceArr p.params, id ∉ sliceArr p.dirStack) then
          isTrue ⟨h1, h2, h3, h4⟩
        else isFalse fun w => h4 w.dirPrivate
      else isFalse fun w => h3 w.maps
    else isFalse fun w => h2 w.ints
  else isFalse fun w => h1 w.strs

example : WFp exHeap exParent := by decide +kernel

/-- the child really shares the parent's array right after the fork … -/
example : ((fork exGrows exHeap exParent).2.get [97]).list.arr = (exParent.get [97]).list.arr := by decide +kernel

/-- … and `a+=Q` in the child and `a[1]=W` in the parent both run to completion, each on its own clone:
    afterwards the two sides hold different arrays and the shared one still reads `x y z`. -/
example :
    (interleave exGrows { h := (fork exGrows exHeap exParent).1, parent := exParent, child := (fork exGrows exHeap exParent).2 }
      [.setElem [97] 1 [87]] [.appendStr [97] [81]] [true, false]).map
      (fun t => (cells t.h.strs (t.parent.get [97]).list, cells t.h.strs (t.child.get [97]).list, t.h.strs[1]?)) =
    some ([[120], [87], [122]], [[120, 81], [121], [122]], some [[120], [121], [122], []]) := by decide +kernel

/-- The theorem is not about a model that cannot write in place: an in-place write of the shared
    array (what `a+=Q` did before commit db7f3b5: `prev.List[0] += s` on the uncloned slice) changes
    what the other side reaches. -/
example : (sliceSet exHeap.strs (exParent.get [97]).list 0 [120, 81]).map (fun s => s[1]? == exHeap.strs[1]?) = some false := by
  decide +kernel

end ShVerif.C32
