import ShVerif.Props.C10
import ShVerif.Proofs.C10L2
import ShVerif.Proofs.C07Client
/-
  C10 on the byte-source layer: `error_pos_in_input_statement` (stated in Props/C10.lean without
  importing anything) instantiated with the L2 model and discharged from C07's theorems
  `client_refines`, `R_init`, `nextPos_eq`, `nextPos_le` (the ingredients of
  `ShVerif.Props.C07.bytesrc_pos_inv`; the Proofs layer is imported rather than Props/C07.lean so
  that this file does not rebuild whenever C07's own property file is edited).
-/
namespace ShVerif.C10
open ShVerif ShVerif.L2 ShVerif.C07

/-- The client that runs `p` and then asks for `nextPos()`: every `ret a` becomes
    `pos; ret (a, offset)`.  Every moment at which the parser takes a position (`p.pos = p.nextPos()`
    in `next`, the `nextPos()` arguments of posErr/checkLang, node positions) is the end of such a
    client: the part of the parser's run up to that moment. -/
def thenPos {α : Type} : Prog α → Prog (α × Int)
  | .ret a => .pos fun o _ _ => .ret (a, o)
  | .rune k => .rune fun r => thenPos (k r)
  | .peek k => .peek fun b => thenPos (k b)
  | .peekTwo k => .peekTwo fun a b => thenPos (k a b)
  | .zshNum k => .zshNum fun b => thenPos (k b)
  | .stopAt r k => .stopAt r fun b => thenPos (k b)
  | .newLit r k => .newLit r (thenPos k)
  | .endLit k => .endLit fun l => thenPos (k l)
  | .pos k => .pos fun o l c => thenPos (k o l c)
  | .setBquotes o d k => .setBquotes o d (thenPos k)
  | .getRW k => .getRW fun r w => thenPos (k r w)
  | .lastBq k => .lastBq fun n => thenPos (k n)
  | .litGet k => .litGet fun l => thenPos (k l)
  | .litAppend bs k => .litAppend bs (thenPos k)
  | .litDrop k => .litDrop (thenPos k)
  | .errPass k => .errPass (thenPos k)
  | .errGet k => .errGet fun b => thenPos (k b)

theorem thenPos_bind {α β : Type} (o : Prim β) (k : β → Prog α) :
    thenPos (o.bind k) = o.bind fun v => thenPos (k v) := by
  cases o <;> rfl

theorem run_thenPos {α : Type} (p : Prog α) : ∀ (s : St) (a : α) (o : Int) (s' : St),
    (thenPos p).run s = .ok ((a, o), s') → o = s'.nextPos.1 := by
  induction p using Prog.ind with
  | ret x => intro s a o s' h; cases h; rfl
  | bind op k ih =>
    intro s a o s' h
    rw [thenPos_bind, run_bind] at h
    obtain ⟨x, _, h⟩ := bind_eq_ok h
    exact ih _ _ a o s' h

theorem spec_thenPos {α : Type} (p : Prog α) : ∀ (a : C07.LSt),
    (specRun (thenPos p) a).2 = { (specRun p a).2 with ok := (specRun p a).2.ok && (specRun p a).2.err.isNone } := by
  induction p using Prog.ind with
  | ret x => intro a; rfl
  | bind op k ih => intro a; rw [thenPos_bind, specRun_bind, specRun_bind]; exact ih _ _

theorem inProtocol_thenPos {α : Type} (p : Prog α) (input stop : List Byte) :
    InProtocol (thenPos p) input stop ↔
      (InProtocol p input stop ∧ (specRun p (C07.LSt.init input stop)).2.err = none) := by
  unfold InProtocol
  rw [spec_thenPos]
  simp [Option.isNone_iff_eq_none]

/-- **Every position the lexer hands out lies within the input.**  For every input, read
    schedule (EOF with or after the last bytes), stop word of at most four bytes and client `p`
    such that `p` stays inside the protocol and has raised no error: the run returns, and the
    offset of `nextPos()` taken at that moment is at most the number of input bytes. -/
theorem pos_in_input {α : Type} (p : Prog α) (input stop : List Byte) (sched : List Nat)
    (eofWith : Bool) (hs : stop.length ≤ 4) (hp : InProtocol p input stop)
    (he : (specRun p (C07.LSt.init input stop)).2.err = none) :
    ∃ a o s', (thenPos p).run (init input sched eofWith stop) = .ok ((a, o), s') ∧ o ≤ input.length := by
  have hp' : InProtocol (thenPos p) input stop := (inProtocol_thenPos p input stop).2 ⟨hp, he⟩
  obtain ⟨s', hrun, hR⟩ := client_refines (thenPos p) (R_init input sched eofWith stop hs) hp'
  have hal : (specRun (thenPos p) (C07.LSt.init input stop)).2.err = none := by
    rw [spec_thenPos]; exact he
  have hle : s'.nextPos.1 ≤ input.length := by
    rw [nextPos_eq hR hal]
    exact nextPos_le (thenPos p) input stop hal
  refine ⟨_, _, s', hrun, ?_⟩
  rw [run_thenPos p _ _ _ _ hrun]
  exact hle

/-- "the byte source hands out offset `off` on `input`": some client inside the protocol, under
    some schedule and stop word, takes `nextPos()` before any error and gets `off`. -/
def l2HandsOut : List UInt8 → Nat → Prop := fun input off =>
  ∃ (α : Type) (p : Prog α) (stop : List Byte) (sched : List Nat) (eofWith : Bool) (a : α) (s' : St),
    stop.length ≤ 4 ∧ InProtocol p input stop ∧ (specRun p (C07.LSt.init input stop)).2.err = none ∧
    (thenPos p).run (init input sched eofWith stop) = .ok ((a, (off : Int)), s')

/-- **error_pos_in_input** (the statement of Props/C10.lean, here a theorem), for the positions
    `p.pos` / `nextPos()` — by `error_sites` every ParseError/LangError position except the one of
    "invalid UTF-8 encoding" (raised inside `rune`, see `utf8_error_pos_in_input`) is such a
    position, a node position built from them, or invalid. -/
theorem error_pos_in_input : error_pos_in_input_statement l2HandsOut := by
  intro input off ⟨α, p, stop, sched, e, a, s', hs, hp, he, hrun⟩
  obtain ⟨a', o', s'', hrun', hle⟩ := pos_in_input p input stop sched e hs hp he
  rw [hrun] at hrun'
  cases hrun'
  exact_mod_cast hle

/-- **The "invalid UTF-8 encoding" error** — the one error the byte source raises by itself, inside
    `rune`, with `posErr(p.nextPos(), …)` (offset repaired by 215287c) — also lies within the input:
    for every schedule and every client inside the protocol, if the run ends with that error
    recorded, its offset is at most the number of input bytes. -/
theorem utf8_error_pos_in_input {α : Type} (p : Prog α) (input stop : List Byte) (sched : List Nat)
    (eofWith : Bool) (hs : stop.length ≤ 4) (hp : InProtocol p input stop)
    (v : α) (s' : St) (hrun : p.run (init input sched eofWith stop) = .ok (v, s'))
    (o : Int) (l c : Nat) (he : s'.err = some (.utf8 o l c)) : o ≤ (input.length : Int) := by
  obtain ⟨s'', hrun', hR⟩ := client_refines p (R_init input sched eofWith stop hs) hp
  rw [hrun] at hrun'
  cases hrun'
  have : (specRun p (C07.LSt.init input stop)).2.err = some (.utf8 o l c) := by rw [hR.f_err]; exact he
  exact utf8_err_offset_le p input stop o l c this

/-- every offset an error of the byte layer can carry: a position taken by the client before any
    error (`l2HandsOut`), or the one recorded by the "invalid UTF-8 encoding" error -/
def l2ErrorOffsets : List UInt8 → Nat → Prop := fun input off =>
  l2HandsOut input off ∨
  ∃ (α : Type) (p : Prog α) (stop : List Byte) (sched : List Nat) (eofWith : Bool) (v : α) (s' : St) (l c : Nat),
    stop.length ≤ 4 ∧ InProtocol p input stop ∧ p.run (init input sched eofWith stop) = .ok (v, s') ∧
    s'.err = some (.utf8 (off : Int) l c)

/-- **error_pos_in_input**, both kinds of error position. -/
theorem error_pos_in_input_all : error_pos_in_input_statement l2ErrorOffsets := by
  intro input off h
  rcases h with h | ⟨α, p, stop, sched, e, v, s', l, c, hs, hp, hrun, he⟩
  · exact error_pos_in_input input off h
  · exact_mod_cast utf8_error_pos_in_input p input stop sched e hs hp v s' hrun _ l c he

def threeRunes : Prog Nat := .rune fun _ => .rune fun _ => .rune fun r => .ret r

/-- `a`, `b`, EOF: the client is inside the protocol and error-free, and `nextPos()` after the
    third `rune` is offset 2 = len(input), here read one byte at a time … -/
example : l2HandsOut [97, 98] 2 := by
  have hp : InProtocol threeRunes [97, 98] [] := by unfold InProtocol; decide +kernel
  have he : (specRun threeRunes (C07.LSt.init [97, 98] [])).2.err = none := by decide +kernel
  have hp' := (inProtocol_thenPos threeRunes [97, 98] []).2 ⟨hp, he⟩
  obtain ⟨s', hrun, _⟩ := client_refines (thenPos threeRunes) (R_init [97, 98] [1, 1] false [] (by decide)) hp'
  have hv : (specRun (thenPos threeRunes) (C07.LSt.init [97, 98] [])).1 = (runeEOF, 2) := by decide +kernel
  rw [hv] at hrun
  exact ⟨Nat, threeRunes, [], [1, 1], false, runeEOF, s', by decide, hp, he, hrun⟩

/-- … and `é`, 0xFF: the second `rune` raises "invalid UTF-8 encoding" with offset 2, line 1,
    column 3 — the invalid byte, after a two-byte rune (the case 215287c repaired) — inside the
    protocol, so `utf8_error_pos_in_input` applies (EOF together with the last bytes here). -/
example : l2ErrorOffsets [195, 169, 255] 2 := by
  have hp : InProtocol threeRunes [195, 169, 255] [] := by unfold InProtocol; decide +kernel
  obtain ⟨s', hrun, hR⟩ := client_refines threeRunes (R_init [195, 169, 255] [] true [] (by decide)) hp
  have he : (specRun threeRunes (C07.LSt.init [195, 169, 255] [])).2.err = some (.utf8 2 1 3) := by
    decide +kernel
  exact Or.inr ⟨Nat, threeRunes, [], [], true, _, s', 1, 3, by decide, hp, hrun, by rw [← hR.f_err]; exact he⟩

end ShVerif.C10
