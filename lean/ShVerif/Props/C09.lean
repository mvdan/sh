import ShVerif.Model.C09
import ShVerif.Gen.C09
import ShVerif.Expect.C09PosEnd
import ShVerif.Proofs.C09
/-
  C09 — Source positions point at the source they describe.

  `pos_pack…`, `posAddCol…`, `after…`: the arithmetic of syntax.Pos, on the bit-exact model (tied to
  NewPos, the accessors, After and posAddCol by differential correspondence on boundary values, and
  to their source text by `pos_source_unchanged`).
  `posend_table`: every node type's Pos()/End() body, regenerated from nodes.go on every run, equals
  the hand-written expectation "start of first token / one past last token".
  `local_to_global`: generic induction over schema-erased trees.
  The byte-source invariant `bytesrc_pos_inv` (layer L2) belongs to the L2 package; the lexer and
  parser are not modelled here: that parser output satisfies the local facts, that line/column are
  those of the byte offset and that each keyword/operator position points at its text is checked on
  every parsed tree of every run (ops `local…`, `speclinecol`, and the harness's search leg).
-/
namespace ShVerif.C09

/-- Within the documented limits `NewPos` followed by the accessors is the identity. -/
theorem pos_pack_roundtrip (o l c : Nat) (ho : o ≤ offsetMax) (hl : l ≤ lineMax) (hc : c ≤ colMax) :
    (newPos o l c).offset = o ∧ (newPos o l c).line = l ∧ (newPos o l c).col = c :=
  ⟨by rw [newPos_offset, Nat.min_eq_left ho], by rw [newPos_line, if_neg (Nat.not_lt.2 hl)],
   by rw [newPos_col, if_neg (Nat.not_lt.2 hc)]⟩

/-- Beyond the limits: the offset stops increasing at `offsetMax`; a line or column that does not
    fit its 18 / 14 bits is replaced by 0 — independently of the other two components. -/
theorem pos_pack_beyond (o l c : Nat) :
    (newPos o l c).offset = min o offsetMax ∧
    (newPos o l c).line = (if l > lineMax then 0 else l) ∧
    (newPos o l c).col = (if c > colMax then 0 else c) ∧
    (newPos o l c).wf :=
  ⟨newPos_offset o l c, newPos_line o l c, newPos_col o l c, newPos_wf o l c⟩

/-- `IsValid` of a constructed position: some component carries information.  (An offset alone
    does not: `NewPos(o, 0, 0)` is invalid; a position whose line *and* column overflowed is
    invalid too.)  A constructed position is never the "recovered" marker. -/
theorem pos_pack_valid (o l c : Nat) :
    ((newPos o l c).isValid = true ↔ ((l ≤ lineMax ∧ l ≠ 0) ∨ (c ≤ colMax ∧ c ≠ 0))) ∧
    (newPos o l c).isRecovered = false := by
  refine ⟨newPos_isValid o l c, beq_eq_false_iff_ne.2 fun h => ?_⟩
  -- the offset word is at most `offsetMax`, the marker's is `offsetMax + 1`
  have : min o offsetMax = offsetRecovered := (newPos_offs o l c).symm.trans (congrArg Pos.offs h)
  rw [offsetMax_eq, offsetRecovered_eq] at this
  omega

/-- `posAddCol` leaves invalid positions (zero, recovered) alone. -/
theorem posAddCol_invalid_id (p : Pos) (n : Int) (h : p.isValid = false) : posAddCol p n = p :=
  posAddCol_invalid p n h

/-- The general form: the offset is clamped to `[0, offsetMax]`; a column that leaves `[1, colMax]`,
    or that was unknown, is 0 ("?"); the line never changes. -/
theorem posAddCol_clamp (p : Pos) (n : Int) (hw : p.wf) (hv : p.isValid = true) (hn : smallInt n) :
    (posAddCol p n).offs = newOffs p.offs n ∧
    (posAddCol p n).col = newCol p.col n ∧
    (posAddCol p n).line = p.line ∧
    (posAddCol p n).wf :=
  ⟨posAddCol_offs p n hw hv hn, posAddCol_col p n hw hv hn, posAddCol_line p n hw hv hn,
   posAddCol_wf p n hw hv hn⟩

/-- `posAddCol` preserves the offset and column deltas and the line: if the column is known and
    neither the offset nor the column leaves its range, both move by exactly `n`. -/
theorem posAddCol_delta (p : Pos) (n : Int) (hw : p.wf) (hv : p.isValid = true) (hn : smallInt n)
    (ho : 0 ≤ (p.offs : Int) + n ∧ (p.offs : Int) + n ≤ offsetMax)
    (hc : p.col ≠ 0 ∧ 1 ≤ (p.col : Int) + n ∧ (p.col : Int) + n ≤ colMax) :
    ((posAddCol p n).offset : Int) = p.offset + n ∧
    ((posAddCol p n).col : Int) = p.col + n ∧
    (posAddCol p n).line = p.line ∧
    (posAddCol p n).isValid = true := by
  rw [offsetMax_eq] at ho
  rw [colMax_eq] at hc
  have hcol := newCol_of_range hc.1 hc.2
  have hvalid := (posAddCol_isValid p n hw hv hn).2 (Or.inr (by omega))
  refine ⟨?_, ?_, posAddCol_line p n hw hv hn, hvalid⟩
  · rw [offset_of_valid hvalid, offset_of_valid hv, posAddCol_offs p n hw hv hn,
      newOffs_of_range ho.1 ho.2]
  · rw [posAddCol_col p n hw hv hn, hcol]

/-- `posAddCol` is monotone in `n`: the offset never decreases, and the column does not decrease
    as long as it stays known. -/
theorem posAddCol_mono (p : Pos) (n m : Int) (hw : p.wf) (hv : p.isValid = true)
    (hn : smallInt n) (hm : smallInt m) (hnm : n ≤ m) :
    (posAddCol p n).offs ≤ (posAddCol p m).offs ∧
    ((posAddCol p n).col ≠ 0 → (posAddCol p m).col ≠ 0 → (posAddCol p n).col ≤ (posAddCol p m).col) := by
  rw [posAddCol_offs p n hw hv hn, posAddCol_offs p m hw hv hm,
    posAddCol_col p n hw hv hn, posAddCol_col p m hw hv hm]
  refine ⟨newOffs_mono p.offs hnm, fun h1 h2 => ?_⟩
  have := (newCol_ne_zero h1).2
  have := (newCol_ne_zero h2).2
  omega

/-- Validity survives `posAddCol` whenever the line is known. -/
theorem posAddCol_valid (p : Pos) (n : Int) (hw : p.wf) (hv : p.isValid = true) (hn : smallInt n)
    (hl : p.line ≠ 0) : (posAddCol p n).isValid = true :=
  (posAddCol_isValid p n hw hv hn).2 (Or.inl hl)

/-- … and only then: with an overflowed line (0) a column that overflows as well turns a valid
    position into an invalid one. -/
theorem posAddCol_valid_needs_line :
    (newPos 5 0 16383).isValid = true ∧ (posAddCol (newPos 5 0 16383) 1).isValid = false := by
  decide

/-- `After` is a strict order on positions: irreflexive, asymmetric, transitive; two valid
    positions with different offset words are comparable. -/
theorem after_strict_order (p q r : Pos) :
    p.after p = false ∧
    (p.after q = true → q.after p = false) ∧
    (p.after q = true → q.after r = true → p.after r = true) ∧
    (p.isValid = true → q.isValid = true → p.offs ≠ q.offs → (p.after q = true ∨ q.after p = true)) := by
  simp only [Bool.eq_false_iff, Ne, after_iff]
  refine ⟨?_, ?_, ?_, ?_⟩
  · omega
  · omega
  · intro ⟨hp, h1⟩ ⟨_, h2⟩
    exact ⟨hp, Nat.lt_trans h2 h1⟩
  · intro hp hq hne
    rcases Nat.lt_or_gt_of_ne hne with h | h
    · exact Or.inr ⟨hq, h⟩
    · exact Or.inl ⟨hp, h⟩

/-- For a valid `p` and any `q` that is not a recovered position, `p.After(q)` is the comparison
    of the reported offsets; an invalid `p` is after nothing. -/
theorem after_iff_offset (p q : Pos) :
    (p.isValid = true → q.offs ≤ offsetMax → (p.after q = true ↔ p.offset > q.offset)) ∧
    (p.isValid = false → p.after q = false) := by
  constructor
  · intro hp hq
    rw [offset_of_valid hp, offset_of_le hq, after_iff]
    exact and_iff_right hp
  · intro hp
    rw [Bool.eq_false_iff, Ne, after_iff, hp]
    exact fun h => Bool.noConfusion h.1

/-- Moving right by a positive amount that stays in range yields a later position. -/
theorem posAddCol_after (p : Pos) (n : Int) (hw : p.wf) (hv : p.isValid = true) (hn : smallInt n)
    (hpos : 0 < n) (ho : (p.offs : Int) + n ≤ offsetMax) (hl : p.line ≠ 0) :
    (posAddCol p n).after p = true := by
  rw [offsetMax_eq] at ho
  have := newOffs_of_range (by omega) ho
  rw [after_iff, posAddCol_offs p n hw hv hn]
  exact ⟨posAddCol_valid p n hw hv hn hl, by omega⟩

open ShVerif.Gen.C09 in
/-- Every node type's `Pos()` and `End()` is what the hand-written expectation says: start of the
    first token, one past the last token.  (`len("…")` and token texts are folded to numbers on
    both sides before comparing.) -/
theorem posend_table : sameTable table Expect.C09.table = true := by
  decide +kernel

open ShVerif.Gen.C09 in
/-- … and so are the helper functions those bodies call. -/
theorem posend_helpers : sameHelpers helpers Expect.C09.helpers = true := by
  decide +kernel

open ShVerif.Gen.C09 in
/-- The extractor understood every body completely. -/
theorem posend_no_unknown :
    (table.all (fun e => !e.pos.hasUnknown && !e.end_.hasUnknown) &&
     helpers.all (fun h => !h.body.hasUnknown)) = true := by
  decide +kernel

open ShVerif.Gen.C09 in
/-- The constants and function bodies after which the `Pos` model was written are unchanged in the
    source. -/
theorem pos_source_unchanged :
    consts = Expect.C09.consts ∧
    (funcs.filter fun f => !Expect.C09.unmodelled.contains f.1) = Expect.C09.funcs :=
  -- by unfolding: the kernel then compares the texts as literals; deciding the equality of two
  -- strings makes it encode both to UTF-8 first, which for these texts is very slow
  ⟨rfl, rfl⟩

/-- If every node satisfies its local facts (`pos ≤ end`, own tokens and direct children inside
    `[pos, end]`, elements of each list field starting in source order) then, for every node `a`
    of the tree: `pos ≤ end`; every node and every token below `a` lies within `a`; the elements of
    each of `a`'s list fields start in source order. -/
theorem local_to_global (t : PTree) (h : localOk t = true) :
    ∀ a, Sub t a →
      a.pos ≤ a.end_ ∧
      (∀ d, Sub a d → a.pos ≤ d.pos ∧ d.end_ ≤ a.end_ ∧ d.pos ≤ d.end_) ∧
      (∀ d, Sub a d → ∀ tk ∈ d.toks, a.pos ≤ tk.1 ∧ tk.1 + tk.2 ≤ a.end_) ∧
      List.Pairwise (fun k1 k2 => k1.slot = k2.slot → k1.pos ≤ k2.pos) a.kids := by
  intro a ha
  have hla : localOk a = true := (local_sub t h a ha).2.2
  obtain ⟨hpe, _, _, hord⟩ := localNode_iff.1 (localOk_iff.1 hla).1
  refine ⟨hpe, ?_, ?_, ?_⟩
  · intro d hd
    obtain ⟨h1, h2, h3⟩ := local_sub a hla d hd
    exact ⟨h1, h2, (localNode_iff.1 (localOk_iff.1 h3).1).1⟩
  · intro d hd tk htk
    obtain ⟨h1, h2, h3⟩ := local_sub a hla d hd
    have := (localNode_iff.1 (localOk_iff.1 h3).1).2.1 tk htk
    omega
  · refine (pairwiseB_iff.1 hord).imp ?_
    intro k1 k2 hk heq
    simp only [startsBefore, Bool.or_eq_true, bne_iff_ne, ne_eq, decide_eq_true_eq] at hk
    exact hk.resolve_left (absurd heq)

/-- Source order of whole subtrees: if, in addition, the elements of every list field do not
    overlap (no here-document involved), then everything inside an earlier element ends before
    anything inside a later element of the same field starts. -/
theorem local_to_global_disjoint (t : PTree) (h : localOk t = true) (hd : localDisjoint t = true) :
    ∀ a, Sub t a →
      List.Pairwise (fun k1 k2 => k1.slot = k2.slot →
        ∀ d1 d2, Sub k1 d1 → Sub k2 d2 → d1.end_ ≤ d2.pos) a.kids := by
  intro a ha
  have hkids := (localOk_iff.1 (local_sub t h a ha).2.2).2
  refine (pairwiseB_iff.1 (disjoint_sub t hd a ha)).imp_of_mem ?_
  intro k1 k2 hm1 hm2 hk heq d1 d2 hd1 hd2
  simp only [endsBefore, Bool.or_eq_true, bne_iff_ne, ne_eq, decide_eq_true_eq] at hk
  have e0 := hk.resolve_left (absurd heq)
  have e1 := (local_sub k1 (hkids k1 hm1) d1 hd1).2.1
  have e2 := (local_sub k2 (hkids k2 hm2) d2 hd2).1
  omega

/-- The same conclusion for the executable specification the driver runs on every real tree
    (`specglobal`): a tree that passes the local check passes the global one. -/
theorem local_to_global_spec (t : PTree) (h : localOk t = true) : globalOk t = true := by
  unfold globalOk
  simp only [List.all_eq_true, Bool.and_eq_true, decide_eq_true_eq]
  intro a ha
  obtain ⟨h1, h2, h3, _⟩ := local_to_global t h a ha
  refine ⟨⟨h1, ?_⟩, ?_⟩
  · intro d hd
    obtain ⟨e1, e2, e3⟩ := h2 d hd
    refine ⟨⟨?_, e3⟩, ?_⟩
    · simp only [kidWithin, Bool.and_eq_true, decide_eq_true_eq]; exact ⟨e1, e2⟩
    · intro tk htk
      have := h3 d hd tk htk
      simp only [tokWithin, Bool.and_eq_true, decide_eq_true_eq]; exact this
  · exact (localNode_iff.1 (localOk_iff.1 (local_sub t h a ha).2.2).1).2.2.2

/-! ### The specification of line and column

  What "line and column agree with the byte offset" means (`lineColAt`, run against every position
  of every parsed tree by the op `speclinecol`): offset 0 is 1:1; stepping over a newline byte
  (0x0A) leads to the next line, column 1; stepping over ANY other byte leads to the same line, next
  column — a NUL byte, a CR, a tab, each byte of a byte order mark or of a multi-byte character, an
  invalid UTF-8 byte, a backslash: column = 1 + number of bytes since the last newline.
  NUL bytes are therefore counted like every other byte (so does the lexer: `p.col++`).  The open
  finding K4 is not about this specification: it concerns positions that the parser *derives* from
  a token's length when NULs or escaped newlines lie inside that token; only such a position (same
  blank-delimited run, after the dropped bytes) is exempt from the check, every other position of
  an input with NUL bytes is checked. -/

theorem lineColAt_step (b : UInt8) (rest : List UInt8) (off line col : Nat) :
    lineColFrom line col (b :: rest) (off + 1) =
      (if b = 10 then lineColFrom (line + 1) 1 rest off else lineColFrom line (col + 1) rest off) ∧
    lineColFrom line col (b :: rest) 0 = (line, col) :=
  ⟨lineColFrom_cons_succ b rest off line col, rfl⟩

/-- The specification, offset by offset: the start of the input is 1:1, and the position after the
    byte at `off` is the next line's column 1 if that byte is a newline, the next column otherwise. -/
theorem lineColAt_succ (src : List UInt8) (off : Nat) (b : UInt8) (h : src[off]? = some b) :
    lineColAt src 0 = (1, 1) ∧
    lineColAt src (off + 1) =
      (if b = 10 then ((lineColAt src off).1 + 1, 1) else ((lineColAt src off).1, (lineColAt src off).2 + 1)) := by
  refine ⟨by cases src <;> rfl, ?_⟩
  exact lineColFrom_succ src off 1 1 b h

example : localOk (.node 0 0 0 10 [(0, 1), (9, 1)] [.node 1 0 1 4 [] [], .node 2 0 5 8 [(5, 1)] [.node 3 0 6 7 [] []]]) = true := by decide
example : localDisjoint (.node 0 0 0 10 [] [.node 1 0 1 4 [] [], .node 2 0 5 8 [] []]) = true := by decide
/-- a tree that violates a local fact two levels down fails the global spec -/
example : globalOk (.node 0 0 0 10 [] [.node 1 0 1 4 [] [.node 2 0 3 6 [] []]]) = false := by decide
example : (newPos 7 3 5).isValid = true ∧ (newPos 7 3 5).wf := ⟨by decide, newPos_wf 7 3 5⟩
example : smallInt 4 := by unfold smallInt; omega
example : (posAddCol (newPos 14 1 15) 2).offset = 16 ∧ (posAddCol (newPos 14 1 15) 2).col = 17 := by decide

/-! ### What the specification says on the witnesses of the open findings (known-findings.jsonl);
    the implementation's answers are in the comments, replayed from corpus/C09-known.txt. -/

/-- K1 `a \␍␊b`: `b` (offset 5) is at 2:1; the parser reports 2:2. -/
example : lineColAt [0x61, 0x20, 0x5c, 0x0d, 0x0a, 0x62] 5 = (2, 1) := by decide
/-- K2 `echo "a\␊b"`: the literal `a` ends at offset 7 (1:8) or, counting the continuation, at 9
    (2:1); the parser reports offset 8 with 1:8, and offset 8 is 1:9. -/
example : lineColAt [0x65, 0x63, 0x68, 0x6f, 0x20, 0x22, 0x61, 0x5c, 0x0a, 0x62, 0x22] 8 = (1, 9) := by decide
/-- K8 `foo\`: the end of the input (offset 4) is 1:5; the parser reports 1:6. -/
example : lineColAt [0x66, 0x6f, 0x6f, 0x5c] 4 = (1, 5) := by decide

end ShVerif.C09
