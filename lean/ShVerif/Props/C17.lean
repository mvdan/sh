import ShVerif.Model.L3Glob
import ShVerif.Proofs.L3Glob
import ShVerif.Proofs.C17Top
import ShVerif.Proofs.C17Fn
/-
  C17 — Glob patterns match exactly what bash matches.

  `regexpOf` is the model of pattern.Regexp (tied to pattern.go by exhaustive correspondence on the
  printed form), `Top.matches` the Brzozowski-derivative semantics of the emitted expression
  (validated against Go's regexp), `globMatch` the reference semantics written from bash's rules
  (validated against bash), `malformed` the reference parser's verdict, `supported` the syntactic
  region in which pattern.go's known quirks do not fire (Model/L3Glob §6).
-/
namespace ShVerif.C17
open ShVerif ShVerif.L3

/-! The statements at full strength (false of the code today: counter-examples below) -/

/-- Language equality between the emitted regular expression and the reference semantics. -/
def regexp_language_statement : Prop :=
  ∀ (m : Mode) (p : Str) (t : Top), m.entire = true → regexpOf m p = .ok t →
    ∀ s, t.matches s = globMatch m p s

/-- A syntax error is reported exactly for the malformed patterns (and it is the same error). -/
def regexp_error_iff_statement : Prop :=
  ∀ (m : Mode) (p : Str) (e : Err), (∀ g, e ≠ .negExt g) →
    (regexpOf m p = .error e ↔ malformed m p = some e)

/-- The printed form of a result lies inside the RE2 subset grammar `Top.wf` (so it compiles). -/
def regexp_compiles_statement : Prop :=
  ∀ (m : Mode) (p : Str) (t : Top), regexpOf m p = .ok t → t.wf = true

/-- internal.ExtendedPatternMatcher never panics and decides the reference semantics. -/
def extended_matcher_statement : Prop :=
  ∀ (m : Mode) (p : Str), m.entire = true →
    extMatcher m p ≠ .panic ∧ ∀ f, extMatcher m p = .ok f → ∀ s, f s = globMatch m p s

/-- The language theorem on the whole `supported` region, every mode.  Stated only; proved below is
    its restriction to `covered`. -/
def regexp_language_supported_statement : Prop :=
  ∀ (m : Mode) (p : Str) (t : Top), m.entire = true → supported m p = true → regexpOf m p = .ok t →
    ∀ s, t.matches s = globMatch m p s

/-- The part of the mode × pattern space the proofs cover (on top of `supported`):
    (1) no Filenames, no ExtendedOperators: every pattern;
    (2) no Filenames, ExtendedOperators: flat pattern-lists;
    (3) Filenames with NoGlobStar: no pattern-list (no `(` when ExtendedOperators is set), bracket
        expressions only in patterns without a slash, no NUL.
    Not covered, hence the remaining gap of `regexp_language_supported_statement`: pattern-lists
    in the filename modes; `**` as globstar (Filenames without NoGlobStar); bracket expressions
    together with slashes in one filename pattern; bracket expressions or nested lists inside a
    pattern-list. -/
def covered (m : Mode) (p : Str) : Prop :=
  (m.filenames = false ∧ m.ext = false) ∨
  (m.filenames = false ∧ m.ext = true ∧ flatLists m p = true) ∨
  (m.filenames = true ∧ m.noglobstar = true ∧ (cLB ∉ p ∨ cSlash ∉ p) ∧ (m.ext = false ∨ cLP ∉ p) ∧
    (0 : Nat) ∉ p)

/-- **`regexp_language_supported`** on the covered part: for every EntireString mode, every
    `supported` and `covered` pattern, the emitted expression accepts exactly what the pattern
    matches under the reference semantics. -/
theorem regexp_language_supported (m : Mode) (p : Str) (t : Top) (he : m.entire = true)
    (hs : supported m p = true) (hc : covered m p) (h : regexpOf m p = .ok t) :
    ∀ s, t.matches s = globMatch m p s := by
  intro s
  obtain ⟨herr, hok⟩ := regexpOf_spec he hs (Cov.of_regions hc)
  unfold globMatch
  cases hp : parseGlob m p with
  | error e => rw [herr e hp] at h; cases h
  | ok g =>
    obtain ⟨t', ht, _, hsem⟩ := hok g hp
    cases h.symm.trans ht
    simp only [he, if_true]
    rw [Bool.eq_iff_iff, hsem, gmatch_full_iff]

/-- **`regexp_error_iff`** on the covered part: `Regexp` reports a syntax error exactly when the
    reference parser rejects the pattern, and it reports the same error. -/
theorem regexp_error_iff_supported (m : Mode) (p : Str) (e : Err) (he : m.entire = true)
    (hs : supported m p = true) (hc : covered m p) :
    regexpOf m p = .error e ↔ malformed m p = some e := by
  obtain ⟨herr, hok⟩ := regexpOf_spec he hs (Cov.of_regions hc)
  unfold malformed
  cases hp : parseGlob m p with
  | error e' => rw [herr e' hp]; simp
  | ok g =>
    obtain ⟨t, ht, _⟩ := hok g hp
    rw [ht]; simp

/-- **`regexp_compiles`** on the covered part: the model of "regexp.Compile accepts the expression"
    (`goCompiles`, tied to the real `regexp.Compile` by the `compiles` stream) holds, so
    `regexp.MustCompile` cannot panic. -/
theorem regexp_compiles_supported (m : Mode) (p : Str) (t : Top) (he : m.entire = true)
    (hs : supported m p = true) (hc : covered m p) (h : regexpOf m p = .ok t) :
    goCompiles t.body = true := by
  obtain ⟨herr, hok⟩ := regexpOf_spec he hs (Cov.of_regions hc)
  cases hp : parseGlob m p with
  | error e => rw [herr e hp] at h; cases h
  | ok g =>
    obtain ⟨t', ht, hc', _⟩ := hok g hp
    cases h.symm.trans ht
    exact hc'

/-- In the first region `Regexp` never answers with a NegExtGlobError. -/
theorem regexp_total_partial (m : Mode) (p : Str) (he : m.entire = true)
    (hx : m.ext = false) (hf : m.filenames = false) (hs : supported m p = true) :
    (∃ t, regexpOf m p = .ok t) ∨ (∃ e, regexpOf m p = .error e ∧ malformed m p = some e) := by
  cases h : regexpOf m p with
  | ok t => exact .inl ⟨t, rfl⟩
  | error e => exact .inr ⟨e, rfl, (regexp_error_iff_supported m p e he hs (.inl ⟨hf, hx⟩)).mp h⟩

/-- **The matcher** `internal.ExtendedPatternMatcher` (the function `case` and `[[ ]]` call with
    EntireString|ExtendedOperators): in the second region it does not panic and decides the
    reference semantics. -/
theorem extended_matcher_partial (m : Mode) (p : Str) (t : Top) (he : m.entire = true)
    (hx : m.ext = true) (hf : m.filenames = false) (hs : supported m p = true)
    (hl : flatLists m p = true) (h : regexpOf m p = .ok t) :
    ∃ f, extMatcher m p = .ok f ∧ ∀ s, f s = globMatch m p s := by
  have hc : covered m p := .inr (.inl ⟨hf, hx, hl⟩)
  refine ⟨t.matches, ?_, regexp_language_supported m p t he hs hc h⟩
  unfold extMatcher
  simp [he, h, regexp_compiles_supported m p t he hs hc h]

/-! The third region is the mode expand.glob uses for every path component
  (EntireString|Filenames|NoGlobStar, with any of GlobLeadingDot, NoGlobCase, ExtendedOperators);
  expand.glob splits a pattern at its slashes first, so every pattern it hands to Regexp has no
  slash.  `supported` leaves out here exactly: `?`/`*` where the pattern does not exclude a leading
  dot (C17-leading-dot), a literal dot after such a `*` (C17-leading-dot-after-star), `*` after `*`
  at a component start (`***`, C17-leading-dot). -/

/-- **The slash invariant** as a theorem about the model: in that region, whenever the emitted
    expression accepts a subject, the subject has exactly as many slashes as the parsed pattern has
    literal-slash tokens — no `*`, `?` or bracket expression matched a slash and no literal slash was dropped. -/
theorem slash_invariant_fn (m : Mode) (p : Str) (t : Top) (he : m.entire = true)
    (hf : m.filenames = true) (hns : m.noglobstar = true) (hs : supported m p = true)
    (hb : cLB ∉ p ∨ cSlash ∉ p) (hl : m.ext = false ∨ cLP ∉ p) (hz : (0 : Nat) ∉ p)
    (h : regexpOf m p = .ok t) (s : Str) (hm : t.matches s = true) :
    ∃ g, parseGlob m p = .ok g ∧ s.count cSlash = litSlashes g := by
  have hlang := regexp_language_supported m p t he hs (.inr (.inr ⟨hf, hns, hb, hl, hz⟩)) h s
  rw [hm] at hlang
  unfold globMatch at hlang
  cases hp : parseGlob m p with
  | error e => simp [hp] at hlang
  | ok g =>
    refine ⟨g, rfl, ?_⟩
    simp only [hp, he, if_true] at hlang
    have hg := (gmatch_full_iff m g true s).mp hlang.symm
    exact GDen_slashes m hf g (parse_simple m hns _ _ p hl g hp) true s hg

/-- The reference itself has the invariant, for every simple pattern (bracket expressions
    included): a bracket expression, `?` or `*` never consumes a slash in filename mode. -/
theorem reference_slash_invariant (m : Mode) (hf : m.filenames = true) (g : Glob)
    (hg : simpleGlob g = true) (b : Bool) (s : Str) (h : GDen m g b s) :
    s.count cSlash = litSlashes g :=
  GDen_slashes m hf g hg b s h

/-- The derivative matcher used above decides the language of the expression. -/
theorem rmatch_sound (nc : Bool) (r : Regex) (s : Str) : rmatch nc r s = true ↔ Matches nc r s :=
  rmatch_iff nc r s

/-- The backtracking reference matcher decides the declarative semantics `GDen`. -/
theorem globMatch_sound (m : Mode) (g : Glob) (b : Bool) (s : Str) :
    gmatch m g b s (fun _ r => r.isEmpty) = true ↔ GDen m g b s :=
  gmatch_full_iff m g b s

/-! Counter-examples to the full statements (each replayed on the Go code by the harness) -/

def m4 : Mode := Mode.ofNat 4      -- EntireString
def m6 : Mode := Mode.ofNat 6      -- Filenames | EntireString
def m68 : Mode := Mode.ofNat 68    -- EntireString | ExtendedOperators: `case`, [[ ]]

/-- `?a` matches `.a` in filename mode without dotglob (C17-leading-dot); `@(a(b)c)` does not
    match `a(b)c` (C17-bare-paren-in-group). -/
theorem regexp_language_counterexample : ¬ regexp_language_statement := by
  intro h
  have h1 : regexpOf m6 (strOf "?a") = .ok
      { plain := false, nocase := false, shortest := false, entire := true,
        body := .cat notSlash (.cat (.chr 97) .eps) } := eq_ok_of_okTop (by decide +kernel)
  have h2 := h m6 (strOf "?a") _ (by decide) h1 (strOf ".a")
  revert h2
  decide +kernel

/-- `[-+]` is not malformed, yet `Regexp` reports "invalid range: [-+" (C17-bracket-dash). -/
theorem regexp_error_iff_counterexample : ¬ regexp_error_iff_statement := by
  intro h
  have h1 : regexpOf m4 (strOf "[-+]") = .error (.badRange 91 43) := eq_error_of_errOf (by decide +kernel)
  have h2 := (h m4 (strOf "[-+]") (.badRange 91 43) (by intro g; simp)).mp h1
  revert h2
  decide +kernel

/-- `@(abc` gives `(abc\x00` (C17-unterminated-extglob). -/
theorem regexp_compiles_counterexample : ¬ regexp_compiles_statement := by
  intro h
  have h1 : regexpOf m68 (strOf "@(abc") = .ok
      { plain := false, nocase := false, shortest := false, entire := true,
        body := .cat (.ugrp (.cat (.chr 97) (.cat (.chr 98) (.cat (.chr 99) .eps)))) .eps } :=
    eq_ok_of_okTop (by decide +kernel)
  have h2 := h m68 (strOf "@(abc") _ h1
  revert h2
  decide +kernel

/-- The matcher panics on `@(abc`, on `[A-\0]` and on `!(`. -/
theorem extended_matcher_counterexample : ¬ extended_matcher_statement := by
  intro h
  have h1 := (h m68 (strOf "@(abc") (by decide)).1
  have h2 : isPanic (extMatcher m68 (strOf "@(abc")) = true := by decide +kernel
  cases hm : extMatcher m68 (strOf "@(abc") with
  | panic => exact h1 hm
  | err e => simp [hm, isPanic] at h2
  | unsupported => simp [hm, isPanic] at h2
  | ok f => simp [hm, isPanic] at h2

/-! Non-vacuity of the hypotheses of the partial theorems, and sanity of the two semantics. -/
example : supported m4 (strOf "a*[!b-d[:digit:]]\\??") = true := by decide +kernel
example : supported m4 (strOf "[-+]") = false := by decide +kernel
example : globMatch m4 (strOf "a*[!b-d[:digit:]]\\??") (strOf "axyz?q") = true := by decide +kernel
example : globMatch m4 (strOf "a*[!b-d[:digit:]]\\??") (strOf "axyc?q") = false := by decide +kernel
example : globMatch m4 (strOf "[-+]") (strOf "-") = true := by decide +kernel
example : malformed m4 (strOf "[z-a]") = some (.badRange 122 97) := by decide +kernel
example : supported m68 (strOf "a@(b*|c?)+(x|\\|)[0-9]") = true ∧ flatLists m68 (strOf "a@(b*|c?)+(x|\\|)[0-9]") = true := by
  decide +kernel
example : globMatch m68 (strOf "a@(b*|c?)+(x|\\|)[0-9]") (strOf "abzzx|x7") = true := by decide +kernel
example : flatLists m68 (strOf "+([0-9])") = false := by decide +kernel
def m22 : Mode := Mode.ofNat 22    -- Filenames | EntireString | NoGlobStar: the mode of expand.glob
example : supported m22 (strOf "a*/.b?c/*x.d") = true := by decide +kernel
example : supported m22 (strOf "*.d") = false ∧ supported m22 (strOf "?a") = false := by decide +kernel
example : globMatch m22 (strOf "a*/.b?c/*x.d") (strOf "ax/.bzc/yx.d") = true := by decide +kernel
example : supported m22 (strOf "a[b-d]*[[:digit:]].c") = true := by decide +kernel
example : globMatch m22 (strOf "a[b-d]*[[:digit:]].c") (strOf "acxx7.c") = true := by decide +kernel
example : supported m22 (strOf "[!a]b") = false ∧ supported m22 (strOf "[.]a") = false := by decide +kernel
example : globMatch m22 (strOf "*.d") (strOf ".d") = false ∧ globMatch m22 (strOf "*") (strOf "a/b") = false := by
  decide +kernel
example : globMatch m68 (strOf "@(a(b)c)") (strOf "a(b)c") = true := by decide +kernel

end ShVerif.C17
