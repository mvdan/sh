import ShVerif.Proofs.C12Variants
/-
  C12 — parser acceptance agrees with the real shells, at token level.

  `parse c` is the model of syntax/parser.go's statement parser with rule variants `c`
  (`accepts l = parse (goCfg l)` is the Go code, tied on every run);
  `Derives c` is the shell grammar with the same rule variants
  (`Derives (shCfg l)` is the grammar of bash / dash, validated against `bash -n` / `dash -n`).
-/
namespace ShVerif.C12
open Tok

/-- C12 as stated: the Go parser accepts exactly the token lists of the shell's grammar. -/
def agree_statement (l : Lang) : Prop :=
  ∀ ts, accepts l ts = true ↔ Derives (shCfg l) .program .closed ts

/-- The same at the level of the two recognisers. -/
def agree_recognisers_statement (l : Lang) : Prop :=
  ∀ ts, accepts l ts = shellAccepts l ts

/-- Soundness of the recogniser: what the model parser accepts is a program of the grammar with
    the same rule variants. -/
theorem sound (c : Cfg) (ts : List Tok) (h : parse c ts = true) : Derives c .program .closed ts :=
  parse_iff_derives.mp h

/-- Completeness of the recogniser: every program of the grammar is accepted, with the fuel
    `fuelFor ts` the model uses. -/
theorem complete (c : Cfg) (ts : List Tok) (h : Derives c .program .closed ts) : parse c ts = true :=
  parse_iff_derives.mpr h

/-- The fuel is no restriction: any larger fuel gives the same answer.  An accepted list needs
    at most `8·|ts| + 5` levels of call depth; a list rejected with `fuelFor ts` is rejected with
    every larger fuel (the Bool does not say whether by `R.err` or by `R.oof`). -/
theorem fuel_sufficient (c : Cfg) (ts : List Tok) (f : Nat) (hf : fuelFor ts ≤ f) :
    parseWith c f ts = parse c ts :=
  Bool.eq_iff_iff.mpr ⟨fun hw => complete c ts (parseWith_sound hw),
    fun hp => parseWith_complete (Nat.le_trans (Nat.add_le_add_left (by decide) _) hf) (sound c ts hp)⟩

/-- The Go parser (model) accepts exactly the grammar with Go's rule variants. -/
theorem accepts_iff_go_grammar (l : Lang) (ts : List Tok) :
    accepts l ts = true ↔ Derives (goCfg l) .program .closed ts :=
  parse_iff_derives

/-- `shellAccepts` decides the shells' grammar (this is what `bash -n` / `dash -n` validate). -/
theorem shellAccepts_iff_shell_grammar (l : Lang) (ts : List Tok) :
    shellAccepts l ts = true ↔ Derives (shCfg l) .program .closed ts :=
  parse_iff_derives

/-- Closed under mutations: the equivalence holds for the result of any edit (insertion, deletion,
    swap, replacement …) of any token list, since it holds for all token lists. -/
theorem mutations_closed (c : Cfg) (edit : List Tok → List Tok) (ts : List Tok) :
    parse c (edit ts) = true ↔ Derives c .program .closed (edit ts) :=
  parse_iff_derives

/-- C12 restricted to the token lists on which the rule variants that separate the Go parser
    from the shell (the known findings and the documented `!` difference) do not change the
    parser's answer. -/
theorem agree_partial (l : Lang) (ts : List Tok)
    (h : parse (goCfg l) ts = parse (shCfg l) ts) :
    accepts l ts = true ↔ Derives (shCfg l) .program .closed ts := by
  rw [accepts, h]
  exact parse_iff_derives

/-! The same, finding by finding: the rule variants are switched from Go's value to the shell's one
    at a time; each hypothesis says that one open finding (or the documented `!` difference) does
    not change the parser's answer on `ts`. -/

/-- Go's parser with the findings fixed one after the other (`k` of them), in the order
    C12-else-in-command, C12-reserved-after-redirect, C12-closer-after-redirect, C12-func-body,
    then C12-for-assign-posix (POSIX) / the documented lone-`!` difference (Bash). -/
def fixedCfg (l : Lang) : Nat → Cfg
  | 0 => goCfg l
  | 1 => { goCfg l with elseInCmd := false }
  | 2 => { goCfg l with elseInCmd := false, rsrvAfterIO := false }
  | 3 => { goCfg l with elseInCmd := false, rsrvAfterIO := false, closerAfterRedir := false }
  | 4 => { goCfg l with elseInCmd := false, rsrvAfterIO := false, closerAfterRedir := false,
                        fnBody := (shCfg l).fnBody }
  | _ => shCfg l

theorem agree_partial_by_finding (l : Lang) (ts : List Tok)
    (h_else_in_command : parse (fixedCfg l 0) ts = parse (fixedCfg l 1) ts)
    (h_reserved_after_redirect : parse (fixedCfg l 1) ts = parse (fixedCfg l 2) ts)
    (h_closer_after_redirect : parse (fixedCfg l 2) ts = parse (fixedCfg l 3) ts)
    (h_func_body : parse (fixedCfg l 3) ts = parse (fixedCfg l 4) ts)
    (h_for_assign_or_lone_bang : parse (fixedCfg l 4) ts = parse (fixedCfg l 5) ts) :
    accepts l ts = true ↔ Derives (shCfg l) .program .closed ts :=
  agree_partial l ts
    (h_else_in_command.trans (h_reserved_after_redirect.trans (h_closer_after_redirect.trans
      (h_func_body.trans h_for_assign_or_lone_bang))))

/-- C12-for-assign-posix cannot apply to a token list that does not contain both `for` and an
    assignment-looking word: there its rule variant provably does not change the answer. -/
theorem for_assign_irrelevant (ts : List Tok) (h : ¬ (kFor ∈ ts ∧ assign ∈ ts)) :
    parse (fixedCfg .posix 4) ts = parse (fixedCfg .posix 5) ts :=
  parse_forAssign (c := fixedCfg .posix 4) (c' := fixedCfg .posix 5) (by constructor <;> decide) ts h

/-- C12 for LangPOSIX vs dash with the hypothesis about C12-for-assign-posix replaced by the
    syntactic condition "not both `for` and an assignment word occur". -/
theorem agree_partial_posix (ts : List Tok)
    (h_else_in_command : parse (fixedCfg .posix 0) ts = parse (fixedCfg .posix 1) ts)
    (h_reserved_after_redirect : parse (fixedCfg .posix 1) ts = parse (fixedCfg .posix 2) ts)
    (h_closer_after_redirect : parse (fixedCfg .posix 2) ts = parse (fixedCfg .posix 3) ts)
    (h_func_body_bang : parse (fixedCfg .posix 3) ts = parse (fixedCfg .posix 4) ts)
    (h_no_for_assign : ¬ (kFor ∈ ts ∧ assign ∈ ts)) :
    accepts .posix ts = true ↔ Derives (shCfg .posix) .program .closed ts :=
  agree_partial_by_finding .posix ts h_else_in_command h_reserved_after_redirect
    h_closer_after_redirect h_func_body_bang (for_assign_irrelevant ts h_no_for_assign)

/-- The recogniser-level statement on the same region. -/
theorem agree_recognisers_partial (l : Lang) (ts : List Tok)
    (h : parse (goCfg l) ts = parse (shCfg l) ts) : accepts l ts = shellAccepts l ts := h

/-- … and outside that region the property fails, by definition of the region. -/
theorem agree_fails_outside (l : Lang) (ts : List Tok)
    (h : parse (goCfg l) ts ≠ parse (shCfg l) ts) :
    ¬ (accepts l ts = true ↔ Derives (shCfg l) .program .closed ts) :=
  fun hiff => h (Bool.eq_iff_iff.mpr (hiff.trans parse_iff_derives.symm))

/-- Known finding C12-else-in-command-*: `else` / `in` as command names. -/
theorem else_in_accepted_by_go_only :
    accepts .bash [kElse] = true ∧ shellAccepts .bash [kElse] = false ∧
    accepts .posix [kIn] = true ∧ shellAccepts .posix [kIn] = false := by decide

/-- Known finding C12-reserved-after-redirect-*: `> a then`, `> a fi`. -/
theorem reserved_after_redirect_rejected_by_go_only :
    accepts .bash [io, word, kThen] = false ∧ shellAccepts .bash [io, word, kThen] = true ∧
    accepts .posix [io, word, kFi] = false ∧ shellAccepts .posix [io, word, kFi] = true := by decide

/-- Known findings C12-func-body-*: `a ( ) a` (bash), `a ( ) ! a` (dash). -/
theorem function_body_accepted_by_go_only :
    accepts .bash [word, lparen, rparen, word] = true ∧
    shellAccepts .bash [word, lparen, rparen, word] = false ∧
    accepts .posix [word, lparen, rparen, bang, word] = true ∧
    shellAccepts .posix [word, lparen, rparen, bang, word] = false := by decide

/-- Known finding C12-for-assign-posix: `for x=1 in a ; do a ; done`. -/
theorem for_assign_accepted_by_go_only :
    accepts .posix [kFor, assign, kIn, word, semi, kDo, word, semi, kDone] = true ∧
    shellAccepts .posix [kFor, assign, kIn, word, semi, kDo, word, semi, kDone] = false := by
  decide +kernel

/-- Known findings C12-closer-after-redirect-*: `{ ( a ) > a }`. -/
theorem closer_after_redirect_accepted_by_go_only :
    accepts .bash [lbrace, lparen, word, rparen, io, word, rbrace] = true ∧
    shellAccepts .bash [lbrace, lparen, word, rparen, io, word, rbrace] = false ∧
    accepts .posix [lbrace, lparen, word, rparen, io, word, rbrace] = true ∧
    shellAccepts .posix [lbrace, lparen, word, rparen, io, word, rbrace] = false := by
  decide +kernel

/-- Documented difference (flipConfirm(LangBash) in syntax/parser_test.go): bash allows a lone or
    repeated `!`, the Go parser does not. -/
theorem bash_lone_bang_is_a_documented_difference :
    accepts .bash [bang] = false ∧ shellAccepts .bash [bang] = true ∧
    accepts .bash [bang, bang, word] = false ∧ shellAccepts .bash [bang, bang, word] = true := by decide

/-- The property as stated is false for both languages (witnesses `else` / `in`). -/
theorem agree_false (l : Lang) : ¬ agree_statement l := by
  intro h
  cases l
  · exact agree_fails_outside .bash [kElse] (by decide) (h _)
  · exact agree_fails_outside .posix [kIn] (by decide) (h _)

/-- The recogniser-level property is false for both languages. -/
theorem agree_recognisers_false (l : Lang) : ¬ agree_recognisers_statement l := by
  intro h
  cases l
  · exact absurd (h [kElse]) (by decide)
  · exact absurd (h [kIn]) (by decide)

/-- Non-vacuity: the model accepts ordinary programs, in both variants. -/
example : accepts .bash [kIf, word, semi, kThen, word, semi, kFi] = true := by decide +kernel
example : accepts .posix [kCase, word, kIn, word, rparen, word, dsemi, kEsac] = true := by decide +kernel
example : shellAccepts .bash [word, lparen, rparen, lbrace, word, semi, rbrace] = true := by decide +kernel
example : Derives (shCfg .posix) .program .closed [word] :=
  .program (.l_last (.stmt (.b_plain (.pipeline (.c_simple (pre := []) .nil (by decide) .nil) .p_nil)) .t_nil) (by simp [startOK]))

end ShVerif.C12
