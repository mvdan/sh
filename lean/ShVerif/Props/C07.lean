/-
  C07 — Parsing does not depend on how input bytes arrive.

  The byte source of the lexer (Model/L2ByteSrc.lean, tied to syntax/lexer.go on every run) is
  run over *schedules*: the chunk lengths an io.Reader may legally return, zero-length reads
  included, `io.EOF` with or after the last bytes.  The lexer/parser above it is a client
  program `Prog α` over the primitives.  `specRun` runs the same program on the unchunked
  machine of Model/C07.lean, which has no buffer and no schedule.

  Proved (for the code after fix commits 5478a01 f64c543 ef3ade7 bc3fd85 b35c36c): every client that
  stays inside the stated protocol (`InProtocol`, computed on the unchunked machine alone) gets the
  same results from the chunked byte source under every schedule — `io.EOF` with or after the
  last bytes.  Exactly three things remain excluded (`Admissible`), each with a counter-example
  theorem below: (a) reading on after the stop-word test fired (by design: the lexer has been told
  to stop and `fill` refuses to read), (b) `nextPos` after an error (`errPass` parks the cursor at
  `len(p.bs)+1`, whatever the buffer holds), (c) the residual defect C07-zshnumrange-long: a
  positive `zshNumRange` answer that is not decided by the first 64 bytes.  The two places where Go
  panics (`zshNumRange` at the end of input, `endLit` on a too short literal) panic under every
  schedule alike and are outcomes of `client_sched_indep_partial`, not exclusions.
-/
import ShVerif.Proofs.C07Client
import ShVerif.Proofs.C10L2
import ShVerif.Gen.C07
namespace ShVerif.Props.C07
open ShVerif ShVerif.L2 ShVerif.C07

/-- the methods of syntax.Parser that the byte-source model covers, per field -/
def allowed : List (String × List String) := [
  ("bs",      ["errPass", "fill", "newLit", "next", "peek", "peekTwo", "reset", "rune", "zshNumRange"]),
  ("bsp",     ["errPass", "fill", "newLit", "next", "nextPos", "peek", "peekTwo", "reset", "rune", "zshNumRange"]),
  ("litBs",   ["Incomplete", "advanceLitHdoc", "advanceLitNone", "endLit", "isLitRedir", "newLit", "next",
               "quotedHdocWord", "reset", "rune", "wordPart"]),
  ("offs",    ["fill", "nextPos", "reset"]),
  ("readBuf", ["fill"]),
  ("readEOF", ["fill", "reset", "rune"]),
  ("readErr", ["fill", "reset"]),
  ("src",     ["Arithmetic", "Document", "Parse", "StmtsSeq", "WordsSeq", "fill"])]

def subsetOf (xs ys : List String) : Bool := xs.all fun x => ys.contains x

def clientOK (acc : List (String × List String)) : Bool :=
  acc.all fun (field, fns) =>
    match allowed.lookup field with
    | some ok => subsetOf fns ok
    | none => false

/-- `p.bs`, `p.bsp`, `p.readBuf`, `p.src`, `p.readErr`, `p.readEOF`, `p.offs` are mentioned only
    inside the modelled primitives (and the entry points that set `p.src`); `p.litBs` only inside
    the functions whose accesses are the `litGet`/`litAppend`/`litDrop`/`newLit`/`endLit` client
    operations. -/
theorem parser_is_client : clientOK Gen.C07.byteAccess = true := by decide +kernel

/-- `Parser.next` is the only function allowed above that is not wholly a modelled primitive: it may
    mention `p.bs` / `p.bsp` exactly as often as its stop-word test does (4 times each: the lookahead
    loop condition and the prefix comparison).  Any further direct access to the buffer from the
    token-level lexer (a fast path that skips `rune`, say) has to be reviewed and modelled. -/
theorem next_touches_buffer_only_in_stop_test :
    Gen.C07.nextMentions = [("bs", 4), ("bsp", 4)] := by decide

/-- Two states of the chunked byte source (different schedules, different buffers) that present
    the same logical state: same remaining input, same consumed offset / line / column, same
    `r, w`, same literal buffer. -/
def Sim (s₁ s₂ : St) : Prop := ∃ a, R s₁ a ∧ R s₂ a

theorem sim_init (input : List Byte) (sc₁ sc₂ : List Nat) (e₁ e₂ : Bool) (stop : List Byte)
    (hs : stop.length ≤ 4) :
    Sim (init input sc₁ e₁ stop) (init input sc₂ e₂ stop) :=
  ⟨LSt.init input stop, R_init _ _ _ _ hs, R_init _ _ _ _ hs⟩

/-- observable outcome of a run: the result, or `none` for a Go panic / hang -/
def outcome {α : Type} (x : M (α × St)) : Option α :=
  match x with
  | .ok (v, _) => some v
  | .error _ => none

def Live (s₁ s₂ : St) : Prop := ∃ a, R s₁ a ∧ R s₂ a ∧ a.halted = false

/-- full statement (still false because of `zshNumRange`, see `prim_sched_indep_fails`): every
    primitive maps `Sim`-related states to equal results, for all schedules -/
def prim_sched_indep_statement : Prop :=
  ∀ (s₁ s₂ : St), Sim s₁ s₂ →
    (outcome s₁.rune = outcome s₂.rune) ∧ (outcome s₁.peek = outcome s₂.peek) ∧
    (outcome (s₁.peekTwo.map fun x => ((x.1, x.2.1), x.2.2))
      = outcome (s₂.peekTwo.map fun x => ((x.1, x.2.1), x.2.2))) ∧
    (outcome s₁.zshNum = outcome s₂.zshNum) ∧
    (∀ r, outcome (s₁.stopAt r) = outcome (s₂.stopAt r))

theorem live_ok {s₁ s₂ : St} (h : Live s₁ s₂) :
    ∃ a, R s₁ a ∧ R s₂ a ∧ a.halted = false ∧ a.ok = true := by
  obtain ⟨a, h1, h2, hh⟩ := h
  exact ⟨{ a with ok := true }, h1.setOk true, h2.setOk true, hh, rfl⟩

theorem rune_sched_indep {s₁ s₂ : St} (h : Live s₁ s₂) :
    ∃ v s₁' s₂', s₁.rune = .ok (v, s₁') ∧ s₂.rune = .ok (v, s₂') ∧ Sim s₁' s₂' := by
  obtain ⟨a, h1, h2, hh, hk⟩ := live_ok h
  exact ⟨_, prim_sched_indep .rune h1 h2 (rune_ok_of_live hk hh)⟩

theorem peek_sched_indep {s₁ s₂ : St} (h : Live s₁ s₂) :
    ∃ v s₁' s₂', s₁.peek = .ok (v, s₁') ∧ s₂.peek = .ok (v, s₂') ∧ Sim s₁' s₂' := by
  obtain ⟨a, h1, h2, hh, hk⟩ := live_ok h
  exact ⟨_, prim_sched_indep .peek h1 h2 (peek_ok_of_live hk hh)⟩

/-- **`peekTwo` does not depend on the schedule** (since f64c543). -/
theorem peekTwo_sched_indep {s₁ s₂ : St} (h : Live s₁ s₂) :
    ∃ v w s₁' s₂', s₁.peekTwo = .ok (v, w, s₁') ∧ s₂.peekTwo = .ok (v, w, s₂') ∧ Sim s₁' s₂' := by
  obtain ⟨a, h1, h2, hh, hk⟩ := live_ok h
  have hok := peekTwo_ok_of_live hk hh
  obtain ⟨s1', e1, r1⟩ := peekTwo_refines h1 hok
  obtain ⟨s2', e2, r2⟩ := peekTwo_refines h2 hok
  exact ⟨_, _, s1', s2', e1, e2, _, r1, r2⟩

/-- **The stop-word test does not depend on the schedule** (since b35c36c). -/
theorem stopAt_sched_indep {s₁ s₂ : St} (r : Nat) (h : Live s₁ s₂) :
    ∃ v s₁' s₂', s₁.stopAt r = .ok (v, s₁') ∧ s₂.stopAt r = .ok (v, s₂') ∧ Sim s₁' s₂' := by
  obtain ⟨a, h1, h2, hh, hk⟩ := live_ok h
  exact ⟨_, prim_sched_indep (.stopAt r) h1 h2 (stopAt_ok_of_live r hk hh)⟩

/-- **`newLit` does not depend on the schedule, nor on the buffer** (since cb62b3c): no hypothesis. -/
theorem newLit_sched_indep {s₁ s₂ : St} (r : Nat) (h : Sim s₁ s₂) :
    ∃ s₁' s₂', s₁.newLit r = .ok s₁' ∧ s₂.newLit r = .ok s₂' ∧ Sim s₁' s₂' := by
  obtain ⟨a, h1, h2⟩ := h
  obtain ⟨s1', e1, r1⟩ := newLit_refines h1 r
  obtain ⟨s2', e2, r2⟩ := newLit_refines h2 r
  exact ⟨s1', s2', e1, e2, _, r1, r2⟩

/-- `zshNumRange` does not depend on the schedule when a positive answer is decided within the
    first 64 bytes (residual finding C07-zshnumrange-long otherwise) … -/
theorem zshNum_sched_indep_partial {s₁ s₂ : St} {a : LSt} (h1 : R s₁ a) (h2 : R s₂ a)
    (hh : a.halted = false) (hr : a.r ≠ runeEOF)
    (hcut : St.zshScan a.rest = .yes → St.zshScan (a.rest.take 64) = .yes) :
    ∃ v s₁' s₂', s₁.zshNum = .ok (v, s₁') ∧ s₂.zshNum = .ok (v, s₂') ∧ Sim s₁' s₂' := by
  have hok : ({ a with ok := true } : LSt).zshNum.2.ok = true :=
    (zshNum_ok_iff _).mpr ⟨rfl, hh, hr, hcut⟩
  exact ⟨_, prim_sched_indep .zshNum (h1.setOk true) (h2.setOk true) hok⟩

/-- … and at the end of input (`p.r == runeEOF`, cursor past the buffer) it panics under every
    schedule alike. -/
theorem zshNum_at_eof_panics {s₁ s₂ : St} {a : LSt} (h1 : R s₁ a) (h2 : R s₂ a)
    (hh : a.halted = false) (hr : a.r = runeEOF) :
    outcome s₁.zshNum = none ∧ outcome s₂.zshNum = none := by
  obtain ⟨f1, e1⟩ := zshNum_panics h1 hr hh
  obtain ⟨f2, e2⟩ := zshNum_panics h2 hr hh
  rw [e1, e2]; exact ⟨rfl, rfl⟩

/-- full statement (still false, see `client_sched_indep_fails`): any client, any two schedules of
    the same bytes — EOF with or after the last data — same result -/
def client_sched_indep_statement : Prop :=
  ∀ (α : Type) (p : Prog α) (input stop : List Byte) (sc₁ sc₂ : List Nat) (e₁ e₂ : Bool),
    outcome (p.run (init input sc₁ e₁ stop)) = outcome (p.run (init input sc₂ e₂ stop))

/-- **The chunked byte source refines the unchunked one**: inside the protocol, under every
    schedule (EOF with or after the last data), a client gets exactly the results of the
    schedule-free machine. -/
theorem client_refines_spec {α : Type} (p : Prog α) (input stop : List Byte) (sc : List Nat)
    (e : Bool) (hs : stop.length ≤ 4) (hp : InProtocol p input stop) :
    ∃ s', p.run (init input sc e stop) = .ok ((specRun p (LSt.init input stop)).1, s') := by
  obtain ⟨s', h, _⟩ := client_refines p (R_init input sc e stop hs) hp
  exact ⟨s', h⟩

/-- **Schedule independence of client programs** (the property, on the byte layer): for every
    input, every stop word, every two read schedules (any chunk lengths, zero-length reads,
    `io.EOF` with or after the last bytes) and every client program over
    {rune, peek, peekTwo, zshNumRange, stop-word test, newLit, endLit, nextPos, literal-buffer and
    error operations} that is `Admissible` — (a) no reading after the stop word fired, (b) no
    `nextPos` after an error, (c) no positive `zshNumRange` answer beyond 64 bytes — both runs give
    the same result, or both panic (`zshNumRange` at the end of input, `endLit` on a too short
    literal). -/
theorem client_sched_indep_partial {α : Type} (p : Prog α) (input stop : List Byte)
    (sc₁ sc₂ : List Nat) (e₁ e₂ : Bool) (hs : stop.length ≤ 4) (hp : Admissible p input stop) :
    outcome (p.run (init input sc₁ e₁ stop)) = (specRunF p (LSt.init input stop)).result ∧
    outcome (p.run (init input sc₂ e₂ stop)) = (specRunF p (LSt.init input stop)).result := by
  have h1 := (client_refinesF p hp).2 (R_init input sc₁ e₁ stop hs)
  have h2 := (client_refinesF p hp).2 (R_init input sc₂ e₂ stop hs)
  cases hr : specRunF p (LSt.init input stop) with
  | done v a =>
    rw [hr] at h1 h2
    obtain ⟨s1, e1, _⟩ := h1
    obtain ⟨s2, e2, _⟩ := h2
    rw [e1, e2]; exact ⟨rfl, rfl⟩
  | panic a =>
    rw [hr] at h1 h2
    obtain ⟨f1, e1⟩ := h1
    obtain ⟨f2, e2⟩ := h2
    rw [e1, e2]; exact ⟨rfl, rfl⟩

/-- the corollary in the words of the property -/
theorem client_sched_indep_any_two {α : Type} (p : Prog α) (input stop : List Byte)
    (sc₁ sc₂ : List Nat) (e₁ e₂ : Bool) (hs : stop.length ≤ 4) (hp : Admissible p input stop) :
    outcome (p.run (init input sc₁ e₁ stop)) = outcome (p.run (init input sc₂ e₂ stop)) := by
  obtain ⟨h1, h2⟩ := client_sched_indep_partial p input stop sc₁ sc₂ e₁ e₂ hs hp
  rw [h1, h2]

/-- C06 on the byte layer: inside the protocol no primitive panics (index / slice bounds), hangs
    in `fill`, or exhausts the model's recursion budget. -/
theorem bytesrc_no_panic {α : Type} (p : Prog α) (input stop : List Byte) (sc : List Nat)
    (e : Bool) (hs : stop.length ≤ 4) (hp : InProtocol p input stop) :
    ∀ f, p.run (init input sc e stop) ≠ .error f := by
  obtain ⟨s', h⟩ := client_refines_spec p input stop sc e hs hp
  intro f hf
  rw [h] at hf
  cases hf

/-- C09 on the byte layer, upper bound: under every schedule, after a client that stays inside the
    protocol and as long as no error was raised, `nextPos` (raw: `p.offs + p.bsp - p.w`, counting
    skipped NUL bytes, CR of CR LF, escaped newlines and unescaped backquote backslashes) does not
    point past the end of the input.  The bound is met at the end of input, however it was
    discovered: the cursor is then one past the end and `p.w = 1` (the second case of the invariant
    `Inv` of Proofs/C10L2.lean). -/
theorem bytesrc_pos_inv {α : Type} (p : Prog α) (input stop : List Byte) (sc : List Nat)
    (e : Bool) (hs : stop.length ≤ 4) (hp : InProtocol p input stop) :
    ∃ v s', p.run (init input sc e stop) = .ok (v, s') ∧
      (s'.err = none → s'.nextPos.1 ≤ input.length) := by
  obtain ⟨s', h, hR⟩ := client_refines p (R_init input sc e stop hs) hp
  refine ⟨_, s', h, ?_⟩
  intro he
  have hal : (specRun p (LSt.init input stop)).2.err = none := by rw [hR.f_err]; exact he
  rw [nextPos_eq hR hal]
  exact nextPos_le p input stop hal

/-- the lower bound `0 ≤ nextPos` (stated only): it needs the client to apply the stop-word test
    to the rune just read — a client that calls it with another rune before reading anything gets
    `p.w = 1` at offset 0 -/
def bytesrc_pos_nonneg_statement : Prop :=
  ∀ (α : Type) (p : Prog α) (input stop : List Byte), InProtocol p input stop →
    (specRun p (LSt.init input stop)).2.err = none →
    0 ≤ (specRun p (LSt.init input stop)).2.nextPos.1

/-- `newLit` (since cb62b3c: `utf8.AppendRune(p.litBuf[:0], r)`) never receives the replacement rune
    of an invalid byte: when `DecodeRune` answers `(RuneError, 1)`, `rune` raises "invalid UTF-8
    encoding" and returns `runeEOF`, whose literal is empty.  So the encoding written by `newLit` is
    always that of a validly decoded rune — the bytes it had in the input (checked against the
    source bytes by the harness, `c07NewLitBytes`). -/
theorem invalid_byte_never_reaches_newLit (a : LSt) (ha : a.err = none)
    (hd : decodeRune a.rest = (runeError, 1)) :
    (LSt.runeDecode a).r = runeEOF ∧ (LSt.runeDecode a).err ≠ none :=
  runeDecode_invalid a ha hd

/-- the stop-word test applied to `a` before anything was read, stop word `a`, empty input -/
def pStopFirst : Prog Int := .stopAt 97 fun _ => .pos fun o _ _ => .ret o

theorem pos_nonneg_fails : ¬ bytesrc_pos_nonneg_statement := by
  intro h
  have := h Int pStopFirst [] [97] (by unfold InProtocol; decide +kernel) (by decide +kernel)
  revert this
  decide +kernel

/-- `r := rune(); zshNumRange()` -/
def pZsh : Prog Bool := .rune fun _ => .zshNum fun b => .ret b
/-- `peekTwo()` with nothing buffered -/
def pPeekTwo : Prog (Nat × Nat) := .peekTwo fun x y => .ret (x, y)
/-- `r := rune(); stop-word test for r` -/
def pStop : Prog Bool := .rune fun r => .stopAt r fun b => .ret b
/-- inside one level of backquotes: third rune -/
def pBquote : Prog Nat := .setBquotes 1 0 (.rune fun _ => .rune fun _ => .rune fun r => .ret r)
/-- `rune(); rune(); nextPos()` : the offset of the end of input -/
def pEofPos : Prog Int := .rune fun _ => .rune fun _ => .pos fun o _ _ => .ret o

/-- fixed ef3ade7: `<->` all at once and as `<-` + `>` -/
theorem fixed_zshNum :
    outcome (pZsh.run (init [60, 45, 62] [] false)) = some true ∧
    outcome (pZsh.run (init [60, 45, 62] [2] false)) = some true := by decide +kernel

/-- fixed f64c543: `ab` all at once and as `a` + `b` -/
theorem fixed_peekTwo :
    outcome (pPeekTwo.run (init [97, 98] [] false)) = some (97, 98) ∧
    outcome (pPeekTwo.run (init [97, 98] [1] false)) = some (97, 98) := by decide +kernel

/-- fixed b35c36c: stop word `$$`, input `$$` all at once and as `$` + `$` -/
theorem fixed_stopAt :
    outcome (pStop.run (init [36, 36] [] false [36, 36])) = some true ∧
    outcome (pStop.run (init [36, 36] [1] false [36, 36])) = some true := by decide +kernel

/-- fixed bc3fd85: five backslashes and `$` inside backquotes, all at once and split before `$` -/
theorem fixed_rune_bquote :
    outcome (pBquote.run (init [92, 92, 92, 92, 92, 36] [] false)) = some 36 ∧
    outcome (pBquote.run (init [92, 92, 92, 92, 92, 36] [5] false)) = some 36 := by decide +kernel

/-- fixed 5478a01: `a`; EOF by a separate read and together with the byte -/
theorem fixed_eofWith_pos :
    outcome (pEofPos.run (init [97] [] false)) = some 1 ∧
    outcome (pEofPos.run (init [97] [] true)) = some 1 := by decide +kernel

/-- `<`, 64 digits, `->` -/
def longRange : List Byte := 60 :: (List.replicate 64 49 ++ [45, 62])

/-- open finding C07-zshnumrange-long.  All at once: a numeric range glob; one byte at a time: not -/
theorem zshNum_long_sched_dep :
    outcome (pZsh.run (init longRange [] false)) = some true ∧
    outcome (pZsh.run (init longRange (List.replicate 70 1) false)) = some false := by decide +kernel

/-- `r := rune(); stop-word test; rune()` with stop word `$` on `$ab` -/
def pAfterStop : Prog Nat := .rune fun r => .stopAt r fun _ => .rune fun x => .ret x
/-- `rune(); errPass; nextPos()` on `abc` -/
def pPosAfterErr : Prog Int := .rune fun _ => .errPass (.pos fun o _ _ => .ret o)

/-- (a) after the stop word fired `fill` refuses to read: `rune` sees the bytes that happen to be
    buffered (`a` when read at once) or the end of input (one byte at a time) -/
theorem rune_after_stop_sched_dep :
    outcome (pAfterStop.run (init [36, 97, 98] [] false [36])) = some 97 ∧
    outcome (pAfterStop.run (init [36, 97, 98] [1, 1, 1] false [36])) = some runeEOF := by
  decide +kernel

/-- (b) after an error the cursor is parked at `len(p.bs)+1`: `nextPos` is the buffer length -/
theorem pos_after_error_sched_dep :
    outcome (pPosAfterErr.run (init [97, 98, 99] [] false)) = some 3 ∧
    outcome (pPosAfterErr.run (init [97, 98, 99] [1, 1, 1] false)) = some 1 := by
  decide +kernel

theorem client_sched_indep_fails : ¬ client_sched_indep_statement := by
  intro h
  have := h Bool pZsh longRange [] [] (List.replicate 70 1) false false
  rw [zshNum_long_sched_dep.1, zshNum_long_sched_dep.2] at this
  cases this

theorem prim_sched_indep_fails : ¬ prim_sched_indep_statement := by
  intro h
  -- the two states after one `rune()` over the long range, read at once and one byte at a time
  obtain ⟨v, s1, s2, e1, e2, hs⟩ :=
    rune_sched_indep ⟨LSt.init longRange [], R_init longRange [] false [] (by decide),
      R_init longRange (List.replicate 70 1) false [] (by decide), rfl⟩
  have hz := (h s1 s2 hs).2.2.2.1
  have a1 := zshNum_long_sched_dep.1
  have a2 := zshNum_long_sched_dep.2
  unfold pZsh at a1 a2
  simp only [Prog.run, e1, e2, bind_ok] at a1 a2
  -- returning `zshNumRange`'s answer as the result does not change the outcome
  have key (x : M (Bool × St)) : outcome (do let (b, s) ← x; pure (b, s)) = outcome x := by
    rcases x with _ | ⟨_, _⟩ <;> rfl
  rw [key] at a1 a2
  rw [a1, a2] at hz
  cases hz

/-! non-vacuity: the protocol is satisfiable by programs that use every lookahead primitive -/

/-- `rune; peekTwo; zshNumRange; rune; newLit(r); rune; endLit; stop-word test; nextPos` -/
def pDemo : Prog (Nat × Nat × Bool × List Byte × Bool × Int) :=
  .rune fun _ => .peekTwo fun _ y => .zshNum fun z => .rune fun r => .newLit r (.rune fun x =>
    .endLit fun l => .stopAt x fun st => .pos fun o _ _ => .ret (r, y, z, l, st, o))

example : InProtocol pDemo [92, 10, 195, 169, 120, 0, 121] [120, 121] := by
  unfold InProtocol; decide +kernel

example : (specRun pDemo (LSt.init [92, 10, 195, 169, 120, 0, 121] [120, 121])).1
    = (233, 169, false, [195, 169], false, 4) := by
  decide +kernel

example : Admissible pDemo [92, 10, 195, 169, 120, 0, 121] [120, 121] := by
  unfold Admissible; decide +kernel

/-- an admissible client that panics (under every schedule): `rune(); endLit()` without `newLit` -/
def pShortLit : Prog (List Byte) := .rune fun _ => .endLit fun l => .ret l

example : Admissible pShortLit [97] [] ∧ (specRunF pShortLit (LSt.init [97] [])).result = none := by
  unfold Admissible; decide +kernel

end ShVerif.Props.C07
