import ShVerif.Model.C14
import ShVerif.Gen.C14
import ShVerif.Proofs.C14
/-
  C14 — Walk and Preorder visit every node exactly once.

  First the obligations about the table regenerated from /repo/syntax/{walk,nodes}.go on every run
  (`decide` over the complete table); then generic theorems about `walk` for every table, every tree
  and every callback; last the two combined for the real table.
-/
namespace ShVerif.C14
open ShVerif.Gen.C14

/-- Node types for which Walk deliberately has no case: the parser never produces them
    (BraceExp only appears after expand.Braces / syntax.SplitBraces). -/
def notProduced : List String := ["BraceExp"]

/-- Every Walk case touches each exported Node-holding field of its type exactly once, with the
    right helper for lists/single fields and only self- or prefix-guards. -/
theorem walk_fields_complete :
    schema.all (fun ti => if ti.instrs.isSome then caseComplete ti else notProduced.contains ti.name) = true := by
  decide +kernel

/-- No child is walked after the node's own f(nil). -/
theorem walk_no_defer : schema.all noDefer = true := by
  decide +kernel

/-- The frame of Walk: entry check first, exactly one trailing f(nil), a panicking default,
    no case for a non-node type, nothing else. -/
theorem walk_frame :
    walkEntryCheck = true ∧ walkNilCalls = 1 ∧ walkFrameOther = [] ∧ walkDefault = "panic" ∧ extraCases = [] := by
  decide +kernel

/-- With a callback that always returns true, every node of a well-formed tree is entered
    exactly once (the entered ids are a permutation of all node ids) and Walk does not panic. -/
theorem walk_visits_once (tbl : Table) (nslots : Nat → Nat) (hc : TableComplete tbl nslots)
    (t : Tree) (hwf : wf tbl t = true) (hb : bounded nslots t = true) :
    (enters (walk tbl (fun _ => true) t)).Perm (allIds t) ∧ Ev.panic ∉ walk tbl (fun _ => true) t := by
  refine ⟨?_, nopanic_tree tbl _ t hwf⟩
  rw [← visible_true t]
  exact prune_tree tbl nslots hc _ t hwf hb

/-- For every callback: the nodes entered are exactly those whose proper ancestors were all kept
    (returning false at a node skips exactly its descendants). -/
theorem walk_prune (tbl : Table) (nslots : Nat → Nat) (hc : TableComplete tbl nslots)
    (keep : Nat → Bool) (t : Tree) (hwf : wf tbl t = true) (hb : bounded nslots t = true) :
    (enters (walk tbl keep t)).Perm (visible keep t) :=
  prune_tree tbl nslots hc keep t hwf hb

/-- For every callback the callbacks are well bracketed: each kept node's `f(nil)` comes exactly
    once, after all events of its children; a pruned node gets no `f(nil)`. -/
theorem walk_brackets (tbl : Table) (hnd : NoDefer tbl) (keep : Nat → Bool) (t : Tree)
    (hwf : wf tbl t = true) : wellBracketed keep (walk tbl keep t) = true := by
  have h := balanced_tree tbl hnd keep t hwf []
  unfold run at h
  unfold wellBracketed
  rw [h]; rfl

/-- Parent before children: the first event of a walk is the entry of the root. -/
theorem walk_parent_first (tbl : Table) (keep : Nat → Bool) (t : Tree) :
    (walk tbl keep t).head? = some (.enter t.id) := by
  cases t with
  | node ty id sl fl kids =>
    rw [walk_node]
    simp only [Tree.id]
    split
    · rfl
    · split <;> rfl

/-- Preorder yields a prefix of Walk's sequence and never more than the consumer asked for. -/
theorem preorder_prefix (tbl : Table) (t : Tree) (n : Nat) :
    preorder tbl t n <+: enters (walk tbl (fun _ => true) t) ∧ (preorder tbl t n).length ≤ n :=
  ⟨List.take_prefix _ _, List.length_take_le _ _⟩

/-- A schema whose cases are all complete gives a complete table. -/
theorem tableOf_complete (sch : List TypeInfo)
    (h : ∀ ti ∈ sch, ti.instrs.isSome → caseComplete ti = true) :
    TableComplete (tableOf sch) (nslotsOf sch) := by
  intro ty instrs htbl
  obtain ⟨ti, l, hty, hmem, hl, hres⟩ := tableOf_some sch ty instrs htbl
  have hcc := h ti hmem (by rw [hl]; rfl)
  unfold caseComplete at hcc
  simp only [hl, hres, Bool.and_eq_true] at hcc
  have hp := List.isPerm_iff.mp hcc.1
  simpa [nslotsOf, hty] using hp

theorem tableOf_noDefer (sch : List TypeInfo) (h : sch.all noDefer = true) : NoDefer (tableOf sch) := by
  intro ty instrs htbl i hi hop
  obtain ⟨ti, l, _, hmem, hl, hres⟩ := tableOf_some sch ty instrs htbl
  have hnd := List.all_eq_true.mp h ti hmem
  unfold noDefer at hnd
  unfold resolve at hres
  simp only [hl] at hnd hres
  obtain ⟨⟨op, f, g⟩, hx, hfx⟩ := mapM_some_mem _ l instrs hres i hi
  have hne := List.all_eq_true.mp hnd _ hx
  simp only [bne_iff_ne, ne_eq] at hne
  cases ho : opOfString op with
  | none => simp [ho] at hfx
  | some o =>
    simp only [ho, Option.some.injEq] at hfx
    subst hfx
    simp only at hop
    split at hop
    · cases hop
    · subst hop
      exact hne (opOfString_defer op ho)

/-- The property for the code as it is now: for every tree over the current node schema that is
    well-formed (what the harness checks of every tree the Go parser returns). -/
theorem real_walk_visits_once (t : Tree) (hwf : wf (tableOf schema) t = true)
    (hb : bounded (nslotsOf schema) t = true) :
    (enters (walk (tableOf schema) (fun _ => true) t)).Perm (allIds t)
      ∧ Ev.panic ∉ walk (tableOf schema) (fun _ => true) t
      ∧ ∀ keep, wellBracketed keep (walk (tableOf schema) keep t) = true
          ∧ (enters (walk (tableOf schema) keep t)).Perm (visible keep t) := by
  have hc : TableComplete (tableOf schema) (nslotsOf schema) :=
    tableOf_complete schema fun ti hti hs => by
      simpa only [hs, if_true] using List.all_eq_true.mp walk_fields_complete ti hti
  have hnd : NoDefer (tableOf schema) := tableOf_noDefer schema walk_no_defer
  obtain ⟨h1, h2⟩ := walk_visits_once _ _ hc t hwf hb
  exact ⟨h1, h2, fun keep => ⟨walk_brackets _ hnd keep t hwf, walk_prune _ _ hc keep t hwf hb⟩⟩

end ShVerif.C14
