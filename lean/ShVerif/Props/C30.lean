import ShVerif.Model.C30
import ShVerif.Gen.C30
import ShVerif.Expect.C30
import ShVerif.Proofs.C30
/-
  C30 — Runner reuse is equivalent to a fresh runner.

  Obligations about the tables regenerated from /repo/interp on every run (struct Runner,
  Runner.Reset, every write site of a Runner field), decided over the complete tables.
  `Reset` on the regenerated table only depends on the stable (configuration) fields.
  One Run per top-level statement vs one Run of the whole file (own small model, tied to the real
  Runner by the `file`/`incr` correspondence streams).
-/
namespace ShVerif.Props.C30
open ShVerif.C30 ShVerif.Gen.C30 ShVerif.Expect.C30

/-- Every field of the regenerated `Runner` struct is classified in `Expect/C30.lean` and `Reset`
    treats it as its class demands: zeroed fields are absent from the `*r = Runner{…}` literal and
    never given a value afterwards; restored fields take the matching `orig*` field, which is itself
    kept and was captured from that very field under `!r.didReset`; configuration fields keep their
    own value and are written before the literal only under `!r.didReset`; kept stores are emptied
    and re-seeded from settled fields only; rebuilt fields get a fresh value of settled fields.
    A new field that Reset neither zeroes nor the expectation classifies breaks this. -/
theorem reset_fields :
    runnerFields.all (fieldClassified expect reset) = true
      ∧ (expect.map (·.1)).all runnerFields.contains = true ∧ noDup (expect.map (·.1)) = true := by
  decide +kernel

/-- The frame of `Reset`: exactly one `Runner{…}` literal, assigned to `*r` (so every field not in
    it is zeroed), keyed by real fields without duplicates; no statement the scan did not
    understand; no method call on the runner before the literal and only `setVar`/`setVarString`
    after it. -/
theorem reset_frame : resetFrameOk reset allowedPostCalls = true := by
  decide +kernel

/-- The stable fields (`orig*`, handlers, `Env`, `tempDir`, `usedNew`) are written only by the
    constructors' literals, by `Reset` under `!r.didReset`, or by the closure of the matching
    RunnerOption; their address is never taken and no element of them is assigned.  The restored
    slice `Params` (which shares its backing array with `origParams`) is only ever replaced, never
    written element-wise. -/
theorem orig_stable :
    sites.all (fun s => !(isStable expect s.field || s.field = "*")
                          || siteOk optionSetters foreignWrites constructors s) = true
      ∧ sites.all (fun s => !aliasedRestored.contains s.field || s.kind = "assign" || s.kind = "literal") = true := by
  decide +kernel

/-- What `Run` does to the Runner on every call, besides running the node: it writes exactly
    `exit` (zeroed, unconditionally), `filename` and `lastExit` (`= r.exit`, unconditionally), calls
    `Reset` only under `!r.didReset`, and otherwise only `fillExpandConfig`, the node runners and
    `trapCallback`.  Every other field — loop control counts, options, traps, functions, aliases,
    parameters, directory — is left exactly as the previous call left it, which is what makes one
    `Run` per top-level statement equal to the whole-file loop (the model's `run` makes these
    three writes: `run_frame`).
    A new per-call reset of a field that a whole-file run keeps between statements breaks this. -/
theorem run_prologue :
    runWrites.all (fun w => (runWritesExpected.any fun x => x.1 = w.field) && w.op = "assign") = true
      ∧ runWritesExpected.all (fun x => runWrites.any fun w => w.field = x.1) = true
      ∧ (runWrites.filter fun w => w.field = "exit").all (fun w => w.guards = [] && w.val.kind = "fresh") = true
      ∧ (runWrites.filter fun w => w.field = "lastExit").all (fun w => w.guards = [] && w.val.kind = "self" && w.val.field = "exit") = true
      ∧ runCalls.all (fun c => runCallsExpected.contains c.name) = true
      ∧ (runCalls.filter fun c => c.name = "Reset").all (fun c => c.guards = ["notDidReset"]) = true := by
  decide +kernel

/-- Interpreting the regenerated Reset table symbolically (`resetSym`: the literal, then the
    writes after it), the observable value of every field after `Reset` (backing stores of emptied
    slices/maps dropped) is the same for any two runner states that agree on the stable fields —
    whatever history produced them, in particular a fresh runner's. -/
theorem reset_equiv (s1 s2 : AState) (h : ∀ f, isStable expect f = true → s1 f = s2 f) :
    ∀ f ∈ runnerFields, ((resetSym reset f).obs).eval s1 = ((resetSym reset f).obs).eval s2 := by
  have tbl : runnerFields.all (dependsOnlyOn reset (isStable expect)) = true := by decide +kernel
  intro f hf
  exact reset_congr reset (isStable expect) f (List.all_eq_true.mp tbl f hf) s1 s2 h

/-- nobody reads `$0`: neither the program, nor its EXIT traps, nor a trap already installed -/
def NoArg0 (ss : List Stmt) (s : St) : Prop :=
  ss.all (fun c => !usesArg0 c) = true ∧ s.trap.all (fun c => !usesArg0Simple c) = true

/-- "Running a file's top-level statements one Run call at a time, stopping once Exited reports
    true, gives the same output, variables and final status as running the whole file, except for
    the EXIT trap, which only a whole-file run triggers." -/
def IncrementalAt (name : String) (ss : List Stmt) (s0 : St) : Prop :=
  let w := runFile name ss s0
  let i := runIncr ss s0
  (i.exit.exiting = true → w.obs = i.obs)
  ∧ (i.exit.exiting = false →
      w.obs = (trapCallback i).obs ∧ w.exit.code = i.exit.code ∧ (i.trap = [] → w.obs = i.obs))

/-- the full statement: false of the model, and of the code, because of `$0` (see below) -/
def incremental_statement : Prop :=
  ∀ (name : String) (ss : List Stmt) (s0 : St), Fresh s0 → IncrementalAt name ss s0

theorem incremental_unnamed (ss : List Stmt) (s0 : St) (h : Fresh s0) : IncrementalAt "" ss s0 := by
  obtain ⟨hinv, hfn, hpro⟩ := fresh_inv h
  unfold IncrementalAt
  simp only
  rw [run_file_eq, hpro, runIncr_eq hinv hfn ss]
  cases ht : (fixLast (stmts s0 ss)).exit.exiting with
  | true =>
    -- exiting: both runs end with the trap
    rw [if_pos rfl, trapCallback_exit, ht]
    exact ⟨fun _ => rfl, nofun⟩
  | false =>
    -- the whole-file run is the statement-at-a-time run followed by the trap
    rw [if_neg nofun, ht]
    refine ⟨nofun, fun _ => ⟨rfl, by rw [trapCallback_exit], fun h0 => ?_⟩⟩
    unfold trapCallback
    rw [if_pos h0]

/-- The property, with the one extra hypothesis it needs: the file has no name, or nobody reads
    `$0`. -/
theorem incremental_partial (name : String) (ss : List Stmt) (s0 : St) (h : Fresh s0)
    (hn : name = "" ∨ NoArg0 ss s0) : IncrementalAt name ss s0 := by
  cases hn with
  | inl e => subst e; exact incremental_unnamed ss s0 h
  | inr hna =>
    have hu := incremental_unnamed ss s0 h
    have e := runFile_nf name ss s0 hna.1 hna.2
    have eo : (runFile name ss s0).obs = (runFile "" ss s0).obs := by rw [← e, obs_nf]
    have ec : (runFile name ss s0).exit.code = (runFile "" ss s0).exit.code := by rw [← e]; rfl
    unfold IncrementalAt at hu ⊢
    simp only at hu ⊢
    rw [eo, ec]
    exact hu

/-- a runner state between two `Run` calls: what `Run`'s own prologue does not establish itself -/
def Ready (s : St) : Prop := s.lastExit = .zero ∧ s.handlingTrap = false

/-- The per-call footprint of the model's `run`: running nothing changes exactly `exit`, `filename`
    and `lastExit` (the fields listed in `modelRunWrites`). -/
theorem run_frame (s : St) :
    run s none [] = { s with exit := .zero, filename := "", lastExit := .zero } := by
  simp [run, stmts, pro, fixLast, Exit.zero]

/-- The regenerated table of `Runner.Run` and the model agree on that footprint: the fields the real
    `Run` writes on every call are exactly the ones the model's prologue/epilogue write.  This is
    what lets `incremental_ready` drop two hypotheses: `exit` and `filename` need not be assumed of
    the starting state because `Run` itself establishes them at every call. -/
theorem run_prologue_model :
    runWrites.all (fun w => modelRunWrites.contains w.field) = true
      ∧ modelRunWrites.all (fun f => runWrites.any fun w => w.field = f) = true := by
  decide +kernel

/-- `incremental_partial` with the hypotheses about `exit` and `filename` discharged by the
    prologue (`run_frame` / `run_prologue_model`): for a non-empty file it suffices that the runner
    is between two calls (`lastExit` zero, not inside a trap — both `zeroed` by Reset,
    `reset_fields`).
    The remaining hypothesis `name = "" ∨ NoArg0` is the open finding C30-arg0-stmt-at-a-time. -/
theorem incremental_ready (name : String) (c : Stmt) (r : List Stmt) (s0 : St) (h : Ready s0)
    (hn : name = "" ∨ NoArg0 (c :: r) s0) : IncrementalAt name (c :: r) s0 := by
  have hf : Fresh (pro "" s0) := ⟨rfl, h.1, h.2, rfl⟩
  have hp := incremental_partial name (c :: r) (pro "" s0) hf hn
  have e1 : runFile name (c :: r) (pro "" s0) = runFile name (c :: r) s0 := rfl
  have e2 : runIncr (c :: r) (pro "" s0) = runIncr (c :: r) s0 := rfl
  unfold IncrementalAt at hp ⊢
  rw [e1, e2] at hp
  exact hp

/-- With a named file, `echo $0` prints the name in a whole-file run and "gosh" statement by
    statement (`Run` sets `r.filename` only for a `*syntax.File`): the full statement fails.
    Replayed on the Go code by corpus/C30-known.txt. -/
theorem incremental_counterexample : ¬ incremental_statement := by
  intro h
  have := (h "f.sh" [.simple .echo0] St.fresh ⟨rfl, rfl, rfl, rfl⟩).2 (by decide)
  exact absurd this.1 (by decide)

/-- The executable statement of the property used by the `specincr` stream (whole-file semantics
    without the end-of-file EXIT trap) is what the model's statement-at-a-time run observes. -/
theorem spec_incr (name : String) (ss : List Stmt) (s0 : St) (h : Fresh s0)
    (hn : name = "" ∨ NoArg0 ss s0) : specIncr name ss s0 = (runIncr ss s0).obs := by
  obtain ⟨hinv, hfn, hpro⟩ := fresh_inv h
  have red : specIncr name ss s0 = specIncr "" ss s0 := by
    cases hn with
    | inl e => rw [e]
    | inr hna => exact specIncr_nf name ss s0 hna.1 hna.2
  rw [red, runIncr_eq hinv hfn ss]
  unfold specIncr
  simp only
  rw [hpro]

example : Fresh St.fresh := ⟨rfl, rfl, rfl, rfl⟩

/-- the EXIT trap fires at the end of a whole-file run only; an `exit` fires it in both -/
example :
    (runFile "" [.trapExit [.echo "bye"], .simple (.echo "hi")] St.fresh).out = ["hi", "bye"]
    ∧ (runIncr [.trapExit [.echo "bye"], .simple (.echo "hi")] St.fresh).out = ["hi"]
    ∧ (runIncr [.trapExit [.echo "bye"], .simple (.exit (some 3)), .simple (.echo "no")] St.fresh).obs
        = ⟨["bye"], [], 3⟩ := by decide +kernel

/-- the stable set is a proper, non-empty part of the fields; states may differ elsewhere -/
example : isStable expect "origDir" = true ∧ isStable expect "Funcs" = false ∧ isStable expect "Dir" = false := by
  decide +kernel

end ShVerif.Props.C30
