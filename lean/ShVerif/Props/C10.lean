import ShVerif.Proofs.C10
import ShVerif.Gen.C10
/-
  C10 — parse errors are well-formed and incompleteness is reported.

  Proved here (about the model of posErr / Parser.Incomplete / doHeredocs / Parser.next /
  postNested that the harness ties to the parser, and about tables regenerated from the source on
  every run):
   * the decision: an error is Incomplete iff it is raised at EOF while a statement/word bracket is
     open or a literal is being collected;
   * here-document bodies: every cut inside a body is Incomplete, for all delimiter forms and
     whoever calls doHeredocs (it brackets itself since a243c26); bodies with their stop line close;
   * scheduling: the bodies are read at the newline ending the `<<` line or, when that newline was
     lexed inside a preNested region (`[[ … ]]`, `let …`), at the postNested that follows it; every
     cut after a line with a pending here-document is Incomplete (`heredoc_cut_incomplete`, the
     full statement, which was refuted before a243c26);
   * error_sites: every call that creates a ParseError/LangError takes its position from the
     token position, `nextPos()`, a node's Pos()/End(), a Pos field of a node, or a parameter that
     every caller fills in the same way.
  The all-programs statement (every construct, every cut, every error offset) is the harness's
  search leg.
-/
namespace ShVerif.C10

theorem err_incomplete_iff (s : PState) :
    s.errIncomplete = true ↔ s.tok = .eof ∧ (s.openNodes > 0 ∨ s.litLen > 0) := by
  simp only [PState.errIncomplete, PState.incomplete, Bool.and_eq_true, Bool.or_eq_true,
    beq_iff_eq, decide_eq_true_eq]

/-- An error raised at EOF anywhere inside a `stmts`/`wordParts` bracket is Incomplete. -/
theorem bracket_eof_incomplete (depth lit : Nat) (h : depth > 0) :
    (inBrackets .eof depth lit).errIncomplete = true :=
  (err_incomplete_iff _).2 ⟨rfl, Or.inl h⟩

/-- An error raised at EOF while a literal is being collected is Incomplete. -/
theorem literal_eof_incomplete (depth lit : Nat) (h : lit > 0) :
    (inBrackets .eof depth lit).errIncomplete = true :=
  (err_incomplete_iff _).2 ⟨rfl, Or.inr h⟩

/-- An error raised at any token other than EOF is never Incomplete. -/
theorem not_eof_not_incomplete (s : PState) (h : s.tok ≠ .eof) : s.errIncomplete = false :=
  Bool.eq_false_iff.2 fun hi => h ((err_incomplete_iff s).1 hi).1

/-- … and neither is one raised at EOF by the entry point itself, after `stmts` has returned. -/
theorem toplevel_eof_not_incomplete : (inBrackets .eof 0 0).errIncomplete = false := by decide

/-- The scanners alone: a body prefix without the stop line, scanned from a state with an open
    bracket, is reported as an *incomplete* error — all delimiter forms. -/
theorem scan_prefix_incomplete (quoted tabs : Bool) (stop : Bytes) (s : PState)
    (lines : List Bytes) (h : ∀ l ∈ lines, (if tabs then stripTabs l else l) ≠ stop)
    (hctx : s.openNodes > 0) :
    scan true quoted tabs stop s lines = .unclosedErr true := by
  unfold scan
  cases quoted
  · rw [if_neg Bool.false_ne_true, scanUnquoted_unclosed tabs stop s lines h]
    exact congrArg _ ((err_incomplete_iff _).2 ⟨rfl, Or.inl hctx⟩)
  · rw [if_pos rfl, scanQuoted_unclosed tabs stop s lines h]
    exact congrArg _ ((err_incomplete_iff _).2 ⟨rfl, Or.inl hctx⟩)

/-- The property's demand on this mechanism, at full strength: every prefix of a here-document
    body that does not contain the stop line is reported by doHeredocs as an *incomplete* error —
    any delimiter quoting, with or without tab stripping, ANY caller state (inside a statement, or
    the entry point after the last statement). -/
theorem heredoc_prefix_incomplete (quoted tabs : Bool) (stop : Bytes) (s : PState)
    (lines : List Bytes) (h : ∀ l ∈ lines, (if tabs then stripTabs l else l) ≠ stop) :
    readBody quoted tabs stop s lines = .unclosedErr true :=
  scan_prefix_incomplete quoted tabs stop _ lines h (Nat.succ_pos _)

/-- A quoted body of which at least one line has been read is incomplete already by the
    unterminated literal (`len(litBs) > 0`), whatever the brackets. -/
theorem quoted_body_incomplete (tabs : Bool) (stop : Bytes) (s : PState) (l : Bytes)
    (lines : List Bytes) (h : ∀ x ∈ l :: lines, (if tabs then stripTabs x else x) ≠ stop) :
    scan true true tabs stop s (l :: lines) = .unclosedErr true := by
  unfold scan
  rw [if_pos rfl, scanQuoted_unclosed tabs stop s (l :: lines) h]
  refine congrArg _ ((err_incomplete_iff _).2 ⟨rfl, Or.inr (litBytes_pos fun h0 => ?_)⟩)
  cases List.reverse_eq_nil_iff.1 h0

/-- Before a243c26 doHeredocs did not bracket itself: a body read by `Parse` itself at the end of
    the input (no bracket open, nothing read) gave an error that was NOT incomplete — `cat <<E \`
    NEWLINE, `cat <<E; [[ a ]]` NEWLINE (regression theorem about the bare scanners). -/
theorem pinned_toplevel_heredoc_not_incomplete :
    scan true false false [69] (inBrackets .eof 0 0) [] = .unclosedErr false := by
  decide

/-- … and is incomplete now: the entry point's own call, nothing read, any delimiter form. -/
theorem entry_point_heredoc_incomplete (quoted tabs : Bool) (stop : Bytes) :
    readBody quoted tabs stop (inBrackets .eof 0 0) [] = .unclosedErr true :=
  heredoc_prefix_incomplete quoted tabs stop _ [] (fun _ h => nomatch h)

/-- A body containing its stop line closes, and the lines before it are the body. -/
theorem heredoc_closes (quoted tabs : Bool) (stop : Bytes) (s : PState) (pre post : List Bytes)
    (stopLine : Bytes) (hs : (if tabs then stripTabs stopLine else stopLine) = stop)
    (h : ∀ l ∈ pre, (if tabs then stripTabs l else l) ≠ stop) :
    ∃ body, scan true quoted tabs stop s (pre ++ stopLine :: post) = .closed body ∧ body.length = pre.length := by
  refine ⟨((pre.map fun l => if tabs then stripTabs l else l).reverse ++ []).reverse, ?_, ?_⟩
  · unfold scan
    cases quoted
    · rw [if_neg Bool.false_ne_true, scanUnquoted_skip tabs stop s pre _ [] h, scanUnquoted, if_pos hs]
    · rw [if_pos rfl, scanQuoted_skip true tabs stop s pre _ [] h, scanQuoted, if_pos hs]
  · rw [List.length_reverse, List.length_append, List.length_reverse, List.length_map]
    rfl

/-- Before fix d47bd94 a quoted here-document cut inside its body gave an error that was NOT
    incomplete — `cat <<'EOF'` + `foo`, read from inside the statement. -/
theorem pinned_quoted_heredoc_not_incomplete :
    scan false true false [69, 79, 70] (inBrackets .newl 1 0) [[102, 111, 111]] = .unclosedErr false := by
  decide

theorem newline_fires_iff (s : LSt) : (step s .newl).fired = true ↔ (s.fired = true ∨ s.pending > s.buried) := by
  simp only [step, LSt.newlineFires]
  by_cases h : s.pending > s.buried <;> simp [h]

/-- postNested right after a newline token that was lexed while the here-documents were buried
    reads the bodies (`cat <<E; [[ a ]]` NEWLINE: testClause lexes the newline, then postNested). -/
theorem leave_after_buried_newline_fires (s : LSt) (b : Nat) (r : List Nat)
    (hs : s.saved = b :: r) (hp : s.pending > b) :
    (step (step s .newl) .leave).fired = true := by
  by_cases h : s.pending > s.buried
  · simp [step, LSt.newlineFires, h, hs]
    split <;> simp
  · simp [step, LSt.newlineFires, h, hs, hp]

/-- items that neither open nor close a preNested region nor end the line -/
def flat : Item → Bool
  | .hdoc | .tok => true
  | _ => false

theorem flat_keeps (s : LSt) (post : List Item) (hp : post.all flat = true) (h : s.pending > s.buried) :
    (post.foldl step s).pending > (post.foldl step s).buried ∧ (post.foldl step s).buried = s.buried := by
  induction post generalizing s with
  | nil => exact ⟨h, rfl⟩
  | cons i is ih =>
    rw [List.all_cons, Bool.and_eq_true] at hp
    cases i with
    | hdoc => exact ih (step s .hdoc) hp.2 (Nat.lt_succ_of_lt h)
    | tok => exact ih (step s .tok) hp.2 h
    | enter | leave | newl => cases hp.1

/-- A line whose `<<` is followed only by ordinary tokens (and further `<<`) up to its newline reads
    its bodies at that newline, whatever came before the `<<` (inside `$(`, `{`, `if` …). -/
theorem flat_tail_fires (pre post : List Item) (hp : post.all flat = true) :
    lineFires (pre ++ .hdoc :: post ++ [.newl]) = true := by
  unfold lineFires runLine
  rw [List.foldl_append, List.foldl_append, List.foldl_cons]
  -- before the `<<` nothing is buried that is not pending; the `<<` makes the inequality strict
  have hk := flat_keeps (step (runLine pre) .hdoc) post hp (Nat.lt_succ_of_le (runLine_wf pre).1)
  exact (newline_fires_iff _).2 (Or.inr hk.1)

/-- The property's demand on this mechanism, at full strength (refuted by
    `cat <<E; [[ a = b ]]` NEWLINE before a243c26): every cut after a line holding a `<<` whose
    body has not ended — right after that line or after any number of further lines — is reported
    as incomplete, for every shape of the line. -/
theorem heredoc_cut_incomplete (items : List Item) (quoted : Bool) (stop : Bytes) (body : List Bytes)
    (hb : ∀ l ∈ body, l ≠ stop) (hd : ∃ b, prefixFlag items quoted stop body = some b) :
    prefixFlag items quoted stop body = some true := by
  -- whichever call of doHeredocs reads the (rest of the) body, it reports it as incomplete
  have key : ∀ (s : PState) (ls : List Bytes), (∀ l ∈ ls, l ≠ stop) →
      readBody quoted false stop s ls = .unclosedErr true :=
    fun s ls h => heredoc_prefix_incomplete quoted false stop s ls h
  obtain ⟨b0, hd⟩ := hd
  unfold prefixFlag at hd ⊢
  by_cases hf : (runLine items).fired = true
  · simp [hf, key _ body hb]
  · by_cases hp : (runLine items).pending = 0
    · simp [hf, hp] at hd
    · cases body with
      | nil => simp [hf, hp, key _ [] (by simp)]
      | cons l rest =>
        have hr : ∀ x ∈ rest, x ≠ stop := fun x hx => hb x (by simp [hx])
        simp [hf, hp, key _ rest hr]

/-- `cat <<E; [[ a = b ]]` + newline + EOF: the newline token is lexed by `gotRsrv("]]")` while the
    here-document is buried; the postNested that follows reads the body — incomplete (it was a hard
    error before a243c26: finding C10-heredoc-buried-newline, fixed). -/
theorem buried_newline_incomplete :
    lineFires [.tok, .hdoc, .tok, .enter, .tok, .tok, .tok, .tok, .newl, .leave] = true
    ∧ prefixFlag [.tok, .hdoc, .tok, .enter, .tok, .tok, .tok, .tok, .newl, .leave] false [69] [] = some true := by
  decide

/-- non-vacuity: the ordinary `cat <<E` + newline, cut before the body; `<<-'E'` with a body; a
    line with a pending here-document whose buried newline is not followed by postNested -/
example : prefixFlag [.tok, .hdoc, .newl] false [69] [] = some true := by decide
example : prefixFlag [.tok, .hdoc, .tok, .enter, .tok, .leave, .newl] true [69] [[9, 120]] = some true := by decide
example : prefixFlag [.tok, .hdoc, .tok, .enter, .tok, .newl] false [69] [] = some true := by decide
example : readBody true true [69] (inBrackets .newl 1 0) [[9, 120], [9, 9, 121]] = .unclosedErr true := by decide

open ShVerif.Gen.C10 in
/-- position sources that are lexer or node positions by themselves -/
def basicOK : Gen.C10.Origin → Bool
  | ("sel", "p", "pos") => true                       -- position of the current token
  | ("pcall", _, "nextPos") => true                   -- position of the next rune
  | ("method", _, n) => n == "Pos" || n == "End"      -- a node's position
  | ("sel", _, f) => Gen.C10.posFields.contains f     -- a Pos field of a node (or the parser's own `pos`)
  | ("zero", _, _) => true                            -- Pos{}: invalid, never inside-or-outside anything
  | ("global", _, "recoveredPos") => true             -- the RecoverErrors marker, invalid as well
  | _ => false

/-- a Pos-returning Parser method all of whose returns are basic (or results of such a method) -/
def resultOK (fuel : Nat) (name idx : String) : Bool :=
  match fuel with
  | 0 => false
  | fuel + 1 =>
    match Gen.C10.returns.find? (fun r => r.1 == name && toString r.2.1 == idx) with
    | none => false
    | some (_, _, os) =>
      !os.isEmpty && os.all fun o =>
        basicOK o || (match o with
          | ("result", i, n) => resultOK fuel n i
          | _ => false)

def originOK (fn : String) (o : Gen.C10.Origin) : Bool :=
  basicOK o ||
  (match o with
   | ("param", _, n) => Gen.C10.forwarders.contains (fn, n)   -- handed on: every call of `fn` is a site itself
   | ("result", i, n) => resultOK 3 n i
   | _ => false)

/-- Every call that creates (or forwards to the creation of) a ParseError/LangError takes its
    position from the current token, `nextPos()`, a node, a Pos field, or a parameter of a function
    all of whose calls are sites of this table; and there is no other way to create one:
    the two composite literals live in posErr/checkLang and use their position parameter,
    `errPass` is called by those two only, `p.err` is otherwise assigned by fill (read errors),
    reset and errPass. -/
theorem error_sites :
    Gen.C10.sites.all (fun s => !s.2.2.2.isEmpty && s.2.2.2.all (originOK s.1)) = true
    ∧ Gen.C10.creators = [("Parser.posErr", "ParseError", 0), ("Parser.checkLang", "LangError", 0)]
    ∧ Gen.C10.errPassCallers = ["Parser.posErr", "Parser.checkLang"]
    ∧ Gen.C10.errAssigns.all (fun f => ["Parser.fill", "Parser.reset", "Parser.errPass"].contains f) = true := by
  decide +kernel

/-- non-vacuity: the table is not empty and uses every kind of source -/
theorem error_sites_nonvacuous :
    Gen.C10.sites.length ≥ 100
    ∧ ["sel", "pcall", "method", "param", "result"].all (fun k =>
        Gen.C10.sites.any fun s => s.2.2.2.any fun o => o.1 == k) = true := by
  decide +kernel

/-- The obligation of the byte-source layer L2, stated here without importing anything, for an
    abstract relation `handsOut input off` = "some run of the lexer primitives over `input` (any
    read schedule, any client respecting the protocol) yields a position with offset `off`": every
    such offset is at most the number of input bytes.  Together with `error_sites` (every error
    position is such a position, a node position built from them, or invalid) this is the position
    clause of C10.  Props/C10L2.lean instantiates it with C07's model and proves it:
    `error_pos_in_input` (positions taken by the client: `l2HandsOut`) and `error_pos_in_input_all`
    (those plus the offset of the "invalid UTF-8 encoding" error raised inside `rune`). -/
def error_pos_in_input_statement (handsOut : List UInt8 → Nat → Prop) : Prop :=
  ∀ (input : List UInt8) (off : Nat), handsOut input off → off ≤ input.length

end ShVerif.C10
