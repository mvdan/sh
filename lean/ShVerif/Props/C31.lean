import ShVerif.Model.C31
import ShVerif.Gen.C31
import ShVerif.Expect.C31
import ShVerif.Proofs.C31
/-
  C31 — Cancelling the context stops any program promptly.

  The logical part, on the skeleton model: once the context is cancelled no further atomic command
  starts, every program (infinite loops included) ends, and the work still done is bounded by the
  size of the program, however many iterations its loops have left.  For every program, every
  oracle and every cancellation schedule (after any number of model steps, or while any atom runs).
  Then obligations about the tables regenerated from /repo/interp on every run: every blocking
  operation of the package is classified, the unreleased ones are exactly the known findings, the
  wait-for closure; where stop() and the context are consulted.
  Wall-clock latency is measured by the harness, not proved.
-/
namespace ShVerif.Props.C31
open ShVerif.C31 ShVerif.Gen.C31 ShVerif.Expect.C31

/-- Once `cancelled` holds, `stmt`/`cmd`/`call` return without executing another atomic command:
    whatever the program, it leaves the log of executed atoms unchanged (and the context stays
    cancelled). -/
theorem no_atom_after_cancel (e : Env) (f : Nat) (sk : Sk) (st st' : St)
    (hc : cancelled e st = true) (h : exec e f sk st = some st') :
    st'.log = st.log ∧ cancelled e st' = true :=
  let ⟨c, l, _⟩ := (exec_run h).of_cancelled hc
  ⟨l, c⟩

/-- The first stop check after cancellation records the fatal error (`r.exit.fatal(ctx.Err())`),
    and nothing later clears it: `Run` returns the context's error. -/
theorem cancel_is_recorded (e : Env) (f : Nat) (sk : Sk) (st st' : St)
    (hu : userLevel sk = true) (hc : cancelled e st = true) (h : exec e f sk st = some st') :
    st'.fatal = true ∧ st'.ok = false :=
  let ⟨_, _, d⟩ := (exec_run h).of_cancelled hc
  let hd := d (Or.inl (userLevel_wf sk hu).2)
  ⟨hd.2, hd.1⟩

/-- A cancelled run never reports success (7cff692): if the context is cancelled when the program
    ends, `Run` returns the context's error unless the last command itself failed (then that
    failure status is returned) — also when the cancellation struck during the very last command,
    after which no stop check follows. -/
theorem cancel_never_success (e : Env) (st' : St) (hc : cancelled e st' = true) :
    reported e st' = true ∨ st'.ok = false := by
  cases h : st'.ok <;> simp [reported, hc, h]

/-- Bounded unwind: for every program, oracle and schedule — cancellation may strike anywhere in
    the run — the number of model steps taken while the context is cancelled is at most `unwind sk`,
    which no longer depends on how many iterations any loop has left: every loop contributes its
    body once plus a constant (`while`/`until` leave at the loop head, the word-list `for` at the
    top of its next iteration since 7ead8d8, the C-style `for` through `!r.exit.ok()`), plus one
    step per enclosing construct.  (Before 7ead8d8 the bound had the term Σ remaining word-list
    items × body: the loop walked through everything that was left.) -/
theorem bounded_unwind (e : Env) (f : Nat) (sk : Sk) (st st' : St)
    (hw : wf sk = true) (h : exec e f sk st = some st') :
    st'.after ≤ st.after + unwind sk :=
  (exec_run h).after_bound hw

/-- Once cancelled, every program ends: `depth sk` levels of recursion suffice, although the same
    program may run forever (exhaust any fuel) without cancellation. -/
theorem cancel_terminates (e : Env) (sk : Sk) (st : St) (f : Nat)
    (hw : wf sk = true) (hc : cancelled e st = true) (hf : depth sk ≤ f) :
    ∃ st', exec e f sk st = some st' ∧ st'.log = st.log ∧ st'.after ≤ st.after + unwind sk := by
  obtain ⟨st', h⟩ := exec_terminates e f sk st hw hc hf
  exact ⟨st', h, ((exec_run h).of_cancelled hc).2.1, (exec_run h).after_bound hw⟩

/-- what the harness generates is well formed -/
theorem user_programs_wf (sk : Sk) (h : userLevel sk = true) : wf sk = true :=
  (userLevel_wf sk h).1

/-! non-vacuity: an infinite loop runs out of any fuel we try, is stopped by cancellation, and a
    word-list `for` stops at the top of its next iteration -/

def spin : Sk := .whileL false (.atom 1) (.atom 2)
def never : Env := { cancelAt := 1000000, cancelAtom := 1000000, oracle := fun _ => true }
def atThird : Env := { never with cancelAtom := 3 }

example : exec never 200 spin St.init = none := by decide +kernel
example : (exec atThird 200 spin St.init).map (·.log.reverse) = some [1, 2, 1] := by decide +kernel
example : (exec atThird 200 (.forW 5 (.atom 7)) St.init).map (fun s => (s.log.reverse, s.items, s.after))
    = some ([7, 7, 7], 3, 2) := by decide +kernel
/-- the bound does not grow with the number of items -/
example : userLevel spin = true ∧ unwind (.forW 5 (.atom 7)) = 4 ∧ unwind (.forW 100000 (.atom 7)) = 4 := by decide

/-- Every blocking operation found in package interp (channel receive, select, Wait, io.Copy, Read,
    OpenFile, Scanner.Scan, ReadPassword, Parse of a file, writes) has an entry in the expectation,
    and every entry still exists: a new or moved blocking operation breaks this. -/
theorem blocking_sites :
    blocks.all (fun b => (expected.any fun x => x.key = b.key)) = true
      ∧ expected.all (fun x => (blocks.any fun b => b.key = x.key)) = true
      ∧ blocks.length = expected.length := by
  decide +kernel

/-- The operations that nothing releases after cancellation are exactly the two FIFO opens of a
    process substitution (`mapfile`'s scanner is deadline-aware since 5c04a9d). -/
theorem blocking_unreleased :
    (expected.filter fun x => x.rel = .unreleased).map (·.key) = unreleasedKeys := by
  decide +kernel

/-- Wait-for closure.  Leaving the known FIFO opens aside, no operation and no activity can
    stay blocked once the context is cancelled: each is deadline-aware, context-aware, blocked on
    caller-supplied I/O only, or waits for peers that end.  With them, `wait`'s receive on
    `bg.done` is among the stuck operations (a process substitution nobody opens never ends, so
    `wait` never returns — DESIGN §6). -/
theorem wait_for_graph :
    stuck (expected.filter fun x => x.rel ≠ .unreleased) peers = []
      ∧ (stuck expected peers).contains "Runner.builtin|chan-recv|bg.done" = true
      ∧ (stuck expected peers).contains "bgjob" = true :=
  -- the first part holds of any table (`stuck_eq_nil`): nothing but an unreleased operation seeds
  -- the closure; what the table decides is the second part
  ⟨stuck_eq_nil _ (by simp), by decide +kernel⟩

/-- `Runner.stop` is consulted exactly where the skeleton model puts its checks (stmt, cmd entry,
    while-loop head and word-list `for` iteration, call), and the context is looked at only by
    `stop`, `readLine`'s AfterFunc and the exec handler. -/
theorem stop_sites :
    (ShVerif.Gen.C31.ctxUses.filter fun x => x.2.1 = "stop-call") = stopCalls
      ∧ (ShVerif.Gen.C31.ctxUses.filter fun x => x.2.1 ≠ "stop-call").all ShVerif.Expect.C31.ctxUses.contains = true
      ∧ ShVerif.Expect.C31.ctxUses.all ShVerif.Gen.C31.ctxUses.contains = true
      -- no `Fd()` call can reach a pipe or regular file (each is behind a ModeCharDevice test, d41cde1):
      -- the only thing left that switches the runner's stdin to blocking mode is os/exec (`exec-stdin`)
      ∧ ShVerif.Gen.C31.ctxUses.all (fun x => x.2.1 ≠ "Fd-call") = true := by
  decide +kernel

/-- Context capture.  The command- and process-substitution callbacks stored in `r.ecfg` are
    long-lived closures.  Either every one of them reads the context through the Runner field that
    `Run` refreshes (`r.ectx`), or — what the code does — they capture the `ctx` parameter of the
    `fillExpandConfig` call that built them, and then `Run` must rebuild them on every call:
    exactly one call of `fillExpandConfig` in `Run`, unconditional, passing `Run`'s own context
    parameter; every other caller passes the refreshed field.  Making the call conditional (reusing
    an existing `r.ecfg`) would leave a reused Runner's substitutions on a stale context that the
    caller can no longer cancel. -/
theorem ctx_capture :
    (callbackCtx.any fun x => x.2.1 = "CmdSubst") = true
      ∧ (callbackCtx.any fun x => x.2.1 = "ProcSubst") = true
      ∧ (callbackCtx.all (fun x => x.2.2 = "field:ectx")
          || ((fillCalls.filter fun x => x.1 = "Runner.Run") = [("Runner.Run", false, "param")]
              && (fillCalls.filter fun x => x.1 ≠ "Runner.Run").all (fun x => x.2.2 = "field:ectx"))) = true := by
  decide +kernel

end ShVerif.Props.C31
