/-
  C01 — Formatting preserves program structure: property theorems on the L4 model, fragment F0
  (literal words over a safe alphabet, single quotes, simple commands, lists, `&&` `||` `|` `!`
  `&`, subshell, block), every printer option except KeepPadding.
-/
import ShVerif.Proofs.L4PrintGen
import ShVerif.Proofs.L4ParseWF
import ShVerif.Proofs.L4Fuel
import ShVerif.Proofs.L4Flat
import ShVerif.Proofs.L4PosFirst
import ShVerif.Proofs.L4LexLines
namespace ShVerif.Props.C01
open ShVerif ShVerif.L4

deriving instance DecidableEq for Except

/-- The documented refusal: Minify together with SingleLine is an error, for every node kind. -/
theorem print_refuses (o : Opts) (h : o.minify = true ∧ o.singleLine = true) (f : File) (s : Stmt) (c : Cmd) (w : Word) :
    printFile o f = .error .minifySingleLine ∧ printStmt o s = .error .minifySingleLine ∧
    printCmd o c = .error .minifySingleLine ∧ printWord o w = .error .minifySingleLine := by
  have hr : refuse o = true := by simp [refuse, h.1, h.2]
  refine ⟨?_, ?_, ?_, ?_⟩
  · unfold printFile; rw [if_pos hr]
  · unfold printStmt; rw [if_pos hr]
  · unfold printCmd; rw [if_pos hr]
  · unfold printWord; rw [if_pos hr]

/-- Printing a well-formed fragment tree never fails (no Go panic: `levelIncs` stays balanced,
    no empty word or call is indexed) unless the documented refusal applies; for every option
    set and every assignment of positions. -/
theorem print_total (o : Opts) (hr : refuse o = false) (f : File) (hw : f.wf = true) :
    ∃ b, printFile o f = .ok b := by
  unfold printFile
  simp only [hr, Bool.false_eq_true, ↓reduceIte]
  exact ⟨_, (((Inv.init o).stmtList f.stmts hw).newline 0).finish⟩

/-- The same for a statement printed on its own. -/
theorem print_total_stmt (o : Opts) (hr : refuse o = false) (s : Stmt) (hw : s.wf = true) :
    ∃ b, printStmt o s = .ok b := by
  unfold printStmt
  simp only [hr, Bool.false_eq_true, ↓reduceIte]
  have : (Stmts.cons s .nil).wf = true := by unfold Stmts.wf; simp [hw, Stmts.wf]
  exact ⟨_, ((Inv.init o).stmtList _ this).finish⟩

/-- The same for a command printed on its own. -/
theorem print_total_cmd (o : Opts) (hr : refuse o = false) (c : Cmd) (hw : c.wf = true) :
    ∃ b, printCmd o c = .ok b := by
  unfold printCmd
  simp only [hr, Bool.false_eq_true, ↓reduceIte]
  exact ⟨_, (Inv.command c 0 _ (⟨rfl, rfl⟩ : Inv 0 { (P.init o) with firstLine := false }) hw).finish⟩

/-- The same for a word printed on its own. -/
theorem print_total_word (o : Opts) (hr : refuse o = false) (w : Word) (hw : w.wf = true) :
    ∃ b, printWord o w = .ok b := by
  unfold printWord
  simp only [hr, Bool.false_eq_true, ↓reduceIte]
  obtain ⟨pos, hpos⟩ := Word.wf_pos hw
  rw [hpos]
  exact ⟨_, (Inv.word (n := 0) (p := { (P.init o) with line := pos.line }) ⟨rfl, rfl⟩ w hw).finish⟩

/-! ## Round trip -/

/-- The full statement: every option set (KeepPadding is not in the model), every assignment of
    positions.  It is false of the model: with positions no parser assigns the printer glues two
    parentheses (see `roundtrip_fails_positions`), so it stays a definition; the theorems below
    give the parts that hold.  (The SingleLine defect that used to refute it for parser-assigned
    positions — `{ a & }` NEWLINE `b` printed `{ a & } b`, known finding
    C01-single-missing-semicolon — is repaired in the code and in the model: `singleLine_repaired`.) -/
def roundtrip_statement : Prop :=
  ∀ (o : Opts) (l : Lang) (f : File) (b : Bytes), f.wf = true → printFile o f = .ok b →
    ∃ f', parse l b = .ok f' ∧ f'.norm = f.norm

private def w1 (line : Nat) (s : String) : Word := ⟨[.lit ⟨0, line, 1⟩ ⟨1, line, 2⟩ (bytesOfString s)]⟩

/-! ### The repaired SingleLine defect (fixed finding C01-single-missing-semicolon) -/

/-- `{ a & }` NEWLINE `b` -/
def singleLineWitness : File :=
  ⟨.cons (.mk ⟨0, 1, 1⟩ Pos.zero false false
      (.block ⟨0, 1, 1⟩ ⟨6, 1, 7⟩ (.cons (.mk ⟨2, 1, 3⟩ ⟨4, 1, 5⟩ false true (.call [w1 1 "a"])) .nil)))
    (.cons (.mk ⟨8, 2, 1⟩ Pos.zero false false (.call [w1 2 "b"])) .nil)⟩

/-- SingleLine now prints `{ a & }; b`: `stmtEnd` clears `wroteSemi` when the statement itself
    writes no terminator, so the `&` inside the block no longer suppresses the `;`. -/
theorem singleLine_repaired :
    printFile { singleLine := true } singleLineWitness = .ok (bytesOfString "{ a & }; b\n") := by
  decide +kernel

/-- … and that output parses back to the same tree -/
theorem singleLine_repaired_roundtrip :
    (match parse .bash (bytesOfString "{ a & }; b\n") with
      | .ok f => f.norm.beq singleLineWitness.norm
      | .error _ => false) = true := by
  decide +kernel

/-- the parser answers with a syntax error -/
def isSyntaxError : Except ParseErr File → Bool
  | .error (.syntax _) => true
  | _ => false

/-! ### Arbitrary positions: the all-positions statement is false -/

/-- `( (a) )` whose outer parenthesis claims line 5 and whose inner statement claims line 3 -/
def scrambledWitness : File :=
  ⟨.cons (.mk ⟨0, 5, 1⟩ Pos.zero false false
      (.subshell ⟨0, 5, 1⟩ ⟨6, 5, 7⟩ (.cons (.mk ⟨2, 3, 3⟩ Pos.zero false false
         (.subshell ⟨2, 3, 3⟩ ⟨4, 3, 5⟩ (.cons (.mk ⟨3, 3, 4⟩ Pos.zero false false (.call [w1 3 "a"])) .nil))) .nil))) .nil⟩

/-- The printer writes `((a) )`: `subshellOpen` sees the inner statement on another line than
    `(` and counts on a line break, which `newlines` does not make because the line is earlier. -/
theorem scrambled_output : printFile {} scrambledWitness = .ok (bytesOfString "((a) )\n") := by
  decide +kernel

def isOk : Except ParseErr File → Bool
  | .ok _ => true
  | _ => false

/-- `((` starts an arithmetic command in Bash; the model parser leaves the fragment -/
theorem scrambled_output_rejected : isOk (parse .bash (bytesOfString "((a) )\n")) = false := by
  decide +kernel

/-- Hence the all-positions statement is false; `posMono` below is the hypothesis that excludes
    such trees (the parser never builds them). -/
theorem roundtrip_fails_positions : ¬ roundtrip_statement := by
  intro h
  obtain ⟨f', hf', _⟩ := h {} .bash scrambledWitness _ (by decide +kernel) scrambled_output
  have := scrambled_output_rejected
  rw [hf'] at this
  cases this


/-! ## `Prints`: the concrete syntaxes of a tree, and the parser on them

  `Prints t b` says that `b` is *a* concrete syntax of the tree `t`: `b` is the rendering of a list
  of pieces (words, operators, layout) in which no piece glues with its neighbour (`lexChain`),
  and whose token sequence is that of a valid layout of a tree with the same norm as `t` — any
  choice of `;` / newline separators, blanks, tabs, escaped newlines, blank lines, optional
  newlines after `(`, `{`, `&&`, `||`, `|`.  It does not mention the printer or its options. -/

def Prints (t : File) (b : Bytes) : Prop :=
  ∃ (ps : List Piece) (nl0 : Bool) (lt : LStmts),
    b = render ps ∧ lexChain ps = true ∧ lt.valid = true ∧
    expect false ps = nlT nl0 ++ (lt.toks ++ [.eof]) ∧ lt.norm = t.norm

/-- The parser half of the round trip, for every language variant: any concrete syntax of `t`
    (not only the layouts today's printer chooses) parses to a tree with the same norm. -/
theorem parse_of_Prints (l : Lang) (t : File) (b : Bytes) (h : Prints t b) :
    ∃ t', parse l b = .ok t' ∧ t'.norm = t.norm := by
  obtain ⟨ps, nl0, lt, rfl, hc, hv, he, hn⟩ := h
  have hm := lexAll_pieces ps hc
  rw [he] at hm
  obtain ⟨f, h1, h2⟩ := parseToks_layout lt hv nl0 (lexAll (render ps)) (lexAll_line _) hm
  exact ⟨f, h1, by rw [h2, hn]⟩

/-- `Print(Word)` writes the bytes of the parts, whatever the options and the positions -/
theorem printWord_bytes (o : Opts) (hr : refuse o = false) (w : Word) (hw : w.wf = true) :
    printWord o w = .ok (wordBytes w.parts) := by
  obtain ⟨pos, hpos⟩ := Word.wf_pos hw
  have hne := Word.wf_parts_ne hw
  unfold printWord
  simp only [hr, Bool.false_eq_true, ↓reduceIte, hpos]
  cases hparts : w.parts with
  | nil => exact absurd hparts hne
  | cons wp rest =>
    have hpl : wp.pos.line = pos.line := by
      simp only [Word.pos?, hparts, List.head?_cons, Option.map_some, Option.some.injEq] at hpos
      rw [← hpos]
    have hI : Inv 0 (({ (P.init o) with line := pos.line } : P).word w) :=
      Inv.word (n := 0) (p := { (P.init o) with line := pos.line }) ⟨rfl, rfl⟩ w hw
    rw [hI.finish]
    simp only [Except.ok.injEq]
    simp only [P.word, P.wordParts, hparts, hpl, Nat.lt_irrefl, decide_false, Bool.and_false, Bool.false_eq_true,
      ↓reduceIte]
    simp [wordPartsLoop_eq, P.init, render, Piece.bytes]

/-- Lexing a well-formed word printed on its own gives the word back (positions aside, adjacent
    literals merged): the word case of "any word used as a command argument printed on its own",
    for every option set. -/
theorem roundtrip_word (o : Opts) (w : Word) (hw : w.wf = true) (b : Bytes) (hp : printWord o w = .ok b) :
    ∃ parts stop, lexWord b ⟨0, 1, 1⟩ .idle [] = .done parts stop [] ∧ normParts parts = w.norm := by
  have hr : refuse o = false := by
    cases h : refuse o with
    | false => rfl
    | true => unfold printWord at hp; simp [h] at hp
  rw [printWord_bytes o hr w hw] at hp
  cases hp
  obtain ⟨res, stop, h1, h2⟩ := lexWord_parts w.parts (Word.wf_parts hw) [] rfl ⟨0, 1, 1⟩ .idle [] (by simp [LexMode.notSgl])
  refine ⟨res, stop, by simpa using h1, ?_⟩
  rw [normParts_eq, h2]
  simp [pend, Word.norm, normParts_eq]


/-! ## The round trip for programs made of simple commands

  `flat`: every statement of the file is a simple command (with `!`, `&`, `;` and any layout of
  the source: line continuations, blank lines, a `;` on a later line).  For these programs both
  halves are proved, for **every** option set (Indent, BinaryNextLine, SwitchCaseIndent,
  SpaceRedirects, FunctionNextLine, Minify, SingleLine; KeepPadding is not in the model) and
  **every** assignment of positions. -/

/-- the printer half: what today's printer writes is a concrete syntax of the tree — whatever the
    positions if there is no subshell or block, else for line numbers that never decrease -/
theorem print_in_Prints_of (o : Opts) (f : File) (b : Bytes) (hwf : f.wf = true)
    (hctx : f.stmts.lin = true ∨ posMono f) (hne : f.stmts ≠ .nil) (hp : printFile o f = .ok b) : Prints f b := by
  obtain ⟨ps, lt, h1, h2, h3, h4, h5⟩ := L4.print_in_Prints_of o f b hwf hctx hne hp
  exact ⟨ps, false, lt, h1, h2, h3, h4, h5⟩

/-- printer half on flat programs -/
theorem print_in_Prints_flat (o : Opts) (f : File) (b : Bytes) (hwf : f.wf = true) (hflat : f.stmts.flat = true)
    (hne : f.stmts ≠ .nil) (hp : printFile o f = .ok b) : Prints f b :=
  print_in_Prints_of o f b hwf (Or.inl (Stmts.flat_lin _ hflat)) hne hp

/-- **Round trip, simple-command programs**: whatever the options and the positions, the printed
    bytes parse again, in every variant, to a tree with the same norm. -/
theorem roundtrip_flat (o : Opts) (l : Lang) (f : File) (b : Bytes) (hwf : f.wf = true) (hflat : f.stmts.flat = true)
    (hne : f.stmts ≠ .nil) (hp : printFile o f = .ok b) : ∃ f', parse l b = .ok f' ∧ f'.norm = f.norm :=
  parse_of_Prints l f b (print_in_Prints_flat o f b hwf hflat hne hp)

/-- … and printing does succeed unless refused, so the statement is not vacuous. -/
theorem roundtrip_flat_total (o : Opts) (hr : refuse o = false) (l : Lang) (f : File) (hwf : f.wf = true)
    (hflat : f.stmts.flat = true) (hne : f.stmts ≠ .nil) :
    ∃ b f', printFile o f = .ok b ∧ parse l b = .ok f' ∧ f'.norm = f.norm := by
  obtain ⟨b, hb⟩ := print_total o hr f hwf
  obtain ⟨f', h1, h2⟩ := roundtrip_flat o l f b hwf hflat hne hb
  exact ⟨b, f', hb, h1, h2⟩

/-! ## The round trip for programs without subshells and blocks

  `lin`: every statement is built from simple commands with `&&`, `||`, `|` (any nesting the
  grammar allows), `!`, `&`, `;`.  Both halves are proved for every option set — including
  BinaryNextLine, Minify and SingleLine — and every assignment of positions. -/

/-- printer half on programs without subshells and blocks -/
theorem print_in_Prints_lin (o : Opts) (f : File) (b : Bytes) (hwf : f.wf = true) (hlin : f.stmts.lin = true)
    (hne : f.stmts ≠ .nil) (hp : printFile o f = .ok b) : Prints f b :=
  print_in_Prints_of o f b hwf (Or.inl hlin) hne hp

/-- **Round trip, programs of simple commands, pipelines and and-or lists**: whatever the options
    and the positions, the printed bytes parse again, in every variant, to a tree with the same norm. -/
theorem roundtrip_lin (o : Opts) (l : Lang) (f : File) (b : Bytes) (hwf : f.wf = true) (hlin : f.stmts.lin = true)
    (hne : f.stmts ≠ .nil) (hp : printFile o f = .ok b) : ∃ f', parse l b = .ok f' ∧ f'.norm = f.norm :=
  parse_of_Prints l f b (print_in_Prints_lin o f b hwf hlin hne hp)

/-- … and printing succeeds unless refused. -/
theorem roundtrip_lin_total (o : Opts) (hr : refuse o = false) (l : Lang) (f : File) (hwf : f.wf = true)
    (hlin : f.stmts.lin = true) (hne : f.stmts ≠ .nil) :
    ∃ b f', printFile o f = .ok b ∧ parse l b = .ok f' ∧ f'.norm = f.norm := by
  obtain ⟨b, hb⟩ := print_total o hr f hwf
  obtain ⟨f', h1, h2⟩ := roundtrip_lin o l f b hwf hlin hne hb
  exact ⟨b, f', hb, h1, h2⟩

/-- a well-formed `lin` file: `! a | b && c &` NEWLINE `d` -/
example : ∃ f : File, f.wf = true ∧ f.stmts.lin = true ∧ f.stmts ≠ .nil :=
  ⟨⟨.cons (.mk ⟨0, 1, 1⟩ ⟨14, 1, 15⟩ false true
        (.binary ⟨8, 1, 9⟩ .andStmt
          (.mk ⟨0, 1, 1⟩ Pos.zero true false
            (.binary ⟨4, 1, 5⟩ .pipe (.mk ⟨2, 1, 3⟩ Pos.zero false false (.call [w1 1 "a"]))
              (.mk ⟨6, 1, 7⟩ Pos.zero false false (.call [w1 1 "b"]))))
          (.mk ⟨11, 1, 12⟩ Pos.zero false false (.call [w1 1 "c"]))))
      (.cons (.mk ⟨16, 2, 1⟩ Pos.zero false false (.call [w1 2 "d"])) .nil)⟩,
    by decide +kernel, by decide +kernel, by simp⟩

/-- a flat well-formed file: `! a 'x y' &` NEWLINE NEWLINE `b c` with `c` on a later line -/
example : ∃ f : File, f.wf = true ∧ f.stmts.flat = true ∧ f.stmts ≠ .nil :=
  ⟨⟨.cons (.mk ⟨0, 1, 1⟩ ⟨10, 1, 11⟩ true true (.call [w1 1 "a", ⟨[.sgl ⟨4, 1, 5⟩ ⟨8, 1, 9⟩ (bytesOfString "x y")]⟩]))
      (.cons (.mk ⟨13, 3, 1⟩ Pos.zero false false (.call [w1 3 "b", w1 5 "c"])) .nil)⟩,
    by decide +kernel, by decide +kernel, by simp⟩

/-! ## The round trip for all of fragment F0

  Subshells `( )` and blocks `{ }` included.  The printer half needs one hypothesis about the
  positions: line numbers never decrease in source order (`posMono`) — which is what any parser
  assigns; `roundtrip_fails_positions` shows that it cannot be dropped.  With it both halves are
  proved for **every** option set (Indent, BinaryNextLine, SwitchCaseIndent, SpaceRedirects,
  FunctionNextLine, Minify, SingleLine; KeepPadding is not in the model).  No condition on the
  `wroteSemi` flag under SingleLine is needed: `stmtEnd` clears it when the statement writes no
  terminator (the repair of C01-single-missing-semicolon). -/

/-- the printer half: what today's printer writes is a concrete syntax of the tree -/
theorem print_in_Prints (o : Opts) (f : File) (b : Bytes) (hwf : f.wf = true) (hmono : posMono f)
    (hne : f.stmts ≠ .nil) (hp : printFile o f = .ok b) : Prints f b :=
  print_in_Prints_of o f b hwf (Or.inr hmono) hne hp

/-- **Round trip, fragment F0**: for every option set and every tree with monotone line numbers,
    the printed bytes parse again, in every variant, to a tree with the same norm. -/
theorem roundtrip_partial (o : Opts) (l : Lang) (f : File) (b : Bytes) (hwf : f.wf = true) (hmono : posMono f)
    (hne : f.stmts ≠ .nil) (hp : printFile o f = .ok b) : ∃ f', parse l b = .ok f' ∧ f'.norm = f.norm :=
  parse_of_Prints l f b (print_in_Prints o f b hwf hmono hne hp)

/-- … and printing succeeds unless refused. -/
theorem roundtrip_partial_total (o : Opts) (hr : refuse o = false) (l : Lang) (f : File) (hwf : f.wf = true)
    (hmono : posMono f) (hne : f.stmts ≠ .nil) :
    ∃ b f', printFile o f = .ok b ∧ parse l b = .ok f' ∧ f'.norm = f.norm := by
  obtain ⟨b, hb⟩ := print_total o hr f hwf
  obtain ⟨f', h1, h2⟩ := roundtrip_partial o l f b hwf hmono hne hb
  exact ⟨b, f', hb, h1, h2⟩

/-- the empty file prints as one newline, which parses to the empty file -/
theorem roundtrip_empty :
    printFile {} ⟨.nil⟩ = .ok [10] ∧
    (match parse .bash [10] with | .ok f => f.norm.beq (File.mk .nil).norm | .error _ => false) = true := by
  constructor <;> decide +kernel

/-- the scrambled witness is excluded by `posMono`, as it must be -/
example : ¬ posMono scrambledWitness := by
  unfold posMono
  decide +kernel

/-! ## From source text: no hypothesis on the tree

  `parse_WF` (`Proofs/L4ParseWF.lean`): whatever the model parser accepts is well formed and has
  non-decreasing line numbers — the lexer only produces positions by `Pos.adv` along the input
  (`lexAll_ok`: the flattened lines of the token stream are sorted, every word token is a
  well-formed word), and the parser only copies token positions into the tree, in order, with the
  constructors `wf` describes (`all_claims`: one invariant per parser function, by induction on
  the fuel).  Hence the round trip holds for every tree that comes from source text. -/

/-- the parser only builds well-formed trees with non-decreasing lines -/
def parse_WF_statement : Prop :=
  ∀ (l : Lang) (b : Bytes) (f : File), parse l b = .ok f → f.wf = true ∧ posMono f

theorem parse_WF : parse_WF_statement := fun l b f h => L4.parse_wf_posMono l b f h

/-- the empty file prints as one newline under every option set that is not refused -/
theorem printFile_nil (o : Opts) (hr : refuse o = false) : printFile o ⟨.nil⟩ = .ok [10] := by
  unfold printFile
  simp [hr, P.stmtList, P.stmtListWith, P.stmtListLoop, P.newline, P.finish, P.init, P.gapw, P.advanceLine, render,
    Piece.bytes]

theorem parse_newline (l : Lang) : (match parse l [10] with | .ok f => f.norm.beq NStmts.nil | .error _ => false) = true := by
  cases l <;> decide +kernel

/-- **Round trip from source text** (fragment F0, every option set, every variant): if `src`
    parses to `f` and `f` prints as `b`, then `b` parses to a tree with the same norm.  No
    hypothesis on `f`: well-formedness and monotone positions come from `parse_WF`, and the empty
    file (the only case `f.stmts = .nil`) is handled directly. -/
theorem roundtrip_src (o : Opts) (l : Lang) (src : Bytes) (f : File) (b : Bytes) (hsrc : parse l src = .ok f)
    (hp : printFile o f = .ok b) : ∃ f', parse l b = .ok f' ∧ f'.norm = f.norm := by
  obtain ⟨hwf, hmono⟩ := parse_WF l src f hsrc
  by_cases hne : f.stmts = .nil
  · obtain ⟨ss⟩ := f
    simp only at hne
    subst hne
    have hr : refuse o = false := by
      cases h : refuse o with
      | false => rfl
      | true => unfold printFile at hp; simp [h] at hp
    rw [printFile_nil o hr] at hp
    cases hp
    have := parse_newline l
    cases hq : parse l [10] with
    | error e => rw [hq] at this; cases this
    | ok f' =>
      rw [hq] at this
      refine ⟨f', rfl, ?_⟩
      simp only [File.norm, Stmts.norm] at this ⊢
      cases hn : f'.stmts.norm with
      | nil => rfl
      | cons s r => rw [hn] at this; simp [NStmts.beq] at this
  · exact roundtrip_partial o l f b hwf hmono hne hp

/-- … and printing succeeds unless refused. -/
theorem roundtrip_src_total (o : Opts) (hr : refuse o = false) (l : Lang) (src : Bytes) (f : File)
    (hsrc : parse l src = .ok f) : ∃ b f', printFile o f = .ok b ∧ parse l b = .ok f' ∧ f'.norm = f.norm := by
  obtain ⟨b, hb⟩ := print_total o hr f (parse_WF l src f hsrc).1
  obtain ⟨f', h1, h2⟩ := roundtrip_src o l src f b hsrc hb
  exact ⟨b, f', hb, h1, h2⟩

/-- `f.stmts ≠ .nil` can fail for a parsed tree: the empty input (and any input of blank lines)
    parses to the empty file -/
example : (match parse .bash [] with | .ok f => f.norm.beq NStmts.nil | .error _ => false) = true := by
  decide +kernel

/-- **`fuel_sufficient`**: the model parser never runs out of the fuel it gives itself
    (`6·|tokens| + 8`): its answer is always a tree, a syntax error or `outside`, so "parses" in the
    `_src` theorems means what the parser answers, never an artefact of the fuel
    (`Proofs/L4Fuel.lean`: each parser function needs at most `6·|unread tokens| + c` fuel). -/
theorem fuel_sufficient (l : Lang) (src : Bytes) : parse l src ≠ .error .outOfFuel := L4.parse_fuel l src

/-- on token lists -/
theorem fuel_sufficient_toks (toks : List TokPos) : parseToks toks ≠ .error .outOfFuel := L4.parseToks_fuel toks

/-- **The tree the parser builds is its token stream**: flattening the tree (`ftoks`: `!`, words,
    operators, `( ) { }`, `;`/`&`, each with the position stored in the tree) gives back the
    lexer's tokens without the newline tokens, in order, each at its own position, up to the final
    `eof` — the parser loses, invents, reorders or moves no token, and every position in the tree
    is the position of the token it came from (`Proofs/L4Flat.lean`). -/
theorem parse_tokens (l : Lang) (src : Bytes) (f : File) (h : parse l src = .ok f) :
    ∃ tail, dropNl (lexAll src) = f.stmts.ftoks ++ tail ∧ ∀ tp, tail.head? = some tp → tp.1 = .eof :=
  L4.parse_flatten l src f h

/-- every token of the lexer sits at a valid position, a word token at the position of its first
    part -/
theorem lex_positions (src : Bytes) : ∀ tp ∈ lexAll src, tp.ok2 := L4.lexAll_ok2 src

/-- **Statement positions are first-token positions**: in every tree the parser builds, the
    position of a statement is the position of its first token (`!` included); the left operand of
    a negated pipeline (`! a | b`: the `!` belongs to the pipeline) keeps the position of the `!`
    (`Stmt.pk`, inside subshells and blocks as well; `Proofs/L4PosFirst.lean`). -/
theorem stmt_positions (l : Lang) (src : Bytes) (f : File) (h : parse l src = .ok f) : f.stmts.pkAll :=
  L4.parse_pk l src f h

/-- a word token that starts on line `n` ends on line `n` + the newlines in its bytes, and that is
    the largest line number of its parts -/
theorem word_end_lines (src : Bytes) : ∀ tp ∈ lexAll src, tp.1.ok3 tp.2 := L4.lexAll_ok3 src

/-- where the tokens of printed text sit: the k-th token of `render ps` is on line 1 + the newlines
    written before the k-th word/operator piece (`expectLines`), whenever no piece glues with the
    next (`lexChain`, which the printer guarantees: `print_in_Prints`) -/
theorem printed_token_lines (ps : List Piece) (h : lexChain ps = true) :
    (lexAll (render ps)).map (fun tp => tp.2.line) = expectLines false 1 ps :=
  L4.lexAll_pieces_lines ps h

/-! ## Stated, not proved

  The remaining half of the fuel statement: that *more* fuel gives the same answer (monotonicity).
  A definition, not a theorem; its second conjunct is `fuel_sufficient_toks`. -/

/-- fuel `|tokens|·6 + 8` is never used up, and any larger fuel gives the same answer -/
def fuel_sufficient_statement : Prop :=
  ∀ (toks : List TokPos) (fuel : Nat), fuel ≥ parseFuelFor toks →
    parseToksF fuel toks = parseToks toks ∧ parseToks toks ≠ .error .outOfFuel

/-- the hypotheses of the round trip are satisfiable: the tree the parser builds for
    `a b; ( c && d ) |` NEWLINE `{ e; }` NEWLINE `! 'x y' &` is well-formed, has monotone lines and
    is not empty -/
example : ∃ f, parse .bash (bytesOfString "a b; ( c && d ) |\n{ e; }\n! 'x y' &\n") = .ok f ∧ f.wf = true ∧
    posMono f ∧ f.stmts ≠ .nil := by
  suffices h : ∀ r : Except ParseErr File,
      (match r with
        | .ok f => f.wf && decide (f.stmts.lines.Pairwise (· ≤ ·)) && decide (f.stmts.length > 0)
        | _ => false) = true →
      ∃ f, r = .ok f ∧ f.wf = true ∧ posMono f ∧ f.stmts ≠ .nil from h _ (by decide +kernel)
  intro r hr
  cases r with
  | error e => cases hr
  | ok f =>
    simp only [Bool.and_eq_true, decide_eq_true_eq] at hr
    exact ⟨f, rfl, hr.1.1, hr.1.2, fun e => by rw [e] at hr; simp [Stmts.length] at hr⟩

end ShVerif.Props.C01
