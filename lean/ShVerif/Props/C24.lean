import ShVerif.Model.C24
import ShVerif.Proofs.C24
/-
  C24 — printf and echo -e format like bash.  Property theorems.

  `formatInto`, `printfBuiltin`, `echoBuiltin` are the model of the Go code (tied to it by the
  harness); `Spec.*` is the description of bash (tied to the real bash by the harness).
-/
namespace ShVerif.C24

/-- `formatInto` never reaches a Go index/slice panic (`readDigits`' `format[i:i+j]`, `arg[0]` of
    `%c`, `args[0]`, `args[1:]`) and never calls `fmt.Fprintf` outside the modelled fragment —
    for every format, argument list and nil-ness of the argument slice. -/
theorem format_safe (f : Bytes) (args : List Bytes) (argsNil : Bool) :
    ∃ o, formatInto f args argsNil = .obs o :=
  formatInto_obs f args argsNil

/-- Whether a pass fails is a property of the format alone. -/
theorem error_format_only (fmt : Bytes) (a1 a2 : List Bytes) :
    (formatArgs fmt a1).errOf = (formatArgs fmt a2).errOf :=
  formatArgs_errOf_indep fmt a1 a2

/-- The `printf` builtin: a malformed format gives status 1 and no output at all; otherwise the
    status is 0 and the output is the concatenation of single passes over consecutive chunks of
    the arguments — every argument is consumed (`Reuse.last`/`Reuse.more`: each chunk is used up
    by its pass, `left = 0`), unless the format takes no argument (`Reuse.ignored`, the Go loop's
    `n == 0` exit). -/
theorem reuse_loop (fmt : Bytes) (args : List Bytes) :
    (∃ e, (formatArgs fmt []).errOf = some e ∧ printfBuiltin (fmt :: args) = .done ⟨[], 1⟩) ∨
    ((formatArgs fmt []).errOf = none ∧
      ∃ out, printfBuiltin (fmt :: args) = .done ⟨out, 0⟩ ∧ Reuse fmt args out) := by
  simp only [printfBuiltin]
  cases he : (formatArgs fmt []).errOf with
  | none =>
    right
    obtain ⟨out, hr, h⟩ := printfLoop_reuse fmt he _ args (Nat.lt_succ_self _)
    exact ⟨rfl, out, h _ [] (Nat.lt_succ_self _), hr⟩
  | some e => left; exact ⟨e, rfl, printfLoop_err fmt e he _ _ _⟩

/-- The `printf` loop terminates within `len(args)+1` iterations, `args[n:]` never panics (both are
    part of `reuse_loop`); the same for `echo`. -/
theorem builtins_safe (ws : List Bytes) :
    (∃ r, printfBuiltin ws = .done r) ∧ (∃ r, echoBuiltin ws = .done r) := by
  constructor
  · cases ws with
    | nil => exact ⟨_, rfl⟩
    | cons fmt args => rcases reuse_loop fmt args with ⟨_, _, h⟩ | ⟨_, _, h, _⟩ <;> exact ⟨_, h⟩
  · unfold echoBuiltin
    rcases echoOpts ws true false with ⟨nl, ex, rest⟩
    obtain ⟨b, hb⟩ := echoBody_some ex rest true
    simp only [hb]
    exact ⟨_, rfl⟩

/-- Format reuse, one step: when a pass consumed at least one argument and some remain, the format
    is applied again — `printf fmt args` writes what the first pass wrote, followed by exactly
    what `printf fmt <remaining args>` writes. -/
theorem printf_reuse (fmt : Bytes) (args : List Bytes) (out : Bytes) (left : Nat)
    (h : formatArgs fmt args = .ok out left) (h0 : 0 < left) (hl : left < args.length) :
    ∃ out', printfBuiltin (fmt :: args.drop (args.length - left)) = .done ⟨out', 0⟩ ∧
      printfBuiltin (fmt :: args) = .done ⟨out ++ out', 0⟩ := by
  have hok : (formatArgs fmt []).errOf = none := by
    rw [← formatArgs_errOf_indep fmt args [], h]; rfl
  obtain ⟨chunk, rest, rfl, rfl, _⟩ := formatArgs_split fmt args out left h
  rw [List.length_append] at hl
  have hstop : ¬ (chunk = [] ∨ rest = []) := by
    rw [← List.length_eq_zero_iff, ← List.length_eq_zero_iff]; omega
  obtain ⟨out', _, hloop⟩ := printfLoop_reuse fmt hok _ rest (Nat.lt_succ_self _)
  rw [List.length_append, Nat.add_sub_cancel, List.drop_left]
  simp only [printfBuiltin]
  refine ⟨out', hloop _ [] (Nat.lt_succ_self _), ?_⟩
  rw [printfLoop_ok _ _ _ _ _ _ h, if_neg hstop, hloop _ _ (by rw [List.length_append]; omega)]
  rfl

/-- … instantiated for a format that is one well-formed directive: each argument is formatted in
    turn (`printf '%5d' a b c` = `%5d` of `a`, then `printf '%5d' b c`). -/
theorem printf_reuse_directive (d : MDir) (h : d.WF) (a b : Bytes) (rest : List Bytes) :
    ∃ out', printfBuiltin (d.render :: b :: rest) = .done ⟨out', 0⟩ ∧
      printfBuiltin (d.render :: a :: b :: rest) = .done ⟨d.out formatNil a ++ out', 0⟩ := by
  have hfa := formatArgs_directive d h (a :: b :: rest)
  have := printf_reuse d.render (a :: b :: rest) _ _ hfa (by simp) (by simp)
  simpa using this

/-- Missing arguments are empty strings (numeric conversions print 0, `%c` a NUL byte): padding
    the argument list with empty strings changes nothing that is written. -/
theorem missing_args (fmt : Bytes) (args : List Bytes) (m : Nat) :
    (formatArgs fmt (args ++ List.replicate m [])).view = (formatArgs fmt args).view :=
  formatArgs_missing fmt args m

/-- The single-character escapes `\a \b \e \E \f \n \r \t \v \\ \' \" \?`: model and bash
    specification (format-string mode) write the same byte and consume one character, whatever
    follows. -/
theorem escapes_table (p : UInt8 × UInt8) (hp : p ∈ escTable) (rest : Bytes) :
    escape (p.1 :: rest) = some ([p.2], 1) ∧
    Spec.escape .format (p.1 :: rest) = { out := [p.2], used := 1 } := by
  simp only [escTable, List.mem_cons, List.not_mem_nil, or_false] at hp
  rcases hp with h | h | h | h | h | h | h | h | h | h | h | h | h <;> subst h <;> exact ⟨rfl, rfl⟩

/-- Digit counts of `\nnn`: one to three digit characters are consumed (never a fourth, whatever
    follows) and exactly one byte is written. -/
theorem octal_hex_bounds_octal (c : UInt8) (ds rest : Bytes) (hc : 48 ≤ c ∧ c ≤ 55)
    (hds : ∀ d ∈ ds, 48 ≤ d ∧ d ≤ 57) (hlen : ds.length ≤ 2)
    (hstop : ds.length = 2 ∨ ∀ x r, rest = x :: r → ¬ (48 ≤ x ∧ x ≤ 57)) :
    escape (c :: ds ++ rest) = some ([UInt8.ofNat (parseUint (c :: ds) 8 8).1], ds.length + 1) := by
  have hd : ∀ d ∈ c :: ds, isDigitChar false d = true := fun d hd => by
    rcases List.mem_cons.1 hd with rfl | h
    · exact decdigit_isDigitChar _ _ (dec_of_oct hc)
    · exact decdigit_isDigitChar _ _ (hds d h)
  have hcount : countDigits false 3 (c :: ds ++ rest) = ds.length + 1 :=
    countDigits_append false rest (c :: ds) 3 hd (Nat.succ_le_succ hlen)
      (hstop.imp (congrArg (· + 1)) fun h x r hx => by simpa [isDigitChar] using h x r hx)
  rw [List.cons_append] at hcount ⊢
  rw [escape_oct c _ hc, hcount]
  simp

/-- The byte of an octal escape with genuine octal digits is its value — capped at 0xff, where
    bash takes the value modulo 256 (finding C24-octal-escape-range). -/
theorem octal_value (ds : Bytes) (hne : ds ≠ []) (h : ∀ d ∈ ds, 48 ≤ d ∧ d ≤ 55) :
    (parseUint ds 8 8).1 = min (foldv 8 ds 0) 255 := by
  rw [parseUint_valid 8 8 (by decide) (by decide) ds hne (bothDigits_oct ds h).valid]
  have : (2 : Nat) ^ 8 - 1 = 255 := by decide
  rw [this]
  split
  · rename_i hle; simp [Nat.min_eq_left hle]
  · rename_i hle; simp [Nat.min_eq_right (Nat.le_of_lt (Nat.not_le.1 hle))]

/-- `\xH[H]`: at most two hexadecimal digits, always a single byte; `\uHHHH` / `\UHHHHHHHH`: at most
    4 / 8 digits, written as Go's `WriteRune` encodes the number. -/
theorem octal_hex_bounds_hex (c : UInt8) (hc : c = 120 ∨ c = 117 ∨ c = 85) (ds rest : Bytes)
    (hds : ∀ d ∈ ds, isDigitChar true d = true) (hne : ds ≠ [])
    (hlen : ds.length ≤ (if c = 117 then 4 else if c = 85 then 8 else 2))
    (hstop : ds.length = (if c = 117 then 4 else if c = 85 then 8 else 2) ∨
      ∀ x r, rest = x :: r → isDigitChar true x = false) :
    escape (c :: ds ++ rest) =
      some (if c = 120 then [UInt8.ofNat (foldv 16 ds 0)] else appendRune (foldv 16 ds 0), 1 + ds.length) := by
  obtain ⟨hnt, hno⟩ := xuU_not_table c hc
  simp only [not_or] at hnt
  have hcount := countDigits_append true rest ds _ hds hlen hstop
  have hl8 : ds.length ≤ 8 := Nat.le_trans hlen (by rcases hc with rfl | rfl | rfl <;> decide)
  rw [List.cons_append]
  unfold escape
  simp only [hnt, or_self, if_false, hno, hc, if_true, readDigits_some, hcount, List.take_left',
    List.length_pos_iff.2 hne, parseUint_hex ds hne hl8 hds]
  split <;> rfl

/-- An escape is processed wherever it stands — even in the middle of a directive. -/
theorem escape_in_loop (n : Option (Bytes → Res)) (rest o : Bytes) (k : Nat) (st : St)
    (h : escape rest = some (o, k)) : go n (92 :: rest) 0 st = (go n rest k st).prepend o := by
  rw [go_zero, step_esc, h]

/-- A directive `%[flag][0…][width]verb` is processed as a unit: it writes `d.out` of the first
    argument (of the empty string when none is left) and the loop continues after it with the
    remaining arguments. -/
theorem directive_sem_step (d : MDir) (h : d.WF) (rest : Bytes) (args : List Bytes) :
    go (some formatNil) (d.render ++ rest) 0 ⟨[], args⟩ =
      (go (some formatNil) rest 0 ⟨[], args.tail⟩).prepend (d.out formatNil (args.headD [])) :=
  go_directive formatNil nestedOK_formatNil d h rest args

/-- `%d %i` with any accepted flag, `0` and any width `fmt` accepts: C's rendering of the value. -/
theorem directive_sem_signed (d : MDir) (h : d.WF) (hw : WidthOK d.width)
    (hv : d.verb = 100 ∨ d.verb = 105) (a : Bytes) :
    d.out formatNil a = Spec.fmtSigned d.spec (parseInt a).1 :=
  dir_out_signed formatNil d h hw hv a

/-- `%u %o %x` with flag `-` or none, `0` and width: C's rendering of the value modulo 2^64. -/
theorem directive_sem_unsigned (d : MDir) (h : d.WF) (hw : WidthOK d.width)
    (hv : d.verb = 117 ∨ d.verb = 111 ∨ d.verb = 120) (hfl : d.flag = [] ∨ d.flag = [45]) (a : Bytes) :
    d.out formatNil a = Spec.fmtUnsigned d.spec
      (if d.verb = 111 then 8 else if d.verb = 120 then 16 else 10) (toU64 (parseInt a).1) :=
  dir_out_unsigned formatNil d h hw hv hfl a

/-- `%s` without `0` flag, with no width or an ASCII argument: bash's padding. -/
theorem directive_sem_string (d : MDir) (h : d.WF) (hw : WidthOK d.width) (hv : d.verb = 115)
    (hz : d.zeros = 0) (a : Bytes) (ha : d.width = [] ∨ ∀ b ∈ a, b < 128) :
    d.out formatNil a = (Spec.runDir d.spec a).out := by
  rw [dir_out_string formatNil d h hw hv hz a ha]
  simp [Spec.runDir, MDir.spec, hv]

/-- `%c` without width: the first byte, or NUL — as bash. -/
theorem directive_sem_char (d : MDir) (hv : d.verb = 99) (hw : d.width = []) (a : Bytes) :
    d.out formatNil a = (Spec.runDir d.spec a).out := by
  simp [MDir.out, Spec.runDir, MDir.spec, hv, hw, decv, Spec.padTo, Spec.spaces]

/-- Go's `ParseInt(arg, 0, 0)` result is always an int64 (so `int(n)`/`uint(n)` are exact). -/
theorem parse_int_range (a : Bytes) :
    -9223372036854775808 ≤ (parseInt a).1 ∧ (parseInt a).1 ≤ 9223372036854775807 :=
  parseInt_range a

/-- Go's `ParseInt(arg, 0, 0)` and bash's `strtoimax(arg, …, 0)` agree on every argument — false
    (findings C24-invalid-number, C24-go-int-syntax, C24-bash-number-forms). -/
def numeric_arg_statement : Prop :=
  ∀ a : Bytes, (parseInt a).1 = (Spec.signedArg a).val ∧ (Spec.signedArg a).bad = false

/-- … they do agree — value, clamping to the int64 range, no error — on the empty argument and on
    every well-formed C integer literal (`CleanNum`): optional `+`/`-`, then a decimal numeral
    without leading zero, or `0` followed by octal digits, or `0x`/`0X` followed by hexadecimal
    digits; any length.  Outside this region the statement is false: trailing garbage / no digits
    (`finding_invalid_number`), `_` `0b` `0o` (`finding_go_int_syntax`), leading white space and the
    `'c` / `"c` character forms (`finding_bash_number_forms`, `numeric_arg_fails_space`). -/
theorem numeric_arg_partial (a : Bytes) (h : a = [] ∨ CleanNum a) :
    (parseInt a).1 = (Spec.signedArg a).val ∧ (Spec.signedArg a).bad = false := by
  rcases h with h | h
  · subst h; decide
  · exact numeric_arg_clean a h

/-- The same for `%u %o %x`, whose argument Go converts with `uint(n)` and bash parses with
    `strtoumax`: agreement on the literals whose value lies in the int64 range (beyond it:
    `finding_unsigned_range`). -/
theorem numeric_uarg_partial (sign : Bytes) (hs : sign = [] ∨ sign = [43] ∨ sign = [45])
    {body ds : Bytes} {b : Nat} (h : NumBody body b ds)
    (hr : InInt64 (decide (sign = [45])) (foldv b ds 0)) :
    (Spec.unsignedArg (sign ++ body)).val = Int.ofNat (toU64 (parseInt (sign ++ body)).1) ∧
    (Spec.unsignedArg (sign ++ body)).bad = false := by
  rw [parseInt_clean sign hs h]
  unfold Spec.unsignedArg
  rw [quoteCode_clean sign hs h, scanNum_clean sign hs h]
  exact ⟨strtoumax_eq_uint _ _ hr, rfl⟩

theorem numeric_arg_fails : ¬ numeric_arg_statement := by
  intro h
  have := (h [49, 50, 97, 98, 99]).1
  revert this
  decide +kernel

/-- `printf %d ' 5'`: Go rejects the leading blank (0), bash skips it (5). -/
theorem numeric_arg_fails_space :
    (parseInt [32, 53]).1 = 0 ∧ Spec.signedArg [32, 53] = { val := 5, bad := false } := by decide +kernel

/-- `printf %d "'a"`: the character form. -/
theorem numeric_arg_fails_quote :
    (parseInt [39, 97]).1 = 0 ∧ Spec.signedArg [39, 97] = { val := 97, bad := false } := by decide +kernel

/-- Every width of at most seven digits satisfies the width hypothesis of the directive theorems;
    the hypothesis itself (`WidthOK`: no proper prefix of the digits exceeds 10^6) is exactly Go's
    `parsenum`/`tooLarge` acceptance — beyond it see `finding_huge_width`. -/
theorem width_ok_seven (ws : Bytes) (hds : ∀ d ∈ ws, isDec d = true) (h : ws.length ≤ 7) : WidthOK ws :=
  prefixOK_of_length ws 0 0 hds (by decide) (by omega)

/-- `%d`/`%i` (any accepted flag, `0`, any width `fmt` accepts) applied to the empty argument or a
    well-formed integer literal: exactly the bytes bash writes, no error status, no stop. -/
theorem directive_sem_partial (d : MDir) (h : d.WF) (hw : WidthOK d.width)
    (hv : d.verb = 100 ∨ d.verb = 105) (a : Bytes) (ha : a = [] ∨ CleanNum a) :
    d.out formatNil a = (Spec.runDir d.spec a).out ∧
    (Spec.runDir d.spec a).bad = false ∧ (Spec.runDir d.spec a).stop = false := by
  obtain ⟨hval, hbad⟩ := numeric_arg_partial a ha
  rw [dir_out_signed formatNil d h hw hv, hval]
  have hvs : d.spec.verb = d.verb := rfl
  rcases hv with hv | hv <;> simp [Spec.runDir, hvs, hv, hbad]

/-- `%u %o %x` (flag `-` or none, `0`, any accepted width) applied to a well-formed literal in the
    int64 range: exactly the bytes bash writes, no error status, no stop. -/
theorem directive_sem_unsigned_partial (d : MDir) (h : d.WF) (hw : WidthOK d.width)
    (hv : d.verb = 117 ∨ d.verb = 111 ∨ d.verb = 120) (hfl : d.flag = [] ∨ d.flag = [45])
    (sign : Bytes) (hs : sign = [] ∨ sign = [43] ∨ sign = [45]) {body ds : Bytes} {b : Nat}
    (hb : NumBody body b ds) (hr : InInt64 (decide (sign = [45])) (foldv b ds 0)) :
    d.out formatNil (sign ++ body) = (Spec.runDir d.spec (sign ++ body)).out ∧
    (Spec.runDir d.spec (sign ++ body)).bad = false ∧ (Spec.runDir d.spec (sign ++ body)).stop = false := by
  obtain ⟨hval, hbad⟩ := numeric_uarg_partial sign hs hb hr
  rw [dir_out_unsigned formatNil d h hw hv hfl]
  have hvs : d.spec.verb = d.verb := rfl
  rcases hv with hv | hv | hv <;> simp [Spec.runDir, hvs, hv, hbad, hval]

/-!
  `PrintfLikeBash ws` / `EchoLikeBash ws`: on the words `ws` the model of the builtin writes the
  bytes and returns the status the specification of bash gives.  The full statements (all words
  for which the specification is defined) are false; the theorems `finding_*` are the concrete
  counter-examples, one per recorded finding (same witnesses as corpus/C24-known.txt). -/

def PrintfLikeBash (ws : List Bytes) : Prop :=
  ∀ out st, Spec.printf ws = .res out st → printfBuiltin ws = .done ⟨out, st⟩

def EchoLikeBash (ws : List Bytes) : Prop :=
  ∀ out st, Spec.echo ws = .res out st → echoBuiltin ws = .done ⟨out, st⟩

def printf_like_bash_statement : Prop := ∀ ws, PrintfLikeBash ws
def echo_like_bash_statement : Prop := ∀ ws, EchoLikeBash ws

/-- `printf '%-+5d|' 3` -/
theorem finding_multi_flags :
    printfBuiltin [[37,45,43,53,100,124],[51]] = .done ⟨[], 1⟩ ∧
    Spec.printf [[37,45,43,53,100,124],[51]] = .res [43,51,32,32,32,124] 0 := by decide +kernel
/-- `printf %d 12abc` -/
theorem finding_invalid_number :
    printfBuiltin [[37,100],[49,50,97,98,99]] = .done ⟨[48], 0⟩ ∧
    Spec.printf [[37,100],[49,50,97,98,99]] = .res [49,50] 1 := by decide +kernel
/-- `printf %d 1_000` -/
theorem finding_go_int_syntax :
    printfBuiltin [[37,100],[49,95,48,48,48]] = .done ⟨[49,48,48,48], 0⟩ ∧
    Spec.printf [[37,100],[49,95,48,48,48]] = .res [49] 1 := by decide +kernel
/-- `printf %d "'a"` -/
theorem finding_bash_number_forms :
    printfBuiltin [[37,100],[39,97]] = .done ⟨[48], 0⟩ ∧
    Spec.printf [[37,100],[39,97]] = .res [57,55] 0 := by decide +kernel
/-- `printf %u 18446744073709551615` -/
theorem finding_unsigned_range :
    printfBuiltin [[37,117],[49,56,52,52,54,55,52,52,48,55,51,55,48,57,53,53,49,54,49,53]] =
      .done ⟨[57,50,50,51,51,55,50,48,51,54,56,53,52,55,55,53,56,48,55], 0⟩ ∧
    Spec.printf [[37,117],[49,56,52,52,54,55,52,52,48,55,51,55,48,57,53,53,49,54,49,53]] =
      .res [49,56,52,52,54,55,52,52,48,55,51,55,48,57,53,53,49,54,49,53] 0 := by decide +kernel
/-- `printf '%+u|' 5` -/
theorem finding_unsigned_sign_flag :
    printfBuiltin [[37,43,117,124],[53]] = .done ⟨[43,53,124], 0⟩ ∧
    Spec.printf [[37,43,117,124],[53]] = .res [53,124] 0 := by decide +kernel
/-- `printf '%5c|' a` -/
theorem finding_width_ignored_c_b :
    printfBuiltin [[37,53,99,124],[97]] = .done ⟨[97,124], 0⟩ ∧
    Spec.printf [[37,53,99,124],[97]] = .res [32,32,32,32,97,124] 0 := by decide +kernel
/-- `printf '%05s|' ab` -/
theorem finding_zero_flag_string :
    printfBuiltin [[37,48,53,115,124],[97,98]] = .done ⟨[48,48,48,97,98,124], 0⟩ ∧
    Spec.printf [[37,48,53,115,124],[97,98]] = .res [32,32,32,97,98,124] 0 := by decide +kernel
/-- `printf '%5s|' é` -/
theorem finding_width_counts_runes :
    printfBuiltin [[37,53,115,124],[0xc3,0xa9]] = .done ⟨[32,32,32,32,0xc3,0xa9,124], 0⟩ ∧
    Spec.printf [[37,53,115,124],[0xc3,0xa9]] = .res [32,32,32,0xc3,0xa9,124] 0 := by decide +kernel
/-- `printf '\400'` -/
theorem finding_octal_escape_range :
    printfBuiltin [[92,52,48,48]] = .done ⟨[255], 0⟩ ∧ Spec.printf [[92,52,48,48]] = .res [0] 0 := by decide +kernel
/-- `printf '\18'` -/
theorem finding_octal_escape_89 :
    printfBuiltin [[92,49,56]] = .done ⟨[0], 0⟩ ∧ Spec.printf [[92,49,56]] = .res [1,56] 0 := by decide +kernel
/-- `printf %b '\0123'` -/
theorem finding_b_octal_zero :
    printfBuiltin [[37,98],[92,48,49,50,51]] = .done ⟨[10,51], 0⟩ ∧
    Spec.printf [[37,98],[92,48,49,50,51]] = .res [83] 0 := by decide +kernel
/-- `printf %b 'a\cb' x` -/
theorem finding_backslash_c :
    printfBuiltin [[37,98],[97,92,99,98],[120]] = .done ⟨[97,92,99,98,120], 0⟩ ∧
    Spec.printf [[37,98],[97,92,99,98],[120]] = .res [97] 0 := by decide +kernel
/-- `echo -e 'a\cb'` -/
theorem finding_echo_backslash_c :
    echoBuiltin [[45,101],[97,92,99,98]] = .done ⟨[97,92,99,98,10], 0⟩ ∧
    Spec.echo [[45,101],[97,92,99,98]] = .res [97] 0 := by decide +kernel
/-- `printf %b "\\'"` -/
theorem finding_b_quote_escapes :
    printfBuiltin [[37,98],[92,39]] = .done ⟨[39], 0⟩ ∧
    Spec.printf [[37,98],[92,39]] = .res [92,39] 0 := by decide +kernel
/-- `echo -e "\\'"` -/
theorem finding_echo_quote_escapes :
    echoBuiltin [[45,101],[92,39]] = .done ⟨[39,10], 0⟩ ∧
    Spec.echo [[45,101],[92,39]] = .res [92,39,10] 0 := by decide +kernel
/-- `echo -e '\0123'` -/
theorem finding_echo_octal_zero :
    echoBuiltin [[45,101],[92,48,49,50,51]] = .done ⟨[10,51,10], 0⟩ ∧
    Spec.echo [[45,101],[92,48,49,50,51]] = .res [83,10] 0 := by decide +kernel
/-- `echo -e '\123'` -/
theorem finding_echo_octal_nonzero :
    echoBuiltin [[45,101],[92,49,50,51]] = .done ⟨[83,10], 0⟩ ∧
    Spec.echo [[45,101],[92,49,50,51]] = .res [92,49,50,51,10] 0 := by decide +kernel
/-- `echo -ne 'a\n'` -/
theorem finding_echo_combined_options :
    echoBuiltin [[45,110,101],[97,92,110]] = .done ⟨[45,110,101,32,97,92,110,10], 0⟩ ∧
    Spec.echo [[45,110,101],[97,92,110]] = .res [97,10] 0 := by decide +kernel
/-- `echo -e -E 'a\tb'` -/
theorem finding_echo_big_e :
    echoBuiltin [[45,101],[45,69],[97,92,116,98]] = .done ⟨[97,9,98,10], 0⟩ ∧
    Spec.echo [[45,101],[45,69],[97,92,116,98]] = .res [97,92,116,98,10] 0 := by decide +kernel
/-- `printf '\%d|' 5` -/
theorem finding_backslash_percent :
    printfBuiltin [[92,37,100,124],[53]] = .done ⟨[92,37,100,124], 0⟩ ∧
    Spec.printf [[92,37,100,124],[53]] = .res [92,53,124] 0 := by decide +kernel
/-- `printf '\ud800'` -/
theorem finding_unicode_invalid :
    printfBuiltin [[92,117,100,56,48,48]] = .done ⟨[0xef,0xbf,0xbd], 0⟩ ∧
    Spec.printf [[92,117,100,56,48,48]] = .res [0xed,0xa0,0x80] 0 := by decide +kernel
/-- `printf -- %s a` -/
theorem finding_no_option_parsing :
    printfBuiltin [[45,45],[37,115],[97]] = .done ⟨[45,45], 0⟩ ∧
    Spec.printf [[45,45],[37,115],[97]] = .res [97] 0 := by decide +kernel
/-- `printf '%10000010d' 1`: Go's fmt gives up on the width (the bash side, ten million spaces, is
    not evaluated here). -/
theorem finding_huge_width :
    printfBuiltin [[37,49,48,48,48,48,48,49,48,100],[49]] =
      .done ⟨[37,33,40,78,79,86,69,82,66,41,37,33,40,69,88,84,82,65,32,105,110,116,61,49,41], 0⟩ := by decide +kernel

/-- The property as stated (all words) does not hold of the model. -/
theorem printf_like_bash_fails : ¬ printf_like_bash_statement := by
  intro h
  have := h [[37,45,43,53,100,124],[51]] _ _ finding_multi_flags.2
  rw [finding_multi_flags.1] at this
  exact absurd this (by decide)

theorem echo_like_bash_fails : ¬ echo_like_bash_statement := by
  intro h
  have := h [[45,110,101],[97,92,110]] _ _ finding_echo_combined_options.2
  rw [finding_echo_combined_options.1] at this
  exact absurd this (by decide)

example : printfBuiltin [[37, 100, 95], [49], [50], [51]] = .done ⟨[49, 95, 50, 95, 51, 95], 0⟩ := by decide +kernel
example : Reuse [37, 100, 95] [[49], [50]] [49, 95, 50, 95] :=
  Reuse.more [[49]] [[50]] [49, 95] [50, 95] (by decide) (by decide) (by decide +kernel) (Reuse.last _ _ (by decide +kernel))
example : (formatArgs [37] []).errOf = some .missingChar := by decide +kernel
example : formatArgs [37, 99, 37, 100] [] = .ok [0, 48] 0 := by decide +kernel

example : PrintfLikeBash [[37, 48, 50, 100, 32, 37, 120, 10], [49], [50, 53, 53], [51]] := by
  intro out st h
  have h' : Spec.printf [[37, 48, 50, 100, 32, 37, 120, 10], [49], [50, 53, 53], [51]] =
      .res [48, 49, 32, 102, 102, 10, 48, 51, 32, 48, 10] 0 := by decide +kernel
  rw [h'] at h; cases h; decide +kernel
example : EchoLikeBash [[45, 101], [97, 92, 116, 98], [92, 120, 52, 49]] := by
  intro out st h
  have h' : Spec.echo [[45, 101], [97, 92, 116, 98], [92, 120, 52, 49]] = .res [97, 9, 98, 32, 65, 10] 0 := by
    decide +kernel
  rw [h'] at h; cases h; decide +kernel
example : CleanNum [45, 48, 120, 49, 70] :=
  ⟨[45], [48, 120, 49, 70], 16, [49, 70], Or.inr (Or.inr rfl), NumBody.hex 120 [49, 70] (Or.inl rfl) (by decide) (by decide), rfl⟩
example : CleanNum [48, 49, 55] := ⟨[], [48, 49, 55], 8, [49, 55], Or.inl rfl, NumBody.oct [49, 55] (by decide), rfl⟩
example : WidthOK [49, 48, 48, 48, 48, 48, 48, 57] := by simp [WidthOK, PrefixOK]
example : ¬ WidthOK [49, 48, 48, 48, 48, 48, 49, 48] := by simp [WidthOK, PrefixOK]
example : (⟨[45], 0, [53], 100⟩ : MDir).WF := ⟨by simp, by decide, by simp, by decide⟩

end ShVerif.C24
