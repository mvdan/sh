import ShVerif.Model.C35
import ShVerif.Proofs.C35
/-
  C35 — `shfmt -w` replaces files atomically: property theorems about the system-call script
  `writeScript` run on the file-system model of ShVerif/Model/C35.lean.

  Assumed (it is the model's semantics of `rename`): the kernel replaces the directory entry
  atomically.  Outside the model: durability across power loss (`fsync` is a no-op here),
  concurrent writers to the same path, ownership and hard links.
-/
namespace ShVerif.C35

/-- Every intermediate state of the script is a state in which the target is intact. -/
theorem all_states_ok (c : TmpCfg) (perm umask : Nat) (old new : Bytes) :
    ∀ s ∈ states (writeScript c perm umask new) (init old perm umask),
      ∃ fs, s = some fs ∧ TargetOK fs old new perm := by
  intro s hs
  obtain ⟨fs, i, h, k, hp, hr⟩ := run_writeScript c perm umask old new
  rw [writeScript_eq] at hs
  rcases mem_states_concat hs with hs | rfl
  · obtain ⟨fs', rfl, ht, k'⟩ :=
      states_spared (kept_init ..) (prepare_spares _ _ _ _) (by rw [hp]; rfl) s hs
    exact ⟨fs', rfl, ⟨old, perm, .reg⟩, by simp [lookup, ht, init, k'.inode], .inl rfl, rfl, rfl⟩
  · rw [← writeScript_eq, hr]
    exact ⟨_, rfl, ⟨new, perm, .reg⟩, by simp [lookup, h.inode], .inr rfl, rfl, rfl⟩

/-- **prefix_atomic**: kill `shfmt -w` before any system call of the script — after EVERY prefix,
    reading the target yields exactly the old or exactly the new bytes, it is a regular file and
    its permission bits are the original ones.  For every temp-dir configuration, umask, mode and
    contents. -/
theorem prefix_atomic (c : TmpCfg) (perm umask : Nat) (old new : Bytes) (k : Nat) :
    ∃ fs, run ((writeScript c perm umask new).take k) (init old perm umask) = some fs ∧
      TargetOK fs old new perm :=
  all_states_ok c perm umask old new _ (run_take_mem_states _ _ k)

/-- No call of the script fails (from a state where only the target exists). -/
theorem script_runs (c : TmpCfg) (perm umask : Nat) (old new : Bytes) :
    (run (writeScript c perm umask new) (init old perm umask)).isSome = true := by
  obtain ⟨_, _, _, _, _, hr⟩ := run_writeScript c perm umask old new
  rw [hr]; rfl

/-- **no_temp_left**: after the complete script the only name that exists is the target (neither
    probe file nor the pending file is left, in either directory), and it holds exactly the new
    bytes with the original mode. -/
theorem no_temp_left (c : TmpCfg) (perm umask : Nat) (old new : Bytes) :
    ∃ fs, run (writeScript c perm umask new) (init old perm umask) = some fs ∧
      listing fs = [.target] ∧
      lookup fs .target = some { bytes := new, mode := perm, kind := .reg } ∧
      (∀ fd, fs.fds fd = none) := by
  obtain ⟨fs, i, h, _, _, hr⟩ := run_writeScript c perm umask old new
  refine ⟨_, hr, ?_, ?_, h.closed⟩
  · simp [listing, allPaths, h.probes]
  · simp [lookup, h.inode]

/-- The target's name exists after every prefix of the script.  (That nothing but the three
    temporary names can appear next to it is built into the type `Path`; a killed run may leave
    those behind, which the property allows; a *completed* run leaves none: `no_temp_left`.) -/
theorem only_temps_appear (c : TmpCfg) (perm umask : Nat) (old new : Bytes) (k : Nat) :
    ∃ fs, run ((writeScript c perm umask new).take k) (init old perm umask) = some fs ∧
      Path.target ∈ listing fs := by
  obtain ⟨fs, h, ino, h2, _⟩ := prefix_atomic c perm umask old new k
  refine ⟨fs, h, ?_⟩
  unfold lookup at h2
  unfold listing allPaths
  cases hn : fs.names .target with
  | none => simp [hn] at h2
  | some i => simp [hn]

/-- **nonregular_refused**: for a symlink, FIFO, directory or any other non-regular target the
    decision is taken on `Lstat` alone: the script consists of `lstat` calls only (nothing is
    created, written, renamed or removed), and the file system is unchanged. -/
theorem nonregular_refused (kind : FKind) (hk : kind ≠ .reg) (c : TmpCfg) (perm umask : Nat)
    (old new : Bytes) :
    (∀ op ∈ shfmtW kind c perm umask new, op = .lstat .target) ∧
    run (shfmtW kind c perm umask new) (init old perm umask kind) = some (init old perm umask kind) := by
  cases kind <;> simp_all [shfmtW, run, step]

theorem regular_written (c : TmpCfg) (perm umask : Nat) (new : Bytes) :
    shfmtW .reg c perm umask new = writeScript c perm umask new := by
  simp [shfmtW]

/-- The pending file never becomes visible under the target's name before it is complete: at the
    moment of the final rename it holds exactly `new` with mode `perm` (so the rename publishes a
    complete file). -/
theorem temp_complete_before_rename (c : TmpCfg) (perm umask : Nat) (old new : Bytes) :
    ∃ fs, run ((writeScript c perm umask new).take ((writeScript c perm umask new).length - 1))
        (init old perm umask) = some fs ∧
      lookup fs .temp = some { bytes := new, mode := perm, kind := .reg } ∧
      (∀ fd, fs.fds fd = none) := by
  obtain ⟨fs, i, h, _, hp, _⟩ := run_writeScript c perm umask old new
  refine ⟨fs, ?_, by simp [lookup, h.temp, h.inode], h.closed⟩
  rw [writeScript_eq, List.length_append, List.length_singleton, Nat.add_sub_cancel, List.take_left' rfl]
  exact hp

/-- **Hard-link witness**: the original inode (number 0) is never modified — after every prefix of
    the script it still holds the old bytes with the old mode.  Atomic replace means a *new* inode
    under the old name; anything else holding the old inode (a hard link, an open descriptor, a
    running script) keeps seeing the old file. -/
theorem original_inode_untouched (c : TmpCfg) (perm umask : Nat) (old new : Bytes) :
    ∀ s ∈ states (writeScript c perm umask new) (init old perm umask),
      ∃ fs, s = some fs ∧ fs.inodes 0 = some { bytes := old, mode := perm, kind := .reg } := by
  intro s hs
  obtain ⟨fs', e, k⟩ :=
    states_kept _ (kept_init old perm umask .reg) (script_runs c perm umask old new) s hs
  exact ⟨fs', e, k.inode⟩

/-- …and after the complete script the target's name points to a different inode. -/
theorem replaced_by_new_inode (c : TmpCfg) (perm umask : Nat) (old new : Bytes) :
    ∃ fs, run (writeScript c perm umask new) (init old perm umask) = some fs ∧
      fs.names .target ≠ some 0 ∧ fs.inodes 0 = some { bytes := old, mode := perm, kind := .reg } := by
  obtain ⟨fs, i, h, k, _, hr⟩ := run_writeScript c perm umask old new
  exact ⟨_, hr, by simp [h.own], k.inode⟩

/-- **A failing atomic path leaves the file alone**: after every prefix of a failing run's script
    the target is still the original inode with the old bytes and mode, and after the complete
    failing script nothing else is left and nothing is open. -/
theorem failed_run_harmless (c : TmpCfg) (at_ : FailAt) (perm umask : Nat) (old : Bytes) :
    (∀ s ∈ states (failScript c at_) (init old perm umask),
      ∃ fs, s = some fs ∧ fs.names .target = some 0 ∧
        fs.inodes 0 = some { bytes := old, mode := perm, kind := .reg }) ∧
    (∃ fs, run (failScript c at_) (init old perm umask) = some fs ∧ listing fs = [.target] ∧
      (∀ fd, fs.fds fd = none)) := by
  obtain ⟨fs, nf, hr, h⟩ := failScript_idle c at_ old perm umask
  refine ⟨fun s hs => ?_, fs, hr, h.listing, h.closed⟩
  obtain ⟨fs', e, ht, k⟩ :=
    states_spared (kept_init ..) (failScript_spares c at_) (by rw [hr]; rfl) s hs
  exact ⟨fs', e, ht, k.inode⟩

/-- **Alphabet**: no call of any script — successful, failing, or for a non-regular target —
    creates, truncates, writes, chmods or removes the target in place; the only call that changes
    what the target's name refers to is the rename of the pending file onto it. -/
theorem script_alphabet (kind : FKind) (c : TmpCfg) (at_ : FailAt) (perm umask : Nat) (new : Bytes) :
    (∀ op ∈ shfmtW kind c perm umask new, allowedOnTarget op = true) ∧
    (∀ op ∈ failScript c at_, allowedOnTarget op = true) := by
  refine ⟨fun op h => ?_, fun op h => allowed_of_spares (failScript_spares c at_ op h)⟩
  by_cases hk : kind = .reg
  · rw [hk, regular_written, writeScript_eq, List.mem_append, List.mem_singleton] at h
    rcases h with h | rfl
    · exact allowed_of_spares (prepare_spares _ _ _ _ op h)
    · rfl
  · rw [(nonregular_refused kind hk c perm umask [] new).1 op h]; rfl

/-- The permission bits the pending file is created with are the target's, cut by the umask, and
    the `fchmod` is present exactly when the umask took something away. -/
theorem fchmod_iff (c : TmpCfg) (perm umask : Nat) (new : Bytes) :
    Op.fchmod (tempFd c) perm ∈ writeScript c perm umask new ↔ maskMode perm umask ≠ perm := by
  have : Op.fchmod (tempFd c) perm ∉ probe c := by cases c <;> simp [probe]
  simp [writeScript, this]

/-- Non-vacuity: a umask that forces the fchmod, and one that does not. -/
example : maskMode 0o755 0o077 ≠ 0o755 := by decide
example : maskMode 0o644 0o022 = 0o644 := by decide

end ShVerif.C35
