/-
  C02 — Formatting is idempotent: property theorems on the L4 model, fragment F0, every printer
  option except KeepPadding.  Negative: the all-options statement is false (two recorded defects,
  both with default options).  Positive: with SingleLine the second pass is byte-identical, on all
  of F0 and for every other option (`idempotent_singleLine`).
-/
import ShVerif.Proofs.L4PrintGen
import ShVerif.Proofs.L4Single
import ShVerif.Proofs.L4ParseWF
import ShVerif.Proofs.L4Fix
import ShVerif.Proofs.L4Walk
import ShVerif.Proofs.L4WalkN
import ShVerif.Props.C01
namespace ShVerif.Props.C02
open ShVerif ShVerif.L4

deriving instance DecidableEq for Except

/-- The full statement.  It is false of the model and of the code (`idempotent_fails`, known
    findings C02-subshell-trailing-blank and C02-closing-paren-space), so it stays a definition. -/
def idempotent_statement : Prop :=
  ∀ (o : Opts) (l : Lang) (f f' : File) (b : Bytes), f.wf = true → o.keepPadding = false →
    printFile o f = .ok b → parse l b = .ok f' → printFile o f' = .ok b

/-- second formatting pass: parse, then print -/
def reprint (o : Opts) (l : Lang) (b : Bytes) : Except PrintErr Bytes :=
  match parse l b with
  | .ok f => printFile o f
  | .error _ => .error .panic

theorem reprint_of_parse {o l b f} (h : parse l b = .ok f) : reprint o l b = printFile o f := by
  unfold reprint; rw [h]

/-! ### The recorded defect C02-subshell-trailing-blank on the model -/

private def w1 (offs line col : Nat) (s : String) : Word :=
  ⟨[.lit ⟨offs, line, col⟩ ⟨offs + 1, line, col + 1⟩ (bytesOfString s)]⟩

/-- `( (s)` NEWLINE `)` as the parser produces it -/
def trailingBlankWitness : File :=
  ⟨.cons (.mk ⟨0, 1, 1⟩ Pos.zero false false
      (.subshell ⟨0, 1, 1⟩ ⟨6, 2, 1⟩
        (.cons (.mk ⟨2, 1, 3⟩ Pos.zero false false
          (.subshell ⟨2, 1, 3⟩ ⟨4, 1, 5⟩ (.cons (.mk ⟨3, 1, 4⟩ Pos.zero false false (.call [w1 3 1 4 "s"])) .nil))) .nil))) .nil⟩

/-- first pass: `( ` NEWLINE TAB `(s)` NEWLINE `)` — a blank before the line break -/
theorem trailingBlank_first :
    printFile {} trailingBlankWitness = .ok (bytesOfString "( \n\t(s)\n)\n") := by
  decide +kernel

/-- second pass: `(` NEWLINE TAB `(s)` NEWLINE `)` -/
theorem trailingBlank_second :
    reprint {} .bash (bytesOfString "( \n\t(s)\n)\n") = .ok (bytesOfString "(\n\t(s)\n)\n") := by
  decide +kernel

/-- Hence the full statement is false (default options, a tree that the parser produces). -/
theorem idempotent_fails : ¬ idempotent_statement := by
  intro h
  cases hp : parse .bash (bytesOfString "( \n\t(s)\n)\n") with
  | error e =>
    have h2 := trailingBlank_second
    unfold reprint at h2
    rw [hp] at h2
    cases h2
  | ok f' =>
    have h1 := h {} .bash trailingBlankWitness f' _ (by decide +kernel) rfl trailingBlank_first hp
    have h2 := trailingBlank_second
    rw [reprint_of_parse hp, h1] at h2
    revert h2
    decide +kernel

/-! ### C02-closing-paren-space on the model: POSIX `((a;b))` -/

/-- `( (a;b))` : two subshells opened and closed on one line, two statements inside -/
def closingParenWitness : File :=
  ⟨.cons (.mk ⟨0, 1, 1⟩ Pos.zero false false
      (.subshell ⟨0, 1, 1⟩ ⟨7, 1, 8⟩
        (.cons (.mk ⟨2, 1, 3⟩ Pos.zero false false
          (.subshell ⟨2, 1, 3⟩ ⟨6, 1, 7⟩
            (.cons (.mk ⟨3, 1, 4⟩ ⟨4, 1, 5⟩ false false (.call [w1 3 1 4 "a"]))
              (.cons (.mk ⟨5, 1, 6⟩ Pos.zero false false (.call [w1 5 1 6 "b"])) .nil)))) .nil))) .nil⟩

theorem closingParen_first :
    printFile {} closingParenWitness = .ok (bytesOfString "( (\n\ta\n\tb\n) )\n") := by
  decide +kernel

theorem closingParen_second :
    reprint {} .posix (bytesOfString "( (\n\ta\n\tb\n) )\n") = .ok (bytesOfString "( (\n\ta\n\tb\n))\n") := by
  decide +kernel


/-! ## SingleLine: the second pass is byte-identical

  Under SingleLine the printer consults no position: on F0 its output is a function of the norm of
  the tree (`L4.printFile_singleLine`, proved by running the model printer on an abstraction of
  its state).  The first pass parses back to a tree with the same norm (`L4.roundtrip_gen`, the
  C01 round trip), hence the second pass writes the same bytes.  No hypothesis on the re-parsed
  tree is needed. -/

theorem word_wf_ok (w : Word) (h : w.wf = true) : nwordOk w.norm = true := by
  have hne := Word.wf_parts_ne h
  have hparts : ∀ p ∈ w.parts, p.wf = true := by
    unfold Word.wf at h
    simp only [Bool.and_eq_true, List.all_eq_true] at h
    exact h.2
  simp only [nwordOk, Bool.and_eq_true, Bool.not_eq_true', List.isEmpty_eq_false_iff]
  refine ⟨fun e => hne (normParts_nil e), normParts_plain w.parts hparts⟩

mutual
theorem stmt_wf_ok : ∀ s : Stmt, s.wf = true → s.norm.ok = true
  | .mk _ _ _ _ c => fun h => by
    simp only [Stmt.wf, Bool.and_eq_true] at h
    simpa [Stmt.norm, NStmt.ok] using cmd_wf_ok c h.1
theorem cmd_wf_ok : ∀ c : Cmd, c.wf = true → c.norm.ok = true
  | .call args => fun h => by
    cases args with
    | nil => simp [Cmd.wf] at h
    | cons w rest =>
      simp only [Cmd.wf, Bool.and_eq_true, List.all_eq_true] at h
      simp only [Cmd.norm, NCmd.ok, List.map_cons, List.isEmpty_cons, Bool.not_false, Bool.true_and, List.all_cons,
        Bool.and_eq_true, List.all_eq_true, List.mem_map, forall_exists_index, and_imp, forall_apply_eq_imp_iff₂]
      exact ⟨word_wf_ok w (h.1 w (by simp)), fun x hx => word_wf_ok x (h.1 x (by simp [hx]))⟩
  | .subshell _ _ ss => fun h => by
    simp only [Cmd.wf, Bool.and_eq_true, decide_eq_true_eq] at h
    cases ss with
    | nil => simp [Stmts.length] at h
    | cons s r => simpa [Cmd.norm, Stmts.norm, NCmd.ok] using stmts_wf_ok (.cons s r) h.2
  | .block _ _ ss => fun h => by
    simp only [Cmd.wf, Bool.and_eq_true, decide_eq_true_eq] at h
    cases ss with
    | nil => simp [Stmts.length] at h
    | cons s r => simpa [Cmd.norm, Stmts.norm, NCmd.ok] using stmts_wf_ok (.cons s r) h.2
  | .binary _ _ x y => fun h => by
    simp only [Cmd.wf, Bool.and_eq_true] at h
    simp only [Cmd.norm, NCmd.ok, Bool.and_eq_true]
    exact ⟨stmt_wf_ok x h.1.1.1.1, stmt_wf_ok y h.1.1.1.2⟩
theorem stmts_wf_ok : ∀ ss : Stmts, ss.wf = true → ss.norm.ok = true
  | .nil => fun _ => rfl
  | .cons s r => fun h => by
    obtain ⟨h1, h2⟩ := Stmts.wf_cons h
    simp only [Stmts.norm, NStmts.ok, Bool.and_eq_true]
    exact ⟨stmt_wf_ok s h1, stmts_wf_ok r h2⟩
end

/-- **Idempotence under SingleLine** (all of F0, every other option, every variant): if a
    well-formed tree with monotone positions prints as `b` and `b` parses to `f'`, then `f'`
    prints as `b` again. -/
theorem idempotent_singleLine (o : Opts) (l : Lang) (f f' : File) (b : Bytes) (hsl : o.singleLine = true)
    (hwf : f.wf = true) (hmono : posMono f) (hne : f.stmts ≠ .nil)
    (hp : printFile o f = .ok b) (hq : parse l b = .ok f') : printFile o f' = .ok b := by
  have hmn : o.minify = false := by
    cases hm : o.minify with
    | false => rfl
    | true =>
      unfold printFile at hp
      simp [refuse, hm, hsl] at hp
  obtain ⟨f'', h1, h2⟩ := roundtrip_gen o l f b hwf hmono hne hp
  rw [hq] at h1
  cases h1
  have hok : f.norm.ok = true := stmts_wf_ok f.stmts hwf
  have hne' : f'.stmts ≠ .nil := by
    intro e
    have : f'.norm = .nil := by simp [File.norm, e, Stmts.norm]
    rw [h2] at this
    obtain ⟨ss⟩ := f
    cases ss with
    | nil => exact hne rfl
    | cons s r => simp [File.norm, Stmts.norm] at this
  rw [printFile_singleLine o hsl hmn f' (by rw [h2]; exact hok) hne', h2,
    ← printFile_singleLine o hsl hmn f hok hne]
  exact hp

/-- for instance the witness of C02-subshell-trailing-blank is stable under SingleLine: it prints
    `( (s) )`, and so does the second pass -/
theorem trailingBlank_singleLine :
    printFile { singleLine := true } trailingBlankWitness = .ok (bytesOfString "( (s) )\n") ∧
    reprint { singleLine := true } .bash (bytesOfString "( (s) )\n") = .ok (bytesOfString "( (s) )\n") := by
  constructor <;> decide +kernel

/-- the second pass as a function of the bytes: `reprint` gives the same bytes back -/
theorem reprint_singleLine (o : Opts) (l : Lang) (f : File) (b : Bytes) (hsl : o.singleLine = true)
    (hwf : f.wf = true) (hmono : posMono f) (hne : f.stmts ≠ .nil) (hp : printFile o f = .ok b) :
    reprint o l b = .ok b := by
  obtain ⟨f', h1, _⟩ := roundtrip_gen o l f b hwf hmono hne hp
  rw [reprint_of_parse h1]
  exact idempotent_singleLine o l f f' b hsl hwf hmono hne hp h1

/-- **Idempotence under SingleLine, from source text**: if `src` parses to a non-empty `f`, `f`
    prints as `b` under an option set with SingleLine, then formatting `b` again gives `b`.  No
    hypothesis on the tree (`parse_wf_posMono`). -/
theorem idempotent_singleLine_src (o : Opts) (l : Lang) (src : Bytes) (f : File) (b : Bytes) (hsl : o.singleLine = true)
    (hsrc : parse l src = .ok f) (hne : f.stmts ≠ .nil) (hp : printFile o f = .ok b) : reprint o l b = .ok b := by
  obtain ⟨hwf, hmono⟩ := parse_wf_posMono l src f hsrc
  exact reprint_singleLine o l f b hsl hwf hmono hne hp

/-! ## A word printed on its own -/

/-- **Idempotence for a word printed on its own** (every option set): lexing the printed word and
    printing the result gives the same bytes. -/
theorem idempotent_word (o : Opts) (w : Word) (hw : w.wf = true) (b : Bytes) (hp : printWord o w = .ok b)
    (parts : List WordPart) (stop : Pos) (hl : lexWord b ⟨0, 1, 1⟩ .idle [] = .done parts stop []) :
    printWord o ⟨parts⟩ = .ok b := by
  have hr : refuse o = false := by
    cases h : refuse o with
    | false => rfl
    | true => unfold printWord at hp; simp [h] at hp
  rw [C01.printWord_bytes o hr w hw] at hp
  cases hp
  obtain ⟨parts2, stop2, h1, h2⟩ := C01.roundtrip_word o w hw _ (C01.printWord_bytes o hr w hw)
  rw [hl] at h1
  cases h1
  -- the lexed parts are well formed
  obtain ⟨x, t, hx, hsafe⟩ := wordBytes_head w.parts (Word.wf_parts_ne hw) (Word.wf_parts hw)
  rw [hx] at hl
  obtain ⟨_, hwf2, _⟩ := lexWord_start_ok x t ⟨0, 1, 1⟩ parts stop [] [] (by rcases hsafe with h | h <;> simp [h]) hl
    (by simp [Sorted])
  rw [C01.printWord_bytes o hr ⟨parts⟩ hwf2]
  congr 1
  have hp1 := normParts_plain parts (Word.wf_parts hwf2)
  have hp2 := normParts_plain w.parts (Word.wf_parts hw)
  rw [wordBytes_norm parts hp1, wordBytes_norm w.parts hp2]
  show nwordBytes (normParts parts) = nwordBytes w.norm
  rw [h2]

/-! ## Without SingleLine: programs without subshells and blocks

  Outside SingleLine the printed layout depends on the line numbers in the tree.  Call `f'` a
  *transcript* of printing `f` (`TrFile o f f'`; `trFileB o f f'` is the executable check,
  `Model/L4Transcript.lean`) when `f'` has the shape of `f` and carries, as line numbers, the
  lines on which `printFile o f` actually writes the corresponding tokens: every word starts on
  the line where it was written and ends that line plus the newlines inside it, a statement
  starts where its first token was written, a `;`/`&` sits where it was written, an operator not
  after its right operand.

  1. `reprint_fixpoint` (`Proofs/L4Fix.lean`): printing a transcript writes the same bytes again,
     for *every* option set without SingleLine (Minify, BinaryNextLine, Indent n, …) and every
     line-number assignment of `f` — continuation lines, blank lines and multi-line `&&`/`||`/`|`
     lists included.  The two printer passes are run side by side: same flags and levels, same
     bytes, and the second pass's line counter *is* the current output line.
  2. `reparse_transcript` (`Proofs/L4Walk.lean`, `Proofs/L4WalkN.lean`): the parser reads the printed text back as a
     transcript.  Ingredients: where the tokens of printed text sit (`lexAll_pieces_lines`: the
     k-th token is on line 1 + the newlines written before the k-th word/operator piece), where a
     word ends (`lexAll_ok3`), the tree is the token stream (`parse_tokens`), statement positions
     are first-token positions (`parse_pk`), `parse_WF`, and C01's round trip on norms.
  3. Hence `idempotent_linear`: the statement the property asks for, from source text, with no
     hypothesis on any tree, for programs without subshells and blocks (`Stmts.lin`): simple
     commands with literal and single-quoted words, `!`, `&`, `;`, and `&&`/`||`/`|` lists of any
     nesting and any layout.

  Subshells and blocks: see the section "subshells and blocks, under a side condition" below
  (`idempotent_nested_partial`).  There the printer reads positions not only through "is this token
  after the current line": `lp.line != s.pos.line`, `closing.line > p.line ∧ endLine <
  closing.line` and `openLine == closeLine` compare positions of the *first* tree with each other,
  and the transcript answers them differently exactly in the two recorded defects
  (`idempotent_fails`: `( (s)` NEWLINE `)`, POSIX `((a;b))`); the transcript relation therefore
  carries the agreement of these comparisons, and the executable side condition `nestOKFile`
  provides it. -/

/-- **The printer is a fixpoint on its own layout.** -/
theorem reprint_fixpoint (o : Opts) (f f' : File) (hsl : o.singleLine = false) (t : trFileB o f f' = true) :
    printFile o f' = printFile o f :=
  printFile_transcript o f f' hsl t

/-- the same with the relational form of "transcript" (`TrFile`, which the check decides) -/
theorem reprint_fixpoint_rel (o : Opts) (f f' : File) (hsl : o.singleLine = false) (t : TrFile o f f') :
    printFile o f' = printFile o f :=
  printFile_fix o f f' hsl t

/-- idempotence of one formatting run, given that its re-parsed output is a transcript -/
theorem idempotent_of_transcript (o : Opts) (l : Lang) (f f' : File) (b : Bytes) (hsl : o.singleLine = false)
    (hp : printFile o f = .ok b) (_hq : parse l b = .ok f') (t : trFileB o f f' = true) :
    printFile o f' = .ok b := by
  rw [reprint_fixpoint o f f' hsl t]; exact hp

/-- the hypotheses are satisfiable, with a continuation line, a blank line, a `&&` broken after
    the operator, `&` and a quoted newline: the parser does read the printed text back as a
    transcript here -/
example :
    (match parse .bash "a \\\n  b &\n\n\nc 'x\ny' &&\n d | e\n! f".toUTF8.toList with
     | .ok f =>
       match printFile {} f with
       | .ok b =>
         match parse .bash b with
         | .ok f' => trFileB {} f f' && !f.stmts.toList.isEmpty && b.count 10 ≥ 6
         | _ => false
       | _ => false
     | _ => false) = true := by
  decide +kernel

/-- **The parser reads printed text back as a transcript** (programs without subshells and
    blocks, every option set without SingleLine, every variant). -/
theorem reparse_transcript (o : Opts) (l : Lang) (src : Bytes) (f f' : File) (b : Bytes) (hsrc : parse l src = .ok f)
    (hlin : f.stmts.lin = true) (hne : f.stmts ≠ .nil) (hsl : o.singleLine = false)
    (hp : printFile o f = .ok b) (hq : parse l b = .ok f') : TrFile o f f' :=
  transcript o l src f f' b hsrc hlin hne hsl hp hq

theorem norm_nil_stmts {f : File} (h : f.norm.beq NStmts.nil = true) : f.stmts = .nil := by
  obtain ⟨ss⟩ := f
  cases ss with
  | nil => rfl
  | cons s r => simp [File.norm, Stmts.norm, NStmts.beq] at h

/-- the second pass succeeds and writes the same bytes -/
theorem reprint_linear (o : Opts) (l : Lang) (src : Bytes) (f f' : File) (b : Bytes) (hsrc : parse l src = .ok f)
    (hlin : f.stmts.lin = true) (hsl : o.singleLine = false)
    (hp : printFile o f = .ok b) (hq : parse l b = .ok f') : printFile o f' = .ok b := by
  by_cases hne : f.stmts = .nil
  · -- the empty file prints as one newline, which parses to the empty file
    obtain ⟨ss⟩ := f
    simp only at hne
    subst hne
    have hr : refuse o = false := by
      cases h : refuse o with
      | false => rfl
      | true => unfold printFile at hp; simp [h] at hp
    rw [C01.printFile_nil o hr] at hp
    simp only [Except.ok.injEq] at hp
    subst hp
    have hn := C01.parse_newline l
    rw [hq] at hn
    have : f' = ⟨.nil⟩ := by
      have := norm_nil_stmts hn
      obtain ⟨ss'⟩ := f'
      simp only at this
      rw [this]
    rw [this]
    exact C01.printFile_nil o hr
  · exact L4.idempotent_linear o l src f f' b hsrc hlin hne hsl hp hq

/-- **Idempotence without SingleLine on programs without subshells and blocks** — the
    property's own statement, from source text: every option set without SingleLine (KeepPadding is
    outside the model), every variant, no hypothesis on any tree. -/
theorem idempotent_linear (o : Opts) (l : Lang) (src : Bytes) (f f' : File) (b b' : Bytes)
    (hsrc : parse l src = .ok f) (hlin : f.stmts.lin = true) (hsl : o.singleLine = false)
    (hp : printFile o f = .ok b) (hq : parse l b = .ok f') (hp' : printFile o f' = .ok b') : b' = b := by
  rw [reprint_linear o l src f f' b hsrc hlin hsl hp hq] at hp'
  simp only [Except.ok.injEq] at hp'
  exact hp'.symm

/-- the hypotheses are satisfiable, and the layout is not trivial: a continuation line, a blank
    line, `&&` broken after the operator, `&`, a quoted newline, `!` -/
example : ∃ f, parse .bash "a \\\n  b &\n\n\nc 'x\ny' &&\n d | e\n! f".toUTF8.toList = .ok f ∧ f.stmts.lin = true := by
  suffices h : ∀ r : Except ParseErr File, (match r with | .ok f => f.stmts.lin | _ => false) = true →
      ∃ f, r = .ok f ∧ f.stmts.lin = true from h _ (by decide +kernel)
  intro r hr
  cases r with
  | error e => cases hr
  | ok f => exact ⟨f, rfl, hr⟩

/-! ## Without SingleLine: subshells and blocks, under a side condition

  `nestOKFile o f` (executable, `Model/L4Transcript.lean`) runs the printer on `f` and checks, at
  every subshell and block, that the comparisons the printer makes between positions of the tree —
  is the first statement on the line of `(` (`lp.line != s.pos.line`, when it starts with `(`),
  is the closing token below the end of the list (`closing.line > p.line ∧ endLine < closing.line`),
  is the single statement on a later line than the printer's counter (`stmtList`'s `sep`), are
  `(` and `)` on one line (`closingParen`, when the single statement ends in `)`) — come out the
  same on the lines where the tokens are actually written; for a block also that the printer is
  past its first line.  Programs without subshells and blocks satisfy it (`nestOKFile_of_lin`), the
  two recorded defects do not (`nestOK_excludes_defects`).

  `idempotent_nested_partial`: the property's own statement on all of F0 under this condition.
  Proof: `reprint_fixpoint_rel` covers subshells and blocks (the transcript relation carries the
  agreement of these comparisons), `Proofs/L4WalkN.lean` extends the walk (`transcriptN`): `(`, `)`,
  `{`, `}` and the `;` that `semiRsrv` writes before `}` (which the parser gives to the last
  statement) are tokens of the run; `end_stmt/end_cmd/end_loop` show that the end line of a re-read
  statement is the line on which the first run finished it. -/

/-- the second pass succeeds -/
theorem reprint_nested_partial (o : Opts) (l : Lang) (src : Bytes) (f f' : File) (b : Bytes)
    (hsrc : parse l src = .ok f) (hnok : nestOKFile o f = true) (hsl : o.singleLine = false)
    (hp : printFile o f = .ok b) (hq : parse l b = .ok f') : printFile o f' = .ok b := by
  by_cases hne : f.stmts = .nil
  · have hlin : f.stmts.lin = true := by rw [hne]; rfl
    exact reprint_linear o l src f f' b hsrc hlin hsl hp hq
  · exact L4.idempotent_nested o l src f f' b hsrc hnok hne hsl hp hq

/-- **Idempotence without SingleLine on all of F0 under the side condition `nestOKFile`** — from
    source text, every option set without SingleLine, every variant, no hypothesis on any tree. -/
theorem idempotent_nested_partial (o : Opts) (l : Lang) (src : Bytes) (f f' : File) (b b' : Bytes)
    (hsrc : parse l src = .ok f) (hnok : nestOKFile o f = true) (hsl : o.singleLine = false)
    (hp : printFile o f = .ok b) (hq : parse l b = .ok f') (hp' : printFile o f' = .ok b') : b' = b := by
  rw [reprint_nested_partial o l src f f' b hsrc hnok hsl hp hq] at hp'
  simp only [Except.ok.injEq] at hp'
  exact hp'.symm

/-- programs without subshells and blocks satisfy the side condition -/
theorem nestOK_of_linear (o : Opts) (f : File) (h : f.stmts.lin = true) : nestOKFile o f = true :=
  L4.nestOKFile_of_lin o f h

/-- the two recorded defects are outside the side condition, as they must be -/
theorem nestOK_excludes_defects :
    nestOKFile {} trailingBlankWitness = false ∧ nestOKFile {} closingParenWitness = false := by
  decide +kernel

/-- the side condition holds for ordinary nested programs: subshells and blocks on one line and
    over several lines, nested in each other and in `&&`/`|` lists -/
example :
    (match parse .bash "( a; b )\n{ c; }\n(\n a &&\n b\n)\n{ c\n d; }\nx | ( y )\n{ (a); } && ( b\n)\n".toUTF8.toList with
     | .ok f => nestOKFile {} f && !f.stmts.lin
     | _ => false) = true := by
  decide +kernel

/-! ## Stated, not proved

  Idempotence without SingleLine under the *syntactic* side condition `noParenParen` (no subshell
  whose single statement starts or ends with a parenthesis).  A definition, not a theorem: what is
  proved is `idempotent_nested_partial`, whose side condition `nestOKFile` is executable but runs
  the printer; that `noParenParen` (with `posMono`, no Minify) implies `nestOKFile` is not proved —
  it needs the printer's line counter to be in step with the source lines at every `(` and `{`
  (the `Pre` invariants of `Proofs/L4PrintGen.lean`) and fails for exotic layouts such as
  `{ a \` NEWLINE `\` NEWLINE `\` NEWLINE `; }` (a `;` three continuation lines down: `nestOKFile`
  is false and the model's two passes differ).  Checked by execution (`specidem`) on every run. -/

def idempotent_partial_statement : Prop :=
  ∀ (o : Opts) (l : Lang) (f f' : File) (b : Bytes), f.wf = true → posMono f → f.stmts.noParenParen = true →
    o.keepPadding = false → o.minify = false → o.singleLine = false →
    printFile o f = .ok b → parse l b = .ok f' → printFile o f' = .ok b

/-- both witnesses are excluded by the side condition, as they must be -/
example : trailingBlankWitness.stmts.noParenParen = false ∧ closingParenWitness.stmts.noParenParen = false := by
  decide +kernel

end ShVerif.Props.C02
