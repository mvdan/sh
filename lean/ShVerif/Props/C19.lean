import ShVerif.Model.C19
import ShVerif.Proofs.C19
import ShVerif.Proofs.C19Star
/-
  C19 — Pathname expansion matches bash.  Property theorems about the model of
  expand.FieldsSeq / escapedGlobField / Config.glob / globDir (ShVerif/Model/C19.lean); the model is
  tied to the Go code on every run (stream `fields`), the specification is run against the
  implementation and against bash (streams `specfields`, `specbash`).
-/
namespace ShVerif.C19
open ShVerif ShVerif.L3

/-- `set -f` (ReadDir2 = nil): every field is kept as it is. -/
theorem noglob_rule (rd : Reader) (mk : Matcher) (cfg : Cfg) (base : Str) (f : Field)
    (h : cfg.noglob = true) : fieldOutcome rd mk cfg base f = .keep := by
  unfold fieldOutcome
  cases escapedGlobField f <;> simp [h]

/-- A field without an unquoted pattern character (or whose escaped text has no metacharacter) is kept. -/
theorem unglobbed_field_kept (rd : Reader) (mk : Matcher) (cfg : Cfg) (base : Str) (f : Field)
    (h : escapedGlobField f = none) : fieldOutcome rd mk cfg base f = .keep := by
  simp [fieldOutcome, h]

/-- nullglob: a pattern without matches expands to zero fields. -/
theorem nullglob_rule (rd : Reader) (mk : Matcher) (cfg : Cfg) (base pat : Str) (f : Field)
    (hf : escapedGlobField f = some pat) (hg : cfg.noglob = false) (hn : cfg.nullglob = true)
    (h : glob rd mk cfg base pat = .ok []) : fieldOutcome rd mk cfg base f = .expand [] := by
  rw [fieldOutcome_glob hf hg, h, hn]; rfl

/-- Without nullglob a pattern without matches stays as the word itself. -/
theorem no_match_keeps_word (rd : Reader) (mk : Matcher) (cfg : Cfg) (base pat : Str) (f : Field)
    (hf : escapedGlobField f = some pat) (hn : cfg.nullglob = false)
    (h : glob rd mk cfg base pat = .ok []) : fieldOutcome rd mk cfg base f = .keep := by
  cases hg : cfg.noglob with
  | true => exact noglob_rule rd mk cfg base f hg
  | false => rw [fieldOutcome_glob hf hg, h, hn]; rfl

/-- A pattern with matches is replaced by them. -/
theorem match_expands (rd : Reader) (mk : Matcher) (cfg : Cfg) (base pat : Str) (f : Field) (m : Str) (ms : List Str)
    (hf : escapedGlobField f = some pat) (hg : cfg.noglob = false)
    (h : glob rd mk cfg base pat = .ok (m :: ms)) : fieldOutcome rd mk cfg base f = .expand (m :: ms) := by
  rw [fieldOutcome_glob hf hg, h]; rfl

/-- A malformed pattern (`*pattern.SyntaxError`) keeps the word — with or without nullglob. -/
theorem syntax_error_keeps_word (rd : Reader) (mk : Matcher) (cfg : Cfg) (base pat : Str) (f : Field)
    (hf : escapedGlobField f = some pat)
    (h : glob rd mk cfg base pat = .error .syntax) : fieldOutcome rd mk cfg base f = .keep := by
  cases hg : cfg.noglob with
  | true => exact noglob_rule rd mk cfg base f hg
  | false => rw [fieldOutcome_glob hf hg, h]; rfl

/-- The whole table of `decideGlob` on result shapes. -/
theorem decision_table (nullglob : Bool) :
    decideGlob nullglob (.error .syntax) = .keep ∧
    decideGlob nullglob (.ok []) = (if nullglob then .expand [] else .keep) ∧
    (∀ m ms, decideGlob nullglob (.ok (m :: ms)) = .expand (m :: ms)) ∧
    (∀ e, decideGlob nullglob (.error (.fs e)) = .fail (.fs e)) ∧
    decideGlob nullglob (.error .unsupported) = .fail .unsupported ∧
    decideGlob nullglob (.error .panic) = .fail .panic := by
  cases nullglob <;> exact ⟨rfl, rfl, fun _ _ => rfl, fun _ => rfl, rfl, rfl⟩

/-- A field made of quoted parts only is never globbed. -/
theorem quoted_field_never_globbed (f : Field) (h : ∀ p ∈ f, p.quoted = true) : escapedGlobField f = none := by
  unfold escapedGlobField
  have : f.any (fun p => !p.quoted && hasPatChar p.val) = false := by
    apply List.any_eq_false.mpr
    intro p hp
    simp [h p hp]
  simp [this]

/-- What reaches `glob`: the unquoted parts verbatim, and for quoted parts every character, with a
    backslash exactly on `* ? [ \` — provided no unquoted part ends in an unpaired backslash.
    (That `\c` is matched as the character `c` is the matcher's law, property C17.) -/
theorem escaped_glob_field_partial (f : Field)
    (h : ∀ p ∈ f, p.quoted = false → danglingBS p.val = false) :
    toks (escapeParts f) = f.flatMap (partToks isQuoteMetaSpecial) := by
  induction f with
  | nil => rfl
  | cons p rest ih =>
    have ih' := ih (fun q hq => h q (List.mem_cons_of_mem _ hq))
    rw [escapeParts, List.flatMap_cons, partToks]
    cases hq : p.quoted with
    | true => rw [if_pos rfl, if_pos rfl, toks_quoteMeta, ih']
    | false =>
      rw [if_neg Bool.false_ne_true, if_neg Bool.false_ne_true,
        toks_append _ (h p (List.mem_cons_self ..) hq), ih']

/-- The full statement: every quoted character that means something in a pattern comes out escaped.
    FALSE today: `]`, `!`, `^`, `-` of a quoted part stay active inside a bracket expression that an
    unquoted `[` opened (counter-example below; `touch a; echo [a"]"` prints `a`, bash prints `[a]`). -/
def escaped_glob_field_statement : Prop :=
  ∀ f : Field, (∀ p ∈ f, p.quoted = false → danglingBS p.val = false) →
    toks (escapeParts f) = f.flatMap (partToks isPatSpecial)

def bracketField : Field := [⟨strOf "[a", false⟩, ⟨strOf "]", true⟩]

theorem escaped_glob_field_statement_false : ¬ escaped_glob_field_statement := by
  intro h
  have := h bracketField (by decide)
  revert this
  decide

/-- …and it matters: the field `[a"]"` is globbed with the pattern `[a]`, which matches `a`. -/
theorem escaped_glob_field_counterexample :
    escapedGlobField bracketField = some (strOf "[a]") ∧
    (match extMatcher (Cfg.mode ⟨false, false, false, false, false, false⟩) (strOf "[a]") with
      | .ok f => f (strOf "a") | _ => false) = true := by
  decide +kernel

/-- An unquoted part that ends in an unpaired backslash swallows the escape of what follows. -/
theorem dangling_backslash_counterexample :
    toks (escapeParts [⟨[cBS], false⟩, ⟨[cStar], true⟩]) = [(cBS, true), (cStar, false)] := by decide

/-- The result of `glob` is sorted (byte order). -/
theorem glob_sorted (rd : Reader) (mk : Matcher) (cfg : Cfg) (base pat : Str) (l : List Str)
    (h : glob rd mk cfg base pat = .ok l) : Sorted l := by
  obtain ⟨m, _, rfl⟩ := glob_ok h
  exact dropEmptyHead_sorted (sortStrs_sorted m)

/-- Model = specification for EVERY pattern, `**` included: whenever `glob` returns a list (the walk
    finished within its fuel and no directory read failed), a non-empty path is in it iff it is
    selected component by component, where a `**` component under globstar selects what the walk can
    reach (`StarReach`: the prefix with a trailing slash, then repeatedly the entries — directories only
    when more components follow, no leading dot unless dotglob — of anything reached).  `SelStar`,
    `StarReach` are defined in Proofs/C19Star.lean.  No side condition: this is about the model (= the
    code, by the tie); where `**` differs from bash is findings C19-globstar-follows-symlink,
    C19-globstar-repeated (`glob_nodup_statement_false`), C19-globstar-zero-match-slash. -/
def glob_spec_globstar_statement : Prop :=
  ∀ (rd : Reader) (mk : Matcher) (cfg : Cfg) (base pat : Str) (l : List Str),
    glob rd mk cfg base pat = .ok l → ∀ r, r ≠ [] →
      (r ∈ l ↔ SelStar rd mk cfg base (patParts pat) (patStart pat) r)

theorem glob_spec_globstar : glob_spec_globstar_statement := by
  intro rd mk cfg base pat l h r hr
  obtain ⟨m, hm, rfl⟩ := glob_ok h
  rw [mem_dropEmptyHead hr, mem_sortStrs, globLoop_selStar _ _ _ hm r]
  exact ⟨fun ⟨d, hd, hs⟩ => List.mem_singleton.mp hd ▸ hs, fun hs => ⟨_, List.mem_singleton.mpr rfl, hs⟩⟩

/-- Model = specification for patterns without an active `**`: a non-empty path is in the result
    iff it is selected component by component (`Sel`). -/
theorem glob_spec (rd : Reader) (mk : Matcher) (cfg : Cfg) (base pat : Str) (l : List Str)
    (hns : ∀ p ∈ patParts pat, isGlobStar cfg p = false)
    (h : glob rd mk cfg base pat = .ok l) (r : Str) (hr : r ≠ []) :
    r ∈ l ↔ Sel rd mk cfg base (patParts pat) (patStart pat) r :=
  (glob_spec_globstar rd mk cfg base pat l h r hr).trans (selStar_iff_sel hns _ r)

/-- The walk itself: when it finishes, it has visited exactly the start prefixes and everything
    reachable from them (each at least once; see `glob_nodup_statement_false` for "more than once"). -/
theorem star_walk_visits (rd : Reader) (base : Str) (dotglob wantDir : Bool) (fuel : Nat)
    (start out : List Str) (h : starWalk rd base dotglob wantDir fuel start [] = some out) (x : Str) :
    x ∈ out ↔ ∃ d ∈ start, StarReach rd base dotglob wantDir d x := by
  rw [starWalk_mem fuel start [] out h x]
  exact or_iff_right List.not_mem_nil

/-- No duplicates, for patterns without an active `**`, over any directory reader that lists
    distinct, non-empty, slash-free names. -/
theorem glob_nodup_partial (rd : Reader) (mk : Matcher) (cfg : Cfg) (base pat : Str) (l : List Str)
    (hwf : ReaderWF rd) (hns : ∀ p ∈ patParts pat, isGlobStar cfg p = false)
    (h : glob rd mk cfg base pat = .ok l) : l.Nodup := by
  obtain ⟨m, hm, rfl⟩ := glob_ok h
  have := globLoop_nodup hwf _ _ _ (patParts_slashfree pat) hns (lvl_singleton _) hm
  exact ((sortStrs_perm m).nodup_iff.mpr this).sublist (dropEmptyHead_sublist _)

/-- The full statement (every pattern): FALSE today — a second `**` walks again from every match of
    the first one (`**/**` lists `d/y` twice). -/
def glob_nodup_statement : Prop :=
  ∀ (rd : Reader) (mk : Matcher) (cfg : Cfg) (base pat : Str) (l : List Str),
    ReaderWF rd → glob rd mk cfg base pat = .ok l → l.Nodup

def starTree : Node := .dir [(strOf "w", .dir [(strOf "d", .dir [(strOf "y", .file)])])]
def cfgStar : Cfg := ⟨false, false, true, false, false, false⟩

theorem glob_nodup_counterexample :
    (match glob (readDir starTree) extMatcher cfgStar (strOf "/w") (strOf "**/**") with
      | .ok l => l == [strOf "d", strOf "d/", strOf "d/y", strOf "d/y"]
      | .error _ => false) = true := by decide +kernel

theorem glob_nodup_statement_false : ¬ glob_nodup_statement := by
  intro h
  have hc := glob_nodup_counterexample
  cases hg : glob (readDir starTree) extMatcher cfgStar (strOf "/w") (strOf "**/**") with
  | error e => rw [hg] at hc; cases hc
  | ok l =>
    rw [hg] at hc
    have := h _ _ _ _ _ _ (readDir_wf starTree (by decide)) hg
    rw [eq_of_beq hc] at this
    -- the last two entries are the same path
    exact (List.pairwise_cons.mp (List.pairwise_cons.mp (List.pairwise_cons.mp this).2).2).1 _
      (List.mem_singleton.mpr rfl) rfl

def demoTree : Node :=
  .dir [(strOf "w", .dir [(strOf "a", .file), (strOf "b", .file), (strOf "x", .dir [(strOf "a*", .file), (strOf "ab", .file)])])]

def cfg0 : Cfg := ⟨false, false, false, false, false, false⟩

def okIs (r : Except FErr (List Str)) (l : List Str) : Bool :=
  match r with
  | .ok x => x == l
  | .error _ => false

example : okIs (fields (readDir demoTree) extMatcher cfg0 (strOf "/w") [.unq (strOf "*")])
    [strOf "a", strOf "b", strOf "x"] = true := by decide +kernel
example : okIs (fields (readDir demoTree) extMatcher cfg0 (strOf "/w") [.unq (strOf "x/a"), .dq (strOf "*")])
    [strOf "x/a*"] = true := by decide +kernel
example : okIs (fields (readDir demoTree) extMatcher cfg0 (strOf "/w") [.unq (strOf "q*")])
    [strOf "q*"] = true := by decide +kernel
example : okIs (fields (readDir demoTree) extMatcher { cfg0 with nullglob := true } (strOf "/w") [.unq (strOf "q*")])
    [] = true := by decide +kernel
example : okIs (fields (readDir demoTree) extMatcher { cfg0 with noglob := true } (strOf "/w") [.unq (strOf "*")])
    [strOf "*"] = true := by decide +kernel

end ShVerif.C19
