import ShVerif.Model.C13
import ShVerif.Proofs.C13
/-
  C13 — Quote produces a word that expands back to the string.  Property theorems.

  `quote` is the model of syntax.Quote, `lexWords` of Parser.Words on Quote's output shapes,
  `expandLit` of expand.Literal (ShVerif/Model/C13.lean); all three are tied to the Go code on
  every run.  Variants are `syntax.LangVariant` bit sets (`Lang = Nat`).
-/
namespace ShVerif.C13

/-- An empty string is always quoted as `''`, in every variant. -/
theorem empty_quoted (l : Lang) : quote l [] = .ok [0x27, 0x27] := by
  simp [quote, quoteCore]

/-- For every variant the parser accepts (the five variants and the legacy zero value) and every
    byte string: when Quote succeeds, the parser reads its result back as **exactly one word**
    (`lexWords … = ok [w]`: no parse error, nothing outside the literal/quoted fragment, not zero
    or several words) made only of literal and quoted parts (`WordShape`: one bare literal, one
    '…', one "…" without expansions, or one or more $'…'), and `expand.Literal` of that word is
    exactly the original string. -/
theorem quote_roundtrip (l : Lang) (s q : Bytes) (hl : validLang l = true)
    (h : quote l s = .ok q) :
    ∃ w, lexWords (resolve l) q = .ok [w] ∧ WordShape w ∧ expandLit w = .ok s := by
  obtain ⟨w, h1, h2, h3, _⟩ := quote_roundtrip_main (resolve l) (resolve l) s q (dollSglOK_of hl) h
  exact ⟨w, h1, h2, h3⟩

/-- The same, through `unquote` (parse as words, demand exactly one, expand it). -/
theorem quote_unquote (l : Lang) (s q : Bytes) (hl : validLang l = true)
    (h : quote l s = .ok q) : unquote (resolve l) q = .ok s := by
  obtain ⟨w, h1, _, h3⟩ := quote_roundtrip l s q hl h
  simp only [unquote, h1, h3]

/-- Quote never produces an empty result. -/
theorem quote_nonempty (l : Lang) (s q : Bytes) (hl : validLang l = true)
    (h : quote l s = .ok q) : q ≠ [] := by
  obtain ⟨w, h1, _, _⟩ := quote_roundtrip l s q hl h
  intro e; subst e
  simp [lexWords, inFragment, validUTF8, runes, runesF, lexF, finish] at h1

/-- The property, for **every** `LangVariant` value (the five variants, the legacy zero value,
    LangAuto, and bit sets that are no variant): Quote fails exactly on the strings the variant —
    understood as the rest of the package understands it, zero = Bash — cannot represent: a NUL
    byte anywhere; in POSIX a non-printable rune or invalid UTF-8; in mksh a non-printable rune
    above U+FFFD. -/
theorem quote_fails_iff (l : Lang) (s : Bytes) :
    (∃ e, quote l s = .error e) ↔ specFails l s = true := by
  have h0 := resolve_ne_zero l
  unfold quote
  rw [quote_fails_iff_codeFails]
  simp only [codeFails, specFails, langIn_eq_of_ne_zero h0 (.inl rfl),
    langIn_eq_of_ne_zero h0 (.inr rfl)]

/-- The same in the code's own terms (`lang.in(...)` after the legacy-zero guard). -/
theorem quote_fails_iff_code (l : Lang) (s : Bytes) :
    (∃ e, quote l s = .error e) ↔ codeFails (resolve l) s = true :=
  quote_fails_iff_codeFails (resolve l) s

/-- Why the guard `if lang == langBashLegacy { lang = LangBash }` is needed.  Without it
    (the body alone, as before commit 9caaaf3) the zero value is "in" every language set and a
    newline is refused with the POSIX error; with it Quote gives `$'\n'` like LangBash. -/
theorem pinned_legacy_zero :
    (∀ m : Lang, langIn 0 m = true) ∧
    quoteCore 0 [0x0a] = .error ⟨0, .posix⟩ ∧
    quote 0 [0x0a] = .ok [0x24, 0x27, 0x5c, 0x6e, 0x27] ∧
    quote 0 [0x0a] = quote langBash [0x0a] := by
  refine ⟨fun m => by simp [langIn], ?_⟩
  decide +kernel

/-- Which error is reported, and why. -/
theorem quote_error_kind (l : Lang) (s : Bytes) (e : QErr) (h : quote l s = .error e) :
    (e.kind = .null ∧ s.contains 0x00 = true) ∨
    (e.kind = .posix ∧ resolve l = langPOSIX ∧ ∃ t ∈ runes s, nonPrint t.r = true) ∨
    (e.kind = .mksh ∧ resolve l = langMksh ∧ s.contains 0x00 = false ∧
      ∃ t ∈ runes s, t.r > 0xFFFD ∧ isPrint t.r = false) := by
  have h0 := resolve_ne_zero l
  rcases quoteCore_error_kind (resolve l) s e h with ⟨a, b⟩ | ⟨a, b, c⟩ | ⟨a, b, d, c⟩
  · exact .inl ⟨a, b⟩
  · rw [langIn_eq_of_ne_zero h0 (.inl rfl), beq_iff_eq] at b
    exact .inr (.inl ⟨a, b, c⟩)
  · rw [langIn_eq_of_ne_zero h0 (.inr rfl), beq_iff_eq] at b
    exact .inr (.inr ⟨a, b, d, c⟩)

/-- `quoteErrRange` ("rune out of range") is unreachable. -/
theorem quote_never_range (l : Lang) (s : Bytes) (o : Nat) : quote l s ≠ .error ⟨o, .range⟩ := by
  intro h
  rcases quote_error_kind l s _ h with ⟨a, _⟩ | ⟨a, _⟩ | ⟨a, _⟩ <;> cases a

/-- `ByteOffset` is the byte index at which the first offending rune (for the reported kind)
    starts: the decode steps of `s` split as `pre ++ t :: post`, the offset is the length of `pre`,
    `t` offends, and no rune of `pre` does. -/
theorem quote_error_offset (l : Lang) (s : Bytes) (e : QErr) (h : quote l s = .error e) :
    ∃ pre t post, runes s = pre ++ t :: post ∧ e.offs = (pre.flatMap Tok.raw).length ∧
      Offending (resolve l) e.kind t ∧ ∀ t' ∈ pre, ¬ Offending (resolve l) e.kind t' :=
  quote_error_at (resolve l) s e h

/-- For every variant and every string that is not one of the parser's own builtin clauses
    (`let`, `declare`…, bats `@test`: shell builtins, not reserved words), the quoted text, parsed
    on its own as a whole program, is a simple command with no assignment and exactly one word,
    which expands to the string. -/
theorem quote_command_position (l : Lang) (s q : Bytes) (hl : validLang l = true)
    (h : quote l s = .ok q) (hc : clauseWord (resolve l) s = false) :
    ∃ w, cmdPos (resolve l) q = .simple w ∧ WordShape w ∧ expandLit w = .ok s := by
  obtain ⟨w, h1, h2, h3, h4⟩ :=
    quote_roundtrip_main (resolve l) (resolve l) s q (dollSglOK_of hl) h
  refine ⟨w, ?_, h2, h3⟩
  cases w with
  | nil =>
    rcases h2 with ⟨_, e⟩ | ⟨_, e⟩ | ⟨_, e⟩ | ⟨e, _⟩
    · cases e
    · cases e
    · cases e
    · exact absurd rfl e
  | cons p ps =>
    cases p with
    | lit v =>
      obtain ⟨rfl, rfl, hk, h3d, h7b⟩ := h4 v ps rfl
      have a1 := stmtWord_false (resolve l) v hk h7b hc
      have a2 : assignLit (resolve l) v = false := by simp only [assignLit, firstEq_none h3d]
      simp only [cmdPos, h1, a1, a2, Bool.false_eq_true, and_false, ↓reduceIte]
    | sgl d v => simp only [cmdPos, h1]
    | dbl v => simp only [cmdPos, h1]

/-- `elif` is a keyword for Quote (fix 3e73091), so it is quoted; bare, it would not be a
    simple command in first position. -/
theorem pinned_elif :
    quote langBash elifWord = .ok ([0x27] ++ elifWord ++ [0x27]) ∧
    cmdPos langBash elifWord = .special ∧
    cmdPos langBash ([0x27] ++ elifWord ++ [0x27]) = .simple [.sgl false elifWord] := by
  decide +kernel

/-- What Quote protects against in first position: a bare result never contains `=` (so it is
    never read as `name=value` / `name+=value`), e.g. `a+=b` is quoted. -/
example : quote langBash [0x61, 0x2b, 0x3d, 0x62] = .ok [0x27, 0x61, 0x2b, 0x3d, 0x62, 0x27] ∧
    cmdPos langBash [0x61, 0x2b, 0x3d, 0x62] = .assign ∧
    cmdPos langPOSIX [0x61, 0x2b, 0x3d, 0x62] = .simple [.lit [0x61, 0x2b, 0x3d, 0x62]] := by
  decide +kernel

/-! ## Non-vacuity: every output shape and every error occurs -/

-- bare: `a}` stays as it is
example : quote langBash [0x61, 0x7d] = .ok [0x61, 0x7d] := by decide +kernel
-- keyword: `if` → 'if'
example : quote langPOSIX [0x69, 0x66] = .ok [0x27, 0x69, 0x66, 0x27] := by decide +kernel
-- single quotes: `a b` → 'a b'
example : quote langPOSIX [0x61, 0x20, 0x62] = .ok [0x27, 0x61, 0x20, 0x62, 0x27] := by
  decide +kernel
-- double quotes: `a'$` → "a'\$"
example : quote langBash [0x61, 0x27, 0x24] = .ok [0x22, 0x61, 0x27, 0x5c, 0x24, 0x22] := by
  decide +kernel
-- $'…' with a hex escape, re-quoted for mksh only: ESC `1`
example : quote langBash [0x1b, 0x31] = .ok [0x24, 0x27, 0x5c, 0x78, 0x31, 0x62, 0x31, 0x27] := by
  decide +kernel
example : quote langMksh [0x1b, 0x31] =
    .ok [0x24, 0x27, 0x5c, 0x78, 0x31, 0x62, 0x27, 0x24, 0x27, 0x31, 0x27] := by decide +kernel
example : unquote langMksh [0x24, 0x27, 0x5c, 0x78, 0x31, 0x62, 0x27, 0x24, 0x27, 0x31, 0x27] =
    .ok [0x1b, 0x31] := by decide +kernel
-- invalid UTF-8 byte → \xff; NBSP → \u00a0; U+E0001 → \U000e0001
example : quote langBash [0xff] = .ok [0x24, 0x27, 0x5c, 0x78, 0x66, 0x66, 0x27] := by
  decide +kernel
example : quote langZsh [0xc2, 0xa0] =
    .ok [0x24, 0x27, 0x5c, 0x75, 0x30, 0x30, 0x61, 0x30, 0x27] := by decide +kernel
example : quote langBats [0xf3, 0xa0, 0x80, 0x81] =
    .ok [0x24, 0x27, 0x5c, 0x55, 0x30, 0x30, 0x30, 0x65, 0x30, 0x30, 0x30, 0x31, 0x27] := by
  decide +kernel
-- the three reachable errors, with their byte offsets
example : quote langBash [0x61, 0x00] = .error ⟨1, .null⟩ := by decide +kernel
example : quote langPOSIX [0x61, 0x62, 0x09] = .error ⟨2, .posix⟩ := by decide +kernel
example : quote langMksh [0x61, 0xf3, 0xa0, 0x80, 0x81] = .error ⟨1, .mksh⟩ := by decide +kernel
-- mksh passes a *printable* rune above U+FFFD (😀) raw: `😀 ` → '😀 '
example : quote langMksh [0xf0, 0x9f, 0x98, 0x80, 0x20] =
    .ok [0x27, 0xf0, 0x9f, 0x98, 0x80, 0x20, 0x27] := by
  decide +kernel
-- the legacy zero value quotes like Bash
example : quote 0 [0x1b] = .ok [0x24, 0x27, 0x5c, 0x78, 0x31, 0x62, 0x27] := by decide +kernel
-- hypotheses of the theorems are satisfiable
example : validLang 0 = true ∧ validLang langZsh = true := by decide
example : ∃ l s q, validLang l = true ∧ quote l s = .ok q := ⟨1, [], _, rfl, rfl⟩

end ShVerif.C13
