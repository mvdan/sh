import ShVerif.Model.C27
import ShVerif.Proofs.C27
import ShVerif.Gen.C27Writes
import ShVerif.Expect.C27Writes
/-
  C27 — Subshells cannot change the parent shell.  Property theorems.

  `isolation` is the property for the code as it is (`fx = true`: `assignVal` clones before `+=`,
  commit db7f3b5): full statement, no extra hypothesis.  `frame` is the invariant behind it.
  `vocabulary_complete` ties the operation vocabulary to the regenerated write-site table.

  The `pinned_…` material documents the tree as it was before db7f3b5 (`fx = false`: `a+=s` on an
  indexed array wrote `prev.List[0]` / called `SetIndexedElem(prev.List, …)` on the uncloned
  slice): the full statement was false (`pinned_counterexample`: `a=(x y z); ( a+=Q )`), and held
  under the extra hypothesis of `pinned_isolation_partial`.  The harness ties against that variant
  only if it detects the old behaviour again.
-/
namespace ShVerif.C27
open ShVerif ShVerif.L1

/-- After creating a subshell (`bg` = background) and running `ops` in it, the parent's
    observable state — variables of every scope with array and map contents, functions, aliases,
    options, directory and directory stack, positional parameters — is what it was.
    (A Go panic, `none`, ends the whole process; there is nothing to observe.) -/
def IsolatedRun (fx : Bool) (g : Grows) (h : Heap) (p : Runner) (bg : Bool) (ops : List Op) : Prop :=
  match childRun fx g h p bg ops with
  | some x => observe p x.1 = observe p h
  | none => True

instance (fx : Bool) (g : Grows) (h : Heap) (p : Runner) (bg : Bool) (ops : List Op) :
    Decidable (IsolatedRun fx g h p bg ops) := by
  unfold IsolatedRun; split <;> infer_instance

/-- PINNED (tree before db7f3b5): the property for the old `assignVal`; false, see
    `pinned_counterexample`. -/
def pinned_isolation_statement : Prop :=
  ∀ (g : Grows) (h : Heap) (p : Runner) (bg : Bool) (ops : List Op), WF p h → IsolatedRun false g h p bg ops

/-- PINNED: the hypothesis of `pinned_isolation_partial`, stated on the child as `subshell` creates it. -/
def SafeChild (g : Grows) (h : Heap) (p : Runner) (bg : Bool) (ops : List Op) : Prop :=
  match subshell g h p bg with
  | some c => SafeRun h.sizes g c.1 c.2 ops
  | none => True

def exactGrow : Grows := { strs := fun _ _ n => n, ints := fun _ _ n => n }

def cexName : Bytes := [97]  -- "a"

/-- Parent: one global overlay holding `a=(x y z)` in array 0. -/
def cexHeap : Heap :=
  { strs := [[[120], [121], [122]]],
    scopes := [{ parent := .nil,
                 values := some [(cexName, { set := true, kind := .indexed,
                                             list := { arr := 0, off := 0, len := 3, cap := 3 } })] }] }

def cexParent : Runner := { env := 0 }

/-- `a+=Q` -/
def cexOps : List Op := [.assign cexName .none true (.str [81])]

instance decOptBound (m : Option Nat) (len : Nat) : Decidable (∀ id, m = some id → id < len) :=
  match m with
  | none => isTrue (by intro id e; cases e)
  | some id =>
    if hlt : id < len then isTrue (by intro id' e; cases e; exact hlt)
    else isFalse (fun hh => hlt (hh id rfl))

instance decRefBound (r : PRef) (len : Nat) : Decidable (∀ p, r = .ov p → p < len) :=
  match r with
  | .nil => isTrue (by intro p e; cases e)
  | .base => isTrue (by intro p e; cases e)
  | .ov q =>
    if hlt : q < len then isTrue (by intro p e; cases e; exact hlt)
    else isFalse (fun hh => hlt (hh q rfl))

instance (len : Nat) (s : Slice) : Decidable (SliceIn len s) := by unfold SliceIn; infer_instance
instance (h : Heap) (v : Var) : Decidable (VarIn h v) := by unfold VarIn; infer_instance
instance (h : Heap) (o : Scope) : Decidable (ScopeIn h o) := by unfold ScopeIn; infer_instance
instance (p : Runner) (h : Heap) : Decidable (WF p h) := by unfold WF; infer_instance

theorem cex_wf : WF cexParent cexHeap := by decide +kernel

/-- PINNED: the property failed on the old code: in its model of `( a+=Q )` the parent's `a[0]`
    becomes `xQ`. -/
theorem pinned_counterexample : ¬ pinned_isolation_statement := by
  intro hst
  have h := hst exactGrow cexHeap cexParent false cexOps cex_wf
  revert h
  decide +kernel

/-- PINNED: the same in a background subshell (`$( )`, pipelines, `&`). -/
theorem pinned_counterexample_bg : ¬ IsolatedRun false exactGrow cexHeap cexParent true cexOps := by
  decide +kernel

/-- Isolation for either variant: the current one unconditionally, the pinned one under
    `SafeChild`. -/
theorem isolation_any (fx : Bool) (g : Grows) (h : Heap) (p : Runner) (bg : Bool) (ops : List Op) (wf : WF p h)
    (safe : fx = true ∨ SafeChild g h p bg ops) : IsolatedRun fx g h p bg ops := by
  unfold IsolatedRun
  split
  · next x e =>
    -- frame along subshell and run; the observation only reads what existed
    exact observe_congr wf (childRun_fr (safe.imp_right fun s c hs => by rw [SafeChild, hs] at s; exact s) e)
  · trivial

/-- The frame for either variant: no heap object that existed when the subshell was created is
    ever written (arrays, maps, overlay values, function and alias maps). -/
theorem frame_any (fx : Bool) (g : Grows) (h : Heap) (p : Runner) (bg : Bool) (ops : List Op) (x : Heap × Runner)
    (safe : fx = true ∨ SafeChild g h p bg ops) (e : childRun fx g h p bg ops = some x) :
    (∀ i, i < h.strs.length → x.1.strs[i]? = h.strs[i]?) ∧
    (∀ i, i < h.ints.length → x.1.ints[i]? = h.ints[i]?) ∧
    (∀ i, i < h.maps.length → x.1.maps[i]? = h.maps[i]?) ∧
    (∀ i, i < h.scopes.length → (x.1.scopes[i]?).map (·.values) = (h.scopes[i]?).map (·.values)) ∧
    (∀ i, i < h.fmaps.length → x.1.fmaps[i]? = h.fmaps[i]?) ∧
    (∀ i, i < h.amaps.length → x.1.amaps[i]? = h.amaps[i]?) := by
  have fr := childRun_fr (safe.imp_right fun s c hs => by rw [SafeChild, hs] at s; exact s) e
  exact ⟨fun i hi => fr.strs.getElem? hi, fun i hi => fr.ints.getElem? hi, fun i hi => fr.maps.getElem? hi,
    fun i hi => by rw [fr.scopes.getElem? hi], fun i hi => fr.fmaps.getElem? hi,
    fun i hi => fr.amaps.getElem? hi⟩

/-- Subshells cannot change the parent shell: for every well-formed parent state, every slice growth
    policy, foreground and background subshells and every sequence of modelled operations run in
    the child, the parent's observable state is unchanged. -/
theorem isolation (g : Grows) (h : Heap) (p : Runner) (bg : Bool) (ops : List Op) (wf : WF p h) :
    IsolatedRun true g h p bg ops :=
  isolation_any true g h p bg ops wf (Or.inl rfl)

/-- The invariant behind it (also what C32 needs): the child never writes a heap object that
    existed when the subshell was created — every old array, map and overlay is still there and
    unchanged, whether or not the parent can reach it. -/
theorem frame (g : Grows) (h : Heap) (p : Runner) (bg : Bool) (ops : List Op) (x : Heap × Runner)
    (e : childRun true g h p bg ops = some x) :
    (∀ i, i < h.strs.length → x.1.strs[i]? = h.strs[i]?) ∧
    (∀ i, i < h.ints.length → x.1.ints[i]? = h.ints[i]?) ∧
    (∀ i, i < h.maps.length → x.1.maps[i]? = h.maps[i]?) ∧
    (∀ i, i < h.scopes.length → (x.1.scopes[i]?).map (·.values) = (h.scopes[i]?).map (·.values)) ∧
    (∀ i, i < h.fmaps.length → x.1.fmaps[i]? = h.fmaps[i]?) ∧
    (∀ i, i < h.amaps.length → x.1.amaps[i]? = h.amaps[i]?) :=
  frame_any true g h p bg ops x (Or.inl rfl) e

/-- PINNED: the old code isolated the parent whenever no `name+=word` hit an indexed array whose
    element storage predates the subshell. -/
theorem pinned_isolation_partial (g : Grows) (h : Heap) (p : Runner) (bg : Bool) (ops : List Op) (wf : WF p h)
    (safe : SafeChild g h p bg ops) : IsolatedRun false g h p bg ops :=
  isolation_any false g h p bg ops wf (Or.inr safe)

/-- PINNED: the same frame for the old code under that hypothesis. -/
theorem pinned_frame_partial (g : Grows) (h : Heap) (p : Runner) (bg : Bool) (ops : List Op) (x : Heap × Runner)
    (safe : SafeChild g h p bg ops) (e : childRun false g h p bg ops = some x) :
    (∀ i, i < h.strs.length → x.1.strs[i]? = h.strs[i]?) ∧
    (∀ i, i < h.ints.length → x.1.ints[i]? = h.ints[i]?) ∧
    (∀ i, i < h.maps.length → x.1.maps[i]? = h.maps[i]?) :=
  let f := frame_any false g h p bg ops x (Or.inr safe) e
  ⟨f.1, f.2.1, f.2.2.1⟩

/-- Every syntactic write site of the shell state in package interp — calls of writeEnv.Set,
    setVar*, delVar, unsetElem, setFunc and writes to Runner.{Params, Dir, opts, alias, Funcs,
    dirStack, writeEnv, Vars, inFunc}, regenerated from the working tree on every run — is one of
    the reviewed sites of `Expect/C27Writes.lean`, each mapped to the modelled operation that
    covers it, and no reviewed site has disappeared. -/
theorem vocabulary_complete :
    ShVerif.Gen.C27Writes.sites = ShVerif.Expect.C27Writes.expected.map (·.site) :=
  rfl

instance (n : Nat) (s : Slice) : Decidable (Owned n s) := by unfold Owned; infer_instance

instance decAppendSafe (n : Sizes) (r : Runner) (h : Heap) (op : Op) : Decidable (AppendSafe n r h op) :=
  match ht : appendTarget r h op with
  | none => isTrue (by intro v e; rw [ht] at e; cases e)
  | some v =>
    if hk : v.kind = .indexed then
      if ho : Owned n.strs v.list ∧ Owned n.ints v.indexes then
        isTrue (by intro v' e _; rw [ht] at e; cases e; exact ho)
      else isFalse (fun hh => ho (hh v ht hk))
    else isTrue (by intro v' e hk'; rw [ht] at e; cases e; exact absurd hk' hk)

instance decSafeRun (n : Sizes) (g : Grows) :
    ∀ (h : Heap) (r : Runner) (ops : List Op), Decidable (SafeRun n g h r ops)
  | _, _, [] => isTrue trivial
  | h, r, op :: ops =>
    match hs : step false g h r op with
    | none =>
      if ha : AppendSafe n r h op then isTrue (by simp only [SafeRun, hs]; exact ⟨ha, trivial⟩)
      else isFalse (by simp only [SafeRun]; intro hh; exact ha hh.1)
    | some x =>
      match decSafeRun n g x.1 x.2 ops with
      | isTrue ht =>
        if ha : AppendSafe n r h op then isTrue (by simp only [SafeRun, hs]; exact ⟨ha, ht⟩)
        else isFalse (by simp only [SafeRun]; intro hh; exact ha hh.1)
      | isFalse hf => isFalse (by simp only [SafeRun, hs]; intro hh; exact hf hh.2)

instance (g : Grows) (h : Heap) (p : Runner) (bg : Bool) (ops : List Op) : Decidable (SafeChild g h p bg ops) := by
  unfold SafeChild; split <;> infer_instance

/-- The hypotheses are satisfiable and the runs do not end in `none`: on the pinned counter-example's
    parent the code runs `a+=Q` to completion, and the parent still sees `x y z`. -/
example : WF cexParent cexHeap ∧ (childRun true exactGrow cexHeap cexParent false cexOps).isSome = true ∧
    (childRun false exactGrow cexHeap cexParent false cexOps).isSome = true := by decide +kernel

/-- `SafeChild` is satisfiable with a real `+=`: after `a=(p)` in the child, `a+=Q` is safe. -/
example : SafeChild exactGrow cexHeap cexParent false
    [.assign cexName .none false (.arr [(none, [112])]), .assign cexName .none true (.str [81])] := by
  decide +kernel

/-- … and it is not trivially true: the counter-example violates it. -/
example : ¬ SafeChild exactGrow cexHeap cexParent false cexOps := by decide +kernel

/-- Parent: `a=(x "" z)` in array 0, with one spare cell of capacity (len 3, cap 4). -/
def paHeap : Heap :=
  { strs := [[[120], [], [122], []]],
    scopes := [{ parent := .nil,
                 values := some [(cexName, { set := true, kind := .indexed,
                                             list := { arr := 0, off := 0, len := 3, cap := 4 } })] }] }

/-- `: "${a[1]:=w}"` -/
def paOps : List Op := [.paramAssign cexName (some 1) true [119]]

/-- What the example checks on the child's final state `x` (a Bool so that `decide` evaluates it):
    the parent's array 0 — its whole heap of arrays — and every overlay's variables are what
    they were, the parent's observation is unchanged, the child sees `a[1]=w`, the parent `a[1]=""`. -/
def paCheck (bg : Bool) : Bool :=
  match childRun true exactGrow paHeap cexParent bg paOps with
  | some x =>
    decide (x.1.strs.take 1 = paHeap.strs) &&
    decide ((x.1.scopes.take 1).map (·.values) = paHeap.scopes.map (·.values)) &&
    decide (observe cexParent x.1 = observe cexParent paHeap) &&
    decide (varInd x.1 (lookupVar x.2 x.1 cexName) (some 1) = some ([119], true)) &&
    decide (varInd paHeap (lookupVar cexParent paHeap cexName) (some 1) = some ([], true))
  | none => false

/-- A concrete parent/child pair for `paramAssign`: the parent is well-formed, the child runs
    `${a[1]:=w}` to completion (foreground and background) and `paCheck` holds. -/
example : WF cexParent paHeap ∧ paCheck false = true ∧ paCheck true = true := by decide +kernel

end ShVerif.C27
