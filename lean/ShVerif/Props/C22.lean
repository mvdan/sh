import ShVerif.Proofs.C22
/-
  C22 — Field splitting and quote removal match bash.  Property theorems.
-/
namespace ShVerif.C22

private def c (ch : Char) : Sym := ⟨ch, String.utf8EncodeChar ch⟩
private def colonEnv : Env := ⟨[c ':'], []⟩
private def dfltEnv (params : List Str) : Env := ⟨[c ' ', c '\t', c '\n'], params⟩

/-- Field splitting and quote removal: for every IFS (unset, empty, white space, non-white-space,
    mixed, multi-byte), all positional parameters and every word whose parts are `partOk` — `$@`
    stands alone in its double quotes (the open finding C22-at-in-dquotes, see
    `at_in_dquotes_statement` below) and double-quoted literal text has no NUL byte — the fields of
    `wordFields` are exactly those of the specification: POSIX 2.6.5 field splitting (IFS white
    space runs collapse, every other IFS character delimits a field, empty ones included) with
    quote removal, unquoted `$@`/`$*` joined by the first IFS character before splitting as bash
    does. -/
theorem split_spec (env : Env) (parts : List Part) (hok : parts.all partOk = true) :
    wordFields env parts = posixFields env parts := by
  obtain ⟨e, i⟩ := parts_abs env parts WS.init true nofun (List.all_eq_true.mp hok)
  rw [wordFields_abs env parts i, e, posixFields, posixSplit_eq]
  rfl

/-! Pinned: the witnesses of the findings repaired by d04d00a, fe5aeee and 51168a7 now give
    bash's answer on the model (and, by the tie, on the code). -/

/-- `IFS=:; y=a::b; $y` is `<a><><b>`. -/
theorem pinned_adjacent_delims :
    wordFields colonEnv [.exp [c 'a', c ':', c ':', c 'b']] = [[97], [], [98]] := by decide
/-- `IFS=:; y=:a; $y` is `<><a>`; `y=a::` is `<a><>`. -/
theorem pinned_leading_trailing_delims :
    wordFields colonEnv [.exp [c ':', c 'a']] = [[], [97]] ∧
    wordFields colonEnv [.exp [c 'a', c ':', c ':']] = [[97], []] := by decide
/-- `IFS=' :'; y='a : b'; $y` is `<a><b>`: white space and one other IFS character are one delimiter. -/
theorem pinned_mixed_delim :
    wordFields ⟨[c ' ', c ':'], []⟩ [.exp [c 'a', c ' ', c ':', c ' ', c 'b']] = [[97], [98]] := by decide
/-- `x=' a'; ""$x` is `<><a>`. -/
theorem pinned_empty_dquotes :
    wordFields (dfltEnv []) [.dbl [], .exp [c ' ', c 'a']] = [[], [97]] := by decide
/-- `{,x}`: the empty literal left by brace expansion makes no field. -/
theorem pinned_empty_literal : wordFields (dfltEnv []) [.lit []] = [] := by decide
/-- `set -- x '' y; IFS=:; $@` is `<x><><y>` (the elements are joined by the first IFS character). -/
theorem pinned_unquoted_at_rejoin :
    wordFields ⟨[c ':'], [[c 'x'], [], [c 'y']]⟩ [.at] = [[120], [], [121]] := by decide

/-- Quoted text is never split: a word made of literals, single quotes and double quotes (without
    `$@`) — not consisting of empty unquoted literals only — is exactly one field, the
    concatenation of its quote-removed parts, whatever IFS is and whatever IFS characters the
    quoted values contain. -/
theorem quoted_never_split (env : Env) (parts : List Part)
    (hne : ∃ p ∈ parts, p ≠ Part.lit [])
    (hp : parts.all plain = true) (hok : parts.all partOk = true) :
    wordFields env parts = [(parts.map (posixLiteralVal env)).flatten] := by
  -- on the specification: the scan ends no field, and has begun one (`plain_fold`)
  obtain ⟨l1, l2, l3⟩ := plain_fold env parts SS.init hp
  rw [split_spec env parts hok, posixFields, posixSplit_eq, l1]
  obtain ⟨b, hb⟩ := Option.isSome_iff_exists.mp (l3 (Or.inr hne))
  rw [hb] at l2 ⊢
  exact congrArg (· :: []) l2

/-- Quoted empty strings are kept: a word consisting only of `''`, `""` and `"$e"` with empty
    values yields exactly one empty field. -/
theorem empty_quoted_kept (env : Env) (parts : List Part) (hne : parts ≠ [])
    (he : ∀ p ∈ parts, p = .sgl [] ∨ p = .dbl [] ∨ p = .dbl [.exp []]) :
    wordFields env parts = [[]] := by
  have key : ∀ p ∈ parts, plain p = true ∧ partOk p = true ∧ p ≠ .lit [] ∧
      posixLiteralVal env p = [] := by
    intro p hp
    rcases he p hp with rfl | rfl | rfl <;> exact ⟨rfl, rfl, Part.noConfusion, rfl⟩
  obtain ⟨a, ha⟩ := List.exists_mem_of_ne_nil parts hne
  rw [quoted_never_split env parts ⟨a, ha, (key a ha).2.2.1⟩
    (List.all_eq_true.mpr fun p hp => (key p hp).1) (List.all_eq_true.mpr fun p hp => (key p hp).2.1)]
  refine congrArg (· :: []) (List.flatten_eq_nil_iff.mpr fun l hl => ?_)
  obtain ⟨p, hp, rfl⟩ := List.mem_map.mp hl
  exact (key p hp).2.2.2

/-- `"$@"` alone: one field per positional parameter, empty ones included, none when there are
    no parameters — for every IFS. -/
theorem at_quoted (env : Env) : wordFields env [.dbl [.at]] = env.params.map strBytes := by
  rw [split_spec env _ rfl, posixFields, List.flatMap_singleton, partItems_dblat, posixSplit_eq]
  cases env.params.map strBytes with
  | nil => rfl
  | cons p rest => rw [atFull_cons]; exact qRest_fields env.ifs rest [] p false

/-- `"$*"` alone: always exactly one field, the parameters joined with the first character of IFS
    (nothing when IFS is empty, a space when it is unset). -/
theorem star_quoted (env : Env) :
    wordFields env [.dbl [.star]] = [joinBytes (ifsSep env.ifs) (env.params.map strBytes)] := by
  rw [quoted_never_split env _ ⟨_, List.mem_singleton_self _, Part.noConfusion⟩ rfl rfl]
  simp [posixLiteralVal]

/-- Unquoted `$*` behaves as unquoted `$@` anywhere in a word (each parameter split on its own,
    also when IFS is empty). -/
theorem star_unquoted_as_at (env : Env) (pre post : List Part) :
    wordFields env (pre ++ .at :: post) = wordFields env (pre ++ .star :: post) := by
  unfold wordFields
  rw [partsLoop_at_star]

theorem at_star_rules (env : Env) :
    wordFields env [.dbl [.at]] = env.params.map strBytes ∧
    wordFields env [.dbl [.star]] = [joinBytes (ifsSep env.ifs) (env.params.map strBytes)] ∧
    ∀ pre post, wordFields env (pre ++ .at :: post) = wordFields env (pre ++ .star :: post) :=
  ⟨at_quoted env, star_quoted env, star_unquoted_as_at env⟩

/-- The rule for `$@` inside double quotes together with other text (`"a$@b"`): the first parameter
    joins the text before, the last the text after, the others are fields of their own. -/
def at_in_dquotes_statement : Prop :=
  ∀ (env : Env) (ps : List DPart), containsAt ps = true →
    wordFields env [.dbl ps] = posixFields env [.dbl ps]

/-- … not met: `set -- x 'y z'; "a$@b"` — model `<ax y zb>`, spec `<ax><y zb>`. -/
theorem at_in_dquotes_counterexample : ¬ at_in_dquotes_statement := by
  intro h
  have := h (dfltEnv [[c 'x'], [c 'y', c ' ', c 'z']]) [.lit [97], .at, .lit [98]] (by decide)
  revert this
  decide

/-- … and with no parameters `"$e$@"` gives one empty field where the spec (and bash) give none. -/
theorem counterexample_at_no_params :
    wordFields (dfltEnv []) [.dbl [.exp [], .at]] = [[]] ∧
    posixFields (dfltEnv []) [.dbl [.exp [], .at]] = [] := by decide

/-- Quote removal in assignment context (`expand.Literal`, since 532994e): for every environment and
    every word (source text without NUL bytes), the value is the concatenation of the quote-removed
    parts — `\c` → `c` in unquoted literals, `\"` `\\` `\$` `` \` `` inside double quotes, `$@` joined with
    spaces and `$*` with the first IFS character, nothing split. -/
theorem literal_spec (env : Env) (parts : List Part)
    (h : ∀ p ∈ parts, (∀ s, p = .lit s → s.contains 0 = false) ∧
                      (∀ ps, p = .dbl ps → ps.all dpartOk = true)) :
    literal env parts = posixLiteral env parts :=
  congrArg List.flatten (List.map_congr_left fun p hp =>
    literalVal_spec true env p (fun s hs => ⟨nofun, (h p hp).1 s hs⟩) (h p hp).2)

/-- The unexported `literalKeepEscapes` (words inside `${v:-word}`, `${v/p/repl}`, arithmetic) only
    differs by keeping the backslashes of unquoted literals. -/
theorem literalKeepEscapes_spec (env : Env) (parts : List Part)
    (h : ∀ p ∈ parts, (∀ s, p = .lit s → s.contains 92 = false ∧ s.contains 0 = false) ∧
                      (∀ ps, p = .dbl ps → ps.all dpartOk = true)) :
    literalKeepEscapes env parts = posixLiteral env parts :=
  congrArg List.flatten (List.map_congr_left fun p hp =>
    literalVal_spec false env p (fun s hs => ⟨fun _ => ((h p hp).1 s hs).1, ((h p hp).1 s hs).2⟩)
      (h p hp).2)

/-- Pinned (532994e): `r=a\ b` assigns `a b`; `literalKeepEscapes` keeps `a\ b`. -/
theorem pinned_assign_backslash :
    literal (dfltEnv []) [.lit [97, 92, 32, 98]] = [97, 32, 98] ∧
    literalKeepEscapes (dfltEnv []) [.lit [97, 92, 32, 98]] = [97, 92, 32, 98] := by decide

/-! Non-vacuity of the hypothesis of `split_spec`. -/
example : [Part.lit [120], .exp [c ':', c 'a', c ':', c ':'], .dbl [], .dbl [.at], .sgl [], .at].all partOk = true := by
  decide
example : [Part.dbl [.lit [97], .at]].all partOk = false := by decide

end ShVerif.C22
