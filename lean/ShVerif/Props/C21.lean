import ShVerif.Model.C21
import ShVerif.Proofs.C21
/-
  C21 — Parameter expansion matches bash.  Property theorems about the model `ShVerif.C21`
  (expand/param.go, expand/expand.go), relative to the two parameters of the model: the matcher
  `x.M` (pattern.Regexp + regexp, property C17) and the quoter `x.Q` (syntax.Quote, property C13).

  Where the code does not do what bash does, the full statement is kept as a `def …_statement`, the
  theorem `…_partial` carries the exact extra hypothesis, and the negation of the full statement is
  proved on a concrete witness (the same witnesses are replayed on the Go code from
  corpus/C21-known.txt on every run).  Statements that became true with the fix: commits of
  2026-09-22 (cb62620 … 82103d3) are full theorems now; `pinned_…` lemmas keep the former
  counter-examples as regression facts.
-/
namespace ShVerif.C21
open Spec

deriving instance DecidableEq for Except

/-- every pattern is a literal -/
def litM : Str → Pat := fun p => .ok (fun u => u == p)
/-- every pattern means `c*` -/
def cStarM : Str → Pat := fun _ => .ok (fun u => u.head? == some 'c')
def xLit : Ext := ⟨litM, fun _ => none⟩
def xCStar : Ext := ⟨cStarM, fun _ => none⟩
def yN : Str := ['y']
def rN : Str := ['r']

/-- The eight forms `:- - := = :? ? :+ +` on an unset, a null and a set parameter equal the POSIX
    table (value substituted, assignment performed, error raised), for every value and word. -/
theorem unset_null_table (x : Ext) (op : ExpOp) (st : St) (v w : Str) (hv : v ≠ []) (o : Outcome)
    (h : Spec.table op st = some o) :
    paramExp x {} (envOf st v) (peOf op w) = outcomeResult o st v w := by
  obtain ⟨c, cs, rfl⟩ := List.exists_cons_of_ne_nil hv
  rw [paramExp_scalar x {} (envOf st (c :: cs)) (peOf op w) (sOf " \t\n") (match st with | .set => c :: cs | _ => [])
    (st != .unset) (by cases st <;> rfl) plain_xN rfl rfl (by cases st <;> rfl)]
  cases st <;> cases op <;> cases h <;> rfl

/-- The table covers exactly the eight test operators, in all three states. -/
theorem unset_null_table_total (op : ExpOp) (st : St) :
    (Spec.table op st).isSome = overridingUnset (peOf op []) := by
  cases op <;> cases st <;> rfl

/-- `${#x}` of a set scalar is its number of characters (runes), in decimal. -/
theorem length (x : Ext) (cfg : Cfg) (env : Env) (name s ifs : Str)
    (hifs : ifsOf env = .ok ifs) (hp : Plain name) (hv : env.get name = Var.ofStr s) :
    paramExp x cfg env { name := name, length := true } = .ok (itoa s.length, env) :=
  paramExp_ofStr x cfg env _ ifs s hifs hp rfl hv

/-- `${#a[@]}` and `${#a[*]}` of an indexed array are its number of elements … -/
theorem length_list (x : Ext) (cfg : Cfg) (env : Env) (name ifs : Str) (l : List Str) (star : Bool)
    (hifs : ifsOf env = .ok ifs) (hp : Plain name) (hv : env.get name = Var.ofList l) :
    paramExp x cfg env { name := name, idx := if star then .star else .at, length := true }
      = .ok (itoa l.length, env) := by
  cases star <;>
  simp [paramExp, hifs, hv, effIdx, hp.1, hp.2, isAtStar, Idx.lit, sliceElems,
    bind, Except.bind, pure, Except.pure, Sl.toList]

/-- … and of an associative array its number of entries (fixed by ed26a21). -/
theorem length_assoc (x : Ext) (cfg : Cfg) (env : Env) (name ifs : Str) (m : List (Str × Str)) (star : Bool)
    (hifs : ifsOf env = .ok ifs) (hp : Plain name) (hv : env.get name = Var.ofMap m) :
    paramExp x cfg env { name := name, idx := if star then .star else .at, length := true }
      = .ok (itoa m.length, env) := by
  have hl := sortedSl_length (m.map (·.2))
  rw [List.length_map] at hl
  cases star <;>
  simp [paramExp, hifs, hv, effIdx, hp.1, hp.2, isAtStar, Idx.lit, hl,
    bind, Except.bind, pure, Except.pure]

/-- former finding C21-assoc-list-joined-count: `declare -A x=([a]=1 [k]=2); ${#x[@]}` is 2 -/
theorem pinned_assoc_count :
    paramExp xLit {} [(xN, Var.ofMap [(['a'], ['1']), (['k'], ['2'])])] { name := xN, idx := .at, length := true }
      = .ok (['2'], [(xN, Var.ofMap [(['a'], ['1']), (['k'], ['2'])])]) := by decide +kernel

/-- `${x:off:len}` of a set scalar, offsets and lengths in characters, negative offsets counted
    from the end (beyond the start: empty), lengths clamped, negative lengths as end positions: the
    code returns bash's substring where it is defined and the error `substring expression < 0`
    exactly where bash raises it (fixed by 0dc986b). -/
theorem substring (x : Ext) (cfg : Cfg) (env : Env) (name s ifs : Str) (off len : Option Int)
    (hifs : ifsOf env = .ok ifs) (hp : Plain name) (hv : env.get name = Var.ofStr s) :
    paramExp x cfg env { name := name, slice := some (off, len) } =
      match Spec.substring s off len with
      | some r => .ok (r, env)
      | none => .error (.substr (len.getD 0)) := by
  rw [slice_scalar_eq x cfg env name s ifs off len hifs hp hv, sliceStr_spec]
  cases Spec.substring s off len <;> rfl

/-- former finding C21-negative-length (value part): `x=abc; ${x:2:-2}` is an error -/
theorem pinned_negative_length :
    Spec.substring (sOf "abc") (some 2) (some (-2)) = none ∧
    paramExp xLit {} [(xN, Var.ofStr (sOf "abc"))] { name := xN, slice := some (some 2, some (-2)) }
      = .error (.substr (-2)) := by decide +kernel

/-- Unicode: the positions are characters, not bytes. -/
example : paramExp xLit {} [(xN, Var.ofStr (sOf "héllo"))] { name := xN, slice := some (some (-4), some 2) }
    = .ok (sOf "él", [(xN, Var.ofStr (sOf "héllo"))]) := by decide +kernel

/-- `${x#p} ${x##p} ${x%p} ${x%%p}` on a set scalar: what is removed is a prefix / suffix that the
    pattern matches, the shortest / longest such, and nothing is removed only if none matches
    (for every value, newlines included: fixed by cb62620). -/
theorem remove_prefix_suffix (x : Ext) (cfg : Cfg) (env : Env) (name s ifs arg : Str) (op : ExpOp)
    (m : Str → Bool) (hifs : ifsOf env = .ok ifs) (hp : Plain name) (hv : env.get name = Var.ofStr s)
    (hop : isRemove op = true) (hM : x.M arg = .ok m) :
    ∃ r, paramExp x cfg env { name := name, exp := some (op, arg) } = .ok (r, env) ∧
      RemovalSpec m s (op == .remSmallSuf || op == .remLargeSuf) (op == .remSmallPre || op == .remSmallSuf) r :=
  ⟨_, remove_scalar_eq x cfg env name s ifs arg op m hifs hp hv hop hM, removeWith_spec m s _ _⟩

/-- former finding C21-suffix-newline: `x=$'cb\ncb'; ${x%c*}` is `cb` + newline -/
theorem pinned_suffix_newline :
    paramExp xCStar {} [(xN, Var.ofStr (sOf "cb\ncb"))] { name := xN, exp := some (.remSmallSuf, sOf "c*") }
      = .ok (sOf "cb\n", [(xN, Var.ofStr (sOf "cb\ncb"))]) := by decide +kernel

/-- `${x/p/w}` and `${x//p/w}` on a set scalar, for a pattern that is not anchored and a replacement
    text `w` that is written verbatim (no unquoted `&`, see `replace_amp_statement`): the leftmost
    match, the longest there, replaced (`//`: again behind it, never overlapping), the rest copied;
    a pattern that matches the empty string matches everything (hypothesis `EmptyAll`: true of
    shell patterns, which then consist of stars only) and gives the replacement alone. -/
theorem replace_partial (x : Ext) (cfg : Cfg) (env : Env) (name s ifs : Str) (r : Repl) (m : Str → Bool)
    (hifs : ifsOf env = .ok ifs) (hp : Plain name) (hv : env.get name = Var.ofStr s)
    (hne : r.orig ≠ []) (hM : x.M r.orig = .ok m) (hE : EmptyAll m) (ha : r.anchor = .none) :
    paramExp x cfg env { name := name, repl := some r } = .ok (Spec.replace m r.anchor r.all r.with_ s, env) := by
  rw [repl_scalar_eq x cfg env name s ifs r m hifs hp hv hne hM, splice_eq_spec m r.with_ s r.all hE, ha]

/-- The relational reading of the same: `ReplAll` / `ReplFirst`. -/
theorem replace_relational (m : Str → Bool) (w s : Str) (hne : m [] = false) :
    ReplAll m w s (spliceLocs s w 0 (findAll m s true)) ∧
    ReplFirst m w s (spliceLocs s w 0 (findAll m s false)) :=
  ⟨findAll_replAll m s w hne, findAll_replFirst m s w hne⟩

/-- The text of the pattern after the anchor character. -/
def stripAnchor (r : Repl) : Str := if r.anchor == .none then r.orig else r.orig.drop 1

/-- With the anchored forms `${x/#p/w}` and `${x/%p/w}`. -/
def replace_statement : Prop :=
  ∀ (x : Ext) (cfg : Cfg) (env : Env) (name s ifs : Str) (r : Repl) (m : Str → Bool),
    ifsOf env = .ok ifs → Plain name → env.get name = Var.ofStr s → stripAnchor r ≠ [] →
    x.M r.orig ≠ .panic → x.M (stripAnchor r) = .ok m → EmptyAll m →
    paramExp x cfg env { name := name, repl := some r } = .ok (Spec.replace m r.anchor r.all r.with_ s, env)

def anchoredRepl : Repl := ⟨false, sOf "#a", ['X'], .pre⟩

/-- finding C21-anchored-replace: `x=abcabc; ${x/#a/X}` is `abcabc` (bash `Xbcabc`) -/
theorem replace_anchored_counterexample :
    paramExp xLit {} [(xN, Var.ofStr (sOf "abcabc"))] { name := xN, repl := some anchoredRepl }
      = .ok (sOf "abcabc", [(xN, Var.ofStr (sOf "abcabc"))]) ∧
    Spec.replace (fun u => u == ['a']) .pre false ['X'] (sOf "abcabc") = sOf "Xbcabc" := by decide +kernel

theorem replace_statement_false : ¬ replace_statement := by
  intro h
  have := h xLit {} [(xN, Var.ofStr (sOf "abcabc"))] xN (sOf "abcabc") (sOf " \t\n") anchoredRepl
    (fun u => u == ['a']) (by decide +kernel) plain_xN rfl (by decide) nofun rfl (fun h => absurd h (by decide))
  rw [replace_anchored_counterexample.1] at this
  have h2 := replace_anchored_counterexample.2
  simp only [anchoredRepl] at this
  rw [h2] at this
  revert this; decide +kernel

/-- With bash 5.2's default `patsub_replacement`: an unquoted `&` in the replacement is the match. -/
def replace_amp_statement : Prop :=
  ∀ (x : Ext) (cfg : Cfg) (env : Env) (name s ifs : Str) (r : Repl) (m : Str → Bool),
    ifsOf env = .ok ifs → Plain name → env.get name = Var.ofStr s → r.orig ≠ [] → x.M r.orig = .ok m →
    m [] = false → r.anchor = .none → r.all = false →
    paramExp x cfg env { name := name, repl := some r } = .ok (Spec.replFirstAmp m r.with_ s, env)

def ampRepl : Repl := ⟨false, ['b'], sOf "[&]", .none⟩

/-- finding C21-patsub-ampersand: `x=abcb; ${x/b/[&]}` is `a[&]cb` (bash `a[b]cb`) -/
theorem replace_amp_counterexample :
    paramExp xLit {} [(xN, Var.ofStr (sOf "abcb"))] { name := xN, repl := some ampRepl }
      = .ok (sOf "a[&]cb", [(xN, Var.ofStr (sOf "abcb"))]) ∧
    Spec.replFirstAmp (fun u => u == ['b']) (sOf "[&]") (sOf "abcb") = sOf "a[b]cb" := by decide +kernel

theorem replace_amp_statement_false : ¬ replace_amp_statement := by
  intro h
  have := h xLit {} [(xN, Var.ofStr (sOf "abcb"))] xN (sOf "abcb") (sOf " \t\n") ampRepl
    (fun u => u == ['b']) (by decide +kernel) plain_xN rfl (by decide) rfl rfl rfl rfl
  rw [replace_amp_counterexample.1] at this
  have h2 := replace_amp_counterexample.2
  simp only [ampRepl] at this
  rw [h2] at this
  revert this; decide +kernel

/-- `${x^p} ${x^^p} ${x,p} ${x,,p}` on a set scalar: the first / every character that the pattern
    matches (an empty pattern is `?`) is mapped by the upper / lower case table.  The two matcher
    hypotheses say what `pattern.Regexp` does with the empty pattern and with patterns that match
    the empty string. -/
theorem case_conv (x : Ext) (cfg : Cfg) (env : Env) (name s ifs arg : Str) (op : ExpOp) (m : Str → Bool)
    (hifs : ifsOf env = .ok ifs) (hp : Plain name) (hv : env.get name = Var.ofStr s)
    (hop : isCase op = true) (hM : x.M arg = .ok m)
    (hE1 : arg ≠ [] → m [] = true → ∀ c, m [c] = true) (hE2 : arg = [] → m [] = true) :
    paramExp x cfg env { name := name, exp := some (op, arg) }
      = .ok (Spec.caseConv (if op == .upperFirst || op == .upperAll then toUpper else toLower)
              (fun c => arg.isEmpty || m [c]) (op == .upperAll || op == .lowerAll) s, env) := by
  -- the code asks for an unanchored match in the one-character string: `m [] || m [c]`
  have hit : (fun c => m [] || m [c]) = fun c => arg.isEmpty || m [c] := by
    funext c
    by_cases ha : arg = []
    · simp [ha, hE2 ha]
    · have : arg.isEmpty = false := by cases arg <;> simp_all
      rw [this]
      cases h0 : m [] with
      | true => simp [hE1 ha h0 c]
      | false => simp
  rw [case_scalar_eq x cfg env name s ifs arg op m hifs hp hv hop hM, convRunes_eq, hit]

/-- Every per-element operator (replacement, the four removals, the four case conversions, or none)
    on `"${a[@]…}"` of an indexed array is the map of the scalar operator over the elements, each
    result a separate field. -/
theorem per_elem_partial (x : Ext) (cfg : Cfg) (env : Env) (pe : PE) (ifs : Str) (l : List Str)
    (hifs : ifsOf env = .ok ifs) (hp : Plain pe.name) (hv : env.get pe.name = Var.ofList l)
    (hidx : pe.idx = .at) (h1 : pe.excl = false) (h2 : pe.length = false) (h3 : pe.slice = none)
    (hop : PerElem x pe l) :
    fields x cfg env pe true = (mapMExcept (scalarOp x pe) l).map (fun ys => (ys, env)) := by
  rw [scalarOp_eq x pe hp h1 h2 h3 hop]
  exact fields_quoted_list x cfg env pe ifs l false hifs h1 h2 (listElems_indexed env pe l false hp hv hidx h3) hop

/-- The same operators on `"${a[*]…}"`: mapped over the elements, then joined with the first IFS
    character into one field. -/
theorem per_elem_star (x : Ext) (cfg : Cfg) (env : Env) (pe : PE) (ifs : Str) (l : List Str)
    (hifs : ifsOf env = .ok ifs) (hp : Plain pe.name) (hv : env.get pe.name = Var.ofList l)
    (hidx : pe.idx = .star) (h1 : pe.excl = false) (h2 : pe.length = false) (h3 : pe.slice = none)
    (hop : PerElem x pe l) :
    fields x cfg env pe true
      = (mapMExcept (scalarOp x pe) l).map (fun ys => ([joinWith (ifs.take 1) ys], env)) := by
  rw [scalarOp_eq x pe hp h1 h2 h3 hop]
  exact fields_quoted_list x cfg env pe ifs l true hifs h1 h2 (listElems_indexed env pe l true hp hv hidx h3) hop

/-- … and on `"${m[@]…}"` of an associative array: mapped over its values (in sorted order), one
    field each (since ed26a21 / 0ab856c). -/
theorem per_elem_assoc (x : Ext) (cfg : Cfg) (env : Env) (pe : PE) (ifs : Str) (m : List (Str × Str))
    (hifs : ifsOf env = .ok ifs) (hp : Plain pe.name) (hv : env.get pe.name = Var.ofMap m)
    (hidx : pe.idx = .at) (h1 : pe.excl = false) (h2 : pe.length = false) (h3 : pe.slice = none)
    (hop : PerElem x pe (sortStrs (m.map (·.2)))) :
    fields x cfg env pe true
      = (mapMExcept (scalarOp x pe) (sortStrs (m.map (·.2)))).map (fun ys => (ys, env)) := by
  rw [scalarOp_eq x pe hp h1 h2 h3 hop]
  exact fields_quoted_list x cfg env pe ifs _ false hifs h1 h2 (listElems_assoc env pe m false hp hv hidx) hop

/-- … and on `"$@"`: mapped over the positional parameters, one field each (`asX pe` is the same
    expansion about an ordinary scalar variable). -/
theorem per_elem_positional (x : Ext) (cfg : Cfg) (env : Env) (pe : PE) (ifs : Str) (l : List Str)
    (hifs : ifsOf env = .ok ifs) (hn : pe.name = ['@']) (hv : env.get ['@'] = Var.ofList l)
    (h1 : pe.excl = false) (h2 : pe.length = false) (h3 : pe.slice = none)
    (hop : PerElem x pe l) :
    fields x cfg env pe true = (mapMExcept (scalarOp x (asX pe)) l).map (fun ys => (ys, env)) := by
  rw [scalarOp_eq x (asX pe) plain_xN h1 h2 h3 (perElem_asX x pe l hop)]
  exact fields_quoted_list x cfg env pe ifs l false hifs h1 h2 (listElems_positional env pe l false hn hv h3) hop

/-- The same for every operator the grammar allows after `a[@]` (the `@` transformations included). -/
def per_elem_statement : Prop :=
  ∀ (x : Ext) (cfg : Cfg) (env : Env) (pe : PE) (ifs : Str) (l : List Str),
    ifsOf env = .ok ifs → Plain pe.name → env.get pe.name = Var.ofList l →
    pe.idx = .at → pe.excl = false → pe.length = false → pe.slice = none → pe.repl = none →
    (∀ op arg, pe.exp = some (op, arg) → overridingUnset pe = false) →
    fields x cfg env pe true = (mapMExcept (scalarOp x pe) l).map (fun ys => (ys, env))

def upperPE : PE := { name := xN, idx := .at, exp := some (.other, ['U']) }
def abEnv : Env := [(xN, Var.ofList [['a'], ['b']])]

/-- finding C21-list-transform: `x=(a b); "${x[@]@U}"` gives `a` `b` -/
theorem per_elem_counterexample :
    fields xLit {} abEnv upperPE true = .ok ([['a'], ['b']], abEnv) ∧
    mapMExcept (scalarOp xLit upperPE) [['a'], ['b']] = .ok [['A'], ['B']] := by decide +kernel

theorem per_elem_statement_false : ¬ per_elem_statement := by
  intro h
  have := h xLit {} abEnv upperPE (sOf " \t\n") [['a'], ['b']] (by decide +kernel) plain_xN rfl rfl rfl rfl rfl rfl
    (by intro op arg h; cases h; rfl)
  rw [per_elem_counterexample.1, per_elem_counterexample.2] at this
  revert this; decide +kernel

/-- The eight test operators on a quoted list: with a non-empty list whose joined value is not
    null, `"${a[@]:+w}"` is the word. -/
def quoted_list_alt_statement : Prop :=
  ∀ (x : Ext) (cfg : Cfg) (env : Env) (name ifs w : Str) (l : List Str),
    ifsOf env = .ok ifs → Plain name → env.get name = Var.ofList l → joinWith [' '] l ≠ [] →
    fields x cfg env { name := name, idx := .at, exp := some (.altUnsetOrNull, w) } true = .ok ([w], env)

/-- finding C21-quoted-list-test-op: `x=(a b); "${x[@]:+w}"` gives `a` `b` -/
theorem quoted_list_alt_counterexample :
    fields xLit {} abEnv { name := xN, idx := .at, exp := some (.altUnsetOrNull, ['w']) } true
      = .ok ([['a'], ['b']], abEnv) := by decide +kernel

theorem quoted_list_alt_statement_false : ¬ quoted_list_alt_statement := by
  intro h
  have := h xLit {} abEnv xN (sOf " \t\n") ['w'] [['a'], ['b']] (by decide +kernel) plain_xN rfl (by decide)
  rw [quoted_list_alt_counterexample] at this
  revert this; decide +kernel

/-- `"${a[@]}"` is the elements as separate fields (none for an empty array)… -/
theorem quoted_at (x : Ext) (cfg : Cfg) (env : Env) (name ifs : Str) (l : List Str)
    (hifs : ifsOf env = .ok ifs) (hp : Plain name) (hv : env.get name = Var.ofList l) :
    fields x cfg env { name := name, idx := .at } true = .ok (l, env) :=
  fields_quoted_plain x cfg env _ ifs l false hifs rfl rfl rfl rfl (listElems_indexed env _ l false hp hv rfl rfl)

/-- … `"$@"` the positional parameters … -/
theorem quoted_at_positional (x : Ext) (cfg : Cfg) (env : Env) (ifs : Str) (l : List Str)
    (hifs : ifsOf env = .ok ifs) (hv : env.get ['@'] = Var.ofList l) :
    fields x cfg env { name := ['@'] } true = .ok (l, env) :=
  fields_quoted_plain x cfg env _ ifs l false hifs rfl rfl rfl rfl (listElems_positional env _ l false rfl hv rfl)

/-- … and no field at all for an unset variable. -/
theorem quoted_at_of_unset (x : Ext) (cfg : Cfg) (env : Env) (name ifs : Str)
    (hifs : ifsOf env = .ok ifs) (hp : Plain name) (hv : env.get name = Var.zero) :
    fields x cfg env { name := name, idx := .at } true = .ok ([], env) := by
  simp [fields, quotedElemFields, listElems, hifs, hv, hp.1, hp.2, isAtStar, Idx.lit,
    addElemsQuoted_fields, bind, Except.bind, pure, Except.pure]

/-- `"${a[*]}"` and `"$*"` are one field: the elements joined with the first character of IFS
    (nothing when IFS is empty; a space when IFS is unset, by `ifsOf`). -/
theorem quoted_star (x : Ext) (cfg : Cfg) (env : Env) (name ifs : Str) (l : List Str)
    (hifs : ifsOf env = .ok ifs) (hp : Plain name) (hv : env.get name = Var.ofList l) :
    fields x cfg env { name := name, idx := .star } true = .ok ([joinWith (ifs.take 1) l], env) :=
  fields_quoted_plain x cfg env _ ifs l true hifs rfl rfl rfl rfl (listElems_indexed env _ l true hp hv rfl rfl)

theorem quoted_star_positional (x : Ext) (cfg : Cfg) (env : Env) (ifs : Str) (l : List Str)
    (hifs : ifsOf env = .ok ifs) (hv : env.get ['*'] = Var.ofList l) :
    fields x cfg env { name := ['*'] } true = .ok ([joinWith (ifs.take 1) l], env) :=
  fields_quoted_plain x cfg env _ ifs l true hifs rfl rfl rfl rfl (listElems_positional env _ l true rfl hv rfl)

/-- IFS unset means space, tab, newline. -/
theorem ifs_default (env : Env) (h : env.get (sOf "IFS") = Var.zero) : ifsOf env = .ok (sOf " \t\n") := by
  simp [ifsOf, h]

/-- `${!r}` where `r` holds a non-empty name is the value of that variable; an unset `r` is the
    error "invalid indirect expansion". -/
theorem indirect (x : Ext) (cfg : Cfg) (env : Env) (name n v ifs : Str)
    (hifs : ifsOf env = .ok ifs) (hp : Plain name) (hv : env.get name = Var.ofStr n) (hn : n ≠ [])
    (hval : (env.get n).string = .ok v) :
    paramExp x cfg env { name := name, excl := true } = .ok (v, env) := by
  have h : paramExp x cfg env { name := name, excl := true }
      = if n.isEmpty then .ok ([], env) else (env.get n).string.map (·, env) :=
    paramExp_ofStr x cfg env _ ifs n hifs hp rfl hv
  rw [h, List.isEmpty_eq_false_iff.mpr hn, hval]
  rfl

theorem indirect_of_unset (x : Ext) (env : Env) (name ifs : Str)
    (hifs : ifsOf env = .ok ifs) (hp : Plain name) (hv : env.get name = Var.zero) :
    paramExp x {} env { name := name, excl := true } = .error .indirect :=
  paramExp_zero x env _ ifs hifs hp rfl hv

/-- An operator after the indirection applies to the referenced value. -/
def indirect_then_op_statement : Prop :=
  ∀ (x : Ext) (cfg : Cfg) (env : Env) (name n v ifs : Str) (off : Int),
    ifsOf env = .ok ifs → Plain name → env.get name = Var.ofStr n → n ≠ [] → (env.get n).string = .ok v →
    paramExp x cfg env { name := name, excl := true, slice := some (some off, none) }
      = (sliceStr v (some off) none).map (fun r => (r, env))

def indEnv : Env := [(yN, Var.ofStr (sOf "hello")), (rN, Var.ofStr yN)]

/-- finding C21-indirect-then-op: `y=hello; r=y; ${!r:1}` is `hello` -/
theorem indirect_then_op_counterexample :
    paramExp xLit {} indEnv { name := rN, excl := true, slice := some (some 1, none) } = .ok (sOf "hello", indEnv) := by
  decide +kernel

theorem indirect_then_op_statement_false : ¬ indirect_then_op_statement := by
  intro h
  have := h xLit {} indEnv rN yN (sOf "hello") (sOf " \t\n") 1 (by decide +kernel) (by decide) rfl (by decide) rfl
  rw [indirect_then_op_counterexample] at this
  revert this; decide +kernel

/-- `${x@U}`, `${x@L}`, `${x@u}` on a set scalar map the case table over all / the first character;
    `${x@Q}` is what `syntax.Quote` returns (property C13: a word that expands back to the value —
    which leaves strings that need no quoting unquoted, the documented difference from bash). -/
theorem transform_ops (x : Ext) (cfg : Cfg) (env : Env) (name s ifs : Str)
    (hifs : ifsOf env = .ok ifs) (hp : Plain name) (hv : env.get name = Var.ofStr s) :
    paramExp x cfg env { name := name, exp := some (.other, ['U']) } = .ok (s.map toUpper, env) ∧
    paramExp x cfg env { name := name, exp := some (.other, ['L']) } = .ok (s.map toLower, env) ∧
    paramExp x cfg env { name := name, exp := some (.other, ['u']) } = .ok (upperFirstRune s, env) ∧
    (∀ q, x.Q s = some q → paramExp x cfg env { name := name, exp := some (.other, ['Q']) } = .ok (q, env)) ∧
    (x.Q s = none → paramExp x cfg env { name := name, exp := some (.other, ['Q']) } = .error .quote) := by
  have h := fun arg => other_scalar_eq x cfg env name s ifs arg hifs hp hv
  refine ⟨h _, h _, h _, fun q hq => ?_, fun hq => ?_⟩ <;> simp [h, otherOp, hq, Except.map]

/-- `${x@Q}` of an unset parameter is nothing (fixed by 0f29e88). -/
theorem quote_of_unset (x : Ext) (env : Env) (name ifs : Str)
    (hifs : ifsOf env = .ok ifs) (hp : Plain name) (hv : env.get name = Var.zero) :
    paramExp x {} env { name := name, exp := some (.other, ['Q']) } = .ok ([], env) :=
  paramExp_zero x env _ ifs hifs hp rfl hv

/-- `${x/p/w}` of an unset parameter is nothing, whatever the pattern (fixed by f702dff). -/
theorem replace_of_unset (x : Ext) (env : Env) (name ifs : Str) (r : Repl)
    (hifs : ifsOf env = .ok ifs) (hp : Plain name) (hv : env.get name = Var.zero) :
    paramExp x {} env { name := name, repl := some r } = .ok ([], env) :=
  paramExp_zero x env _ ifs hifs hp rfl hv

/-- `"${m[@]}"` of an associative array: the values (sorted) as separate fields, none when it is
    empty (fixed by 0ab856c). -/
theorem quoted_at_assoc (x : Ext) (cfg : Cfg) (env : Env) (name ifs : Str) (m : List (Str × Str))
    (hifs : ifsOf env = .ok ifs) (hp : Plain name) (hv : env.get name = Var.ofMap m) :
    fields x cfg env { name := name, idx := .at } true = .ok (sortStrs (m.map (·.2)), env) :=
  fields_quoted_plain x cfg env _ ifs _ false hifs rfl rfl rfl rfl (listElems_assoc env _ m false hp hv rfl)

/-- The case table on the letters of the generators' alphabet. -/
example : (sOf "aé ǅz").map toUpper = sOf "AÉ ǄZ" ∧ (sOf "AÉǅ").map toLower = sOf "aéǆ" := by decide +kernel

/-- `$@`, `$*`, `${a[@]}`, `${a[*]}` without elements count as unset for the test operators
    (fixed by f7cc96f + 4040b4e for indexed lists, ed26a21 for associative arrays): `${@-w}` is the word … -/
theorem empty_list_unset (x : Ext) (cfg : Cfg) (env : Env) (ifs w : Str)
    (hifs : ifsOf env = .ok ifs) (hv : env.get ['@'] = Var.ofList []) :
    paramExp x cfg env { name := ['@'], exp := some (.defUnset, w) } = .ok (w, env) := by
  simp [paramExp, hifs, hv, effIdx, isAtStar, Idx.lit, sliceElems, overridingUnset, Sl.toList, joinWith,
    bind, Except.bind, pure, Except.pure]

/-- … `${@+w}` is nothing … -/
theorem empty_list_unset_alt (x : Ext) (cfg : Cfg) (env : Env) (ifs w : Str)
    (hifs : ifsOf env = .ok ifs) (hv : env.get ['@'] = Var.ofList []) :
    paramExp x cfg env { name := ['@'], exp := some (.altUnset, w) } = .ok ([], env) := by
  simp [paramExp, hifs, hv, effIdx, isAtStar, Idx.lit, sliceElems, overridingUnset, Sl.toList, joinWith,
    bind, Except.bind, pure, Except.pure]

/-- … and `${a[@]-w}` of an indexed array without elements is the word too. -/
theorem empty_array_unset (x : Ext) (cfg : Cfg) (env : Env) (name ifs w : Str)
    (hifs : ifsOf env = .ok ifs) (hp : Plain name) (hv : env.get name = Var.ofList []) :
    paramExp x cfg env { name := name, idx := .at, exp := some (.defUnset, w) } = .ok (w, env) := by
  simp [paramExp, hifs, hv, effIdx, hp.1, hp.2, isAtStar, Idx.lit, sliceElems, overridingUnset, Sl.toList, joinWith,
    bind, Except.bind, pure, Except.pure]

/-- former finding C21-empty-list-is-unset: `set --; ${@-d}` is `d` -/
theorem pinned_empty_list_unset :
    paramExp xLit {} [(['@'], Var.ofList [])] { name := ['@'], exp := some (.defUnset, ['d']) }
      = .ok (['d'], [(['@'], Var.ofList [])]) := by decide +kernel

/-- finding C21-assoc-negative-subscript: `declare -A x=([a]=b); ${x[-1]}` is the error
    "unsupported associative array subscript" (a Go panic before 443024b; bash uses the text `-1`
    as the key and expands to nothing). -/
theorem assoc_negative_subscript_error :
    paramExp xLit {} [(xN, Var.ofMap [(['a'], ['b'])])] { name := xN, idx := .word (sOf "-1") false }
      = .error .assocSubscript := by decide +kernel

/-- No subscript form of an associative array reaches a Go panic any more (well-formed or not). -/
theorem assoc_subscript_no_panic (ifs : Str) (m : List (Str × Str)) (idx : Idx) :
    varInd ifs (Var.ofMap m) idx ≠ .error .panic := by
  cases idx with
  | none => show (match mapGet m ['0'] with | some s => _ | none => _) ≠ _; split <;> exact nofun
  | «at» => exact nofun
  | star => exact nofun
  | word t w =>
    show (if _ then _ else _) ≠ _
    split
    · split <;> exact nofun
    · cases w
      · exact nofun
      · show (match mapGet m t with | some s => _ | none => _) ≠ _; split <;> exact nofun

example : ifsOf [] = .ok (sOf " \t\n") := by decide +kernel
example : Plain xN := by decide
example : EmptyAll (fun u => u == ['a']) := by intro h; exact absurd h (by decide)
example : PerElem xLit { name := xN, idx := .at, exp := some (.remSmallPre, ['a']) } [['a'], ['b']] :=
  Or.inr (Or.inl ⟨rfl, .remSmallPre, ['a'], rfl, Or.inl rfl⟩)
example : fields xLit {} abEnv { name := xN, idx := .at, exp := some (.remSmallPre, ['a']) } true
    = .ok ([[], ['b']], abEnv) := by decide +kernel
example : fields xLit {} abEnv { name := xN, idx := .star } true = .ok ([sOf "a b"], abEnv) := by decide +kernel
example : fields xLit {} ((sOf "IFS", Var.ofStr [':']) :: abEnv) { name := xN, idx := .star } true
    = .ok ([sOf "a:b"], (sOf "IFS", Var.ofStr [':']) :: abEnv) := by decide +kernel
example : paramExp xLit {} [(xN, Var.ofStr (sOf "abcabc"))] { name := xN, repl := some ⟨true, ['b'], ['X'], .none⟩ }
    = .ok (sOf "aXcaXc", [(xN, Var.ofStr (sOf "abcabc"))]) := by decide +kernel
example : paramExp xCStar {} [(xN, Var.ofStr (sOf "abcb"))] { name := xN, exp := some (.remLargeSuf, sOf "c*") }
    = .ok (sOf "ab", [(xN, Var.ofStr (sOf "abcb"))]) := by decide +kernel
example : fields xLit {} ((sOf "IFS", Var.ofStr [':']) :: abEnv)
    { name := xN, idx := .star, exp := some (.upperAll, ['a']) } true
    = .ok ([sOf "A:b"], (sOf "IFS", Var.ofStr [':']) :: abEnv) := by decide +kernel

example : fields xLit {} [(['@'], Var.ofList [sOf "ab", sOf "b"])] { name := ['@'], exp := some (.remSmallPre, ['a']) } true
    = .ok ([['b'], ['b']], [(['@'], Var.ofList [sOf "ab", sOf "b"])]) := by decide +kernel
example : Spec.table .asgUnsetOrNull .null = some .assign := rfl

end ShVerif.C21
