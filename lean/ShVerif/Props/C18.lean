import ShVerif.Model.L3Glob
import ShVerif.Proofs.L3Glob
import ShVerif.Proofs.C18
/-
  C18 — QuoteMeta and HasMeta are consistent with matching.

  `globMatch` is the reference semantics of shell patterns (Model/L3Glob §5), `quoteMeta`, `hasMeta`
  the models of pattern.QuoteMeta / pattern.HasMeta (tied to the Go code by exhaustive
  correspondence), `sameText m t s` is `t = s` — up to case when the mode folds case.
-/
namespace ShVerif.C18
open ShVerif ShVerif.L3

/-- QuoteMeta(s) is a pattern that matches s and nothing else, for every mode that matches the
    entire string.  FALSE of the code today for modes with ExtendedOperators (see the
    counter-example below and known finding C18-quotemeta-extglob). -/
def quoteMeta_exact_statement : Prop :=
  ∀ (m : Mode) (s t : Str), m.entire = true → (globMatch m (quoteMeta s) t = true ↔ sameText m t s)

/-- HasMeta p = false → p matches at most one string: p with its escapes removed.
    FALSE of the code today for modes with ExtendedOperators (known finding C18-hasmeta-extglob). -/
def hasMeta_single_statement : Prop :=
  ∀ (m : Mode) (p t : Str), m.entire = true → hasMeta p = false → globMatch m p t = true →
    sameText m t (unescape p)

/-- What "the pattern matches t as the text s" means in a mode: with EntireString, t is s (up to
    case when the mode folds case); without it — the regexp is unanchored — s occurs in t. -/
def matchedText (m : Mode) (t s : Str) : Prop :=
  if m.entire = true then sameText m t s else ∃ a b c, t = a ++ b ++ c ∧ sameText m b s

/-- QuoteMeta(s) matches s and nothing else — in **every** mode, anchored or not.  The one
    remaining hypothesis is exact (finding C18-quotemeta-extglob): the mode has no extended
    operators, or the text has no `!(`, `+(`, `@(` (the operators QuoteMeta leaves unescaped). -/
theorem quoteMeta_exact_partial (m : Mode) (s t : Str)
    (hx : m.ext = false ∨ hasExtOpener s = false) :
    globMatch m (quoteMeta s) t = true ↔ matchedText m t s :=
  globMatch_litSeq (parseSeq_quoteMeta m s _ 0 (Nat.lt_succ_of_le (quoteMeta_length_ge s)) hx) t

/-- Without case folding: QuoteMeta(s) matches exactly s. -/
theorem quoteMeta_exact_partial_eq (m : Mode) (s t : Str) (he : m.entire = true)
    (hn : m.nocase = false) (hx : m.ext = false ∨ hasExtOpener s = false) :
    globMatch m (quoteMeta s) t = true ↔ t = s := by
  rw [quoteMeta_exact_partial m s t hx, ← sameText_eq hn]
  simp [matchedText, he]

theorem quoteMeta_no_meta (s : Str) : hasMeta (quoteMeta s) = false :=
  hasMetaAux_quoteMeta s

/-- A pattern for which HasMeta is false matches at most its unescaped text — in **every** mode
    (anchored: t is that text; unanchored: that text occurs in t).  The one remaining hypothesis
    is exact (finding C18-hasmeta-extglob): the mode has no extended operators, or the pattern
    has no unescaped `?(`, `*(`, `+(`, `@(`, `!(`. -/
theorem hasMeta_single_partial (m : Mode) (p t : Str)
    (hm : hasMeta p = false) (hx : m.ext = false ∨ hasExtGroup p = false)
    (h : globMatch m p t = true) : matchedText m t (unescape p) := by
  rcases parseSeq_noMeta m (p.length + 1) false 0 p (Nat.lt_succ_self _) hm hx with hp | ⟨e, hp⟩
  · exact (globMatch_litSeq hp t).mp h
  · unfold globMatch parseGlob at h
    rw [hp] at h
    cases h

/-- Without case folding: at most one string, the unescaped pattern. -/
theorem hasMeta_single_partial_eq (m : Mode) (p t : Str) (he : m.entire = true)
    (hn : m.nocase = false) (hm : hasMeta p = false) (hx : m.ext = false ∨ hasExtGroup p = false)
    (h : globMatch m p t = true) : t = unescape p :=
  (sameText_eq hn _ _).mp (by simpa [matchedText, he] using hasMeta_single_partial m p t hm hx h)

def mCase : Mode := Mode.ofNat 68   -- EntireString | ExtendedOperators: the mode of `case` and [[ ]]

/-- Counter-example to the full statement: QuoteMeta("@(a)") = "@(a)" matches "a", and not
    "@(a)", under the mode of `case`. -/
theorem quoteMeta_exact_counterexample : ¬ quoteMeta_exact_statement := by
  intro h
  -- about variables first: `sameText` applied to closed strings is unfolded by the elaborator
  have key : ∀ s t : Str, globMatch mCase (quoteMeta s) t = true → t.length ≠ s.length → False :=
    fun s t hg hl => hl (sameText_length ((h mCase s t (by decide)).mp hg))
  exact key (strOf "@(a)") (strOf "a") (by decide +kernel) (by decide +kernel)

/-- Counter-example to the full statement: HasMeta("@(a|b)") = false, yet the pattern matches
    "a" (and "b"), which is not its unescaped text. -/
theorem hasMeta_single_counterexample : ¬ hasMeta_single_statement := by
  intro h
  have key : ∀ p t : Str, hasMeta p = false → globMatch mCase p t = true →
      t.length ≠ (unescape p).length → False :=
    fun p t hm hg hl => hl (sameText_length (h mCase p t (by decide) hm hg))
  exact key (strOf "@(a|b)") (strOf "a") (by decide +kernel) (by decide +kernel) (by decide +kernel)

/-! Non-vacuity: the hypotheses are satisfiable and the conclusions are not trivially true. -/
example : globMatch (Mode.ofNat 4) (quoteMeta (strOf "a*[b]\\")) (strOf "a*[b]\\") = true := by
  decide +kernel
example : globMatch (Mode.ofNat 4) (quoteMeta (strOf "a*")) (strOf "ab") = false := by decide +kernel
example : hasMeta (strOf "a\\*[b") = false ∧ globMatch (Mode.ofNat 4) (strOf "a\\*[b") (strOf "a*[b") = true := by
  decide +kernel
example : globMatch (Mode.ofNat 0) (quoteMeta (strOf "a*")) (strOf "xa*y") = true ∧
    globMatch (Mode.ofNat 0) (quoteMeta (strOf "a*")) (strOf "xaay") = false := by decide +kernel
example : hasExtOpener (strOf "?(a)*(b)") = false ∧ hasExtOpener (strOf "@(a)") = true := by decide +kernel

end ShVerif.C18
