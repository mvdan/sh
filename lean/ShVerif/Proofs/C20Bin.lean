import ShVerif.Model.C20
/-
  C20: 64-bit wrap-around; `intPow` is exponentiation modulo 2^64; on the property's domain `binArit`
  computes the mathematical operator of the specification, and all its values fit int64.
-/
namespace ShVerif.C20

theorem inI64_iff {v : Int} : inI64 v = true ↔ (-9223372036854775808 ≤ v ∧ v < 9223372036854775808) := by
  unfold inI64 two63
  rw [Bool.and_eq_true, decide_eq_true_iff, decide_eq_true_iff]

theorem wrap64_eq {v : Int} (h : inI64 v = true) : wrap64 v = v := by
  rw [inI64_iff] at h
  unfold wrap64 two63 two64
  omega

theorem wrap64_inI64 (v : Int) : inI64 (wrap64 v) = true := by
  rw [inI64_iff]
  unfold wrap64 two63 two64
  omega

theorem wrap64_emod (v : Int) : wrap64 v % two64 = v % two64 := by
  unfold wrap64 two63 two64
  omega

theorem wrap64_congr {a b : Int} (h : a % two64 = b % two64) : wrap64 a = wrap64 b := by
  unfold wrap64
  rw [Int.add_emod, h, ← Int.add_emod]

theorem wrap64_mul_left (a b : Int) : wrap64 (wrap64 a * b) = wrap64 (a * b) := by
  apply wrap64_congr
  rw [Int.mul_emod, wrap64_emod, ← Int.mul_emod]

theorem wrap64_mul_right (a b : Int) : wrap64 (a * wrap64 b) = wrap64 (a * b) := by
  apply wrap64_congr
  rw [Int.mul_emod, wrap64_emod, ← Int.mul_emod]

theorem wrap64_idem (a : Int) : wrap64 (wrap64 a) = wrap64 a :=
  wrap64_eq (wrap64_inI64 a)

theorem wrap64_pow (a : Int) (n : Nat) : wrap64 ((wrap64 a) ^ n) = wrap64 (a ^ n) := by
  induction n with
  | zero => simp
  | succ k ih =>
    rw [Int.pow_succ, Int.pow_succ, ← wrap64_mul_left, ih, wrap64_mul_left, wrap64_mul_right]

theorem wrap64_mul_pow (p a : Int) (k : Nat) :
    wrap64 (p * (wrap64 (a * a)) ^ k) = wrap64 (p * (a ^ k * a ^ k)) := by
  rw [← wrap64_mul_right, wrap64_pow, wrap64_mul_right, Int.mul_pow]

theorem intPowLoop_eq : ∀ (fuel : Nat) (a b p : Int), b < (2 : Int) ^ fuel →
    intPowLoop fuel a b p = if b ≤ 0 then p else wrap64 (p * a ^ b.toNat)
  | 0, a, b, p, h => by
    have : b ≤ 0 := by simp at h; omega
    simp [intPowLoop, this]
  | fuel + 1, a, b, p, h => by
    unfold intPowLoop
    by_cases hb : b > 0
    · have hlt : b / 2 < (2 : Int) ^ fuel := by
        rw [Int.pow_succ] at h; omega
      have hnb : ¬ b ≤ 0 := by omega
      simp only [hb, if_true, hnb, if_false]
      rw [intPowLoop_eq fuel _ _ _ hlt]
      by_cases hh : b / 2 ≤ 0
      · have hb1 : b = 1 := by omega
        subst hb1
        simp [Int.pow_succ]
      · simp only [hh, if_false]
        by_cases hodd : b % 2 ≠ 0
        · rw [if_pos hodd]
          have e : b.toNat = (b / 2).toNat + (b / 2).toNat + 1 := by omega
          rw [wrap64_mul_pow, wrap64_mul_left, e, Int.pow_succ, Int.pow_add]
          congr 1
          rw [Int.mul_assoc, Int.mul_comm a]
        · rw [if_neg hodd]
          have e : b.toNat = (b / 2).toNat + (b / 2).toNat := by omega
          rw [wrap64_mul_pow, e, Int.pow_add]
    · have hnb : b ≤ 0 := by omega
      simp [hb, hnb]

theorem intPow_eq (a b : Int) (h0 : 0 ≤ b) (h : inI64 b = true) :
    intPow a b = wrap64 (a ^ b.toNat) := by
  unfold intPow
  rw [inI64_iff] at h
  rw [intPowLoop_eq 64 a b 1 (by omega)]
  by_cases hb : b ≤ 0
  · have : b = 0 := by omega
    subst this
    simp [wrap64, two63, two64]
  · simp [hb]

theorem neg_one_pow (n : Nat) : (-1 : Int) ^ n = if n % 2 = 0 then 1 else -1 := by
  induction n with
  | zero => simp
  | succ k ih =>
    rw [Int.pow_succ, ih]
    by_cases h : k % 2 = 0
    · have : (k + 1) % 2 ≠ 0 := by omega
      simp [h, this]
    · have : (k + 1) % 2 = 0 := by omega
      simp [h, this]

theorem chk_ok {v : Int} {r : Res} (h : chk v = r) (hd : r.inDomain) :
    inI64 v = true ∧ r = .ok v := by
  unfold chk at h
  split at h
  · subst h; exact ⟨‹_›, rfl⟩
  · subst h; exact absurd hd (by simp [Res.inDomain])

theorem chk_wrap {v : Int} {r : Res} (h : chk v = r) (hd : r.inDomain) : Res.ok (wrap64 v) = r := by
  obtain ⟨hv, rfl⟩ := chk_ok h hd
  rw [wrap64_eq hv]

theorem specPow_eq {x y : Int} {r : Res} (h0 : 0 ≤ y) (hy : inI64 y = true)
    (h : specPow x y = r) (hd : r.inDomain) : Res.ok (intPow x y) = r := by
  rw [intPow_eq x y h0 hy]
  unfold specPow at h
  by_cases h64 : y < 64
  · rw [if_pos h64] at h; exact chk_wrap h hd
  rw [if_neg h64] at h
  have hpos : y.toNat ≠ 0 := by omega
  by_cases hx0 : x = 0
  · rw [if_pos hx0] at h; rw [← h, hx0, Int.zero_pow hpos]; rfl
  rw [if_neg hx0] at h
  by_cases hx1 : x = 1
  · rw [if_pos hx1] at h; rw [← h, hx1, Int.one_pow]; rfl
  rw [if_neg hx1] at h
  by_cases hxm : x = -1
  · rw [if_pos hxm] at h
    rw [← h, hxm, neg_one_pow]
    by_cases hp : y % 2 = 0
    · rw [if_pos hp, if_pos (by omega)]; rfl
    · rw [if_neg hp, if_neg (by omega)]; rfl
  · rw [if_neg hxm] at h; subst h; exact hd.elim

theorem ite_right {c : Prop} [Decidable c] {a b b' r : Res} (h : (if c then a else b) = r)
    (hb : ¬ c → b = r → b' = r) : (if c then a else b') = r := by
  by_cases hc : c
  · rwa [if_pos hc] at h ⊢
  · rw [if_neg hc] at h ⊢; exact hb hc h

theorem binArit_eq_spec {op : BinOp} {x y : Int} {r : Res} (hop : plainBin op = true)
    (hy : inI64 y = true) (h : specBin op x y = r) (hd : r.inDomain) : binArit op x y = r := by
  cases op
  case add | sub | mul => exact chk_wrap h hd
  case quo => exact ite_right h fun _ hb => chk_wrap hb hd
  case pow => exact ite_right h fun _ hb => specPow_eq (by omega) hy hb hd
  case rem | eql | gtr | lss | neq | leq | geq | and | or | xor | comma => exact h
  case shr =>
    have h' : (if 0 ≤ y ∧ y < 64 then Res.ok (x / 2 ^ y.toNat) else .err .outOfDomain) = r := h
    show Res.ok (shr64 x y) = r
    unfold shr64
    by_cases hr : 0 ≤ y ∧ y < 64
    · rwa [if_pos hr] at h' ⊢
    · rw [if_neg hr] at h'; subst h'; exact hd.elim
  case shl =>
    have h' : (if 0 ≤ y ∧ y < 64 then chk (x * 2 ^ y.toNat) else .err .outOfDomain) = r := h
    show Res.ok (shl64 x y) = r
    unfold shl64
    by_cases hr : 0 ≤ y ∧ y < 64
    · rw [if_pos hr] at h' ⊢; exact chk_wrap h' hd
    · rw [if_neg hr] at h'; subst h'; exact hd.elim
  all_goals cases hop

theorem oneIf_inI64 (b : Bool) : inI64 (oneIf b) = true := by
  cases b <;> rfl

theorem tmod_inI64 {x y : Int} (hx : inI64 x = true) : inI64 (Int.tmod x y) = true := by
  rw [inI64_iff] at *
  have h1 := Int.natAbs_tmod x y
  have h2 : x.natAbs % y.natAbs ≤ x.natAbs := Nat.mod_le _ _
  by_cases hx0 : 0 ≤ x
  · have := Int.tmod_nonneg y hx0
    omega
  · have h3 : 0 ≤ (-x).tmod y := Int.tmod_nonneg y (by omega)
    rw [Int.neg_tmod] at h3
    omega

theorem shr_inI64 {x : Int} (k : Nat) (hx : inI64 x = true) : inI64 (x / (2 : Int) ^ k) = true := by
  rw [inI64_iff] at *
  have hd : (0 : Int) < 2 ^ k := Int.pow_pos (by decide)
  have h1 := Int.natAbs_ediv_le_natAbs x ((2 : Int) ^ k)
  by_cases hx0 : 0 ≤ x
  · have := Int.ediv_le_self ((2 : Int) ^ k) hx0
    have := Int.ediv_nonneg hx0 (Int.le_of_lt hd)
    omega
  · have : x / (2 : Int) ^ k < 0 := (Int.ediv_lt_iff_lt_mul hd).2 (by omega)
    omega

theorem binArit_inI64 {op : BinOp} {x y v : Int} (hx : inI64 x = true) (hy : inI64 y = true)
    (h : binArit op x y = .ok v) : inI64 v = true := by
  cases op
  case add | sub | mul | and | or | xor => exact Res.ok.inj h ▸ wrap64_inI64 _
  case eql | gtr | lss | neq | leq | geq => exact Res.ok.inj h ▸ oneIf_inI64 _
  case comma => exact Res.ok.inj h ▸ hy
  case quo =>
    have h' : (if y = 0 then Res.err .divZero else .ok (wrap64 (Int.tdiv x y))) = .ok v := h
    split at h'
    · cases h'
    · exact Res.ok.inj h' ▸ wrap64_inI64 _
  case rem =>
    have h' : (if y = 0 then Res.err .divZero else .ok (Int.tmod x y)) = .ok v := h
    split at h'
    · cases h'
    · exact Res.ok.inj h' ▸ tmod_inI64 hx
  case pow =>
    have h' : (if y < 0 then Res.err .negExp else .ok (intPow x y)) = .ok v := h
    split at h'
    · cases h'
    · rw [← Res.ok.inj h', intPow_eq x y (by omega) hy]; exact wrap64_inI64 _
  case shr =>
    rw [← Res.ok.inj h]
    unfold shr64
    split
    · exact shr_inI64 _ hx
    · split <;> rfl
  case shl =>
    rw [← Res.ok.inj h]
    unfold shl64
    split
    · exact wrap64_inI64 _
    · rfl
  all_goals cases h

end ShVerif.C20
