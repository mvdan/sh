import ShVerif.Model.C29
import ShVerif.Proofs.L1Heap
/-
  C29.

  Part A: the shape invariant of overlay chains (`ChainOK`: a parent overlay is older than its
  child, and a `funcScope` overlay's parent is an overlay), `overlayEnviron.Set` never reaches the
  root under it, every Runner step preserves it.

  Part B: frame lemmas for `SplitBraces`, `bracesSeqRec` and the small sites on the L1 heap.
-/
namespace ShVerif.C29
open ShVerif ShVerif.L1

/-- parent and funcScope of every overlay: what `Set` never changes -/
def shape (h : EnvHeap) : List (PRef × Bool) := h.scopes.map fun s => (s.parent, s.funcScope)

def ChainOK (h : EnvHeap) : Prop :=
  ∀ (o : Nat) (s : Scope), h.scopes[o]? = some s →
    (∀ p, s.parent = .ov p → p < o) ∧ (s.funcScope = true → ∃ p, s.parent = .ov p)

theorem chainOK_of_shape {h h' : EnvHeap} (e : shape h' = shape h) (ok : ChainOK h) : ChainOK h' := by
  intro o s hs
  have h1 := congrArg (·[o]?) e
  simp only [shape, List.getElem?_map, hs, Option.map_some] at h1
  cases hh : h.scopes[o]? with
  | none => rw [hh] at h1; cases h1
  | some s0 =>
    rw [hh] at h1
    simp only [Option.map_some, Option.some.injEq, Prod.mk.injEq] at h1
    rw [h1.1, h1.2]
    exact ok o s0 hh

theorem shape_setScopeValues (h : EnvHeap) (o : Nat) (vs : List (Bytes × Var)) :
    shape (setScopeValues h o vs) = shape h := by
  refine List.ext_getElem? fun i => ?_
  simp only [shape, setScopeValues, List.getElem?_map, List.getElem?_set]
  split
  · next hi =>
    subst hi
    split
    · next hl => simp only [scopeAt, List.getElem?_eq_getElem hl, Option.getD_some, Option.map_some]
    · next hl => rw [List.getElem?_eq_none (Nat.le_of_not_lt hl)]
  · rfl

theorem rootSets_setScopeValues (h : EnvHeap) (o : Nat) (vs) : (setScopeValues h o vs).rootSets = h.rootSets := rfl
theorem base_setScopeValues (h : EnvHeap) (o : Nat) (vs) : (setScopeValues h o vs).base = h.base := rfl

theorem length_eq_of_shape {h h' : EnvHeap} (e : shape h' = shape h) : h'.scopes.length = h.scopes.length := by
  have := congrArg List.length e
  simpa only [shape, List.length_map] using this

def SameRoot (h h' : EnvHeap) : Prop := shape h' = shape h ∧ h'.rootSets = h.rootSets ∧ h'.base = h.base

theorem SameRoot.refl (h : EnvHeap) : SameRoot h h := ⟨rfl, rfl, rfl⟩
theorem SameRoot.trans {a b c : EnvHeap} (x : SameRoot a b) (y : SameRoot b c) : SameRoot a c :=
  ⟨y.1.trans x.1, y.2.1.trans x.2.1, y.2.2.trans x.2.2⟩

theorem sameRoot_set (h : EnvHeap) (o : Nat) (vs) : SameRoot h (setScopeValues h o vs) :=
  ⟨shape_setScopeValues h o vs, rfl, rfl⟩

def SetFine (h : EnvHeap) : SetRes → Prop
  | .ok h' => SameRoot h h'
  | .err h' => SameRoot h h'
  | .panic => False

theorem SetFine.ite {h : EnvHeap} {c : Prop} [Decidable c] {a b : SetRes} (ha : c → SetFine h a)
    (hb : ¬ c → SetFine h b) : SetFine h (if c then a else b) := by
  split
  · next hc => exact ha hc
  · next hc => exact hb hc

/-- `ok` and `err` differ only in the error that is reported -/
theorem SetFine.heap {h : EnvHeap} {r : SetRes} (f : SetFine h r) :
    ∃ h', (r = .ok h' ∨ r = .err h') ∧ SameRoot h h' := by
  cases r with
  | ok h' => exact ⟨h', Or.inl rfl, f⟩
  | err h' => exact ⟨h', Or.inr rfl, f⟩
  | panic => exact f.elim

theorem scopeAt_funcScope {h : EnvHeap} {o : Nat} (hf : (scopeAt h o).funcScope = true) :
    h.scopes[o]? = some (scopeAt h o) := by
  unfold scopeAt at *
  cases hh : h.scopes[o]? with
  | none => rw [hh] at hf; cases hf
  | some s => rfl

/-- the write into the overlay's own map: the map is made, then at most one more store -/
theorem envSetLocal_fine (h : EnvHeap) (o : Nat) (name : Bytes) (vr prev : Var) :
    SetFine h (envSetLocal h o name vr prev) := by
  have two : ∀ vs, SameRoot h (setScopeValues (setScopeValues h o ((scopeAt h o).values.getD [])) o vs) :=
    fun vs => (sameRoot_set _ _ _).trans (sameRoot_set _ _ _)
  unfold envSetLocal
  exact .ite (fun _ => sameRoot_set _ _ _) fun _ => .ite (fun _ => .ite (fun _ => two _) fun _ => two _) fun _ => two _

/-- Under `ChainOK`, `overlayEnviron.Set` terminates without a type-assertion panic and the root
    Environ receives nothing, whether or not it is a WriteEnviron. -/
theorem envSet_fine (rw : Bool) : ∀ (fuel : Nat) (h : EnvHeap) (o : Nat) (name : Bytes) (vr : Var),
    ChainOK h → 0 < fuel → (o < h.scopes.length → o < fuel) → SetFine h (envSet rw fuel h o name vr) := by
  intro fuel
  induction fuel with
  | zero => intro h o name vr _ hf; omega
  | succ fuel ih =>
    intro h o name vr ok _ hlt
    unfold envSet
    refine .ite (fun hfwd => ?_) fun _ => envSetLocal_fine h o name vr _
    -- forwarding: the parent is an older overlay, so the fuel still suffices
    have hf := (Bool.and_eq_true_iff.mp (Bool.and_eq_true_iff.mp hfwd).1).1
    have hs := scopeAt_funcScope hf
    obtain ⟨hpar, hfs⟩ := ok o _ hs
    obtain ⟨p, hp⟩ := hfs hf
    have hpf : p < fuel :=
      Nat.lt_of_lt_of_le (hpar p hp) (Nat.le_of_lt_succ (hlt (List.getElem?_eq_some_iff.mp hs).1))
    rw [hp]
    exact ih h p name vr ok (Nat.lt_of_le_of_lt (Nat.zero_le p) hpf) fun _ => hpf

theorem envSetTop_fine (rw : Bool) (h : EnvHeap) (o : Nat) (name : Bytes) (vr : Var) (ok : ChainOK h) :
    SetFine h (envSetTop rw h o name vr) :=
  envSet_fine rw _ h o name vr ok (Nat.succ_pos _) Nat.lt_succ_of_lt

theorem bgCopy_fine (o : Nat) : ∀ (vars : List (Bytes × Var)) (h : EnvHeap), ChainOK h →
    ∃ h', bgCopy o h vars = some h' ∧ SameRoot h h' := by
  intro vars
  induction vars with
  | nil => intro h _; exact ⟨h, rfl, SameRoot.refl h⟩
  | cons nv rest ih =>
    intro h ok
    obtain ⟨h1, hr, s1⟩ := (envSetTop_fine false h o nv.1 nv.2 ok).heap
    obtain ⟨h2, e2, s2⟩ := ih h1 (chainOK_of_shape s1.1 ok)
    refine ⟨h2, ?_, s1.trans s2⟩
    rcases hr with hr | hr <;> simp only [bgCopy, hr] <;> exact e2

theorem chainOK_alloc {h : EnvHeap} (ok : ChainOK h) (s : Scope)
    (hp : ∀ p, s.parent = .ov p → p < h.scopes.length) (hf : s.funcScope = true → ∃ p, s.parent = .ov p) :
    ChainOK (allocScope h s).1 := by
  intro o s' hs
  simp only [allocScope, List.getElem?_append, List.getElem?_singleton] at hs
  split at hs
  · exact ok o s' hs
  · split at hs
    · cases hs
      exact ⟨fun p e => by have := hp p e; omega, hf⟩
    · cases hs

theorem alloc_root (h : EnvHeap) (s : Scope) : (allocScope h s).1.rootSets = h.rootSets ∧ (allocScope h s).1.base = h.base :=
  ⟨rfl, rfl⟩

theorem alloc_length (h : EnvHeap) (s : Scope) : (allocScope h s).1.scopes.length = h.scopes.length + 1 :=
  List.length_append

theorem alloc_lt (h : EnvHeap) (s : Scope) : (allocScope h s).2 < (allocScope h s).1.scopes.length := by
  rw [alloc_length]; exact Nat.lt_succ_self _

def RunnerOK (len : Nat) (r : RunnerEnv) : Prop := r.writeEnv < len ∧ ∀ w ∈ r.saved, w < len

theorem RunnerOK.mono {a b : Nat} {r : RunnerEnv} (x : RunnerOK a r) (hl : a ≤ b) : RunnerOK b r :=
  ⟨Nat.lt_of_lt_of_le x.1 hl, fun w hw => Nat.lt_of_lt_of_le (x.2 w hw) hl⟩

structure IdsOK (st : EState) : Prop where
  cur : st.cur.writeEnv < st.h.scopes.length
  saved : ∀ w ∈ st.cur.saved, w < st.h.scopes.length
  outer : ∀ r ∈ st.outer, r.writeEnv < st.h.scopes.length ∧ ∀ w ∈ r.saved, w < st.h.scopes.length
  handler : ∀ o, st.handler = some o → o < st.h.scopes.length

theorem IdsOK.runner {st : EState} (ids : IdsOK st) : RunnerOK st.h.scopes.length st.cur := ⟨ids.cur, ids.saved⟩

def StOK (base : List (Bytes × Var)) (st : EState) : Prop :=
  ChainOK st.h ∧ IdsOK st ∧ st.h.rootSets = [] ∧ st.h.base = base

theorem IdsOK.step {st st' : EState} (ids : IdsOK st) (hl : st.h.scopes.length ≤ st'.h.scopes.length)
    (c : RunnerOK st'.h.scopes.length st'.cur)
    (o : ∀ r ∈ st'.outer, r ∈ st.outer ∨ r = st.cur)
    (hd : ∀ o, st'.handler = some o → st.handler = some o ∨ o < st'.h.scopes.length) : IdsOK st' := by
  refine ⟨c.1, c.2, fun r hr => ?_, fun x hx => ?_⟩
  · rcases o r hr with m | rfl
    · exact RunnerOK.mono (ids.outer r m) hl
    · exact ids.runner.mono hl
  · rcases hd x hx with m | m
    · exact Nat.lt_of_lt_of_le (ids.handler x m) hl
    · exact m

/-- the state is as good over a heap with the same chains, the same root log and root variables -/
theorem StOK.sameRoot {base} {st : EState} (ok : StOK base st) {h' : EnvHeap} (s : SameRoot st.h h') :
    StOK base { st with h := h' } := by
  obtain ⟨c, ids, rs, bs⟩ := ok
  have hl : st.h.scopes.length = h'.scopes.length := (length_eq_of_shape s.1).symm
  exact ⟨chainOK_of_shape s.1 c, ids.step (Nat.le_of_eq hl) (hl ▸ ids.runner) (fun _ m => Or.inl m) (fun _ m => Or.inl m),
    s.2.1.trans rs, s.2.2.trans bs⟩

theorem stOK_afterSet {base} {st : EState} (ok : StOK base st) {r : SetRes} (hf : SetFine st.h r) :
    ∃ st', afterSet st r = some st' ∧ StOK base st' := by
  obtain ⟨h', hr, s⟩ := hf.heap
  exact ⟨{ st with h := h' }, by rcases hr with rfl | rfl <;> rfl, ok.sameRoot s⟩

theorem estep_ok (rw : Bool) {base} {st : EState} (ok : StOK base st) (op : EOp) :
    ∃ st', estep rw st op = some st' ∧ StOK base st' := by
  obtain ⟨c, ids, rs, bs⟩ := ok
  have old := ids.runner
  have le (s : Scope) : st.h.scopes.length ≤ (allocScope st.h s).1.scopes.length := Nat.le_of_lt (alloc_lt st.h s)
  cases op with
  | reset =>
    refine ⟨_, rfl, chainOK_alloc c _ (by intro p e; cases e) (by intro e; cases e), ?_, rs, bs⟩
    exact ids.step (le _) ⟨alloc_lt _ _, by intro w hw; cases hw⟩ (fun _ m => Or.inl m) (fun _ m => Or.inl m)
  | call =>
    refine ⟨_, rfl, chainOK_alloc c _ (by intro p e; cases e; exact ids.cur) (fun _ => ⟨_, rfl⟩), ?_, rs, bs⟩
    refine ids.step (le _) ⟨alloc_lt _ _, fun w hw => ?_⟩ (fun _ m => Or.inl m) (fun _ m => Or.inl m)
    rcases List.mem_cons.mp hw with rfl | hw
    · exact (old.mono (le _)).1
    · exact (old.mono (le _)).2 w hw
  | ret =>
    unfold estep
    cases hsv : st.cur.saved with
    | nil => exact ⟨st, rfl, c, ids, rs, bs⟩
    | cons w rest =>
      refine ⟨_, rfl, c, ?_, rs, bs⟩
      refine ids.step (Nat.le_refl _) ⟨ids.saved w ?_, fun w' hw' => ids.saved w' ?_⟩ (fun _ m => Or.inl m) (fun _ m => Or.inl m)
      · rw [hsv]; exact List.mem_cons_self
      · rw [hsv]; exact List.mem_cons_of_mem _ hw'
  | subshell bg =>
    unfold estep newOverlay
    cases bg with
    | false =>
      refine ⟨_, rfl, chainOK_alloc c _ (by intro p e; cases e; exact ids.cur) (by intro e; cases e), ?_, rs, bs⟩
      exact ids.step (le _) ⟨alloc_lt _ _, by intro w hw; cases hw⟩ (fun _ m => (List.mem_cons.mp m).symm)
        (fun _ m => Or.inl m)
    | true =>
      -- the child's overlay is allocated without a parent; the copy into it then keeps the chains
      have ok1 : StOK base { st with h := (allocScope st.h {}).1, cur := { writeEnv := (allocScope st.h {}).2 },
                                     outer := st.cur :: st.outer } :=
        ⟨chainOK_alloc c _ (by intro p e; cases e) (by intro e; cases e),
          ids.step (le _) ⟨alloc_lt _ _, by intro w hw; cases hw⟩ (fun _ m => (List.mem_cons.mp m).symm)
            (fun _ m => Or.inl m), rs, bs⟩
      obtain ⟨h2, e2, s2⟩ := bgCopy_fine (allocScope st.h {}).2
        (envEachRef st.h (st.h.scopes.length + 1) (.ov st.cur.writeEnv)) _ ok1.1
      refine ⟨_, ?_, ok1.sameRoot s2⟩
      simp only [Bool.not_true, Bool.false_eq_true, if_false, reduceCtorEq, e2, Option.map_some]
  | subEnd =>
    unfold estep
    cases hout : st.outer with
    | nil => exact ⟨st, rfl, c, ids, rs, bs⟩
    | cons p rest =>
      refine ⟨_, rfl, c, ?_, rs, bs⟩
      refine ids.step (Nat.le_refl _) (ids.outer p ?_) (fun r m => Or.inl ?_) (fun _ m => Or.inl m)
      · rw [hout]; exact List.mem_cons_self
      · rw [hout]; exact List.mem_cons_of_mem _ m
  | handler =>
    refine ⟨_, rfl, chainOK_alloc c _ (by intro p e; cases e; exact ids.cur) (by intro e; cases e), ?_, rs, bs⟩
    exact ids.step (le _) (old.mono (le _)) (fun _ m => Or.inl m) (fun o ho => Or.inr (by cases ho; exact alloc_lt _ _))
  | hset name v =>
    unfold estep
    cases hh : st.handler with
    | none => exact ⟨st, rfl, c, ids, rs, bs⟩
    | some o => exact stOK_afterSet ⟨c, ids, rs, bs⟩ (envSetTop_fine rw st.h o name v c)
  | set name v =>
    exact stOK_afterSet ⟨c, ids, rs, bs⟩ (envSetTop_fine rw st.h st.cur.writeEnv name v c)

theorem erun_ok (rw : Bool) {base} : ∀ (ops : List EOp) (st : EState), StOK base st →
    ∃ st', erun rw st ops = some st' ∧ StOK base st' := by
  intro ops
  induction ops with
  | nil => intro st ok; exact ⟨st, rfl, ok⟩
  | cons op ops ih =>
    intro st ok
    obtain ⟨st1, e1, ok1⟩ := estep_ok rw ok op
    obtain ⟨st2, e2, ok2⟩ := ih st1 ok1
    exact ⟨st2, by simp only [erun, e1]; exact e2, ok2⟩

theorem einit_ok (base : List (Bytes × Var)) : StOK base (einit base) := by
  refine ⟨?_, ⟨Nat.zero_lt_one, (by intro w hw; cases hw), (by intro r hr; cases hr), (by intro o ho; cases ho)⟩, rfl, rfl⟩
  exact chainOK_alloc (h := { base := base }) (by intro o s hs; cases hs) _ (by intro p e; cases e) (by intro e; cases e)

/-! ## Part B -/

/-- sizes of the three heap components at the moment a function is entered -/
structure Sizes where
  w : Nat
  b : Nat
  a : Nat

def sizesOf (h : Heap) : Sizes := ⟨h.words.length, h.braces.length, h.parr.length⟩

structure HFr (n : Sizes) (h h' : Heap) : Prop where
  words : ListFr n.w h.words h'.words
  braces : ListFr n.b h.braces h'.braces
  parr : ListFr n.a h.parr h'.parr

/-- objects created since entry hold only storage allocated since entry, and braces created since
    entry only list words created since entry -/
structure HInv (n : Sizes) (h : Heap) : Prop where
  owned : ∀ w, n.w ≤ w → Owned n.a (wordAt h w)
  elems : ∀ b, n.b ≤ b → ∀ x ∈ (braceAt h b).elems, n.w ≤ x

theorem HFr.refl {n : Sizes} {h : Heap} (hw : n.w ≤ h.words.length) (hb : n.b ≤ h.braces.length)
    (ha : n.a ≤ h.parr.length) : HFr n h h := ⟨ListFr.refl hw, ListFr.refl hb, ListFr.refl ha⟩

theorem HFr.trans {n : Sizes} {a b c : Heap} (x : HFr n a b) (y : HFr n b c) : HFr n a c :=
  ⟨x.words.trans y.words, x.braces.trans y.braces, x.parr.trans y.parr⟩

structure Good (n : Sizes) (h0 h : Heap) : Prop where
  fr : HFr n h0 h
  inv : HInv n h

theorem Good.lw {n h0 h} (g : Good n h0 h) : n.w ≤ h.words.length := g.fr.words.1
theorem Good.lb {n h0 h} (g : Good n h0 h) : n.b ≤ h.braces.length := g.fr.braces.1
theorem Good.la {n h0 h} (g : Good n h0 h) : n.a ≤ h.parr.length := g.fr.parr.1

theorem getD_set {α : Type} (l : List α) (i j : Nat) (x d : α) :
    (l.set i x)[j]?.getD d = if j = i ∧ i < l.length then x else l[j]?.getD d := by
  rw [List.getElem?_set]
  by_cases e : i = j
  · subst e
    by_cases hl : i < l.length
    · simp only [hl, if_true, and_self, Option.getD_some]
    · simp only [hl, and_false, if_false, if_true, List.getElem?_eq_none (Nat.le_of_not_lt hl)]
  · rw [if_neg e, if_neg fun x => e x.1.symm]

theorem getD_append_one {α : Type} (l : List α) (j : Nat) (x d : α) :
    (l ++ [x])[j]?.getD d = if j = l.length then x else l[j]?.getD d := by
  by_cases e : j = l.length
  · rw [if_pos e, e, List.getElem?_append_right (Nat.le_refl _), Nat.sub_self]; rfl
  · rw [if_neg e]
    rcases Nat.lt_or_gt_of_ne e with hl | hl
    · rw [List.getElem?_append_left hl]
    · rw [List.getElem?_eq_none (Nat.le_of_lt hl), List.getElem?_eq_none (by rw [List.length_append]; exact hl)]

theorem wordAt_setWord (h : Heap) (w w' : Nat) (s : Slice) :
    wordAt (setWord h w s) w' = if w' = w ∧ w < h.words.length then s else wordAt h w' :=
  getD_set h.words w w' s Slice.nil

theorem braceAt_setWord (h : Heap) (w : Nat) (s : Slice) (b : Nat) : braceAt (setWord h w s) b = braceAt h b := rfl

theorem braceAt_setBrace (h : Heap) (b b' : Nat) (o : BraceObj) :
    braceAt (setBrace h b o) b' = if b' = b ∧ b < h.braces.length then o else braceAt h b' :=
  getD_set h.braces b b' o {}

theorem wordAt_newWord (h : Heap) (s : Slice) (w : Nat) :
    wordAt (newWord h s).1 w = if w = h.words.length then s else wordAt h w :=
  getD_append_one h.words w s Slice.nil

theorem braceAt_newBrace (h : Heap) (es : List Nat) (b : Nat) :
    braceAt (newBrace h es).1 b = if b = h.braces.length then { elems := es } else braceAt h b :=
  getD_append_one h.braces b { elems := es } {}

theorem good_setWord {n h0 h} (g : Good n h0 h) {w : Nat} {s : Slice} (hw : n.w ≤ w) (ho : Owned n.a s) :
    Good n h0 (setWord h w s) := by
  refine ⟨⟨g.fr.words.trans (listFr_set _ _ g.lw hw), g.fr.braces, g.fr.parr⟩, ⟨fun w' hw' => ?_, g.inv.elems⟩⟩
  rw [wordAt_setWord]
  split
  · exact ho
  · exact g.inv.owned w' hw'

theorem good_setBrace {n h0 h} (g : Good n h0 h) {b : Nat} {o : BraceObj} (hb : n.b ≤ b) (ho : ∀ x ∈ o.elems, n.w ≤ x) :
    Good n h0 (setBrace h b o) := by
  refine ⟨⟨g.fr.words, g.fr.braces.trans (listFr_set _ _ g.lb hb), g.fr.parr⟩, ⟨g.inv.owned, fun b' hb' x hx => ?_⟩⟩
  rw [braceAt_setBrace] at hx
  split at hx
  · exact ho x hx
  · exact g.inv.elems b' hb' x hx

theorem good_newWord {n h0 h} (g : Good n h0 h) {s : Slice} (ho : Owned n.a s) :
    Good n h0 (newWord h s).1 ∧ n.w ≤ (newWord h s).2 := by
  refine ⟨⟨⟨g.fr.words.trans (listFr_append _ _ g.lw), g.fr.braces, g.fr.parr⟩, ⟨fun w hw => ?_, g.inv.elems⟩⟩, g.lw⟩
  rw [wordAt_newWord]
  split
  · exact ho
  · exact g.inv.owned w hw

theorem good_newBrace {n h0 h} (g : Good n h0 h) {es : List Nat} (he : ∀ x ∈ es, n.w ≤ x) :
    Good n h0 (newBrace h es).1 ∧ n.b ≤ (newBrace h es).2 := by
  refine ⟨⟨⟨g.fr.words, g.fr.braces.trans (listFr_append _ _ g.lb), g.fr.parr⟩, ⟨g.inv.owned, fun b hb x hx => ?_⟩⟩, g.lb⟩
  rw [braceAt_newBrace] at hx
  split at hx
  · exact he x hx
  · exact g.inv.elems b hb x hx

/-- `Owned` only looks at slice headers -/
theorem good_parr {n h0 h} (g : Good n h0 h) {parr' : ArrHeap Part} (fr : ListFr n.a h.parr parr') :
    Good n h0 { h with parr := parr' } :=
  ⟨⟨g.fr.words, g.fr.braces, g.fr.parr.trans fr⟩, ⟨g.inv.owned, g.inv.elems⟩⟩

theorem good_congr {n h0 h h'} (g : Good n h0 h) (ew : h'.words = h.words) (eb : h'.braces = h.braces)
    (fr : ListFr n.a h.parr h'.parr) : Good n h0 h' := by
  obtain ⟨w', b', p'⟩ := h'
  dsimp only at ew eb
  subst ew eb
  exact good_parr g fr

/-- `next := *word; next.Parts = s`: whatever header was copied, the new word ends with owned storage -/
theorem good_copyWord {n h0 h} (g : Good n h0 h) (s0 : Slice) {s : Slice} (ho : Owned n.a s) :
    Good n h0 (setWord (newWord h s0).1 (newWord h s0).2 s) := by
  have e : setWord (newWord h s0).1 (newWord h s0).2 s = (newWord h s).1 := by
    simp only [setWord, newWord, List.set_append_right _ _ (Nat.le_refl _), Nat.sub_self, List.set_cons_zero]
  rw [e]; exact (good_newWord g ho).1

theorem good_appendPart {n h0 h} (gr : Grow) (g : Good n h0 h) {w : Nat} (p : Part) (hw : n.w ≤ w) :
    Good n h0 (appendPart gr h w p) := by
  unfold appendPart
  have h1 := (sliceAppend_step gr h.parr (wordAt h w) p).fr g.la (g.inv.owned w hw)
  exact good_setWord (good_parr g h1.1) hw h1.2

theorem good_appendParts {n h0 h} (gr : Grow) (g : Good n h0 h) {w : Nat} (ps : List Part) (hw : n.w ≤ w) :
    Good n h0 (appendParts gr h w ps) := by
  unfold appendParts
  have h1 := (sliceAppendMany_step gr h.parr (wordAt h w) ps).fr g.la (g.inv.owned w hw)
  exact good_setWord (good_parr g h1.1) hw h1.2

structure SBInv (n : Sizes) (h0 : Heap) (st : SB) : Prop where
  good : Good n h0 st.h
  top : n.w ≤ st.top
  acc : n.w ≤ st.acc
  opn : ∀ b ∈ st.opn, n.b ≤ b

theorem SBInv.ite {n h0} {c : Prop} [Decidable c] {a b : SB} (ha : SBInv n h0 a) (hb : SBInv n h0 b) :
    SBInv n h0 (if c then a else b) := by
  split <;> assumption

theorem sb_addLit {n h0 st} (g : Grow) (i : SBInv n h0 st) (p : Part) : SBInv n h0 (addLit g st p) :=
  ⟨good_appendPart g i.good p i.acc, i.top, i.acc, i.opn⟩

theorem sb_addLitIdx {n h0 st} (g : Grow) (i : SBInv n h0 st) (v : Bytes) (last j : Nat) :
    SBInv n h0 (addLitIdx g st v last j) := .ite i (sb_addLit g i _)

theorem sb_pop {n h0 st} (i : SBInv n h0 st) {st' : SB} {old : Nat} (e : pop st = some (st', old)) :
    SBInv n h0 st' ∧ n.b ≤ old := by
  unfold pop at e
  split at e
  · cases e
  · next old' hop =>
    cases e
    exact ⟨⟨i.good, i.top, i.top, by intro b hb; cases hb⟩, i.opn _ (by rw [hop]; exact List.mem_cons_self)⟩
  · next old' b rest hop =>
    split at e
    · cases e
    · next w hw =>
      cases e
      have hb : n.b ≤ b := i.opn b (by rw [hop]; exact List.mem_cons_of_mem _ List.mem_cons_self)
      have hwm : w ∈ (braceAt st.h b).elems := List.mem_of_getLast? hw
      refine ⟨⟨i.good, i.top, i.good.inv.elems b hb w hwm, ?_⟩, i.opn _ (by rw [hop]; exact List.mem_cons_self)⟩
      intro b' hb'
      exact i.opn b' (by rw [hop]; exact List.mem_cons_of_mem _ hb')

theorem sb_addSep {n h0 st} (g : Grow) (sep : Option Part) (i : SBInv n h0 st) (first : Bool) :
    SBInv n h0 (addSep g sep st first) := by
  cases sep with
  | none => exact .ite i i
  | some p => exact .ite i (sb_addLit g i p)

theorem sb_spliceElems {n h0} (g : Grow) (sep : Option Part) : ∀ (es : List Nat) (st : SB) (first : Bool),
    SBInv n h0 st → SBInv n h0 (spliceElems g sep st es first) := by
  intro es
  induction es with
  | nil => intro st first i; exact i
  | cons e es ih =>
    intro st first i
    have i1 := sb_addSep g sep i first
    exact ih _ _ ⟨good_appendParts g i1.good _ i1.acc, i1.top, i1.acc, i1.opn⟩

theorem good_mergeSeq {n h0 h} (g : Grow) (gd : Good n h0 h) {b : Nat} (hb : n.b ≤ b) {h' : Heap}
    (e : mergeSeq g h b = some h') : Good n h0 h' := by
  unfold mergeSeq at e
  split at e
  · cases e
  · next merged rest hel =>
    cases e
    have hm : n.w ≤ merged := gd.inv.elems b hb merged (by rw [hel]; exact List.mem_cons_self)
    exact good_setBrace (foldl_inv (P := Good n h0)
      (fun h1 _ g1 => good_appendParts g (good_appendPart g g1 _ hm) _ hm) rest h gd) hb
      fun x hx => List.mem_singleton.mp hx ▸ hm

theorem sb_unbrace {n h0 st} (g : Grow) (i : SBInv n h0 st) (elems : List Nat) (sep : Option Part) :
    SBInv n h0 (unbrace g st elems sep) :=
  sb_addLit g (sb_spliceElems g sep elems _ true (sb_addLit g i _)) _

theorem sb_closeBrace {n h0 st} (g : Grow) (i : SBInv n h0 st) (br : Nat) : SBInv n h0 (closeBrace g st br) :=
  .ite (sb_unbrace g i _ _) (.ite (sb_addLit g i _) (.ite (sb_addLit g i _) (sb_unbrace g i _ _)))

theorem cur_mem {st : SB} {b : Nat} (h : st.cur = some b) : b ∈ st.opn :=
  List.mem_of_mem_head? h

/-- `{`: a new word in a new brace, which becomes `cur` -/
theorem sb_openBrace {n h0 st} (i : SBInv n h0 st) :
    SBInv n h0 { h := (newBrace (newWord st.h).1 [(newWord st.h).2]).1, top := st.top, acc := (newWord st.h).2,
                 opn := (newBrace (newWord st.h).1 [(newWord st.h).2]).2 :: st.opn } := by
  have w1 := good_newWord i.good (Owned.nil n.a)
  have b1 := good_newBrace w1.1 (es := [(newWord st.h).2]) (by
    intro x hx; rw [List.mem_singleton.mp hx]; exact w1.2)
  refine ⟨b1.1, i.top, w1.2, ?_⟩
  intro b hb
  rcases List.mem_cons.mp hb with rfl | hb
  · exact b1.2
  · exact i.opn b hb

/-- `,` and `..`: a new word becomes the last element of the open brace `b` -/
theorem sb_newElem {n h0 st} (i : SBInv n h0 st) {b : Nat} (hb : n.b ≤ b) {h1 : Heap} (g1 : Good n h0 h1)
    (seq : Bool) :
    SBInv n h0 { h := setBrace (newWord h1).1 b { seq := seq, elems := (braceAt (newWord h1).1 b).elems ++ [(newWord h1).2] },
                 top := st.top, acc := (newWord h1).2, opn := st.opn } := by
  have w1 := good_newWord g1 (Owned.nil n.a)
  refine ⟨good_setBrace w1.1 hb ?_, i.top, w1.2, i.opn⟩
  intro x hx
  rcases List.mem_append.mp hx with hx | hx
  · exact w1.1.inv.elems b hb x hx
  · rw [List.mem_singleton.mp hx]; exact w1.2

theorem sb_lexLit {n h0} (g : Grow) (v : Bytes) : ∀ (fuel : Nat) {j last : Nat} {st st' : SB} {last' : Nat},
    SBInv n h0 st → lexLit g v fuel j last st = some (st', last') → SBInv n h0 st' := by
  intro fuel
  induction fuel with
  | zero =>
    intro j last st st' last' i e
    cases e; exact i
  | succ fuel ih =>
    intro j last st st' last' i e
    have i1 := sb_addLitIdx g i v last j
    rw [lexLit] at e
    rcases of_ite_eq e with ⟨_, e⟩ | ⟨_, e⟩
    · cases e; exact i
    rcases of_ite_eq e with ⟨_, e⟩ | ⟨_, e⟩   -- `\`
    · exact ih i e
    rcases of_ite_eq e with ⟨_, e⟩ | ⟨_, e⟩   -- `{`
    · exact ih (sb_openBrace i1) e
    -- the remaining special characters only act inside an open brace
    cases hcur : st.cur with
    | none => simp only [hcur, ite_self] at e; exact ih i e
    | some b =>
      have hb := i.opn b (cur_mem hcur)
      simp only [hcur] at e
      rcases of_ite_eq e with ⟨_, e⟩ | ⟨_, e⟩   -- `,`
      · split at e
        · cases e
        · next h1 hm =>
          have g1 : Good n h0 h1 := by
            rcases of_ite_eq hm with ⟨_, hm⟩ | ⟨_, hm⟩
            · exact good_mergeSeq g i1.good hb hm
            · cases hm; exact i1.good
          exact ih (sb_newElem i1 hb g1 _) e
      rcases of_ite_eq e with ⟨_, e⟩ | ⟨_, e⟩   -- `.`
      · rcases of_ite_eq e with ⟨_, e⟩ | ⟨_, e⟩
        · exact ih i e
        rcases of_ite_eq e with ⟨_, e⟩ | ⟨_, e⟩
        · exact ih i e
        · exact ih (sb_newElem i1 hb i1.good true) e
      rcases of_ite_eq e with ⟨_, e⟩ | ⟨_, e⟩   -- `}`
      · split at e
        · cases e
        · next st2 br hp => exact ih (sb_closeBrace g (sb_pop i1 hp).1 br) e
      · exact ih i e

theorem sb_lexParts {n h0} (g : Grow) : ∀ (ps : List Part) {st st' : SB},
    SBInv n h0 st → lexParts g st ps = some st' → SBInv n h0 st' := by
  intro ps
  induction ps with
  | nil => intro st st' i e; cases e; exact i
  | cons p ps ih =>
    intro st st' i e
    cases p with
    | lit v =>
      unfold lexParts at e
      split at e
      · cases e
      · next st1 last hl =>
        have i1 := sb_lexLit g v _ i hl
        exact ih (.ite (sb_addLit g i1 _) (.ite (sb_addLit g i1 _) i1)) e
    | nilp => exact ih (sb_addLit g i _) e
    | other t => exact ih (sb_addLit g i _) e
    | brace b => exact ih (sb_addLit g i _) e

theorem sb_closeOpen {n h0} (g : Grow) : ∀ (fuel : Nat) {st st' : SB},
    SBInv n h0 st → closeOpen g fuel st = some st' → SBInv n h0 st' := by
  intro fuel
  induction fuel with
  | zero =>
    intro st st' i e
    unfold closeOpen at e
    split at e
    · cases e; exact i
    · cases e
  | succ fuel ih =>
    intro st st' i e
    unfold closeOpen at e
    split at e
    · cases e; exact i
    · split at e
      · cases e
      · next st1 br hp =>
        have p := sb_pop i hp
        exact ih (sb_spliceElems g _ _ _ _ (sb_addLit g p.1 _)) e

/-- at entry nothing has been created yet: ids at or above the sizes are dangling -/
theorem good_self (h : Heap) : Good (sizesOf h) h h := by
  refine ⟨HFr.refl (Nat.le_refl _) (Nat.le_refl _) (Nat.le_refl _), fun w hw => ?_, fun b hb x hx => ?_⟩
  · rw [wordAt, List.getElem?_eq_none hw]; exact Owned.nil _
  · rw [braceAt, List.getElem?_eq_none hb] at hx; cases hx

/-- what `SplitBraces` may change of what existed: the one `Word` header it was given -/
structure FrExcept (h h' : Heap) (w : Nat) : Prop where
  words : ∀ i, i < h.words.length → i ≠ w → h'.words[i]? = h.words[i]?
  wordsLen : h.words.length ≤ h'.words.length
  braces : ListFr h.braces.length h.braces h'.braces
  parr : ListFr h.parr.length h.parr h'.parr

def AllFr (h h' : Heap) : Prop := HFr (sizesOf h) h h'

theorem AllFr.trans {a b c : Heap} (x : AllFr a b) (y : AllFr b c) : AllFr a c :=
  HFr.trans x ⟨y.words.weaken x.words.1, y.braces.weaken x.braces.1, y.parr.weaken x.parr.1⟩

/-- `SplitBraces` builds its words in a heap that keeps everything that existed; at the end it may
    overwrite the header it was given (`*word = *top`), and then it returns true -/
theorem splitBraces_fr (g : Grow) (h : Heap) (w : Nat) {h' : Heap} {b : Bool}
    (e : splitBraces g h w = some (h', b)) :
    ∃ h1, AllFr h h1 ∧ (h' = h1 ∨ (b = true ∧ ∃ s, h' = setWord h1 w s)) := by
  unfold splitBraces at e
  dsimp only at e
  by_cases hb : (!hasBraceLit (partsOf h w)) = true
  · rw [if_pos hb] at e
    cases e
    exact ⟨h, (good_self h).fr, Or.inl rfl⟩
  rw [if_neg hb] at e
  split at e
  · cases e
  · next st hlex =>
    split at e
    · cases e
    · next st1 hclose =>
      have w1 := good_newWord (good_self h) (Owned.nil _)
      have i2 := sb_closeOpen g _ (sb_lexParts g _ ⟨w1.1, w1.2, w1.2, by intro b hb; cases hb⟩ hlex) hclose
      refine ⟨st1.h, i2.good.fr, ?_⟩
      split at e <;> cases e
      · exact Or.inl rfl
      · exact Or.inr ⟨rfl, _, rfl⟩

theorem splitBraces_good (g : Grow) (h : Heap) (w : Nat) {h' : Heap} {b : Bool}
    (e : splitBraces g h w = some (h', b)) :
    FrExcept h h' w ∧ (b = false → h'.words[w]? = h.words[w]? ∨ h.words.length ≤ w) := by
  obtain ⟨h1, fr, rfl | ⟨rfl, s, rfl⟩⟩ := splitBraces_fr g h w e
  · exact ⟨⟨fun i hi _ => fr.words.getElem? hi, fr.words.1, fr.braces, fr.parr⟩,
      fun _ => (Nat.lt_or_ge w h.words.length).imp_left fr.words.getElem?⟩
  · exact ⟨⟨fun i hi hne => (List.getElem?_set_ne hne.symm).trans (fr.words.getElem? hi),
      Nat.le_trans fr.words.1 (Nat.le_of_eq List.length_set.symm), fr.braces, fr.parr⟩, fun hb => by cases hb⟩

/-- the header `SplitBraces` may overwrite is the copy, a new word -/
theorem fieldsSeqSplit_fr (g : Grow) (h : Heap) (w : Nat) {h' : Heap} {c : Nat} {b : Bool}
    (e : fieldsSeqSplit g h w = some (h', c, b)) : AllFr h h' ∧ c = h.words.length := by
  unfold fieldsSeqSplit at e
  obtain ⟨r, hs, e⟩ := Option.map_eq_some_iff.mp e
  cases e
  have copy : AllFr h (newWord h (wordAt h w)).1 :=
    ⟨listFr_append _ _ (Nat.le_refl _), ListFr.refl (Nat.le_refl _), ListFr.refl (Nat.le_refl _)⟩
  obtain ⟨h1, fr, e1 | ⟨-, s, e1⟩⟩ := splitBraces_fr g _ _ hs <;> rw [e1] <;> have fr := copy.trans fr
  · exact ⟨fr, rfl⟩
  · exact ⟨⟨fr.words.set _ (Nat.le_refl _), fr.braces, fr.parr⟩, rfl⟩

/-- what one alternative's `next.Parts = …` may do: allocate, and return an owned slice -/
def MkOK (n : Sizes) (mk : Heap → Heap × Slice) : Prop :=
  ∀ h, n.a ≤ h.parr.length →
    (mk h).1.words = h.words ∧ (mk h).1.braces = h.braces ∧ ListFr n.a h.parr (mk h).1.parr ∧ Owned n.a (mk h).2

theorem concatParts_ok (n : Sizes) (g : Grow) (h : Heap) (ps : List Part) (hn : n.a ≤ h.parr.length) :
    (concatParts g h ps).1.words = h.words ∧ (concatParts g h ps).1.braces = h.braces ∧
    ListFr n.a h.parr (concatParts g h ps).1.parr ∧ Owned n.a (concatParts g h ps).2 := by
  unfold concatParts
  split
  · exact ⟨rfl, rfl, ListFr.refl hn, Owned.nil _⟩
  · exact ⟨rfl, rfl, listFr_append _ _ hn, Or.inr hn⟩

theorem mkOK_concat (n : Sizes) (g : Grow) (ps : Heap → List Part) : MkOK n (fun h => concatParts g h (ps h)) :=
  fun h hn => concatParts_ok n g h (ps h) hn

theorem mkOK_seq (n : Sizes) (g : Grow) (v : Bytes) (rest : List Part) :
    MkOK n (fun h =>
      let r0 := sliceMake h.parr [Part.lit v] 1
      let r1 := sliceAppendMany g r0.1 r0.2 rest
      ({ h with parr := r1.1 }, r1.2)) := by
  intro h hn
  have x := ((sliceMake_step h.parr [Part.lit v] 1).trans (sliceAppendMany_step g _ _ rest)).fr hn (Owned.nil _)
  exact ⟨rfl, rfl, x.1, x.2⟩

theorem good_prependLeft {n h0} (g : Grow) (left : Slice) : ∀ (ws : List Nat) (h : Heap),
    Good n h0 h → (∀ x ∈ ws, n.w ≤ x) → Good n h0 (prependLeft g left h ws) := by
  intro ws
  induction ws with
  | nil => intro h gd _; exact gd
  | cons w ws ih =>
    intro h gd hws
    unfold prependLeft
    simp only
    apply ih
    · have mk := concatParts_ok n g h (cells h.parr left ++ partsOf h w) gd.la
      exact good_setWord (good_congr gd mk.1 mk.2.1 mk.2.2.1) (hws w List.mem_cons_self) mk.2.2.2
    · intro x hx
      exact hws x (List.mem_cons_of_mem _ hx)

/-- the induction hypothesis on the recursive call -/
def RecOK (n : Sizes) (h0 : Heap) (rec : Heap → Nat → Option (Heap × List Nat)) : Prop :=
  ∀ h w h' ws, Good n h0 h → rec h w = some (h', ws) → Good n h0 h' ∧ ∀ x ∈ ws, n.w ≤ x

theorem good_bracesAlt {n h0} (g : Grow) {rec} (hrec : RecOK n h0 rec) (word : Nat) (left : Slice)
    {h : Heap} (gd : Good n h0 h) {mk} (hmk : MkOK n mk) {h' : Heap} {ws : List Nat}
    (e : bracesAlt g rec word left h mk = some (h', ws)) : Good n h0 h' ∧ ∀ x ∈ ws, n.w ≤ x := by
  unfold bracesAlt at e
  simp only at e
  have m := hmk (newWord h (wordAt h word)).1 gd.la
  -- the heap after `next := *word; next.Parts = …`
  have g2 : Good n h0 (setWord (mk (newWord h (wordAt h word)).1).1 (newWord h (wordAt h word)).2 (mk (newWord h (wordAt h word)).1).2) :=
    good_congr (good_copyWord gd (wordAt h word) m.2.2.2) (congrArg (List.set · h.words.length _) m.1) m.2.1 m.2.2.1
  split at e
  · cases e
  · next h3 ws3 hr =>
    cases e
    have r := hrec _ _ _ _ g2 hr
    exact ⟨good_prependLeft g left _ _ r.1 r.2, r.2⟩

theorem good_bracesAlts {n h0} (g : Grow) {rec} (hrec : RecOK n h0 rec) (word : Nat) (left : Slice) :
    ∀ (mks : List (Heap → Heap × Slice)) {h h' : Heap} {ws : List Nat}, Good n h0 h → (∀ mk ∈ mks, MkOK n mk) →
    bracesAlts g rec word left h mks = some (h', ws) → Good n h0 h' ∧ ∀ x ∈ ws, n.w ≤ x := by
  intro mks
  induction mks with
  | nil =>
    intro h h' ws gd _ e
    cases e
    exact ⟨gd, by intro x hx; cases hx⟩
  | cons mk mks ih =>
    intro h h' ws gd hmks e
    unfold bracesAlts at e
    split at e
    · cases e
    · next h1 ws1 ha =>
      have a := good_bracesAlt g hrec word left gd (hmks mk List.mem_cons_self) ha
      split at e
      · cases e
      · next h2 ws2 hb =>
        cases e
        have b := ih a.1 (fun m hm => hmks m (List.mem_cons_of_mem _ hm)) hb
        exact ⟨b.1, fun x hx => (List.mem_append.mp hx).elim (a.2 x) (b.2 x)⟩

theorem good_bracesScan {n h0} (g : Grow) {rec} (hrec : RecOK n h0 rec) (word : Nat) :
    ∀ (ps : List Part) {h : Heap} {left : Slice} {h' : Heap} {ws : List Nat}, Good n h0 h → Owned n.a left →
    bracesScan g rec word h ps left = some (h', ws) → Good n h0 h' ∧ ∀ x ∈ ws, n.w ≤ x := by
  intro ps
  induction ps with
  | nil =>
    intro h left h' ws gd ho e
    cases e
    have w1 := good_newWord gd ho
    exact ⟨w1.1, fun x hx => List.mem_singleton.mp hx ▸ w1.2⟩
  | cons p rest ih =>
    intro h left h' ws gd ho e
    -- a part that is no brace goes to `left`
    have next : ∀ p : Part, bracesScan g rec word { h with parr := (sliceAppend g h.parr left p).1 } rest
        (sliceAppend g h.parr left p).2 = some (h', ws) → Good n h0 h' ∧ ∀ x ∈ ws, n.w ≤ x := fun p e =>
      have a := (sliceAppend_step g h.parr left p).fr gd.la ho
      ih (good_parr gd a.1) a.2 e
    cases p with
    | brace b =>
      rw [bracesScan] at e
      rcases of_ite_eq e with ⟨_, e⟩ | ⟨_, e⟩
      · split at e
        · cases e
        · next lits hl =>
          refine good_bracesAlts g hrec word left _ gd (fun mk hmk => ?_) e
          obtain ⟨v, _, rfl⟩ := List.mem_map.mp hmk
          exact mkOK_seq n g v rest
      · refine good_bracesAlts g hrec word left _ gd (fun mk hmk => ?_) e
        obtain ⟨el, _, rfl⟩ := List.mem_map.mp hmk
        exact mkOK_concat n g (fun h => partsOf h el ++ rest)
    | nilp => exact next _ e
    | lit v => exact next _ e
    | other t => exact next _ e

theorem good_bracesRec {n h0} (g : Grow) : ∀ (fuel : Nat), RecOK n h0 (bracesRec g fuel) := by
  intro fuel
  induction fuel with
  | zero => intro h w h' ws _ e; simp only [bracesRec] at e; cases e
  | succ fuel ih =>
    intro h w h' ws gd e
    simp only [bracesRec] at e
    exact good_bracesScan g ih w _ gd (Owned.nil _) e

/-- started on any word, `bracesSeqRec` keeps everything that existed and yields only new words -/
theorem bracesRec_fr (g : Grow) (fuel : Nat) {h : Heap} {w : Nat} {h' : Heap} {ws : List Nat}
    (e : bracesRec g fuel h w = some (h', ws)) : AllFr h h' ∧ ∀ x ∈ ws, h.words.length ≤ x :=
  have r := good_bracesRec g fuel h w h' ws (good_self h) e
  ⟨r.1.fr, r.2⟩

theorem sliceConcat_fr (h : IdHeap) (ss : List Slice) : ListFr h.length h (sliceConcat h ss).1 := by
  unfold sliceConcat
  simp only
  split
  · exact ListFr.refl (Nat.le_refl _)
  · exact listFr_append _ _ (Nat.le_refl _)

theorem aliasSplice_fr {h : IdHeap} {args als : Slice} {i : Nat} {h1 : IdHeap} {a1 : Slice}
    (e : aliasSplice h args als i = some (h1, a1)) : ListFr h.length h h1 := by
  unfold aliasSplice at e
  split at e
  · next a b _ _ =>
    rcases of_ite_eq e with ⟨_, e⟩ | ⟨_, e⟩
    · have := sliceConcat_fr h [a, als, b]
      rw [Option.some.inj e] at this
      exact this
    · cases e
  · cases e

theorem aliasLoop_fr (tbl : List (Nat × Slice × Bool)) {n : Nat} : ∀ (fuel : Nat) {h : IdHeap} {args : Slice} {i : Nat}
    {h' : IdHeap} {args' : Slice}, n ≤ h.length → aliasLoop tbl fuel h args i = some (h', args') → ListFr n h h' := by
  intro fuel
  induction fuel with
  | zero =>
    intro h args i h' args' hn e
    cases e; exact ListFr.refl hn
  | succ fuel ih =>
    intro h args i h' args' hn e
    rw [aliasLoop] at e
    rcases of_ite_eq e with ⟨_, e⟩ | ⟨_, e⟩
    · cases e; exact ListFr.refl hn
    split at e
    · cases e
    · split at e
      · cases e; exact ListFr.refl hn
      · split at e
        · cases e
        · next h1 args1 hsp =>
          have f1 : ListFr n h h1 := (aliasSplice_fr hsp).weaken hn
          rcases of_ite_eq e with ⟨_, e⟩ | ⟨_, e⟩
          · cases e; exact f1
          · exact f1.trans (ih f1.1 e)

/-- flushing lines is a slice operation on `cur`: `cur[:0]` reuses the array `cur` lies in -/
theorem hdocLines_step (g : Grow) (tag : Nat) : ∀ (k : Nat) (h : IdHeap) (cur : Slice) (out : List (List Nat)) (j : Nat),
    SliceStep h cur (hdocLines g tag h cur out j k).1 (hdocLines g tag h cur out j k).2.1 := by
  intro k
  induction k with
  | zero => intro h cur out j; exact .refl h cur
  | succ k ih =>
    intro h cur out j
    simp only [hdocLines]
    exact ((sliceToZero_step h cur).trans (sliceAppend_step g h _ (tag + 1000 * j))).trans (ih _ _ _ _)

theorem hdocSplit_step (g : Grow) : ∀ (parts : List (Nat × Nat)) (h : IdHeap) (cur : Slice) (out : List (List Nat)),
    SliceStep h cur (hdocSplit g h cur out parts).1 (hdocSplit g h cur out parts).2.1 := by
  intro parts
  induction parts with
  | nil => intro h cur out; exact .refl h cur
  | cons p parts ih =>
    intro h cur out
    obtain ⟨tag, k⟩ := p
    simp only [hdocSplit]
    exact ((sliceAppend_step g h cur tag).trans (hdocLines_step g tag (k - 1) _ _ out 1)).trans (ih _ _ _)

/-- allocate an `Assign`, then write its fields -/
theorem flattenField_fr (h : AHeap) (hasEq : Bool) :
    ListFr h.assigns.length h.assigns (flattenField h hasEq).1.assigns ∧ (flattenField h hasEq).2 = h.assigns.length := by
  have l1 : ListFr h.assigns.length h.assigns (h.assigns ++ [({} : AssignObj)]) := listFr_append _ _ (Nat.le_refl _)
  unfold flattenField
  split <;> exact ⟨(l1.set _ (Nat.le_refl _)).set _ (Nat.le_refl _), rfl⟩

theorem flattenAssigns_fr (fields : Nat → List Bool) {n : Nat} : ∀ (args : List Nat) (h : AHeap), n ≤ h.assigns.length →
    ListFr n h.assigns (flattenAssigns fields h args).1.assigns ∧
    ∀ x ∈ (flattenAssigns fields h args).2, x ∈ args ∨ n ≤ x := by
  intro args
  induction args with
  | nil => intro h hn; exact ⟨ListFr.refl hn, by intro x hx; cases hx⟩
  | cons a rest ih =>
    intro h hn
    unfold flattenAssigns
    split
    · have r := ih h hn
      refine ⟨r.1, ?_⟩
      intro x hx
      rcases List.mem_cons.mp hx with rfl | hx
      · exact Or.inl List.mem_cons_self
      · exact (r.2 x hx).imp_left (List.mem_cons_of_mem _)
    · -- every field adds one new `Assign`
      have s := foldl_inv (P := fun acc : AHeap × List Nat => ListFr n h.assigns acc.1.assigns ∧ ∀ x ∈ acc.2, n ≤ x)
        (f := fun acc e => ((flattenField acc.1 e).1, acc.2 ++ [(flattenField acc.1 e).2]))
        (fun acc e p => by
          have ff := flattenField_fr acc.1 e
          refine ⟨p.1.trans (ff.1.weaken p.1.1), fun x hx => ?_⟩
          rcases List.mem_append.mp hx with hx | hx
          · exact p.2 x hx
          · rw [List.mem_singleton.mp hx, ff.2]; exact p.1.1)
        (fields a) (h, []) ⟨ListFr.refl hn, by intro x hx; cases hx⟩
      simp only
      have r := ih _ s.1.1
      refine ⟨s.1.trans r.1, ?_⟩
      intro x hx
      rcases List.mem_append.mp hx with hx | hx
      · exact Or.inr (s.2 x hx)
      · exact (r.2 x hx).imp_left (List.mem_cons_of_mem _)

theorem bgStmtCopy_fr (h : List StmtObj) (st : Nat) :
    ListFr h.length h (bgStmtCopy h st).1 ∧ (bgStmtCopy h st).2 = h.length :=
  ⟨((listFr_append h [h.getD st {}] (Nat.le_refl _)).set _ (Nat.le_refl _)).set _ (Nat.le_refl _), rfl⟩

end ShVerif.C29
