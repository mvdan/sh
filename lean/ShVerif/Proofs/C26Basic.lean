import ShVerif.Proofs.C26Run
import ShVerif.Proofs.C26Sem
/-
  C26 — the simulation relation between the interpreter model and `BashSem`: which bash
  environment a runner state stands for (`absEnv`), what is known at a position (`Stat`, `Dyn`),
  what a completion means for the runner (`Post`), how both sides are run in step (`Rel`), and how
  these facts move between positions.  Core Lean only.
-/
namespace ShVerif.C26
open ShVerif.L5 ShVerif.L5.Bash

/-- The bash environment a runner state stands for (`$?` is `lastExit.code`). -/
def absEnv (s : St) : Env :=
  { vars := s.vars, funcs := s.funcs, errexit := s.errexit, pipefail := s.pipefail,
    trapExit := s.callbackExit, trapErr := .nil, status := s.lastExit.code, out := s.out }

/-- The same with `$?` taken from `exit` (what a command just returned). -/
def absEnvC (s : St) : Env :=
  { vars := s.vars, funcs := s.funcs, errexit := s.errexit, pipefail := s.pipefail,
    trapExit := s.callbackExit, trapErr := .nil, status := s.exit.code, out := s.out }

theorem absEnvC_eq_absEnv {s : St} (h : s.lastExit = s.exit) : absEnvC s = absEnv s := by
  simp only [absEnv, absEnvC, h]

def fnK (e : Bool) : SCtx := { e := e, unk := true, fn := true, top := false }

theorem fnCtx_eq (K : SCtx) : fnCtx K = fnK K.e := rfl

def subK (e : Bool) : SCtx := { e := e, top := false }

theorem subCtx_eq (K : SCtx) : subCtx K = subK K.e := rfl

/-- The static context of a condition (`if`/`while` test, left operand of `&&`/`||`). -/
def condK (K : SCtx) : SCtx := { K with ign := true, tl := headFalse K.tl }

def bodyK (K : SCtx) : SCtx := { K with tl := true :: K.tl }

def FuncsOk (e : Bool) (fs : List (Str × Stmt)) : Prop :=
  ∀ f b, lookupFn fs f = some b → supStmt (fnK e) b = true

/-- Facts relating the static context of a position and the dynamic context of `BashSem`. -/
structure Stat (K : SCtx) (k : Ctx) (sub : Bool) : Prop where
  kt : k.inTrap = false ∧ k.inExit = false
  kign : K.ign = true → k.ign = true
  knign : K.e = true → K.ign = false → K.unk = false → k.ign = false
  kfn : K.fn = true → k.inFunc = true
  depth : K.tl.length ≤ k.depth
  top : K.top = true → sub = false

/-- The EXIT trap: none in a subshell (traps are not inherited and `trap … EXIT` is only supported
    in the main shell), and always a simple action. -/
def CsubOk (sub : Bool) (s : St) : Prop :=
  (sub = true → s.callbackExit = .nil) ∧ simpleTrap s.callbackExit = true

structure Dyn (K : SCtx) (k : Ctx) (sub : Bool) (s : St) : Prop where
  cerr : s.callbackErr = .nil
  csub : CsubOk sub s
  fok : FuncsOk K.e s.funcs
  ht : s.handlingTrap = false
  eign : K.e = true → s.noErrExit = k.ign
  noe : K.e = false → s.errexit = false
  sfn : K.fn = true → s.inFunc = true
  inl : K.tl ≠ [] → s.inLoop = true

/-- What a command leaves untouched. -/
structure Frame (s s' : St) : Prop where
  ne : s'.noErrExit = s.noErrExit
  il : s'.inLoop = s.inLoop
  inf : s'.inFunc = s.inFunc

theorem Frame.trans {a b c : St} (h1 : Frame a b) (h2 : Frame b c) : Frame a c :=
  ⟨h2.ne.trans h1.ne, h2.il.trans h1.il, h2.inf.trans h1.inf⟩

/-- `s'` differs from `s` in none of the fields `Dyn` and `Frame` read. -/
structure Keeps (s s' : St) : Prop extends Frame s s' where
  cerr : s'.callbackErr = s.callbackErr
  cexit : s'.callbackExit = s.callbackExit
  funcs : s'.funcs = s.funcs
  ht : s'.handlingTrap = s.handlingTrap
  errexit : s'.errexit = s.errexit

theorem Keeps.trans {a b c : St} (h1 : Keeps a b) (h2 : Keeps b c) : Keeps a c :=
  ⟨h1.toFrame.trans h2.toFrame, h2.cerr.trans h1.cerr, h2.cexit.trans h1.cexit,
    h2.funcs.trans h1.funcs, h2.ht.trans h1.ht, h2.errexit.trans h1.errexit⟩

theorem Dyn.keeps {K : SCtx} {k : Ctx} {sub : Bool} {s s' : St} (h : Dyn K k sub s)
    (hk : Keeps s s') : Dyn K k sub s' :=
  ⟨hk.cerr ▸ h.cerr, ⟨fun hs => hk.cexit ▸ h.csub.1 hs, hk.cexit ▸ h.csub.2⟩, hk.funcs ▸ h.fok,
    hk.ht ▸ h.ht, hk.ne ▸ h.eign, hk.errexit ▸ h.noe, hk.inf ▸ h.sfn, hk.il ▸ h.inl⟩

def NoFlags (s : St) : Prop := s.exit.returning = false ∧ s.exit.exiting = false

theorem noFlags_of_exit {s : St} (hx : s.exit = {}) : NoFlags s := by
  rw [NoFlags, hx]; exact ⟨rfl, rfl⟩

theorem not_stop {s : St} (h : NoFlags s) : stop s = false := by
  simp only [stop, h.1, h.2, Bool.or_self, Bool.and_false]

theorem clear_of_noFlags {x : Exit} (h1 : x.returning = false) (h2 : x.exiting = false) :
    x.clear = {} := by
  cases x
  simp only at h1 h2
  subst h1; subst h2
  rfl

/-- `lastExit` carries no `returning`/`exiting` flag (it is copied by a bare `exit`). -/
def LastOk (s : St) : Prop := s.lastExit.returning = false ∧ s.lastExit.exiting = false

theorem LastOk_of_le {s : St} (h1 : s.lastExit = s.exit) (h2 : NoFlags s) : LastOk s := by
  unfold LastOk; rw [h1]; exact h2

def NoPending (s : St) : Prop := s.breakEnclosing = 0 ∧ s.contnEnclosing = 0

/-- The errexit test of `stmtSync` would do nothing. -/
def Quiet (s : St) : Prop := s.exit.code ≠ 0 → s.noErrExit = false → s.errexit = false

theorem quiet_of_zero {s : St} (h : s.exit.code = 0) : Quiet s := fun hne => absurd h hne

/-- `break m`/`continue m` may complete here: the `m` innermost loops are left from tail
    positions. -/
def Levels (K : SCtx) (m : Nat) : Prop :=
  1 ≤ m ∧ m ≤ K.tl.length ∧ (K.tl.take m).all id = true

theorem headFalse_length (l : List Bool) : (headFalse l).length = l.length := by
  cases l <;> rfl

theorem headFalse_ne_nil (l : List Bool) : headFalse l ≠ [] ↔ l ≠ [] := by
  cases l <;> simp [headFalse]

theorem not_levels_headFalse (K : SCtx) (m : Nat) :
    ¬ Levels { K with tl := headFalse K.tl } m := by
  intro ⟨h1, h2, h3⟩
  cases hk : K.tl with
  | nil => simp [hk, headFalse] at h2; omega
  | cons b r =>
    cases m with
    | zero => omega
    | succ m' => simp [hk, headFalse] at h3

theorem not_levels_nil (K : SCtx) (m : Nat) (h : K.tl = []) : ¬ Levels K m := by
  intro ⟨h1, h2, _⟩
  simp [h] at h2; omega

/-- Leaving a loop body: `(bodyK K).tl` is `true :: K.tl`, and `take`, `all` compute on it. -/
theorem Levels.pred {K : SCtx} {m : Nat} (h : Levels (bodyK K) (m + 2)) : Levels K (m + 1) :=
  ⟨Nat.succ_pos m, Nat.le_of_succ_le_succ h.2.1, h.2.2⟩

/-- After any completion but `exit` the shell goes on in the state `s'`: it stands for `e'`, the
    position's facts hold again; `le`: `lastExit = exit` holds (statements). -/
structure Live (K : SCtx) (k : Ctx) (sub : Bool) (le : Prop) (s s' : St) (e' : Env) : Prop where
  env : e' = absEnvC s'
  dyn : Dyn K k sub s'
  frame : Frame s s'
  last : le → s'.lastExit = s'.exit

theorem Live.of_keeps {K : SCtx} {k : Ctx} {sub : Bool} {s s' : St} (hd : Dyn K k sub s)
    (hk : Keeps s s') : Live K k sub False s s' (absEnvC s') :=
  ⟨rfl, hd.keeps hk, hk.toFrame, False.elim⟩

/-- After `exit` only what the EXIT trap and the caller of the shell process can see matters. -/
structure Exited (sub : Bool) (s' : St) (e' : Env) : Prop where
  exiting : s'.exit.exiting = true
  returning : s'.exit.returning = false
  status : e'.status = s'.exit.code
  out : e'.out = s'.out
  trap : e'.trapExit = s'.callbackExit
  csub : CsubOk sub s'
  ht : s'.handlingTrap = false
  cerr : s'.callbackErr = .nil
  np : NoPending s'
  vars : e'.vars = s'.vars

/-- The relation between what the model returns (`s'`, started from `s`) and the completion
    and environment `BashSem` returns.  `q`: the status, if non-zero, is one the errexit test would
    not act on. -/
def Post (K : SCtx) (k : Ctx) (sub : Bool) (le q : Prop) (s s' : St) : Flow → Env → Prop
  | .norm, e' => Live K k sub le s s' e' ∧ NoFlags s' ∧ NoPending s' ∧ (q → Quiet s')
  | .brk m, e' =>
    Live K k sub le s s' e' ∧ NoFlags s' ∧ s'.breakEnclosing = m ∧ s'.contnEnclosing = 0 ∧
      Levels K m ∧ s'.exit.code = 0
  | .cont m, e' =>
    Live K k sub le s s' e' ∧ NoFlags s' ∧ s'.contnEnclosing = m ∧ s'.breakEnclosing = 0 ∧
      Levels K m ∧ s'.exit.code = 0
  | .ret, e' =>
    Live K k sub le s s' e' ∧ NoPending s' ∧ s'.exit.returning = true ∧ K.fn = true ∧
      (s'.exit.exiting = true → s'.errexit = true ∧ s'.noErrExit = false ∧ s'.exit.code ≠ 0)
  | .exit, e' => Exited sub s' e'

def Rel {α : Type} (P : α → Flow → Env → Prop) : Option α → Res → Prop
  | none, none => True
  | some a, some (fl, e') => P a fl e'
  | _, _ => False

theorem Rel.cases {α : Type} {P : α → Flow → Env → Prop} {a : Option α} {r : Res} (h : Rel P a r) :
    (a = none ∧ r = none) ∨ ∃ x fl e', a = some x ∧ r = some (fl, e') ∧ P x fl e' := by
  cases a with
  | none => cases r with
    | none => exact .inl ⟨rfl, rfl⟩
    | some _ => exact False.elim h
  | some x => cases r with
    | none => exact False.elim h
    | some p => exact .inr ⟨x, p.1, p.2, rfl, rfl, h⟩

section rel
variable {α β γ : Type} {P : α → Flow → Env → Prop} {a : Option α} {r : Res}

theorem Rel.mono {Q : α → Flow → Env → Prop} (hpq : ∀ a fl e, P a fl e → Q a fl e) (h : Rel P a r) :
    Rel Q a r := by
  rcases h.cases with ⟨rfl, rfl⟩ | ⟨x, fl, e', rfl, rfl, hp⟩
  · trivial
  · exact hpq _ _ _ hp

theorem Rel.results (h : Rel P a r) :
    Rel (fun x fl e' => a = some x ∧ r = some (fl, e') ∧ P x fl e') a r := by
  rcases h.cases with ⟨rfl, rfl⟩ | ⟨x, fl, e', rfl, rfl, hp⟩
  · trivial
  · exact ⟨rfl, rfl, hp⟩

theorem Rel.bind {Q : β → Flow → Env → Prop} {f : α → Option β} {g : Flow × Env → Res} (h : Rel P a r)
    (hk : ∀ x fl e', a = some x → P x fl e' → Rel Q (f x) (g (fl, e'))) :
    Rel Q (a.bind f) (r.bind g) := by
  rcases h.cases with ⟨rfl, rfl⟩ | ⟨x, fl, e', rfl, rfl, hp⟩
  · trivial
  · exact hk _ _ _ rfl hp

theorem Rel.bind_left {Q : β → Flow → Env → Prop} {f : α → Option β} (h : Rel P a r)
    (hk : ∀ x fl e', a = some x → P x fl e' → Rel Q (f x) (some (fl, e'))) : Rel Q (a.bind f) r :=
  Option.bind_fun_some r ▸ h.bind (g := some) hk

theorem Rel.bind_right {Q : α → Flow → Env → Prop} {g : Flow × Env → Res} (h : Rel P a r)
    (hk : ∀ x fl e', a = some x → P x fl e' → Rel Q (some x) (g (fl, e'))) : Rel Q a (r.bind g) :=
  Option.bind_fun_some a ▸ h.bind (f := some) hk

theorem Rel.bind_eq {f : α → Option γ} {g : Flow × Env → Option γ} (h : Rel P a r)
    (hk : ∀ x fl e', P x fl e' → f x = g (fl, e')) : a.bind f = r.bind g := by
  rcases h.cases with ⟨rfl, rfl⟩ | ⟨x, fl, e', rfl, rfl, hp⟩
  · rfl
  · exact hk _ _ _ hp

end rel

section transport
variable {K : SCtx} {k : Ctx} {sub : Bool}

theorem Stat.toHF (h : Stat K k sub) : Stat { K with tl := headFalse K.tl } k sub :=
  ⟨h.kt, h.kign, h.knign, h.kfn, (headFalse_length K.tl).symm ▸ h.depth, h.top⟩

theorem Dyn.toHF {s : St} (h : Dyn K k sub s) : Dyn { K with tl := headFalse K.tl } k sub s :=
  ⟨h.cerr, h.csub, h.fok, h.ht, h.eign, h.noe, h.sfn,
    fun hne => h.inl ((headFalse_ne_nil K.tl).1 hne)⟩

theorem Dyn.ofHF {s : St} (h : Dyn { K with tl := headFalse K.tl } k sub s) : Dyn K k sub s :=
  ⟨h.cerr, h.csub, h.fok, h.ht, h.eign, h.noe, h.sfn,
    fun hne => h.inl ((headFalse_ne_nil K.tl).2 hne)⟩

theorem Stat.cond (h : Stat K k sub) (d : Nat) (hd : k.depth ≤ d) :
    Stat (condK K) { k with ign := true, depth := d } sub :=
  ⟨h.kt, fun _ => rfl, fun _ h' => (nomatch h'), h.kfn,
    (headFalse_length K.tl).symm ▸ Nat.le_trans h.depth hd, h.top⟩

theorem Dyn.cond {s : St} (h : Dyn K k sub s) (d : Nat) :
    Dyn (condK K) { k with ign := true, depth := d } sub { s with noErrExit := true } :=
  ⟨h.cerr, h.csub, h.fok, h.ht, fun _ => rfl, h.noe, h.sfn,
    fun hne => h.inl ((headFalse_ne_nil K.tl).1 hne)⟩

theorem Dyn.uncond {k' : Ctx} {s s1 : St} (h0 : Dyn K k sub s) (h : Dyn (condK K) k' sub s1)
    (x : Exit) : Dyn K k sub { s1 with noErrExit := s.noErrExit, exit := x } :=
  ⟨h.cerr, h.csub, h.fok, h.ht, h0.eign, h.noe, h.sfn,
    fun hne => h.inl ((headFalse_ne_nil K.tl).2 hne)⟩

theorem Frame.uncond {s s1 : St} (h : Frame { s with noErrExit := true } s1) (x : Exit) :
    Frame s { s1 with noErrExit := s.noErrExit, exit := x } :=
  ⟨rfl, h.il, h.inf⟩

theorem Stat.body (h : Stat K k sub) : Stat (bodyK K) { k with depth := k.depth + 1 } sub :=
  ⟨h.kt, h.kign, h.knign, h.kfn, Nat.succ_le_succ h.depth, h.top⟩

theorem Dyn.body {s : St} (h : Dyn K k sub s) :
    Dyn (bodyK K) { k with depth := k.depth + 1 } sub { s with inLoop := true } :=
  ⟨h.cerr, h.csub, h.fok, h.ht, h.eign, h.noe, h.sfn, fun _ => rfl⟩

theorem Dyn.ctx_of_not_e {k2 : Ctx} {s : St} (he : K.e = false) (h : Dyn K k sub s) :
    Dyn K k2 sub s :=
  ⟨h.cerr, h.csub, h.fok, h.ht, fun h' => (nomatch he.symm.trans h'), h.noe, h.sfn, h.inl⟩

/-- A subshell starts in the context `subK`: nothing is ignored or unknown there, provided the
    same held outside (`hne`, the clause of `supCmd` for subshell-like commands, finding
    C26-subshell-errexit-ignored). -/
theorem Stat.subsh (h : Stat K k sub) (hne : K.e = true → K.ign = false ∧ K.unk = false) (d : Nat) :
    Stat (subK K.e) { k with depth := d } true :=
  ⟨h.kt, fun h' => (nomatch h'), fun he _ _ => h.knign he (hne he).1 (hne he).2,
    fun h' => (nomatch h'), Nat.zero_le _, fun h' => (nomatch h')⟩

theorem Dyn.subsh {s : St} (hst : Stat K k sub) (h : Dyn K k sub s)
    (hne : K.e = true → K.ign = false ∧ K.unk = false) (out : Str) (d : Nat) :
    Dyn (subK K.e) { k with depth := d } true (subshellOf s out) :=
  ⟨rfl, ⟨fun _ => rfl, rfl⟩, h.fok, rfl,
    fun he => (hst.knign he (hne he).1 (hne he).2).symm, h.noe,
    fun h' => (nomatch h'), fun h' => absurd rfl h'⟩

theorem quiet_of_tail {s' : St} (hst : Stat K k sub) (hd : Dyn K k sub s')
    (h : K.e = false ∨ K.ign = true) : Quiet s' := by
  intro _ hne
  cases hk : K.e with
  | false => exact hd.noe hk
  | true =>
    have hi := hst.kign (h.resolve_left (by rw [hk]; exact Bool.noConfusion))
    exact nomatch hne.symm.trans ((hd.eign hk).trans hi)

variable {le q : Prop} {s s' : St} {fl : Flow} {e' : Env}

/-- Only the `Live` part of a completion speaks of the start state, the dynamic context and `le`. -/
theorem Post.map {k2 : Ctx} {le2 : Prop} {s2 : St}
    (f : Live K k sub le s s' e' → Live K k2 sub le2 s2 s' e') (h : Post K k sub le q s s' fl e') :
    Post K k2 sub le2 q s2 s' fl e' := by
  cases fl with
  | exit => exact h
  | _ => exact ⟨f h.1, h.2⟩

theorem Post.frame_trans {s1 : St} (hf : Frame s s1) (h : Post K k sub le q s1 s' fl e') :
    Post K k sub le q s s' fl e' :=
  h.map fun l => ⟨l.env, l.dyn, hf.trans l.frame, l.last⟩

theorem Post.ctx_of_not_e {k2 : Ctx} (he : K.e = false) (h : Post K k sub le q s s' fl e') :
    Post K k2 sub le q s s' fl e' :=
  h.map fun l => ⟨l.env, l.dyn.ctx_of_not_e he, l.frame, l.last⟩

theorem Post.mono_q {q' : Prop} (hq : q' → q) (h : Post K k sub le q s s' fl e') :
    Post K k sub le q' s s' fl e' := by
  cases fl with
  | norm => exact ⟨h.1, h.2.1, h.2.2.1, fun x => h.2.2.2 (hq x)⟩
  | _ => exact h

theorem Post.weaken {q' : Prop} (hq : q' → q) (h : Post K k sub True q s s' fl e') :
    Post K k sub le q' s s' fl e' :=
  (h.mono_q hq).map fun l => ⟨l.env, l.dyn, l.frame, fun _ => l.last trivial⟩

theorem Post.change_q {q' : Prop} (h : Post K k sub le q s s' fl e') (hfl : fl ≠ .norm) :
    Post K k sub le q' s s' fl e' := by
  cases fl with
  | norm => exact absurd rfl hfl
  | _ => exact h

theorem Post.tail_q {q' : Prop} (hst : Stat K k sub) (h : Post K k sub le q s s' fl e')
    (hq : q' → (K.e = false ∨ K.ign = true) ∨ q) : Post K k sub le q' s s' fl e' := by
  cases fl with
  | norm => exact ⟨h.1, h.2.1, h.2.2.1, fun x => (hq x).elim (quiet_of_tail hst h.1.dyn) h.2.2.2⟩
  | _ => exact h

theorem Post.flows_nil (h : Post K k sub le q s s' fl e') (htl : K.tl = []) :
    fl = .norm ∨ fl.stops = true := by
  cases fl with
  | norm => exact .inl rfl
  | brk m | cont m => exact absurd h.2.2.2.2.1 (not_levels_nil K m htl)
  | _ => exact .inr rfl

theorem Post.stopped (h : Post K k sub le q s s' fl e') (hs : fl.stops = true) :
    stop s' = true ∧ NoPending s' := by
  cases fl with
  | ret => exact ⟨stop_of_returning h.2.2.1 h.1.dyn.ht, h.2.1⟩
  | exit => exact ⟨stop_of_exiting h.exiting h.ht, h.np⟩
  | _ => cases hs

/-- A completion at a non-tail position, seen from the enclosing position: no `break`/`continue`
    can have come out of it. -/
theorem Post.ofHF (h : Post { K with tl := headFalse K.tl } k sub le q s s' fl e') :
    Post K k sub le q s s' fl e' ∧ (fl = .norm ∨ fl.stops = true) := by
  have live : Live { K with tl := headFalse K.tl } k sub le s s' e' → Live K k sub le s s' e' :=
    fun l => ⟨l.env, l.dyn.ofHF, l.frame, l.last⟩
  cases fl with
  | norm => exact ⟨⟨live h.1, h.2⟩, .inl rfl⟩
  | brk m | cont m => exact absurd h.2.2.2.2.1 (not_levels_headFalse K m)
  | ret => exact ⟨⟨live h.1, h.2⟩, .inr rfl⟩
  | exit => exact ⟨h, .inr rfl⟩

/-- A condition left by `return`/`exit`, seen from the enclosing command (`noErrExit` restored;
    `exit.clear` is the identity on a flagged status). -/
theorem Post.uncond {k' : Ctx} {q' : Prop} {s1 : St} (h0 : Dyn K k sub s)
    (h : Post (condK K) k' sub le q { s with noErrExit := true } s1 fl e') (hfl : fl ≠ .norm) :
    Post K k sub False q' s { s1 with noErrExit := s.noErrExit } fl e' ∧ fl.stops = true ∧
      s1.exit.clear = s1.exit := by
  cases fl with
  | norm => exact absurd rfl hfl
  | brk m | cont m => exact absurd h.2.2.2.2.1 (not_levels_headFalse K m)
  | ret =>
    obtain ⟨l, h4, h5, h6, h9⟩ := h
    refine ⟨⟨⟨l.env, h0.uncond l.dyn _, l.frame.uncond _, False.elim⟩, h4, h5, h6, fun hx => ?_⟩, rfl,
      by simp only [Exit.clear, h5, Bool.true_or, ↓reduceIte]⟩
    exact nomatch (l.frame.ne.symm.trans (h9 hx).2.1)
  | exit =>
    exact ⟨⟨h.exiting, h.returning, h.status, h.out, h.trap, h.csub, h.ht, h.cerr, h.np, h.vars⟩, rfl,
      by simp only [Exit.clear, h.exiting, Bool.or_true, ↓reduceIte]⟩

theorem Post.simple (hd : Dyn K k sub s) (hp : NoPending s) {a x : Exit} {p : Bool}
    {v : List (Str × Str)} {o : Str} (hx : x.returning = false ∧ x.exiting = false)
    (hq : q → x.code = 0) :
    Post K k sub False q s
      { s with lastExpandExit := a, exit := x, pipefail := p, vars := v, out := o } .norm
      { absEnv s with status := x.code, pipefail := p, vars := v, out := o } :=
  ⟨.of_keeps hd ⟨⟨rfl, rfl, rfl⟩, rfl, rfl, rfl, rfl, rfl⟩, hx, hp,
    fun h => quiet_of_zero (hq h)⟩

theorem Post.zero (hd : Dyn K k sub s') (hf : Frame s s') (hx : s'.exit = {}) (hp : NoPending s') :
    Post K k sub False q s s' .norm (absEnvC s') :=
  ⟨⟨rfl, hd, hf, False.elim⟩, noFlags_of_exit hx, hp, fun _ => quiet_of_zero (by rw [hx])⟩

end transport

theorem Dyn.unbody {K : SCtx} {k : Ctx} {sub : Bool} {s s1 : St}
    (h0 : Dyn K k sub s) (h : Dyn (bodyK K) { k with depth := k.depth + 1 } sub s1) (x : Int)
    (y : Int) :
    Dyn K k sub { s1 with inLoop := s.inLoop, breakEnclosing := x, contnEnclosing := y } :=
  ⟨h.cerr, h.csub, h.fok, h.ht, h.eign, h.noe, h.sfn, h0.inl⟩

end ShVerif.C26
