/-
  C07 — the lookahead loops (`zshNumRange`, the stop-word test), the literal buffer, `nextPos`; then
  every primitive in one statement (`Prim.refines`, a table whose rows are the `*_refines` lemmas)
  and client programs by induction over `Prog` (`client_refinesF`): inside the protocol the chunked
  byte source gives the results of the unchunked one, and the two schedule-independent panics are
  panics under every schedule.  Two refinements of one unchunked state give independence of the
  schedule (`both_refine`, `prim_sched_indep`).
-/
import ShVerif.Proofs.C07Rune
namespace ShVerif.C07
open ShVerif ShVerif.L2

theorem dropWhile_append_cons {α : Type} (f : α → Bool) (p q : List α) {c : α} {r : List α}
    (h : p.dropWhile f = c :: r) : (p ++ q).dropWhile f = c :: (r ++ q) := by
  rw [List.dropWhile_append, h]; rfl

theorem zshScan_append (p q : List Byte) (h : St.zshScan p ≠ .more) :
    St.zshScan (p ++ q) = St.zshScan p := by
  unfold St.zshScan at h ⊢
  cases h1 : p.dropWhile St.isDigit with
  | nil => simp [h1] at h
  | cons c r =>
    rw [dropWhile_append_cons _ p q h1]
    simp only [h1] at h ⊢
    by_cases hc : (c != 45) = true
    · simp [hc]
    · simp only [hc] at h ⊢
      cases h2 : r.dropWhile St.isDigit with
      | nil => simp [h2] at h
      | cons d r2 =>
        rw [dropWhile_append_cons _ r q h2]

theorem zshScan_take (p : List Byte) (k : Nat) (h : St.zshScan p = .more) :
    St.zshScan (p.take k) = .more := by
  have := zshScan_append (p.take k) (p.drop k)
  rw [List.take_append_drop, h] at this
  exact Classical.byContradiction fun hk => hk (this hk).symm

theorem zshLoop_refines (fuel : Nat) : ∀ {s a}, R s a → a.behind = none → a.halted = false →
    a.r ≠ runeEOF → 66 ≤ s.front.length + fuel → 1 ≤ fuel →
    (St.zshScan a.rest = .yes → St.zshScan (a.rest.take 64) = .yes) →
    ∃ s', St.zshLoop fuel s = .ok (St.zshScan a.rest == .yes, s') ∧ R s' a := by
  induction fuel with
  | zero => intro s a _ _ _ _ _ h1; omega
  | succ fuel ih =>
    intro s a h hb hh hr hlen _ hcut
    have hr' : s.r ≠ runeEOF := h.f_r ▸ hr
    have hal := h.err_none hr'
    have hrest := (h.alive hal).1
    have hle : ¬ s.bsp > s.blen := Nat.not_lt.2 (h.bsp_le hr')
    unfold St.zshLoop
    simp only [hle, if_false]
    have hdec : St.zshScan s.front ≠ .more → St.zshScan a.rest = St.zshScan s.front :=
      fun hm => hrest ▸ zshScan_append s.front s.pending hm
    cases hsc : St.zshScan s.front with
    | yes => exact ⟨s, by simp [hdec (by simp [hsc]), hsc], h⟩
    | no => exact ⟨s, by simp [hdec (by simp [hsc]), hsc], h⟩
    | more =>
      simp only
      by_cases h64 : s.front.length ≥ 64
      · -- the real function gives up after 64 buffered bytes
        simp only [h64, if_true]
        refine ⟨s, ?_, h⟩
        have hny : St.zshScan a.rest ≠ .yes := by
          intro hy
          have h1 := hcut hy
          have h2 : a.rest.take 64 = s.front.take 64 := by
            rw [hrest, List.take_append_of_le_length h64]
          rw [h2, zshScan_take _ _ hsc] at h1
          cases h1
        simp [hny]
      · simp only [h64, if_false]
        obtain ⟨n, s', h1, h2, hc⟩ := fill_refines h hb hh (by simp [bufSize]; omega)
        simp only [h1, bind_ok]
        rcases hc with ⟨hn, hf', hp⟩ | ⟨hn, hl⟩
        · have : a.rest = s.front := by
            rw [(h2.alive hal).1, hf', hp hal, List.append_nil]
          exact ⟨s', by simp [hn, this, hsc], h2⟩
        · have hn0 : (n == 0) = false := by simp; omega
          simp only [hn0, Bool.false_eq_true, if_false]
          exact ih h2 hb hh hr (by omega) (by omega) hcut

theorem zshNum_refines {s a} (h : R s a) (hok : a.zshNum.2.ok = true) :
    ∃ s', s.zshNum = .ok (a.zshNum.1, s') ∧ R s' a.zshNum.2 := by
  obtain ⟨_, hh, hr, hcut⟩ := (zshNum_ok_iff a).mp hok
  obtain ⟨s', h1, h2⟩ := zshLoop_refines 66 h.forget (forget_behind a) hh hr (by omega) (by omega) hcut
  exact ⟨s', h1, h2.setOk _⟩

/-- `zshNumRange` once the cursor is past the buffer panics under every schedule -/
theorem zshNum_panics {s a} (h : R s a) (hr : a.r = runeEOF) (hh : a.halted = false) :
    ∃ f, s.zshNum = .error f := by
  have hov : s.bsp > s.blen := by
    by_cases he : a.err = none
    · have := (h.eofR he (h.f_r ▸ hr) hh).2.2; omega
    · have := (h.dead he).2.2.1; omega
  unfold St.zshNum St.zshLoop
  simp only [hov, if_true]
  exact ⟨_, rfl⟩

theorem isPrefixOf_append_of_le (l p q : List Byte) (h : l.length ≤ p.length) :
    l.isPrefixOf (p ++ q) = l.isPrefixOf p := by
  induction l generalizing p with
  | nil => simp
  | cons x xs ih =>
    cases p with
    | nil => simp at h
    | cons y ys =>
      simp only [List.cons_append, List.isPrefixOf]
      rw [ih ys (by simpa using h)]

theorem stopFill_refines (fuel : Nat) : ∀ {s a} (need : Nat), R s a → a.behind = none →
    a.halted = false → need ≤ 4 → need + 1 ≤ s.front.length + fuel → 1 ≤ fuel →
    ∃ s', St.stopFill fuel need s = .ok s' ∧ R s' a ∧
      (a.err = none → need ≤ s'.front.length ∨ s'.pending = [] ∨ s'.bsp > s'.blen) := by
  induction fuel with
  | zero => intro s a need _ _ _ _ _ h1; omega
  | succ fuel ih =>
    intro s a need h hb hh hn4 hlen _
    unfold St.stopFill
    by_cases hc : s.front.length < need ∧ s.bsp ≤ s.blen
    · simp only [hc, and_self, if_true]
      obtain ⟨n, s', h1, h2, hc'⟩ := fill_refines h hb hh (by simp [bufSize]; omega)
      simp only [h1, bind_ok]
      rcases hc' with ⟨hn, _, hp⟩ | ⟨hn, hl⟩
      · exact ⟨s', by rw [hn]; rfl, h2, fun hal => .inr (.inl (hp hal))⟩
      · have hn0 : (n == 0) = false := by simp; omega
        simp only [hn0, Bool.false_eq_true, if_false]
        exact ih need h2 hb hh hn4 (by omega) (by omega)
    · simp only [hc, if_false]
      refine ⟨s, rfl, h, fun _ => ?_⟩
      by_cases h1 : s.front.length < need
      · exact .inr (.inr (Nat.not_le.1 fun hx => hc ⟨h1, hx⟩))
      · exact .inl (Nat.not_lt.1 h1)

theorem stopAt_refines {s a} (h : R s a) (r : Nat) (hok : (a.stopAt r).2.ok = true) :
    ∃ s', s.stopAt r = .ok ((a.stopAt r).1, s') ∧ R s' (a.stopAt r).2 := by
  have hh : a.halted = false := forget_ok_halted (stopAt_ok a r ▸ hok)
  have h0 := h.forget
  have hb0 := forget_behind a
  have hh0 : a.forget.halted = false := hh
  unfold LSt.stopAt St.stopAt
  simp only
  generalize a.forget = a0 at h0 hb0 hh0 ⊢
  have hst := h0.f_stop
  have hsl := h0.stopLen
  generalize (if r ≤ 0x10FFFF then encodeRune r else []) = enc
  rw [hst]
  by_cases hc : enc.length > 0 ∧ s.stopPat.length ≥ enc.length ∧ s.stopPat.take enc.length = enc
  · simp only [hc, and_self, if_true, true_and]
    obtain ⟨s', h1, h2, h3⟩ := stopFill_refines (s.stopPat.length - enc.length + 1)
      (s.stopPat.length - enc.length) h0 hb0 hh0 (by omega) (by omega) (by omega)
    simp only [h1, bind_ok]
    have hst' : s'.stopPat = s.stopPat := by rw [← h2.f_stop, hst]
    rw [hst']
    by_cases hov : s'.bsp ≤ s'.blen
    · -- the cursor is inside the buffer: alive and `p.r` is not runeEOF
      have hal : a0.err = none :=
        Classical.byContradiction fun he => by have := (h2.dead he).2.2.1; omega
      have hr : a0.r ≠ runeEOF := fun hx => by
        have := (h2.eofR hal (h2.f_r ▸ hx) hh0).2.2; omega
      have hcur : s'.bsp = s'.back.length := h2.cursor_of_ne (h2.f_r ▸ hr)
      have hrest := (h2.alive hal).1
      have hpre : (s.stopPat.drop enc.length).isPrefixOf a0.rest
          = (s.stopPat.drop enc.length).isPrefixOf s'.front := by
        rw [hrest]
        rcases h3 hal with h3 | h3 | h3
        · exact isPrefixOf_append_of_le _ _ _ (by simp; omega)
        · rw [h3]; simp
        · omega
      simp only [hov, true_and, hr, ne_eq, not_false_eq_true, hpre]
      by_cases hp : (s.stopPat.drop enc.length).isPrefixOf s'.front = true
      · simp only [hp, if_true]
        -- the stop word fires: `p.r = runeEOF` with the cursor still inside the buffer
        have hR : R { s' with r := runeEOF, w := 1 } { a0 with r := runeEOF, w := 1, halted := true } :=
          { h2 with cursor := .inl hcur, dead := fun he => absurd hal he,
                    eofR := fun _ _ hx => (nomatch hx), f_r := rfl, f_w := rfl }
        rw [h2.f_stop, hst'] at hR
        exact ⟨_, rfl, hR⟩
      · simp only [hp]
        exact ⟨_, rfl, h2⟩
    · have hr : a0.r = runeEOF := by
        rcases h2.cursor with hx | ⟨_, _, hx⟩
        · have := h2.blen_eq; omega
        · rw [h2.f_r]; exact hx
      simp only [hov, false_and, if_false, hr, ne_eq, not_true_eq_false, false_and]
      exact ⟨_, rfl, h2⟩
  · have hc' : ¬ (enc.length > 0 ∧ s.stopPat.length ≥ enc.length ∧ s.stopPat.take enc.length = enc ∧
        a0.r ≠ runeEOF ∧ (s.stopPat.drop enc.length).isPrefixOf a0.rest = true) :=
      fun hx => hc ⟨hx.1, hx.2.1, hx.2.2.1⟩
    simp only [hc, hc', if_false]
    exact ⟨_, rfl, h0⟩

theorem R.setLit {s a} (h : R s a) (x : Option (List Byte)) :
    R { s with lit := x } { a with lit := x } :=
  { h with f_lit := rfl }

theorem newLit_refines {s a} (h : R s a) (r : Nat) :
    ∃ s', s.newLit r = .ok s' ∧ R s' (a.newLit r) := by
  unfold LSt.newLit St.newLit
  split
  · exact ⟨_, rfl, h.setLit _⟩
  · split <;> exact ⟨_, rfl, h.setLit _⟩

theorem endLit_refines {s a} (h : R s a) (hok : a.endLit.2.ok = true) :
    ∃ s', s.endLit = .ok (a.endLit.1, s') ∧ R s' a.endLit.2 := by
  have hfit := endLit_ok_fits a hok
  unfold LSt.endLit St.endLit
  by_cases h1 : (a.r == runeEOF || a.r == escNewl) = true
  · rw [if_pos h1, if_pos (h.f_r ▸ h1)]
    exact ⟨_, by rw [h.f_lit]; rfl, h.setLit none⟩
  · have hw : ¬ s.w > (s.lit.getD []).length := by
      rw [← h.f_w, ← h.f_lit]; exact Nat.not_lt.2 (hfit.resolve_left h1)
    rw [if_neg h1, if_neg (h.f_r ▸ h1), if_neg hw]
    exact ⟨_, by rw [h.f_lit, h.f_w]; rfl, (h.setLit none).setOk _⟩

theorem endLit_panics {s a} (h : R s a) (hr : (a.r == runeEOF || a.r == escNewl) = false)
    (hw : a.w > (a.lit.getD []).length) : ∃ f, s.endLit = .error f := by
  unfold St.endLit
  rw [← h.f_r, ← h.f_w, ← h.f_lit]
  simp only [hr, Bool.false_eq_true, if_false, hw, if_true]
  exact ⟨_, rfl⟩

theorem pos_refines {s a} (h : R s a) (hok : a.pos.2.ok = true) :
    s.nextPos = a.pos.1 ∧ R s a.pos.2 :=
  ⟨nextPos_eq h (Option.isNone_iff_eq_none.1 (Bool.and_eq_true_iff.1 hok).2), h.setOk _⟩

/-- **The refinement theorem of a primitive**: inside the protocol the chunked primitive returns
    what the unchunked one returns, in a state that presents the unchunked one's. -/
theorem Prim.refines {β : Type} (o : Prim β) {s : St} {a : LSt} (h : R s a)
    (hok : (o.spec a).2.ok = true) :
    ∃ s', o.run s = .ok ((o.spec a).1, s') ∧ R s' (o.spec a).2 := by
  cases o with
  | rune => exact rune_refines h hok
  | peek => exact peek_refines h hok
  | peekTwo =>
    obtain ⟨s', e, hR⟩ := peekTwo_refines h hok
    exact ⟨s', show (s.peekTwo >>= _) = _ by rw [e]; rfl, hR⟩
  | zshNum => exact zshNum_refines h hok
  | stopAt r => exact stopAt_refines h r hok
  | newLit r =>
    obtain ⟨s', e, hR⟩ := newLit_refines h r
    exact ⟨s', show (s.newLit r >>= _) = _ by rw [e]; rfl, hR⟩
  | endLit => exact endLit_refines h hok
  | pos => exact ⟨s, congrArg (fun x => Except.ok (x, s)) (pos_refines h hok).1, (pos_refines h hok).2⟩
  | setBquotes o d => exact ⟨_, rfl, { h with f_openBq := rfl, f_openBqDbl := rfl }⟩
  | getRW =>
    exact ⟨s, congrArg (fun x => Except.ok (x, s)) (h.f_r ▸ h.f_w ▸ rfl : (s.r, s.w) = (a.r, a.w)), h⟩
  | lastBq => exact ⟨s, congrArg (fun x => Except.ok (x, s)) h.f_lastBqEsc.symm, h⟩
  | litGet => exact ⟨s, congrArg (fun x => Except.ok (Option.map List.reverse x, s)) h.f_lit.symm, h⟩
  | litAppend bs => exact ⟨_, rfl, h.f_lit ▸ h.setLit _⟩
  | litDrop => exact ⟨_, rfl, h.setLit none⟩
  | errPass => exact ⟨_, rfl, errPass_refines h .client⟩
  | errGet => exact ⟨s, congrArg (fun x => Except.ok (Option.isSome x, s)) h.f_err.symm, h⟩

theorem Prim.panics_sound {β : Type} (o : Prim β) {s : St} {a : LSt} (h : R s a)
    (hp : o.panics a = true) : ∃ f, o.run s = .error f := by
  cases o with
  | zshNum =>
    simp only [Prim.panics, Bool.and_eq_true, beq_iff_eq, Bool.not_eq_true'] at hp
    exact zshNum_panics h hp.1 hp.2
  | endLit =>
    simp only [Prim.panics, Bool.and_eq_true, Bool.not_eq_true', decide_eq_true_eq] at hp
    exact endLit_panics h hp.1 hp.2
  | _ => cases hp

def Agrees {α : Type} (x : M (α × St)) : Out α → Prop
  | .done v a => ∃ s', x = .ok (v, s') ∧ R s' a
  | .panic _ => ∃ f, x = .error f

/-- The two conjuncts need one induction: a primitive refines only inside the protocol, and that the
    run stayed inside is read off the continuation's run (`ok` only drops). -/
theorem client_refinesF {α : Type} (p : Prog α) : ∀ {a : LSt}, (specRunF p a).ok = true →
    a.ok = true ∧ ∀ {s : St}, R s a → Agrees (p.run s) (specRunF p a) := by
  induction p using Prog.ind with
  | ret x => exact fun hok => ⟨hok, fun {s} h => ⟨s, rfl, h⟩⟩
  | bind o k ih =>
    intro a hok
    rw [specRunF_bind] at hok ⊢
    by_cases hp : o.panics a = true
    · rw [if_pos hp] at hok ⊢
      refine ⟨hok, fun h => ?_⟩
      obtain ⟨f, hf⟩ := o.panics_sound h hp
      exact ⟨f, by rw [run_bind, hf]; rfl⟩
    · rw [if_neg hp] at hok ⊢
      obtain ⟨hk, hA⟩ := ih _ hok
      refine ⟨o.ok_le a hk, fun h => ?_⟩
      obtain ⟨s1, h1, hR1⟩ := o.refines h hk
      rw [run_bind, h1]
      exact hA hR1

theorem client_refines {α : Type} (p : Prog α) {s : St} {a : LSt} (h : R s a)
    (hok : (specRun p a).2.ok = true) :
    ∃ s', p.run s = .ok ((specRun p a).1, s') ∧ R s' (specRun p a).2 := by
  have e := (specRun_ok p a hok).2
  have hA := (client_refinesF p (a := a) (by rw [e]; exact hok)).2 h
  rw [e] at hA
  exact hA

/-- how refinement gives independence of the schedule -/
theorem both_refine {β : Type} {f : St → M (β × St)} {a a' : LSt} {v : β}
    (hf : ∀ {s}, R s a → ∃ s', f s = .ok (v, s') ∧ R s' a') {s₁ s₂ : St} (h1 : R s₁ a) (h2 : R s₂ a) :
    ∃ s₁' s₂', f s₁ = .ok (v, s₁') ∧ f s₂ = .ok (v, s₂') ∧ ∃ a', R s₁' a' ∧ R s₂' a' := by
  obtain ⟨s1', e1, r1⟩ := hf h1
  obtain ⟨s2', e2, r2⟩ := hf h2
  exact ⟨s1', s2', e1, e2, a', r1, r2⟩

/-- every primitive, inside the protocol, from any two states that present the same unchunked
    state (any two schedules): the answer of the unchunked machine, and again two such states -/
theorem prim_sched_indep {β : Type} (o : Prim β) {s₁ s₂ : St} {a : LSt} (h1 : R s₁ a) (h2 : R s₂ a)
    (hok : (o.spec a).2.ok = true) :
    ∃ s₁' s₂', o.run s₁ = .ok ((o.spec a).1, s₁') ∧ o.run s₂ = .ok ((o.spec a).1, s₂') ∧
      ∃ a', R s₁' a' ∧ R s₂' a' :=
  both_refine (fun h => o.refines h hok) h1 h2

theorem R_init (input : List Byte) (sched : List Nat) (eofWith : Bool) (stopPat : List Byte)
    (hs : stopPat.length ≤ 4) :
    R (init input sched eofWith stopPat) (LSt.init input stopPat) := by
  unfold init LSt.init
  constructor <;> simp [runeEOF, hs]

end ShVerif.C07
