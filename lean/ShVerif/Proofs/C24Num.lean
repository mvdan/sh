import ShVerif.Model.C24
/-
  C24 — Go's `strconv.ParseInt` against bash's `strtoimax` on integer literals.

  `foldv` is the value of a digit string.  On digits valid for the base `ParseUint` returns it, or the
  largest value with a range error.  `ParseInt` is `ParseUint` after the sign has been taken off,
  followed by the conversion `goClamp` to an int64; the specification's `scanNum` has the same shape
  (`scanBody`).  On an optional sign followed by a literal both arrive at `clampI` of the value.  One
  table, `bothLt`, says that Go's `digitVal` and the specification's `hexVal` read a byte as the same
  digit.
-/
namespace ShVerif.C24

def foldv (base : Nat) (ds : Bytes) (n : Nat) : Nat :=
  ds.foldl (fun acc d => acc * base + (digitVal d).getD 0) n

theorem foldv_nil (base n : Nat) : foldv base [] n = n := rfl

theorem foldv_cons (base : Nat) (d : UInt8) (ds : Bytes) (n : Nat) :
    foldv base (d :: ds) n = foldv base ds (n * base + (digitVal d).getD 0) := rfl

theorem foldv_ge (base : Nat) (hb : 1 ≤ base) : ∀ (ds : Bytes) (n : Nat), n ≤ foldv base ds n
  | [], n => Nat.le_refl n
  | d :: ds, n => by
    rw [foldv_cons]
    have h1 : n ≤ n * base := Nat.le_mul_of_pos_right n hb
    have h2 := foldv_ge base hb ds (n * base + (digitVal d).getD 0)
    omega

theorem foldv_mono (base : Nat) : ∀ (ds : Bytes) (m n : Nat), m ≤ n → foldv base ds m ≤ foldv base ds n
  | [], m, n, h => h
  | d :: ds, m, n, h => by
    rw [foldv_cons, foldv_cons]
    apply foldv_mono base ds
    have := Nat.mul_le_mul_right base h
    omega

def ValidDigits (base : Nat) (ds : Bytes) : Prop := ∀ d ∈ ds, ∃ x, digitVal d = some x ∧ x < base

theorem foldv_lt (base : Nat) (hb : 1 ≤ base) :
    ∀ (ds : Bytes) (n : Nat), ValidDigits base ds → foldv base ds n < (n + 1) * base ^ ds.length
  | [], n, _ => by simp [foldv_nil]
  | d :: ds, n, hv => by
    obtain ⟨x, hx, hxb⟩ := hv d (List.mem_cons_self ..)
    have hv' : ValidDigits base ds := fun y hy => hv y (List.mem_cons_of_mem _ hy)
    rw [foldv_cons, hx, Option.getD_some, List.length_cons, Nat.pow_succ]
    have h1 := foldv_lt base hb ds (n * base + x) hv'
    have h2 : n * base + x + 1 ≤ (n + 1) * base := by rw [Nat.add_mul, Nat.one_mul]; omega
    calc foldv base ds (n * base + x) < (n * base + x + 1) * base ^ ds.length := h1
      _ ≤ ((n + 1) * base) * base ^ ds.length := Nat.mul_le_mul_right _ h2
      _ = (n + 1) * (base ^ ds.length * base) := by rw [Nat.mul_assoc, Nat.mul_comm base]

theorem cutoff_mul (base : Nat) (hb : 1 ≤ base) : maxU64 < (maxU64 / base + 1) * base := by
  have h := Nat.div_add_mod maxU64 base
  have hm : maxU64 % base < base := Nat.mod_lt _ hb
  rw [Nat.add_mul, Nat.one_mul, Nat.mul_comm]
  omega

theorem parseUintLoop_valid (base : Nat) (hb : 1 ≤ base) (base0 : Bool) (maxVal : Nat) (hmax : maxVal ≤ maxU64)
    (us : Bool) : ∀ (ds : Bytes) (n : Nat), ValidDigits base ds → n ≤ maxVal →
      parseUintLoop base base0 (maxU64 / base + 1) maxVal ds n us =
        if foldv base ds n ≤ maxVal then (foldv base ds n, .ok, us) else (maxVal, .range, us)
  | [], n, _, hn => by simp [parseUintLoop, foldv_nil, hn]
  | d :: ds, n, hv, hn => by
    obtain ⟨x, hx, hxb⟩ := hv d (List.mem_cons_self ..)
    have hv' : ValidDigits base ds := fun y hy => hv y (List.mem_cons_of_mem _ hy)
    have hd95 : ¬ (d = 95 ∧ base0 = true) := by
      intro h; rw [h.1, show digitVal 95 = none by decide] at hx; cases hx
    rw [parseUintLoop, if_neg hd95, hx]
    simp only
    rw [if_neg (Nat.not_le.2 hxb), foldv_cons, hx, Option.getD_some]
    by_cases hc : n ≥ maxU64 / base + 1
    · rw [if_pos hc]
      have h1 : maxU64 < n * base := Nat.lt_of_lt_of_le (cutoff_mul base hb) (Nat.mul_le_mul_right base hc)
      have h2 := foldv_ge base hb ds (n * base + x)
      rw [if_neg (by omega)]
    · rw [if_neg hc]
      by_cases ho : n * base + x > maxVal
      · rw [if_pos ho]
        have h2 := foldv_ge base hb ds (n * base + x)
        rw [if_neg (by omega)]
      · rw [if_neg ho]
        exact parseUintLoop_valid base hb base0 maxVal hmax us ds _ hv' (by omega)

theorem parseUintLoop_us (base : Nat) (cutoff maxVal : Nat) :
    ∀ (ds : Bytes) (n : Nat) (us : Bool), (parseUintLoop base false cutoff maxVal ds n us).2.2 = us
  | [], n, us => rfl
  | d :: ds, n, us => by
    rw [parseUintLoop]
    simp only [Bool.false_eq_true, and_false, if_false]
    cases digitVal d with
    | none => rfl
    | some x =>
      simp only [apply_ite (fun r : Nat × NumErr × Bool => r.2.2), parseUintLoop_us base cutoff maxVal ds,
        ite_self]

-- The left side is the end of `parseUint`'s body, as `unfold parseUint` leaves it.
theorem parseUint_tail (b : Nat) (hb : 1 ≤ b) (base0 : Bool) (maxVal : Nat) (hmax : maxVal ≤ maxU64)
    (s ds : Bytes) (hv : ValidDigits b ds) :
    (match parseUintLoop b base0 (maxU64 / b + 1) maxVal ds 0 false with
      | (n, NumErr.ok, us) => if us = true ∧ ¬ underscoreOK s = true then (0, NumErr.syntax) else (n, NumErr.ok)
      | (n, e, _) => (n, e)) =
      if foldv b ds 0 ≤ maxVal then (foldv b ds 0, .ok) else (maxVal, .range) := by
  rw [parseUintLoop_valid b hb base0 maxVal hmax false ds 0 hv (Nat.zero_le _)]
  by_cases hle : foldv b ds 0 ≤ maxVal <;> simp [hle]

theorem parseUint_valid (base bitSize : Nat) (hb : 2 ≤ base) (hbs : 1 ≤ bitSize ∧ bitSize ≤ 64)
    (ds : Bytes) (hne : ds ≠ []) (hv : ValidDigits base ds) :
    parseUint ds base bitSize =
      if foldv base ds 0 ≤ 2 ^ bitSize - 1 then (foldv base ds 0, .ok) else (2 ^ bitSize - 1, .range) := by
  have hb0 : base ≠ 0 := by omega
  have hbs0 : bitSize ≠ 0 := by omega
  have hmax : 2 ^ bitSize - 1 ≤ maxU64 := by
    have : 2 ^ bitSize ≤ 2 ^ 64 := Nat.pow_le_pow_right (by decide) hbs.2
    simp only [maxU64]; omega
  unfold parseUint
  simp only [hne, if_false, hb0, hbs0]
  exact parseUint_tail base (by omega) _ _ hmax _ _ hv

theorem uint8_forall (P : UInt8 → Prop) (h : ∀ i : Fin 256, P (UInt8.ofNat i.val)) : ∀ c, P c := by
  intro c
  have := h ⟨c.toNat, c.toNat_lt⟩
  simpa using this

-- A `Bool`, so that `hex_both` is a check of 256 cases.
def bothLt (b : Nat) (c : UInt8) : Bool :=
  match digitVal c, Spec.hexVal c with
  | some x, some y => x == y && decide (x < b)
  | _, _ => false

theorem bothLt_iff (b : Nat) (c : UInt8) :
    bothLt b c = true ↔ ∃ x, digitVal c = some x ∧ Spec.hexVal c = some x ∧ x < b := by
  unfold bothLt
  cases digitVal c <;> cases Spec.hexVal c <;> simp
  intro _; exact eq_comm

def BothDigits (b : Nat) (ds : Bytes) : Prop := ∀ d ∈ ds, bothLt b d = true

theorem BothDigits.valid {b : Nat} {ds : Bytes} (h : BothDigits b ds) : ValidDigits b ds := fun d hd => by
  obtain ⟨x, h1, _, h3⟩ := (bothLt_iff b d).1 (h d hd)
  exact ⟨x, h1, h3⟩

theorem dec_both (c : UInt8) (hc : 48 ≤ c ∧ c ≤ 57) (b : Nat) (hb : c.toNat - 48 < b) : bothLt b c = true :=
  (bothLt_iff b c).2 ⟨c.toNat - 48, by simp [digitVal, hc], by simp [Spec.hexVal, hc], hb⟩

theorem hex_both : ∀ c : UInt8, isDigitChar true c = true → bothLt 16 c = true := by
  apply uint8_forall; decide +kernel

theorem dec_of_oct {c : UInt8} (h : 48 ≤ c ∧ c ≤ 55) : 48 ≤ c ∧ c ≤ 57 := ⟨h.1, Nat.le_trans h.2 (by decide)⟩

theorem bothDigits_oct (ds : Bytes) (h : ∀ d ∈ ds, 48 ≤ d ∧ d ≤ 55) : BothDigits 8 ds := fun d hd => by
  have h55 : d.toNat ≤ 55 := (h d hd).2
  exact dec_both d (dec_of_oct (h d hd)) 8 (by omega)

theorem parseUint_hex (ds : Bytes) (hne : ds ≠ []) (hlen : ds.length ≤ 8)
    (h : ∀ d ∈ ds, isDigitChar true d = true) : (parseUint ds 16 32).1 = foldv 16 ds 0 := by
  have hv : ValidDigits 16 ds := BothDigits.valid fun d hd => hex_both d (h d hd)
  rw [parseUint_valid 16 32 (by decide) (by decide) ds hne hv]
  have hlt := foldv_lt 16 (by decide) ds 0 hv
  have hpow : 16 ^ ds.length ≤ 16 ^ 8 := Nat.pow_le_pow_right (by decide) hlen
  have h32 : (16 : Nat) ^ 8 = 2 ^ 32 := by decide
  rw [if_pos (by omega)]

/-- `ParseInt`'s conversion of the magnitude `un` to an int64, with its range check. -/
def clampGo (neg : Bool) (un : Nat) : Int × NumErr :=
  if neg = false ∧ un ≥ two63 then (Int.ofNat (two63 - 1), .range)
  else if neg = true ∧ un > two63 then (- Int.ofNat two63, .range)
  else (if neg then - Int.ofNat un else Int.ofNat un, .ok)

/-- The tail of `ParseInt` once the sign is stripped and `ParseUint` has answered. -/
def goClamp (neg : Bool) (r : Nat × NumErr) : Int × NumErr :=
  match r with
  | (_, .syntax) => (0, .syntax)
  | (un, _) => clampGo neg un

theorem parseInt_cons (c : UInt8) (t : Bytes) :
    parseInt (c :: t) =
      goClamp (decide (c = 45)) (parseUint (if c = 43 ∨ c = 45 then t else c :: t) 0 0) := by
  unfold parseInt goClamp clampGo
  simp only [reduceCtorEq, if_false]
  by_cases h43 : c = 43
  · subst h43; rfl
  by_cases h45 : c = 45
  · subst h45; rfl
  simp only [h43, h45, if_false, or_self, decide_false]
  rfl

theorem clampGo_range (neg : Bool) (un : Nat) :
    -9223372036854775808 ≤ (clampGo neg un).1 ∧ (clampGo neg un).1 ≤ 9223372036854775807 := by
  unfold clampGo two63
  cases neg
  · by_cases h : un ≥ 9223372036854775808
    · simp [h]
    · simp [h]; omega
  · by_cases h : un > 9223372036854775808
    · simp [h]
    · simp [h]; omega

theorem parseInt_range (a : Bytes) :
    -9223372036854775808 ≤ (parseInt a).1 ∧ (parseInt a).1 ≤ 9223372036854775807 := by
  cases a with
  | nil => decide
  | cons c t =>
    rw [parseInt_cons]
    generalize parseUint _ 0 0 = r
    obtain ⟨un, e⟩ := r
    cases e
    · exact clampGo_range _ _
    · show (-9223372036854775808 : Int) ≤ 0 ∧ (0 : Int) ≤ 9223372036854775807
      decide
    · exact clampGo_range _ _

def clampU (v : Nat) : Nat × NumErr := if v ≤ maxU64 then (v, .ok) else (maxU64, .range)

/-- ±v clamped to the int64 range: what both Go and bash end up with. -/
def clampI (neg : Bool) (v : Nat) : Int :=
  if neg then (if (v : Int) > 9223372036854775808 then -9223372036854775808 else -(v : Int))
  else (if (v : Int) > 9223372036854775807 then 9223372036854775807 else (v : Int))

theorem goClamp_val (neg : Bool) (v : Nat) : (goClamp neg (clampU v)).1 = clampI neg v := by
  unfold clampU goClamp clampGo clampI two63 maxU64
  by_cases hle : v ≤ 18446744073709551615
  · rw [if_pos hle]
    cases neg
    · by_cases h : v ≥ 9223372036854775808
      · simp [h]; omega
      · simp [h]; omega
    · by_cases h : v > 9223372036854775808
      · simp [h]; omega
      · simp [h]; omega
  · rw [if_neg hle]
    cases neg <;> simp <;> omega

theorem toU64_natCast (n : Nat) (h : n < two64) : toU64 (n : Int) = n := by
  unfold toU64
  rw [← Int.natCast_emod, Int.toNat_natCast, Nat.mod_eq_of_lt h]

theorem toU64_negSucc (n : Nat) (h : n < two64) : toU64 (Int.negSucc n) = two64 - 1 - n := by
  unfold toU64
  rw [Int.negSucc_emod _ (by decide), ← Int.natCast_emod, Nat.mod_eq_of_lt h]
  omega

theorem toU64_neg_iff (v : Int) (hlo : -9223372036854775808 ≤ v) (hhi : v ≤ 9223372036854775807) :
    (toU64 v ≥ two63 ↔ v < 0) ∧ (v < 0 → two64 - toU64 v = v.natAbs) ∧ (¬ v < 0 → toU64 v = v.natAbs) := by
  cases v with
  | ofNat n =>
    rw [Int.ofNat_eq_natCast] at hhi ⊢
    rw [toU64_natCast n (by unfold two64; omega)]
    unfold two63; omega
  | negSucc n =>
    rw [toU64_negSucc n (by unfold two64; omega)]
    unfold two63 two64; omega

theorem dec_head : ∀ c : UInt8, (48 ≤ c ∧ c ≤ 57) →
    c ≠ 43 ∧ c ≠ 45 ∧ c ≠ 39 ∧ c ≠ 34 ∧ Spec.isSpace c = false ∧
    lower c ≠ 98 ∧ lower c ≠ 111 ∧ lower c ≠ 120 ∧ c ≠ 120 ∧ c ≠ 88 := by
  apply uint8_forall; decide +kernel

/-- The three shapes of an unsigned C integer literal, with base and digit string. -/
inductive NumBody : Bytes → Nat → Bytes → Prop
  | dec (c0 : UInt8) (t : Bytes) : (∀ d ∈ c0 :: t, 48 ≤ d ∧ d ≤ 57) → c0 ≠ 48 → NumBody (c0 :: t) 10 (c0 :: t)
  | oct (t : Bytes) : (∀ d ∈ t, 48 ≤ d ∧ d ≤ 55) → NumBody (48 :: t) 8 t
  | hex (x : UInt8) (t : Bytes) : (x = 120 ∨ x = 88) → t ≠ [] → (∀ d ∈ t, isDigitChar true d = true) →
      NumBody (48 :: x :: t) 16 t

theorem NumBody.both {body ds : Bytes} {b : Nat} (h : NumBody body b ds) : BothDigits b ds := by
  cases h with
  | dec c0 t hd _ =>
    exact fun d hd' => dec_both d (hd d hd') 10 (by have : d.toNat ≤ 57 := (hd d hd').2; omega)
  | oct t ho => exact bothDigits_oct _ ho
  | hex x t _ _ hh => exact fun d hd' => hex_both d (hh d hd')

theorem NumBody.head {body ds : Bytes} {b : Nat} (h : NumBody body b ds) :
    ∃ c r, body = c :: r ∧ 48 ≤ c ∧ c ≤ 57 := by
  cases h with
  | dec c0 t hd _ => exact ⟨c0, t, rfl, hd c0 (List.mem_cons_self ..)⟩
  | oct _ _ => exact ⟨48, _, rfl, by decide⟩
  | hex x _ _ _ _ => exact ⟨48, _, rfl, by decide⟩

theorem parseUint_body {body ds : Bytes} {b : Nat} (h : NumBody body b ds) :
    parseUint body 0 0 = clampU (foldv b ds 0) := by
  have hv := h.both.valid
  unfold parseUint
  cases h with
  | dec c0 t hd h0 =>
    simp only [reduceCtorEq, if_false, if_true, h0, beq_self_eq_true]
    exact parseUint_tail 10 (by decide) true _ (by decide) _ _ hv
  | oct _ ho =>
    simp only [reduceCtorEq, if_false, if_true, beq_self_eq_true]
    cases ds with
    | nil => simp [parseUintLoop, clampU, foldv_nil, maxU64]
    | cons c1 t2 =>
      obtain ⟨_, _, _, _, _, l1, l2, l3, _, _⟩ := dec_head c1 (dec_of_oct (ho c1 (List.mem_cons_self ..)))
      simp only [l1, l2, l3, and_false, if_false]
      exact parseUint_tail 8 (by decide) true _ (by decide) _ _ hv
  | hex x _ hx hne hh =>
    have hl : lower x = 120 := by rcases hx with h | h <;> subst h <;> decide
    cases ds with
    | nil => exact absurd rfl hne
    | cons d1 t' =>
      have hlen : (48 :: x :: d1 :: t').length ≥ 3 := by simp
      simp only [reduceCtorEq, if_false, if_true, beq_self_eq_true, hl, hlen, true_and,
        show ¬ ((120 : UInt8) = 98) by decide, show ¬ ((120 : UInt8) = 111) by decide]
      exact parseUint_tail 16 (by decide) true _ (by decide) _ _ hv

theorem scanDigits_both (b : Nat) : ∀ (ds : Bytes) (acc : Nat) (any : Bool), BothDigits b ds →
    Spec.scanDigits b ds acc any = (foldv b ds acc, [], any || !ds.isEmpty)
  | [], acc, any, _ => by simp [Spec.scanDigits, foldv_nil]
  | d :: ds, acc, any, h => by
    obtain ⟨x, h1, h2, h3⟩ := (bothLt_iff b d).1 (h d (List.mem_cons_self ..))
    rw [Spec.scanDigits, h2]
    simp only [h3, if_true]
    rw [scanDigits_both b ds _ true (fun y hy => h y (List.mem_cons_of_mem _ hy)), foldv_cons, h1]
    simp

/-- `Spec.scanNum` after white space and sign have been taken off: `u` is what is left of the
    whole string `s`. -/
def scanBody (neg : Bool) (s u : Bytes) : Spec.Scan :=
  match u with
  | c0 :: r0 =>
    if c0 = 48 then
      match r0 with
      | c1 :: r1 =>
        if c1 = 120 ∨ c1 = 88 then
          match Spec.scanDigits 16 r1 0 false with
          | (v, rest, true) => { neg := neg, mag := v, rest := rest }
          | _ => { neg := neg, mag := 0, rest := r0 }
        else
          let r := Spec.scanDigits 8 r0 0 true
          { neg := neg, mag := r.1, rest := r.2.1 }
      | [] => { neg := neg, mag := 0, rest := [] }
    else
      match Spec.scanDigits 10 u 0 false with
      | (v, rest, true) => { neg := neg, mag := v, rest := rest }
      | _ => { neg := false, mag := 0, rest := s }
  | [] => { neg := false, mag := 0, rest := s }

theorem scanNum_cons (c : UInt8) (t : Bytes) (hsp : Spec.isSpace c = false) :
    Spec.scanNum (c :: t) =
      scanBody (decide (c = 45)) (c :: t) (if c = 43 ∨ c = 45 then t else c :: t) := by
  have hd : (c :: t).dropWhile Spec.isSpace = c :: t := by rw [List.dropWhile, hsp]
  unfold Spec.scanNum
  rw [hd]
  by_cases h45 : c = 45
  · subst h45; rfl
  by_cases h43 : c = 43
  · subst h43; rfl
  simp only [h43, h45, if_false, or_self, decide_false]
  rfl

theorem scan_body {body ds : Bytes} {b : Nat} (h : NumBody body b ds) (neg : Bool) (s : Bytes) :
    scanBody neg s body = { neg := neg, mag := foldv b ds 0, rest := [] } := by
  have hb := h.both
  unfold scanBody
  cases h with
  | dec c0 t hd h0 =>
    simp [h0, scanDigits_both 10 _ 0 false hb]
  | oct _ ho =>
    cases ds with
    | nil => simp [foldv_nil]
    | cons c1 t2 =>
      obtain ⟨_, _, _, _, _, _, _, _, n1, n2⟩ := dec_head c1 (dec_of_oct (ho c1 (List.mem_cons_self ..)))
      simp [n1, n2, scanDigits_both 8 _ 0 true hb]
  | hex x _ hx hne hh =>
    have hne' : ds.isEmpty = false := by cases ds <;> simp_all
    simp [hx, scanDigits_both 16 _ 0 false hb, hne']

-- What `parseInt_cons`, `scanNum_cons` and `Spec.quoteCode` ask about the first byte of `sign ++ body`.
theorem sign_body {sign body ds : Bytes} {b : Nat} (hs : sign = [] ∨ sign = [43] ∨ sign = [45])
    (h : NumBody body b ds) :
    ∃ c t, sign ++ body = c :: t ∧ (if c = 43 ∨ c = 45 then t else c :: t) = body ∧
      decide (c = 45) = decide (sign = [45]) ∧ Spec.isSpace c = false ∧ c ≠ 39 ∧ c ≠ 34 := by
  rcases hs with hs | hs | hs <;> subst hs
  · obtain ⟨c, r, hb, hc⟩ := h.head
    obtain ⟨h43, h45, h39, h34, hsp, _⟩ := dec_head c hc
    exact ⟨c, r, hb, by rw [if_neg (not_or.2 ⟨h43, h45⟩), hb], by simp [h45], hsp, h39, h34⟩
  · exact ⟨43, body, rfl, rfl, rfl, by decide⟩
  · exact ⟨45, body, rfl, rfl, rfl, by decide⟩

theorem parseInt_clean (sign : Bytes) (hs : sign = [] ∨ sign = [43] ∨ sign = [45]) {body ds : Bytes} {b : Nat}
    (h : NumBody body b ds) :
    (parseInt (sign ++ body)).1 = clampI (decide (sign = [45])) (foldv b ds 0) := by
  obtain ⟨c, t, e, hb, hn, _⟩ := sign_body hs h
  rw [e, parseInt_cons, hb, hn, parseUint_body h, goClamp_val]

theorem scanNum_clean (sign : Bytes) (hs : sign = [] ∨ sign = [43] ∨ sign = [45]) {body ds : Bytes} {b : Nat}
    (h : NumBody body b ds) :
    Spec.scanNum (sign ++ body) = { neg := decide (sign = [45]), mag := foldv b ds 0, rest := [] } := by
  obtain ⟨c, t, e, hb, hn, hsp, _⟩ := sign_body hs h
  rw [e, scanNum_cons c t hsp, hb, hn, scan_body h]

theorem quoteCode_clean (sign : Bytes) (hs : sign = [] ∨ sign = [43] ∨ sign = [45]) {body ds : Bytes} {b : Nat}
    (h : NumBody body b ds) : Spec.quoteCode (sign ++ body) = none := by
  obtain ⟨c, t, e, _, _, _, h39, h34⟩ := sign_body hs h
  rw [e]
  simp [Spec.quoteCode, h39, h34]

theorem signedArg_clean (sign : Bytes) (hs : sign = [] ∨ sign = [43] ∨ sign = [45]) {body ds : Bytes} {b : Nat}
    (h : NumBody body b ds) :
    Spec.signedArg (sign ++ body) = { val := clampI (decide (sign = [45])) (foldv b ds 0), bad := false } := by
  unfold Spec.signedArg
  rw [quoteCode_clean sign hs h, scanNum_clean sign hs h]
  generalize decide (sign = [45]) = neg
  cases neg <;> simp [clampI] <;> omega

/-- A well-formed C integer literal: optional sign, then decimal (no leading zero), `0` + octal
    digits, or `0x`/`0X` + at least one hexadecimal digit. -/
def CleanNum (a : Bytes) : Prop :=
  ∃ sign body b ds, (sign = [] ∨ sign = [43] ∨ sign = [45]) ∧ NumBody body b ds ∧ a = sign ++ body

theorem numeric_arg_clean (a : Bytes) (h : CleanNum a) :
    (parseInt a).1 = (Spec.signedArg a).val ∧ (Spec.signedArg a).bad = false := by
  obtain ⟨sign, body, b, ds, hs, hb, rfl⟩ := h
  rw [parseInt_clean sign hs hb, signedArg_clean sign hs hb]
  exact ⟨rfl, rfl⟩

theorem numeric_arg_decimal (c0 : UInt8) (t : Bytes) (h : ∀ d ∈ c0 :: t, 48 ≤ d ∧ d ≤ 57) (h0 : c0 ≠ 48) :
    (parseInt (c0 :: t)).1 = (Spec.signedArg (c0 :: t)).val ∧ (Spec.signedArg (c0 :: t)).bad = false :=
  numeric_arg_clean _ ⟨[], _, _, _, Or.inl rfl, NumBody.dec c0 t h h0, rfl⟩

/-- The literal's value fits the signed 64-bit range (the region where `%u %o %x` agree). -/
def InInt64 (neg : Bool) (v : Nat) : Prop := if neg then v ≤ 9223372036854775808 else v < 9223372036854775808

/-- `%u %o %x`: bash's `strtoumax` value (a negative literal wraps around, 2^64-1 on overflow) is
    Go's `uint(n)` of the int64 `ParseInt` returned, as long as the literal fits an int64. -/
theorem strtoumax_eq_uint (neg : Bool) (v : Nat) (hr : InInt64 neg v) :
    Int.ofNat (if v > maxU64 then maxU64 else if neg = true then (two64 - v) % two64 else v) =
      Int.ofNat (toU64 (clampI neg v)) := by
  unfold InInt64 at hr
  unfold clampI
  congr 1
  cases neg
  · simp only [Bool.false_eq_true, if_false] at hr ⊢
    have h2 : ¬ ((v : Int) > 9223372036854775807) := by omega
    rw [if_neg (by unfold maxU64; omega), if_neg h2, toU64_natCast v (by unfold two64; omega)]
  · simp only [if_true] at hr ⊢
    have h2 : ¬ ((v : Int) > 9223372036854775808) := by omega
    rw [if_neg (by unfold maxU64; omega), if_neg h2]
    cases v with
    | zero => rfl
    | succ n =>
      rw [show -((n + 1 : Nat) : Int) = Int.negSucc n from rfl, toU64_negSucc n (by unfold two64; omega)]
      unfold two64; omega

end ShVerif.C24
