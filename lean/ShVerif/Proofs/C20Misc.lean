import ShVerif.Model.C20
/-
  C20: the evaluator model by itself, before the specification comes in: sequencing (`andThen`),
  names and the name chase of the word rule, the equations of `evalWith` construct by construct, no Go
  panic on trees of bash's grammar, `x op= e` ≡ `x = x op e`.
-/
namespace ShVerif.C20

@[simp] theorem andThen_ok (v : Int) (env : Env) (f : Int → Env → Res × Env) :
    andThen (.ok v, env) f = f v env := rfl
@[simp] theorem andThen_err (er : Err) (env : Env) (f : Int → Env → Res × Env) :
    andThen (.err er, env) f = (.err er, env) := rfl
@[simp] theorem andThen_panic (env : Env) (f : Int → Env → Res × Env) :
    andThen (.panic, env) f = (.panic, env) := rfl

theorem andThen_assoc (p : Res × Env) (f g : Int → Env → Res × Env) :
    andThen (andThen p f) g = andThen p (fun v e => andThen (f v e) g) := by
  obtain ⟨r, env⟩ := p
  cases r <;> rfl

theorem andThen_ne_panic {p : Res × Env} {f : Int → Env → Res × Env}
    (hp : p.1 ≠ .panic) (hf : ∀ v env, (f v env).1 ≠ .panic) : (andThen p f).1 ≠ .panic := by
  obtain ⟨r, env⟩ := p
  cases r with
  | ok v => exact hf v env
  | err er => simp
  | panic => exact absurd rfl hp

theorem validName_ne_nil {n : Bytes} (h : validName n = true) : n ≠ [] := by
  intro he; rw [he] at h; simp [validName] at h

theorem wordOf_name {n : Bytes} (h : validName n = true) : wordOf (.word n) = some n := by
  simp [wordOf, validName_ne_nil h]

theorem chase_succ (get : Bytes → Bytes) (k : Nat) (s : Bytes) :
    chase get (k + 1) s =
      if validName s then (if get s = [] then s else chase get k (get s)) else s := by
  rw [chase]

theorem chase_not_name {get : Bytes → Bytes} {k : Nat} {s : Bytes} (h : validName s = false) :
    chase get k s = s := by
  cases k <;> simp [chase, h]

theorem chase_end (get : Bytes → Bytes) : ∀ (hops : Nat) (n : Bytes), validName n = true →
    get n = [] → chase get hops n = n
  | 0, n, _, _ => rfl
  | h + 1, n, hv, he => by rw [chase_succ, if_pos hv, if_pos he]

theorem chase_step {get : Bytes → Bytes} {hops : Nat} {n : Bytes} (hv : validName n = true)
    (he : get n ≠ []) (h : 1 ≤ hops) : chase get hops n = chase get (hops - 1) (get n) := by
  obtain ⟨k, rfl⟩ : ∃ k, hops = k + 1 := ⟨hops - 1, by omega⟩
  rw [chase_succ, if_pos hv, if_neg he]
  rfl

theorem atoi_nil : atoi [] = 0 := by decide

theorem isNameWord_elim {x : Expr} (h : isNameWord x = true) : ∃ n, x = .word n ∧ validName n = true := by
  cases x <;> simp [isNameWord] at h
  exact ⟨_, rfl, h⟩

theorem WFColon_elim {y : Expr} (h : WFColon y = true) :
    ∃ t f, y = .binary .ternColon t f ∧ WF t = true ∧ WF f = true := by
  cases y <;> simp [WFColon] at h
  obtain ⟨⟨rfl, ht⟩, hf⟩ := h
  exact ⟨_, _, rfl, ht, hf⟩

theorem isAssign_iff (op : BinOp) : isAssign op = true ↔ (op = .assgn ∨ (assignOp op).isSome = true) := by
  simp [isAssign]

theorem isAssign_of_assignOp {op aop : BinOp} (h : assignOp op = some aop) : isAssign op = true := by
  simp [isAssign, h]

theorem plainBin_facts {op : BinOp} (h : plainBin op = true) :
    isAssign op = false ∧ op ≠ .ternQuest ∧ ¬ (op = .andL ∨ op = .orL) := by
  cases op <;> simp [plainBin] at h <;> decide

theorem assignOp_plainBin {op aop : BinOp} (h : assignOp op = some aop) : plainBin aop = true := by
  cases op <;> simp [assignOp] at h <;> subst h <;> rfl

theorem evalWith_word (dp : Env → Bytes → Res × Env) (env : Env) (w : Bytes) :
    evalWith dp env (.word w) = evalWord dp env w := by rw [evalWith]

theorem evalWith_incdec {dp : Env → Bytes → Res × Env} {env : Env} {op : UnOp} {post : Bool}
    {n : Bytes} (hop : op = .inc ∨ op = .dec) (hn : n ≠ []) :
    evalWith dp env (.unary op post (.word n)) =
      andThen (evalWith dp env (.word n)) fun old env1 =>
        andThen (setVar env1 n (if op = .inc then wrap64 (old + 1) else wrap64 (old - 1)))
          fun _ env2 =>
            (.ok (if post then old else
              (if op = .inc then wrap64 (old + 1) else wrap64 (old - 1))), env2) := by
  rw [evalWith_word, evalWith]
  simp only [hop, if_true, wordOf, hn, if_false]

theorem evalWith_unary_plain {dp : Env → Bytes → Res × Env} {env : Env} {op : UnOp} {post : Bool}
    {x : Expr} : ¬ (op = .inc ∨ op = .dec) →
    evalWith dp env (.unary op post x) =
      andThen (evalWith dp env x) fun v env' =>
        match op with
        | .not => (.ok (oneIf (v == 0)), env')
        | .bitNeg => (.ok (-v - 1), env')
        | .plus => (.ok v, env')
        | .minus => (.ok (wrap64 (-v)), env')
        | _ => (.err .unsupUnary, env') := by
  intro hop
  rw [evalWith]
  simp only [hop, if_false]
  rfl

theorem evalWith_assgn {dp : Env → Bytes → Res × Env} {env : Env} {n : Bytes} {y : Expr}
    (hn : n ≠ []) :
    evalWith dp env (.binary .assgn (.word n) y) =
      andThen (evalWith dp env y) fun arg env' => setVar env' n arg := by
  rw [evalWith]
  simp [isAssign, wordOf, hn, assignOp]

theorem evalWith_opassign {dp : Env → Bytes → Res × Env} {env : Env} {op aop : BinOp} {n : Bytes}
    {y : Expr} (hop : assignOp op = some aop) (hn : n ≠ []) :
    evalWith dp env (.binary op (.word n) y) =
      andThen (evalWith dp env (.word n)) fun val env1 =>
        andThen (evalWith dp env1 y) fun arg env' =>
          andThen (binArit aop val arg, env') fun v env2 => setVar env2 n v := by
  rw [evalWith_word, evalWith]
  simp only [isAssign_of_assignOp hop, if_true, wordOf, hn, if_false, hop]
  congr 1; funext val env1
  congr 1; funext arg env'
  cases binArit aop val arg <;> rfl

theorem evalWith_tern (dp : Env → Bytes → Res × Env) (env : Env) (x y : Expr) :
    evalWith dp env (.binary .ternQuest x y) =
      andThen (evalWith dp env x) fun c env1 => evalTernBranch dp env1 c y := by
  rw [evalWith]
  simp [isAssign, assignOp]

theorem evalWith_logic {dp : Env → Bytes → Res × Env} {env : Env} {op : BinOp} {x y : Expr}
    (hop : op = .andL ∨ op = .orL) :
    evalWith dp env (.binary op x y) =
      andThen (evalWith dp env x) fun l env1 =>
        if op = .andL ∧ l = 0 then (.ok 0, env1)
        else if op = .orL ∧ l ≠ 0 then (.ok 1, env1)
        else andThen (evalWith dp env1 y) fun r env2 => (.ok (oneIf (r != 0)), env2) := by
  rw [evalWith]
  rcases hop with rfl | rfl <;> simp [isAssign, assignOp]

theorem evalWith_plain {dp : Env → Bytes → Res × Env} {env : Env} {op : BinOp} {x y : Expr}
    (hop : plainBin op = true) :
    evalWith dp env (.binary op x y) =
      andThen (evalWith dp env x) fun l env1 =>
        andThen (evalWith dp env1 y) fun r env2 => (binArit op l r, env2) := by
  obtain ⟨h1, h2, h3⟩ := plainBin_facts hop
  rw [evalWith]
  simp only [h1, Bool.false_eq_true, if_false, h2, h3]

theorem setVar_ne_panic (env : Env) (n : Bytes) (v : Int) : (setVar env n v).1 ≠ .panic := by
  unfold setVar; split <;> simp

theorem binArit_ne_panic (op : BinOp) (x y : Int) : binArit op x y ≠ .panic := by
  cases op <;> simp [binArit] <;> split <;> simp

theorem evalWord_ne_panic {deeper : Env → Bytes → Res × Env}
    (hd : ∀ env s, (deeper env s).1 ≠ .panic) (env : Env) (w : Bytes) :
    (evalWord deeper env w).1 ≠ .panic := by
  unfold evalWord
  simp only []
  split
  · exact hd _ _
  · simp

/-- `Arithm`'s panic site, the type assertion `expr.Y.(*syntax.BinaryArithm)` of the conditional, is not
    reachable on trees of bash's grammar (`WF`), at any nesting level whose nested evaluations do not
    panic. -/
theorem no_panic_both {deeper : Env → Bytes → Res × Env}
    (hd : ∀ env s, (deeper env s).1 ≠ .panic) (e : Expr) :
    (∀ env, WF e = true → (evalWith deeper env e).1 ≠ .panic) ∧
    (∀ env cond, WFColon e = true → (evalTernBranch deeper env cond e).1 ≠ .panic) := by
  induction e with
  | word w =>
    exact ⟨fun env _ => by rw [evalWith_word]; exact evalWord_ne_panic hd env w,
      fun env c h => by simp [WFColon] at h⟩
  | paren x ih =>
    refine ⟨fun env hwf => ?_, fun env c h => by simp [WFColon] at h⟩
    simp only [evalWith]; exact ih.1 env (by simpa [WF] using hwf)
  | unary op post x ih =>
    refine ⟨fun env hwf => ?_, fun env c h => by simp [WFColon] at h⟩
    by_cases hinc : op = .inc ∨ op = .dec
    · simp only [WF, hinc, if_true] at hwf
      obtain ⟨n, rfl, hvn⟩ := isNameWord_elim hwf
      rw [evalWith_incdec hinc (validName_ne_nil hvn), evalWith_word]
      refine andThen_ne_panic (evalWord_ne_panic hd _ _) (fun _ _ => ?_)
      exact andThen_ne_panic (setVar_ne_panic _ _ _) (fun _ _ => by simp)
    · simp only [WF, hinc, if_false, Bool.and_eq_true] at hwf
      rw [evalWith_unary_plain hinc]
      refine andThen_ne_panic (ih.1 env hwf.2) (fun v env' => ?_)
      split <;> simp
  | binary op x y ihx ihy =>
    constructor
    · intro env hwf
      by_cases hass : op = .assgn ∨ (assignOp op).isSome = true
      · simp only [WF, hass, if_true, Bool.and_eq_true] at hwf
        obtain ⟨n, rfl, hvn⟩ := isNameWord_elim hwf.1
        rcases hass.imp_right Option.isSome_iff_exists.1 with rfl | ⟨aop, hop⟩
        · rw [evalWith_assgn (validName_ne_nil hvn)]
          exact andThen_ne_panic (ihy.1 env hwf.2) (fun _ _ => setVar_ne_panic _ _ _)
        · rw [evalWith_opassign hop (validName_ne_nil hvn), evalWith_word]
          refine andThen_ne_panic (evalWord_ne_panic hd _ _) (fun val env1 => ?_)
          refine andThen_ne_panic (ihy.1 env1 hwf.2) (fun arg env' => ?_)
          exact andThen_ne_panic (binArit_ne_panic _ _ _) (fun _ _ => setVar_ne_panic _ _ _)
      · simp only [WF, hass, if_false] at hwf
        by_cases ht : op = .ternQuest
        · subst ht
          simp only [if_true, Bool.and_eq_true] at hwf
          rw [evalWith_tern]
          exact andThen_ne_panic (ihx.1 env hwf.1) (fun v env' => ihy.2 env' v hwf.2)
        · simp only [ht, if_false] at hwf
          by_cases hl : op = .andL ∨ op = .orL
          · simp only [hl, if_true, Bool.and_eq_true] at hwf
            rw [evalWith_logic hl]
            refine andThen_ne_panic (ihx.1 env hwf.1) (fun v env' => ?_)
            split
            · simp
            · split
              · simp
              · exact andThen_ne_panic (ihy.1 env' hwf.2) (fun _ _ => by simp)
          · simp only [hl, if_false, Bool.and_eq_true] at hwf
            rw [evalWith_plain hwf.1.1]
            refine andThen_ne_panic (ihx.1 env hwf.1.2) (fun v env' => ?_)
            exact andThen_ne_panic (ihy.1 env' hwf.2) (fun _ _ => binArit_ne_panic _ _ _)
    · intro env c h
      simp only [WFColon, Bool.and_eq_true] at h
      rw [evalTernBranch]
      split
      · exact ihx.1 env h.1.2
      · exact ihy.1 env h.2

theorem assign_ops_with (deeper : Env → Bytes → Res × Env) (env : Env) (op aop : BinOp) (x : Bytes)
    (e : Expr) (hop : assignOp op = some aop) :
    evalWith deeper env (.binary op (.word x) e) =
      evalWith deeper env (.binary .assgn (.word x) (.binary aop (.word x) e)) := by
  by_cases hx : x = []
  · subst hx
    have e1 : evalWith deeper env (.binary op (.word []) e) = (.err .unsupTarget, env) := by
      rw [evalWith]; simp only [isAssign_of_assignOp hop, if_true, wordOf]
    have e2 : evalWith deeper env (.binary .assgn (.word []) (.binary aop (.word []) e)) =
        (.err .unsupTarget, env) := by
      rw [evalWith]; simp [isAssign, wordOf]
    rw [e1, e2]
  · rw [evalWith_opassign hop hx, evalWith_assgn hx,
      evalWith_plain (assignOp_plainBin hop)]
    simp only [andThen_assoc]

end ShVerif.C20
