import ShVerif.Model.C15
/-
  C15 — lemmas for Props/C15.lean.

  Positions: `NewPos` is put in arithmetic form once (`newPos_eq`), its properties are then linear
  arithmetic.  The round trip `Decode (Encode v) = canon v`: induction along `wf` (`round_all`), at
  three levels — a value (`RV`), the fields of a struct (`RF`: the decoder's loop fills the slots in
  the order of the encoded keys, so the invariant speaks of a struct half filled), the elements of a
  slice (`RE`).
-/
namespace ShVerif.C15

theorem offsetMax_eq : offsetMax = 4294967284 := by decide
theorem lineMax_eq : lineMax = 262143 := by decide
theorem colMax_eq : colMax = 16383 := by decide
theorem colBitSize_eq : colBitSize = 14 := by decide
theorem colBitMask_eq : colBitMask = 16383 := by decide
theorem maxUint32_eq : maxUint32 = 4294967295 := by decide

theorem shr14 (x : Nat) : x >>> 14 = x / 16384 := Nat.shiftRight_eq_div_pow x 14

theorem and14 (x : Nat) : x &&& 16383 = x % 16384 := Nat.and_two_pow_sub_one_eq_mod x 14

theorem pack (l c : Nat) (hl : l ≤ 262143) (hc : c ≤ 16383) :
    u32 (u32 l <<< 14) ||| u32 c = l * 16384 + c := by
  have h := Nat.shiftLeft_add_eq_or_of_lt (a := l) (b := c) (i := 14) (by omega)
  rw [Nat.shiftLeft_eq] at h
  simp only [u32, Nat.shiftLeft_eq]
  rw [Nat.mod_eq_of_lt (a := l) (by omega), Nat.mod_eq_of_lt (a := c) (by omega),
    Nat.mod_eq_of_lt (a := l * 2 ^ 14) (by omega), ← h]

theorem newPos_eq (o l c : Nat) :
    newPos o l c = ⟨min o 4294967284,
      (if l > 262143 then 0 else l) * 16384 + (if c > 16383 then 0 else c)⟩ := by
  simp only [newPos, offsetMax_eq, lineMax_eq, colMax_eq, colBitSize_eq]
  rw [pack _ _ (by split <;> omega) (by split <;> omega)]
  simp only [u32, Pos.mk.injEq, and_true]
  omega

theorem newPos_parts (p : Pos) (hr : p.inRange = true) (ho : p.offs ≤ offsetMax) :
    newPos p.offset p.line p.col = p := by
  obtain ⟨offs, lc⟩ := p
  simp only [Pos.inRange, Bool.and_eq_true, decide_eq_true_eq, offsetMax_eq] at hr ho
  have h1 : ¬ offs > 4294967284 := by omega
  have h2 : ¬ lc / 16384 > 262143 := by omega
  have h3 : ¬ lc % 16384 > 16383 := by omega
  simp only [newPos_eq, Pos.offset, Pos.line, Pos.col, offsetMax_eq, colBitSize_eq, colBitMask_eq, shr14,
    and14, h1, h2, h3, if_false, Pos.mk.injEq]
  omega

theorem newPos_offs_le (o l c : Nat) : (newPos o l c).offs ≤ offsetMax := by
  simp only [newPos_eq, offsetMax_eq]
  omega

theorem newPos_line_overflow (o l c : Nat) (h : lineMax < l) : (newPos o l c).line = 0 := by
  rw [lineMax_eq] at h
  simp only [newPos_eq, Pos.line, colBitSize_eq, shr14, show l > 262143 from h, if_true]
  split <;> omega

theorem newPos_col_overflow (o l c : Nat) (h : colMax < c) : (newPos o l c).col = 0 := by
  rw [colMax_eq] at h
  simp only [newPos_eq, Pos.col, colBitMask_eq, and14, show c > 16383 from h, if_true]
  omega

theorem jsonUint_ofNat (n : Nat) (h : n ≤ 4294967295) : jsonUint (.num (n : Int)) = some n := by
  simp only [jsonUint, maxUint32_eq]
  have : ¬ ((n : Int) < 0 ∨ (n : Int) > ((4294967295 : Nat) : Int)) := by omega
  simp only [this, if_false, Int.toNat_natCast]

theorem posField_num (kvs : List (String × J)) (name : String) (n : Nat) (h : n ≤ 4294967295)
    (hk : kvs.lookup name = some (.num (n : Int))) : posField kvs name = .ok n := by
  simp only [posField, hk, jsonUint_ofNat n h]

theorem decodePos_encPos (p : Pos) (hr : p.inRange = true) (hv : p.isValid = true) :
    ∃ j, encPos p = some j ∧ decodePos j = .ok p := by
  have ho : p.offs ≤ offsetMax := by
    simp only [Pos.isValid, Bool.and_eq_true, decide_eq_true_eq] at hv; exact hv.1
  have hb := hr
  simp only [Pos.inRange, Bool.and_eq_true, decide_eq_true_eq] at hb
  have b1 : p.offset ≤ 4294967295 := by simp only [Pos.offset]; split <;> omega
  have b2 : p.line ≤ 4294967295 := by simp only [Pos.line, colBitSize_eq, shr14]; omega
  have b3 : p.col ≤ 4294967295 := by simp only [Pos.col, colBitMask_eq, and14]; omega
  have f := posField_num [("Offset", .num p.offset), ("Line", .num p.line), ("Col", .num p.col)]
  refine ⟨_, if_pos hv, ?_⟩
  simp only [decodePos, f "Offset" _ b1 rfl, f "Line" _ b2 rfl, f "Col" _ b3 rfl, posFieldNames,
    List.length_cons, List.length_nil, ne_eq, not_true_eq_false, if_false, newPos_parts p hr ho]

/-! Decode never reaches a panicking reflect call.
A `panic` result of the decoder is either the `else` of an `if addr` test, which is gone once
`addr = true`, or the panic of a sub-result passed on (a recursive call, `decodePos`, `posField`),
which there is none of by induction on the document; every other leaf is an `ok` or an `err`.  So each
proof brings the panic-freedom of the sub-results into the context and walks the branches. -/

theorem posField_no_panic (kvs : List (String × J)) (name : String) : posField kvs name ≠ .panic := by
  unfold posField
  repeat' split
  all_goals simp

theorem decodePos_no_panic (j : J) : decodePos j ≠ .panic := by
  unfold decodePos
  split
  · have h1 := posField_no_panic ‹_› "Offset"
    have h2 := posField_no_panic ‹_› "Line"
    have h3 := posField_no_panic ‹_› "Col"
    repeat' split
    all_goals first | contradiction | simp
  · simp

mutual
  theorem decodeValue_no_panic (σ : Schema) : ∀ (j : J) (τ : GoType), decodeValue σ true τ j ≠ .panic
    | .obj kvs, τ => by
      unfold decodeValue
      split
      · simp
      · have := decodeFields_no_panic σ kvs ‹_› (zeroFields ‹_›)
        split <;> first | contradiction | simp
    | .arr xs, τ => by
      unfold decodeValue
      split
      · have := decodeElems_no_panic σ xs ‹_›
        split <;> first | contradiction | simp
      · simp
    | .str _, τ | .num _, τ | .frac, τ => by
      unfold decodeValue
      simp only [if_true]  -- `val.CanAddr()` holds
      repeat' split
      all_goals simp
    | .bool b, τ => by unfold decodeValue; split <;> simp
    | .null, τ => by simp [decodeValue]
  theorem decodeFields_no_panic (σ : Schema) : ∀ (kvs : List (String × J)) (ftys : List (String × GoType))
      (acc : List (String × Val)), decodeFields σ ftys kvs acc ≠ .panic
    | [], ftys, acc => by simp [decodeFields]
    | (k, jv) :: rest, ftys, acc => by
      have ih := decodeFields_no_panic σ rest ftys
      unfold decodeFields
      split
      · exact ih acc
      · split
        · simp
        · have := decodePos_no_panic jv
          split <;> first | exact ih _ | contradiction | simp
        · have := decodeValue_no_panic σ jv ‹_›
          split <;> first | exact ih _ | contradiction | simp
  theorem decodeElems_no_panic (σ : Schema) : ∀ (xs : List J) (ε : GoType), decodeElems σ ε xs ≠ .panic
    | [], ε => by simp [decodeElems]
    | x :: rest, ε => by
      have h1 := decodeValue_no_panic σ x ε
      have h2 := decodeElems_no_panic σ rest ε
      unfold decodeElems
      repeat' split
      all_goals first | contradiction | simp
end

theorem decodeRoot_no_panic (σ : Schema) (j : J) : decodeRoot σ j ≠ .panic := by
  unfold decodeRoot
  have := decodeValue_no_panic σ j (.iface "Node")
  split
  · simp
  · assumption

theorem lookup_mid {β : Type} (pre : List (String × β)) (k : String) (x : β) (post : List (String × β))
    (h : k ∉ pre.map (·.1)) : (pre ++ (k, x) :: post).lookup k = some x := by
  induction pre with
  | nil => simp
  | cons a t ih =>
    obtain ⟨k', y⟩ := a
    simp only [List.map_cons, List.mem_cons, not_or] at h
    have hne : (k == k') = false := by simp [h.1]
    simp only [List.cons_append, List.lookup, hne]
    exact ih h.2

theorem setField_mid (pre : List (String × Val)) (k : String) (x y : Val) (post : List (String × Val))
    (h : k ∉ pre.map (·.1)) : setField k x (pre ++ (k, y) :: post) = pre ++ (k, x) :: post := by
  induction pre with
  | nil => simp [setField]
  | cons a t ih =>
    obtain ⟨k', z⟩ := a
    simp only [List.map_cons, List.mem_cons, not_or] at h
    have hne : ¬ k' = k := fun e => h.1 e.symm
    simp only [List.cons_append, setField, hne, if_false]
    rw [ih h.2]

theorem namesOK_mid (pre : List String) (k : String) (post : List String)
    (h : namesOK (pre ++ k :: post) = true) :
    isExportedName k = true ∧ reservedKeys.contains k = false ∧ k ∉ pre := by
  simp only [namesOK, Bool.and_eq_true, List.all_eq_true, decide_eq_true_eq] at h
  obtain ⟨hall, hnd⟩ := h
  have hk := hall k (by simp)
  simp only [Bool.not_eq_true'] at hk
  refine ⟨hk.1, hk.2, ?_⟩
  intro hmem
  rw [List.nodup_append] at hnd
  exact hnd.2.2 k hmem k (by simp) rfl

theorem decodeFields_skip (σ : Schema) (ftys : List (String × GoType)) (k : String) (jv : J)
    (rest : List (String × J)) (acc : List (String × Val)) (h : reservedKeys.contains k = true) :
    decodeFields σ ftys ((k, jv) :: rest) acc = decodeFields σ ftys rest acc := by
  simp only [decodeFields, h, if_true]

theorem decodeFields_peKvs (σ : Schema) (ftys : List (String × GoType)) (pe : Option (Pos × Pos))
    (kvs : List (String × J)) (acc : List (String × Val)) :
    decodeFields σ ftys (peKvs pe ++ kvs) acc = decodeFields σ ftys kvs acc := by
  cases pe with
  | none => simp [peKvs]
  | some pe =>
    obtain ⟨p, e⟩ := pe
    simp only [peKvs]
    cases hp : encPos p <;> cases he : encPos e <;>
      simp [optKv, decodeFields_skip, reservedKeys]

theorem wfFields_names (σ : Schema) (ftys : List (String × GoType)) (fs : List (String × Val))
    (h : wfFields σ ftys fs = true) : ftys.map (·.1) = fs.map (·.1) := by
  induction ftys generalizing fs with
  | nil => cases fs <;> simp [wfFields, wfFieldsWith] at h ⊢
  | cons a t ih =>
    cases fs with
    | nil => simp [wfFields, wfFieldsWith] at h
    | cons b s =>
      obtain ⟨k, τ⟩ := a
      obtain ⟨k', v⟩ := b
      simp [wfFields, wfFieldsWith] at h
      simp [h.1.1, ih s h.2]

/-- value level: `encodeValue` yields nothing, the value is one of the `isNoValue` ones (which is
    what excludes them from slices) and the zero value is its canonical form; or it yields a
    document that `decodeValue` turns into the canonical form -/
def RV (σ : Schema) (v : Val) (τ : GoType) : Prop :=
  (isNoValue v = true ∧ ∃ tn, encodeValue σ v = .res none tn ∧ zero τ = canon v) ∨
  (∃ j tn, encodeValue σ v = .res (some j) tn ∧ decodeValue σ true τ j = .ok (canon v))

/-- field-loop level: the keys emitted for `fs` are field names, and the decoder's loop, met with a
    struct whose slots before `ftys` are filled (`preV`) and whose slots for `ftys` are still zero,
    consumes these keys, leaves `canonF fs` in the slots and goes on with `rest` -/
def RF (σ : Schema) (fs : List (String × Val)) (ftys : List (String × GoType)) : Prop :=
  ∃ kvs, encodeFields σ fs = some kvs ∧ (∀ x ∈ kvs, x.1 ∈ ftys.map (·.1)) ∧
    ∀ (allF preT : List (String × GoType)) (preV : List (String × Val)) (rest : List (String × J)),
      allF = preT ++ ftys → preT.map (·.1) = preV.map (·.1) → namesOK (allF.map (·.1)) = true →
      decodeFields σ allF (kvs ++ rest) (preV ++ zeroFields ftys) =
        decodeFields σ allF rest (preV ++ canonF fs)

def RE (σ : Schema) (vs : List Val) (ε : GoType) : Prop :=
  ∃ js, encodeElems σ vs = some js ∧ js.length = vs.length ∧ decodeElems σ ε js = .ok (canonL vs)

theorem peKvs_keys (pe : Option (Pos × Pos)) : ∀ x ∈ peKvs pe, x.1 = "Pos" ∨ x.1 = "End" := by
  intro x hx
  cases pe with
  | none => simp [peKvs] at hx
  | some pe =>
    obtain ⟨p, e⟩ := pe
    simp only [peKvs, List.mem_append] at hx
    rcases hx with hx | hx
    · cases hp : encPos p <;> simp [hp, optKv] at hx
      left; rw [hx]
    · cases he : encPos e <;> simp [he, optKv] at hx
      right; rw [hx]

/-- what the three struct-holding cases (by value, pointer, interface) share -/
theorem struct_round (σ : Schema) (name : String) (pe : Option (Pos × Pos)) (fs : List (String × Val))
    (ftys : List (String × GoType)) (hn : namesOK (ftys.map (·.1)) = true)
    (hw : wfFields σ ftys fs = true) (hF : RF σ fs ftys) :
    ∃ kvs, encodeValue σ (.struct name pe fs) = .res (some (.obj kvs)) name ∧ kvs.lookup "Type" = none ∧
      decodeFields σ ftys kvs (zeroFields ftys) = .ok (canonF fs) := by
  obtain ⟨kvs0, henc, hkeys, hdec⟩ := hF
  have hnames := wfFields_names σ ftys fs hw
  refine ⟨peKvs pe ++ kvs0, ?_, ?_, ?_⟩
  · have : namesOK (List.map (fun x => x.1) fs) = true := by rw [← hnames]; exact hn
    simp only [encodeValue, this, if_true, henc]
  · rw [List.lookup_eq_none_iff]
    intro x hx
    simp only [List.mem_append] at hx
    rcases hx with hx | hx
    · rcases peKvs_keys pe x hx with h | h <;> rw [h] <;> decide
    · -- a field called "Type" would have made `namesOK` fail
      simp only [bne_iff_ne, ne_eq]
      intro heq
      have hmem := hkeys x hx
      rw [← heq] at hmem
      simp only [namesOK, Bool.and_eq_true, List.all_eq_true] at hn
      have := hn.1 "Type" hmem
      simp [reservedKeys] at this
  · rw [decodeFields_peKvs]
    have := hdec ftys [] [] [] (by simp) (by simp) hn
    simp only [List.append_nil, List.nil_append] at this
    rw [this]
    simp only [decodeFields]

theorem dropPos_of_valid (p : Pos) (h : p.isValid = true) : dropPos p = p := by
  have : p ≠ Pos.recovered := by
    intro e; rw [e] at h; revert h; decide
  simp only [dropPos, this, if_false]

theorem dropPos_of_invalid (p : Pos) (hw : posWF p = true) (h : p.isValid = false) : dropPos p = Pos.zero := by
  simp only [posWF, h, Bool.false_or, Bool.and_eq_true, Bool.or_eq_true, decide_eq_true_eq] at hw
  rcases hw.2 with e | e <;> rw [e] <;> decide

/-- What one field contributes.  The encoder emits `optKv k jo`: for `jo = none` the zero value of
    the field is already its canonical form; for `jo = some j` the iteration of the decoder's loop
    that meets `(k, j)` stores the canonical form. -/
theorem field_round (σ : Schema) (k : String) (τ : GoType) (v : Val) (hw : wf σ τ v = true)
    (ih : (∀ p, v ≠ .pos p) → RV σ v τ) :
    ∃ jo : Option J,
      (∀ fs, encodeFields σ ((k, v) :: fs) = (encodeFields σ fs).map (optKv k jo ++ ·)) ∧
      (jo = none → zero τ = canon v) ∧
      ∀ j, jo = some j → ∀ (ftys : List (String × GoType)) (rest : List (String × J))
        (acc : List (String × Val)), reservedKeys.contains k = false → isExportedName k = true →
        ftys.lookup k = some τ →
        decodeFields σ ftys ((k, j) :: rest) acc = decodeFields σ ftys rest (setField k (canon v) acc) := by
  by_cases hpos : ∃ p, v = .pos p
  · obtain ⟨p, rfl⟩ := hpos
    have hτ : τ = .pos := by cases τ <;> first | rfl | simp [wf, wfWith] at hw
    subst hτ
    simp only [wf, wfWith] at hw
    have henc : ∀ fs, encodeFields σ ((k, .pos p) :: fs) = (encodeFields σ fs).map (optKv k (encPos p) ++ ·) :=
      fun fs => by cases h : encodeFields σ fs <;> simp only [encodeFields, h, Option.map]
    cases hv : p.isValid with
    | false =>
      rw [encPos, hv, if_neg Bool.false_ne_true] at henc
      exact ⟨none, henc, fun _ => by simp only [zero, canon, dropPos_of_invalid p hw hv], nofun⟩
    | true =>
      obtain ⟨j, hj, hd⟩ := decodePos_encPos p (by simp only [posWF, Bool.and_eq_true] at hw; exact hw.1) hv
      refine ⟨some j, hj ▸ henc, nofun, ?_⟩
      rintro _ ⟨⟩ ftys rest acc hr he hl
      simp only [decodeFields, hr, he, hl, if_true, Bool.false_eq_true, if_false, hd, canon,
        dropPos_of_valid p hv]
  · have hnp : ∀ p, v ≠ .pos p := fun p e => hpos ⟨p, e⟩
    have hτ : τ ≠ .pos := by
      intro e; subst e; cases v <;> simp [wf, wfWith] at hw
      exact hnp _ rfl
    have henc : ∀ fs, encodeFields σ ((k, v) :: fs) =
        (match encodeValue σ v, encodeFields σ fs with
          | .res (some j) _, some kvs => some ((k, j) :: kvs)
          | .res none _, some kvs => some kvs
          | _, _ => none) := by
      intro fs
      cases v <;> first | exact absurd rfl (hnp _) | rfl
    rcases ih hnp with ⟨_, tn, he, hz⟩ | ⟨j, tn, he, hd⟩
    · exact ⟨none, fun fs => by rw [henc, he]; cases encodeFields σ fs <;> rfl, fun _ => hz, nofun⟩
    · refine ⟨some j, fun fs => by rw [henc, he]; cases encodeFields σ fs <;> rfl, nofun, ?_⟩
      rintro _ ⟨⟩ ftys rest acc hr hx hl
      simp only [decodeFields, hr, hx, hl, if_true, Bool.false_eq_true, if_false]
      cases τ <;> simp only [hd] <;> contradiction

theorem round_all (σ : Schema) :
    (∀ τ v, wf σ τ v = true → (∀ p, v ≠ .pos p) → RV σ v τ) ∧
    (∀ ε vs, wfElems σ ε vs = true → RE σ vs ε) ∧
    (∀ ftys fs, wfFields σ ftys fs = true → RF σ fs ftys) := by
  apply wfWith.mutual_induct σ
  case case1 => exact fun p _ hp => absurd rfl (hp p)  -- a position outside a struct field
  case case2 =>  -- bool
    intro b _ _
    cases b
    · exact .inl ⟨rfl, "", rfl, rfl⟩
    · exact .inr ⟨.bool true, "", rfl, rfl⟩
  case case3 =>  -- string
    intro s h _
    simp only [wf, wfWith, decide_eq_true_eq] at h
    cases s with
    | nil => exact .inl ⟨rfl, "", rfl, rfl⟩
    | cons b t => exact .inr ⟨.str (sanitize (b :: t)), "", rfl, by rw [h]; rfl⟩
  case case4 =>  -- unsigned number or operator
    intro b o b' o' n h _
    simp only [wf, wfWith, Bool.and_eq_true, Bool.or_eq_true, decide_eq_true_eq] at h
    obtain ⟨⟨⟨⟨rfl, rfl⟩, hbits⟩, hn⟩, hop⟩ := h
    by_cases hz : n = 0
    · subst hz
      exact .inl ⟨by simp [isNoValue], "", by simp only [encodeValue, hbits, if_true], rfl⟩
    · right
      cases o with
      | none =>
        refine ⟨.num n, "", by simp only [encodeValue, hbits, hz, if_true, if_false], ?_⟩
        have hle : n ≤ 4294967295 := by
          rcases hbits with e | e <;> rw [e] at hn <;> omega
        simp only [decodeValue, hbits, if_true, Option.isSome_none, Bool.false_eq_true, if_false,
          jsonUint_ofNat n hle, hn, canon]
      | some t =>
        simp only [hz, decide_false, Bool.false_or, decide_eq_true_eq] at hop
        exact ⟨.str (σ.tokStr n), "", by simp only [encodeValue, hbits, hz, if_true, if_false],
          by simp only [decodeValue, if_true, hop, canon]⟩
  case case5 => exact fun _ _ _ => .inl ⟨rfl, "", rfl, rfl⟩  -- nil pointer
  case case6 =>  -- pointer to a struct
    intro t name pe fs ih h _
    simp only [wf, wfWith, Bool.and_eq_true, decide_eq_true_eq] at h
    obtain ⟨⟨rfl, hn⟩, hw⟩ := h
    obtain ⟨kvs, henc, hty, hdec⟩ := struct_round σ name pe fs _ hn hw (ih hw)
    refine .inr ⟨.obj kvs, name, by rw [encodeValue, henc], ?_⟩
    simp only [decodeValue, typeName, hty, resolve, ne_eq, not_true_eq_false, if_false, hdec,
      wrapVal, canon]
  case case7 => exact fun _ _ _ => .inl ⟨rfl, "", rfl, rfl⟩  -- nil interface
  case case8 =>  -- interface holding a pointer to a node
    intro i name pe fs ih h _
    simp only [wf, wfWith, Bool.and_eq_true, decide_eq_true_eq] at h
    obtain ⟨⟨⟨⟨⟨hcont, himpl⟩, hne⟩, hrt⟩, hn⟩, hw⟩ := h
    obtain ⟨kvs, henc, _, hdec⟩ := struct_round σ name pe fs _ hn hw (ih hw)
    refine .inr ⟨.obj (("Type", .str (bytesOfName name)) :: kvs), "",
      by rw [encodeValue, encodeValue, henc]; simp only [hne, if_false], ?_⟩
    have hty : typeName (("Type", J.str (bytesOfName name)) :: kvs) = name := by
      simp [typeName, List.lookup, hrt]
    simp only [decodeValue, hty, resolve, ne_eq, hne, not_false_eq_true, if_true, hcont, Bool.not_true,
      Bool.false_eq_true, if_false, himpl, decodeFields_skip σ _ "Type" _ kvs _ (by decide), hdec,
      wrapVal, canon]
  case case9 => exact fun _ _ _ => .inl ⟨rfl, "", rfl, rfl⟩  -- nil slice
  case case10 =>  -- slice
    intro ε vs ih h _
    simp only [wf, wfWith] at h
    obtain ⟨js, henc, hlen, hdec⟩ := ih h
    cases vs with
    | nil => exact .inl ⟨rfl, "", rfl, rfl⟩
    | cons e es =>
      refine .inr ⟨.arr js, "", by simp [encodeValue, henc], ?_⟩
      simp only [decodeValue, hdec, canonL, canon]
  case case11 =>  -- struct by value
    intro name ftys name' pe fs ih h _
    simp only [wf, wfWith, Bool.and_eq_true, decide_eq_true_eq] at h
    obtain ⟨⟨rfl, hn⟩, hw⟩ := h
    obtain ⟨kvs, henc, hty, hdec⟩ := struct_round σ name pe fs ftys hn hw (ih hw)
    refine .inr ⟨.obj kvs, name, henc, ?_⟩
    simp only [decodeValue, typeName, hty, resolve, ne_eq, not_true_eq_false, if_false, hdec,
      wrapVal, canon]
  case case12 =>  -- any other pair is not well-formed
    intro v τ _ _ _ _ _ _ _ _ _ _ _ h
    rw [wf, wfWith] at h <;> first | contradiction | assumption
  case case13 => exact fun _ _ => ⟨[], rfl, rfl, rfl⟩  -- no element
  case case14 =>  -- an element and the rest
    intro ε v rest ihv ihr h
    simp only [wfElems, wfElemsWith, Bool.and_eq_true, Bool.not_eq_true'] at h
    obtain ⟨⟨⟨hwv, hnv⟩, hnp⟩, hwe⟩ := h
    obtain ⟨js, henc, hlen, hdec⟩ := ihr hwe
    rcases ihv hwv (fun p e => by subst e; cases hnp) with ⟨hn, _⟩ | ⟨j, tn, he, hd⟩
    · rw [hn] at hnv; contradiction
    · exact ⟨j :: js, by simp [encodeElems, he, henc], by simp [hlen],
        by simp only [decodeElems, hd, hdec, canonL]⟩
  case case15 =>  -- no field
    refine fun _ => ⟨[], rfl, by simp, ?_⟩
    intro allF preT preV rest _ _ _
    simp [zeroFields, canonF]
  case case16 =>  -- a field and the rest
    intro k τ ts k' v vs ihv ihf h
    simp only [wfFields, wfFieldsWith, Bool.and_eq_true, decide_eq_true_eq] at h
    obtain ⟨⟨rfl, hwv⟩, hwf⟩ := h
    obtain ⟨kvs, henc, hkeys, hdec⟩ := ihf hwf
    obtain ⟨jo, hencv, hnone, hsome⟩ := field_round σ k τ v hwv (ihv hwv)
    refine ⟨optKv k jo ++ kvs, by rw [hencv, henc]; rfl, ?_, ?_⟩
    · intro x hx
      simp only [List.mem_append] at hx
      simp only [List.map_cons, List.mem_cons]
      rcases hx with hx | hx
      · cases jo <;> simp [optKv] at hx
        exact .inl (by rw [hx])
      · exact .inr (hkeys x hx)
    · intro allF preT preV rest hall hpre hok
      -- what the remaining fields do once this field's slot holds `canon v`
      have tail := hdec allF (preT ++ [(k, τ)]) (preV ++ [(k, canon v)]) rest (by simp [hall])
        (by simp [hpre]) hok
      simp only [List.append_assoc, List.cons_append, List.nil_append] at tail
      cases jo with
      | none =>
        simp only [optKv, List.nil_append, zeroFields, canonF, hnone rfl]
        exact tail
      | some j =>
        have hmid : namesOK (preT.map (·.1) ++ k :: ts.map (·.1)) = true := by
          rw [hall] at hok; simpa using hok
        obtain ⟨hexp, hres, hnot⟩ := namesOK_mid _ _ _ hmid
        have hl : allF.lookup k = some τ := by rw [hall]; exact lookup_mid preT k τ ts hnot
        simp only [optKv, List.cons_append, List.nil_append, zeroFields, canonF]
        rw [hsome j rfl allF _ _ hres hexp hl, setField_mid preV k _ _ _ (hpre ▸ hnot)]
        exact tail
  case case17 =>  -- lists of different length are not well-formed
    intro fs ftys _ _ h
    rw [wfFields, wfFieldsWith] at h <;> first | contradiction | assumption

theorem roundV (σ : Schema) : ∀ (v : Val) (τ : GoType), wf σ τ v = true → (∀ p, v ≠ .pos p) → RV σ v τ :=
  fun v τ => (round_all σ).1 τ v

theorem roundF (σ : Schema) : ∀ (fs : List (String × Val)) (ftys : List (String × GoType)),
      wfFields σ ftys fs = true → RF σ fs ftys :=
  fun fs ftys => (round_all σ).2.2 ftys fs

theorem roundE (σ : Schema) : ∀ (vs : List Val) (ε : GoType), wfElems σ ε vs = true → RE σ vs ε :=
  fun vs ε => (round_all σ).2.1 ε vs

theorem round_root (σ : Schema) (v : Val) (h : wf σ (.iface "Node") (.iface v) = true) :
    ∃ j, encodeRoot σ v = .val j ∧ decodeRoot σ j = .ok (canon (.iface v)) := by
  rcases roundV σ (.iface v) (.iface "Node") h (fun _ e => nomatch e) with ⟨hn, _⟩ | ⟨j, tn, he, hd⟩
  · exact nomatch hn
  · refine ⟨j, by simp only [encodeRoot, he], ?_⟩
    simp only [decodeRoot, hd, canon]

mutual
  theorem canon_eq_dropRecovered : ∀ (v : Val), noEmptySlice v = true → canon v = dropRecovered v := by
    intro v h
    cases v with
    | ptr v => simp only [noEmptySlice] at h; simp only [canon, dropRecovered, canon_eq_dropRecovered v h]
    | iface v => simp only [noEmptySlice] at h; simp only [canon, dropRecovered, canon_eq_dropRecovered v h]
    | slice vs =>
      cases vs with
      | nil => simp [noEmptySlice] at h
      | cons e es =>
        simp only [noEmptySlice, Bool.and_eq_true] at h
        simp only [canon, dropRecovered, dropRecoveredL, canon_eq_dropRecovered e h.1,
          canonL_eq_dropRecoveredL es h.2]
    | struct name pe fs =>
      simp only [noEmptySlice] at h
      simp only [canon, dropRecovered, canonF_eq_dropRecoveredF fs h]
    | _ => rfl
  theorem canonL_eq_dropRecoveredL : ∀ (vs : List Val), noEmptySliceL vs = true → canonL vs = dropRecoveredL vs
    | [], _ => rfl
    | v :: vs, h => by
      simp only [noEmptySliceL, Bool.and_eq_true] at h
      simp only [canonL, dropRecoveredL, canon_eq_dropRecovered v h.1, canonL_eq_dropRecoveredL vs h.2]
  theorem canonF_eq_dropRecoveredF : ∀ (fs : List (String × Val)), noEmptySliceF fs = true →
      canonF fs = dropRecoveredF fs
    | [], _ => rfl
    | (k, v) :: fs, h => by
      simp only [noEmptySliceF, Bool.and_eq_true] at h
      simp only [canonF, dropRecoveredF, canon_eq_dropRecovered v h.1, canonF_eq_dropRecoveredF fs h.2]
end

mutual
  theorem forget_canon : ∀ (v : Val), forget (canon v) = canon v := by
    intro v
    cases v with
    | ptr v => simp only [canon, forget, forget_canon v]
    | iface v => simp only [canon, forget, forget_canon v]
    | slice vs =>
      cases vs with
      | nil => rfl
      | cons e es => simp only [canon, forget, forgetL, forget_canon e, forgetL_canonL es]
    | struct name pe fs => simp only [canon, forget, forgetF_canonF fs]
    | _ => rfl
  theorem forgetL_canonL : ∀ (vs : List Val), forgetL (canonL vs) = canonL vs
    | [] => rfl
    | v :: vs => by simp only [canonL, forgetL, forget_canon v, forgetL_canonL vs]
  theorem forgetF_canonF : ∀ (fs : List (String × Val)), forgetF (canonF fs) = canonF fs
    | [] => rfl
    | (k, v) :: fs => by simp only [canonF, forgetF, forget_canon v, forgetF_canonF fs]
end

mutual
  theorem canon_annotate (ann : Ann) : ∀ (v : Val), canon (annotate ann v) = canon v := by
    intro v
    cases v with
    | ptr v => simp only [canon, annotate, canon_annotate ann v]
    | iface v => simp only [canon, annotate, canon_annotate ann v]
    | slice vs =>
      cases vs with
      | nil => rfl
      | cons e es => simp only [canon, annotate, annotateL, canon_annotate ann e, canonL_annotateL ann es]
    | struct name pe fs => simp only [canon, annotate, canonF_annotateF ann fs]
    | _ => rfl
  theorem canonL_annotateL (ann : Ann) : ∀ (vs : List Val), canonL (annotateL ann vs) = canonL vs
    | [] => rfl
    | v :: vs => by simp only [canonL, annotateL, canon_annotate ann v, canonL_annotateL ann vs]
  theorem canonF_annotateF (ann : Ann) : ∀ (fs : List (String × Val)), canonF (annotateF ann fs) = canonF fs
    | [] => rfl
    | (k, v) :: fs => by simp only [canonF, annotateF, canon_annotate ann v, canonF_annotateF ann fs]
end

theorem annotateF_names (ann : Ann) : ∀ (fs : List (String × Val)), (annotateF ann fs).map (·.1) = fs.map (·.1)
  | [] => by simp only [annotateF, List.map_nil]
  | (k, v) :: fs => by simp only [annotateF, List.map_cons, annotateF_names ann fs]

theorem canonF_names : ∀ (fs : List (String × Val)), (canonF fs).map (·.1) = fs.map (·.1)
  | [] => by simp only [canonF, List.map_nil]
  | (k, v) :: fs => by simp only [canonF, List.map_cons, canonF_names fs]

theorem encPos_of_posKey (p q : Pos) (h : posKey p = posKey q) : encPos p = encPos q := by
  have e : ∀ p, encPos p = (posKey p).map fun k =>
      .obj [("Offset", .num k.1), ("Line", .num k.2.1), ("Col", .num k.2.2)] := by
    intro p; simp only [encPos, posKey]; split <;> rfl
  rw [e, e, h]

theorem peKvs_of_peKey : ∀ (a b : Option (Pos × Pos)), peKey a = peKey b → peKvs a = peKvs b
  | none, none, _ => rfl
  | some (p, e), some (p', e'), h => by
    simp only [peKey, Option.some.injEq, Prod.mk.injEq] at h
    simp only [peKvs, encPos_of_posKey p p' h.1, encPos_of_posKey e e' h.2]
  | none, some (_, _), h => nomatch h
  | some (_, _), none, h => nomatch h

theorem encPos_dropPos (p : Pos) : encPos (dropPos p) = encPos p := by
  simp only [dropPos]
  split
  · rename_i h
    rw [h]; rfl
  · rfl

mutual
  theorem encode_annotate_canon (σ : Schema) (ann : Ann) : ∀ (v : Val), peStable ann v →
      encodeValue σ (annotate ann (canon v)) = encodeValue σ (annotate ann v) := by
    intro v h
    cases v with
    | ptr v =>
      simp only [peStable] at h
      simp only [canon, annotate, encodeValue, encode_annotate_canon σ ann v h]
    | iface v =>
      simp only [peStable] at h
      simp only [canon, annotate, encodeValue, encode_annotate_canon σ ann v h]
    | slice vs =>
      cases vs with
      | nil => rfl
      | cons e es =>
        simp only [peStable, peStableL] at h
        simp only [canon, annotate, annotateL, encodeValue, List.isEmpty_cons, Bool.false_eq_true, if_false,
          encodeElems, encode_annotate_canon σ ann e h.1, encodeL_annotate_canon σ ann es h.2]
    | struct name pe fs =>
      simp only [peStable] at h
      simp only [canon, annotate, encodeValue, forgetF_canonF, annotateF_names, canonF_names,
        encodeF_annotate_canon σ ann fs h.2, peKvs_of_peKey _ _ h.1]
    | _ => rfl
  theorem encodeL_annotate_canon (σ : Schema) (ann : Ann) : ∀ (vs : List Val), peStableL ann vs →
      encodeElems σ (annotateL ann (canonL vs)) = encodeElems σ (annotateL ann vs)
    | [], _ => rfl
    | v :: vs, h => by
      simp only [peStableL] at h
      simp only [canonL, annotateL, encodeElems, encode_annotate_canon σ ann v h.1,
        encodeL_annotate_canon σ ann vs h.2]
  theorem encodeF_annotate_canon (σ : Schema) (ann : Ann) : ∀ (fs : List (String × Val)), peStableF ann fs →
      encodeFields σ (annotateF ann (canonF fs)) = encodeFields σ (annotateF ann fs)
    | [], _ => rfl
    | (k, v) :: fs, h => by
      simp only [peStableF] at h
      have ihv := encode_annotate_canon σ ann v h.1
      have ihf := encodeF_annotate_canon σ ann fs h.2
      -- `encodeFields` looks at the constructor of the value (a position is encoded in place)
      cases v with
      | pos p => simp only [canonF, canon, annotateF, annotate, encodeFields, ihf, encPos_dropPos]
      | slice vs =>
        cases vs <;>
          (simp only [canon, annotate, annotateL] at ihv
           simp only [canonF, canon, annotateF, annotate, annotateL, encodeFields, ihf, ihv])
      | ptr _ | iface _ | struct _ _ _ =>
        simp only [canon, annotate] at ihv
        simp only [canonF, canon, annotateF, annotate, encodeFields, ihf, ihv]
      | _ => simp only [canonF, canon, annotateF, annotate, encodeFields, ihf]
end

theorem reencode_root (σ : Schema) (ann : Ann) (t : Val) (hs : peStable ann t) :
    encodeRoot σ (annotate ann (canon t)) = encodeRoot σ (annotate ann t) := by
  have := encode_annotate_canon σ ann (.iface t) (by simpa only [peStable] using hs)
  simp only [canon, annotate] at this
  simp only [encodeRoot, this]

mutual
  theorem beqVal_refl : ∀ (v : Val), beqVal v v = true := by
    intro v
    cases v with
    | ptr v => simp only [beqVal, beqVal_refl v]
    | iface v => simp only [beqVal, beqVal_refl v]
    | slice vs => simp only [beqVal, beqValL_refl vs]
    | struct _ _ fs => simp [beqVal, beqValF_refl fs]
    | _ => simp [beqVal]
  theorem beqValL_refl : ∀ (vs : List Val), beqValL vs vs = true
    | [] => rfl
    | v :: vs => by simp [beqValL, beqVal_refl v, beqValL_refl vs]
  theorem beqValF_refl : ∀ (fs : List (String × Val)), beqValF fs fs = true
    | [] => rfl
    | (k, v) :: fs => by simp [beqValF, beqVal_refl v, beqValF_refl fs]
end

theorem ne_of_beqVal_false (a b : Val) (h : beqVal a b = false) : a ≠ b := by
  intro e; subst e; rw [beqVal_refl] at h; contradiction

mutual
  theorem beqJ_refl : ∀ (j : J), beqJ j j = true := by
    intro j
    cases j with
    | arr xs => simp only [beqJ, beqJL_refl xs]
    | obj kvs => simp only [beqJ, beqJK_refl kvs]
    | _ => simp [beqJ]
  theorem beqJL_refl : ∀ (xs : List J), beqJL xs xs = true
    | [] => rfl
    | x :: xs => by simp [beqJL, beqJ_refl x, beqJL_refl xs]
  theorem beqJK_refl : ∀ (kvs : List (String × J)), beqJK kvs kvs = true
    | [] => rfl
    | (k, x) :: kvs => by simp [beqJK, beqJ_refl x, beqJK_refl kvs]
end

theorem beqEnc_refl (e : Enc) : beqEnc e e = true := by
  cases e <;> simp [beqEnc, beqJ_refl]

mutual
  theorem canon_eq_forget : ∀ (v : Val), noRecovered v = true → noEmptySlice v = true → canon v = forget v := by
    intro v hr he
    cases v with
    | pos p =>
      simp only [noRecovered, decide_eq_true_eq] at hr
      simp only [canon, forget, dropPos, hr, if_false]
    | ptr v =>
      simp only [noRecovered] at hr; simp only [noEmptySlice] at he
      simp only [canon, forget, canon_eq_forget v hr he]
    | iface v =>
      simp only [noRecovered] at hr; simp only [noEmptySlice] at he
      simp only [canon, forget, canon_eq_forget v hr he]
    | slice vs =>
      cases vs with
      | nil => simp [noEmptySlice] at he
      | cons e es =>
        simp only [noRecovered, noRecoveredL, Bool.and_eq_true] at hr
        simp only [noEmptySlice, Bool.and_eq_true] at he
        simp only [canon, forget, forgetL, canon_eq_forget e hr.1 he.1, canonL_eq_forgetL es hr.2 he.2]
    | struct name pe fs =>
      simp only [noRecovered] at hr; simp only [noEmptySlice] at he
      simp only [canon, forget, canonF_eq_forgetF fs hr he]
    | _ => rfl
  theorem canonL_eq_forgetL : ∀ (vs : List Val), noRecoveredL vs = true → noEmptySliceL vs = true →
      canonL vs = forgetL vs
    | [], _, _ => rfl
    | v :: vs, hr, he => by
      simp only [noRecoveredL, Bool.and_eq_true] at hr
      simp only [noEmptySliceL, Bool.and_eq_true] at he
      simp only [canonL, forgetL, canon_eq_forget v hr.1 he.1, canonL_eq_forgetL vs hr.2 he.2]
  theorem canonF_eq_forgetF : ∀ (fs : List (String × Val)), noRecoveredF fs = true → noEmptySliceF fs = true →
      canonF fs = forgetF fs
    | [], _, _ => rfl
    | (k, v) :: fs, hr, he => by
      simp only [noRecoveredF, Bool.and_eq_true] at hr
      simp only [noEmptySliceF, Bool.and_eq_true] at he
      simp only [canonF, forgetF, canon_eq_forget v hr.1 he.1, canonF_eq_forgetF fs hr.2 he.2]
end

mutual
  theorem peStable_of_noRecovered (ann : Ann) : ∀ (v : Val), noRecovered v = true → noEmptySlice v = true →
      peStable ann v := by
    intro v hr he
    cases v with
    | ptr v =>
      simp only [noRecovered] at hr; simp only [noEmptySlice] at he
      simp only [peStable]; exact peStable_of_noRecovered ann v hr he
    | iface v =>
      simp only [noRecovered] at hr; simp only [noEmptySlice] at he
      simp only [peStable]; exact peStable_of_noRecovered ann v hr he
    | slice vs =>
      cases vs with
      | nil => simp [noEmptySlice] at he
      | cons e es =>
        simp only [noRecovered, noRecoveredL, Bool.and_eq_true] at hr
        simp only [noEmptySlice, Bool.and_eq_true] at he
        simp only [peStable, peStableL]
        exact ⟨peStable_of_noRecovered ann e hr.1 he.1, peStableL_of_noRecovered ann es hr.2 he.2⟩
    | struct name pe fs =>
      simp only [noRecovered] at hr; simp only [noEmptySlice] at he
      simp only [peStable]
      exact ⟨by rw [canonF_eq_forgetF fs hr he], peStableF_of_noRecovered ann fs hr he⟩
    | _ => simp only [peStable]
  theorem peStableL_of_noRecovered (ann : Ann) : ∀ (vs : List Val), noRecoveredL vs = true →
      noEmptySliceL vs = true → peStableL ann vs
    | [], _, _ => by simp only [peStableL]
    | v :: vs, hr, he => by
      simp only [noRecoveredL, Bool.and_eq_true] at hr
      simp only [noEmptySliceL, Bool.and_eq_true] at he
      simp only [peStableL]
      exact ⟨peStable_of_noRecovered ann v hr.1 he.1, peStableL_of_noRecovered ann vs hr.2 he.2⟩
  theorem peStableF_of_noRecovered (ann : Ann) : ∀ (fs : List (String × Val)), noRecoveredF fs = true →
      noEmptySliceF fs = true → peStableF ann fs
    | [], _, _ => by simp only [peStableF]
    | (k, v) :: fs, hr, he => by
      simp only [noRecoveredF, Bool.and_eq_true] at hr
      simp only [noEmptySliceF, Bool.and_eq_true] at he
      simp only [peStableF]
      exact ⟨peStable_of_noRecovered ann v hr.1 he.1, peStableF_of_noRecovered ann fs hr.2 he.2⟩
end

mutual
  theorem canon_eq_nilEmpty : ∀ (v : Val), noRecovered v = true → canon v = nilEmpty v := by
    intro v hr
    cases v with
    | pos p =>
      simp only [noRecovered, decide_eq_true_eq] at hr
      simp only [canon, nilEmpty, dropPos, hr, if_false]
    | ptr v =>
      simp only [noRecovered] at hr
      simp only [canon, nilEmpty, canon_eq_nilEmpty v hr]
    | iface v =>
      simp only [noRecovered] at hr
      simp only [canon, nilEmpty, canon_eq_nilEmpty v hr]
    | slice vs =>
      cases vs with
      | nil => rfl
      | cons e es =>
        simp only [noRecovered, noRecoveredL, Bool.and_eq_true] at hr
        simp only [canon, nilEmpty, canon_eq_nilEmpty e hr.1, canonL_eq_nilEmptyL es hr.2]
    | struct name pe fs =>
      simp only [noRecovered] at hr
      simp only [canon, nilEmpty, canonF_eq_nilEmptyF fs hr]
    | _ => rfl
  theorem canonL_eq_nilEmptyL : ∀ (vs : List Val), noRecoveredL vs = true → canonL vs = nilEmptyL vs
    | [], _ => rfl
    | v :: vs, hr => by
      simp only [noRecoveredL, Bool.and_eq_true] at hr
      simp only [canonL, nilEmptyL, canon_eq_nilEmpty v hr.1, canonL_eq_nilEmptyL vs hr.2]
  theorem canonF_eq_nilEmptyF : ∀ (fs : List (String × Val)), noRecoveredF fs = true →
      canonF fs = nilEmptyF fs
    | [], _ => rfl
    | (k, v) :: fs, hr => by
      simp only [noRecoveredF, Bool.and_eq_true] at hr
      simp only [canonF, nilEmptyF, canon_eq_nilEmpty v hr.1, canonF_eq_nilEmptyF fs hr.2]
end

mutual
  theorem peStable_of_blind (ann : Ann) (hb : annSliceBlind ann) : ∀ (v : Val), noRecovered v = true →
      peStable ann v := by
    intro v hr
    cases v with
    | ptr v =>
      simp only [noRecovered] at hr
      simp only [peStable]; exact peStable_of_blind ann hb v hr
    | iface v =>
      simp only [noRecovered] at hr
      simp only [peStable]; exact peStable_of_blind ann hb v hr
    | slice vs =>
      simp only [noRecovered] at hr
      simp only [peStable]; exact peStableL_of_blind ann hb vs hr
    | struct name pe fs =>
      simp only [noRecovered] at hr
      simp only [peStable]
      exact ⟨by rw [canonF_eq_nilEmptyF fs hr]; exact hb name fs, peStableF_of_blind ann hb fs hr⟩
    | _ => simp only [peStable]
  theorem peStableL_of_blind (ann : Ann) (hb : annSliceBlind ann) : ∀ (vs : List Val),
      noRecoveredL vs = true → peStableL ann vs
    | [], _ => by simp only [peStableL]
    | v :: vs, hr => by
      simp only [noRecoveredL, Bool.and_eq_true] at hr
      simp only [peStableL]
      exact ⟨peStable_of_blind ann hb v hr.1, peStableL_of_blind ann hb vs hr.2⟩
  theorem peStableF_of_blind (ann : Ann) (hb : annSliceBlind ann) : ∀ (fs : List (String × Val)),
      noRecoveredF fs = true → peStableF ann fs
    | [], _ => by simp only [peStableF]
    | (k, v) :: fs, hr => by
      simp only [noRecoveredF, Bool.and_eq_true] at hr
      simp only [peStableF]
      exact ⟨peStable_of_blind ann hb v hr.1, peStableF_of_blind ann hb fs hr.2⟩
end

/-- the stringer table `name`, already advanced to the first offset, cut at the offsets `index` -/
def segments : Str → List Nat → List Str
  | cur, a :: b :: rest => cur.take (b - a) :: segments (cur.drop (b - a)) (b :: rest)
  | _, _ => []

def segTok (name : Str) (index : List Nat) (n : Nat) : Str :=
  if n + 1 < index.length then (segments (name.drop (index.headD 0)) index).getD n []
  else [116, 111, 107, 101, 110, 40] ++ decimal n ++ [41]

theorem segments_getD (name : Str) : ∀ (index : List Nat) (n : Nat), sortedLE index = true →
    n + 1 < index.length →
    (segments (name.drop (index.headD 0)) index).getD n [] =
      (name.drop (index.getD n 0)).take (index.getD (n + 1) 0 - index.getD n 0)
  | a :: b :: rest, n, hs, hn => by
    simp only [sortedLE, Bool.and_eq_true, decide_eq_true_eq] at hs
    cases n with
    | zero => rfl
    | succ m =>
      have ih := segments_getD name (b :: rest) m hs.2 (by simpa using hn)
      simp only [List.headD_cons] at ih
      simp only [segments, List.headD_cons, List.getD_cons_succ, List.drop_drop, ih,
        show a + (b - a) = b by omega]
  | [_], _, _, hn => by simp at hn
  | [], _, _, hn => by simp at hn

theorem tokStrOf_eq_segTok (name : Str) (index : List Nat) (hs : sortedLE index = true) :
    tokStrOf name index = segTok name index := by
  funext n
  simp only [tokStrOf, segTok]
  split
  · rw [segments_getD name index n hs ‹_›]
  · rfl

/-- A schema built by `mkSchema` may read `token.String()` off the segments: `tokStrOf` slices the
    name table anew at every call, which is slow to evaluate for every constant of a table. -/
theorem mkSchema_segTok (structs : List (String × List (String × GoType)))
    (nodeByName : List (String × String)) (impls : List (String × List String)) (name : Str)
    (index : List Nat) (tables : List (String × List (Str × String)))
    (consts : List (String × List (String × Nat))) (hs : sortedLE index = true) :
    mkSchema structs nodeByName impls name index tables consts =
      { mkSchema structs nodeByName impls name index tables consts with tokStr := segTok name index } := by
  simp only [mkSchema, tokStrOf_eq_segTok name index hs]

/-- `UnmarshalText` is a left inverse of `String()` on the constants of each operator type, so
    `String()` is injective there. -/
theorem opInjective_of_roundTrip (σ : Schema) (consts : List (String × List (String × Nat)))
    (h : opRoundTrip σ consts = true) : opInjective σ consts = true := by
  simp only [opRoundTrip, opInjective, List.all_eq_true, Bool.and_eq_true, decide_eq_true_eq] at h ⊢
  intro tc htc cv hv cw hw e
  have hv' := (h tc htc cv hv).2
  have hw' := (h tc htc cw hw).2
  rw [e, hw'] at hv'
  exact (Option.some.inj hv').symm

end ShVerif.C15
