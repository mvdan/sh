import ShVerif.Model.C05
/-
  C05: relations between printer states and what the primitives of the model do to them.
  `Same`: the ghost part is untouched (line bookkeeping).  `Keeps`: the ghost list
  `acc = emitted ++ pending` and the two counters are unchanged (flushing).  Three things are
  claimed of a piece of printing: `Step` (the comments `cs` are handed over unless a lossy branch is
  taken), `MStep` (Minify) and `LStep` (no lossy branch).
-/
namespace ShVerif.C05

theorem ite_cases {α} {P : α → Prop} {c : Prop} [Decidable c] {a b : α} (h1 : c → P a) (h2 : ¬c → P b) :
    P (if c then a else b) := by
  split
  · exact h1 ‹_›
  · exact h2 ‹_›

theorem foldl_rel {α} {R : St → St → Prop} (refl : ∀ σ, R σ σ)
    (trans : ∀ {a b c}, R a b → R b c → R a c) (f : St → α → St) (h : ∀ σ x, R σ (f σ x))
    (xs : List α) (σ : St) : R σ (xs.foldl f σ) := by
  induction xs generalizing σ with
  | nil => exact refl σ
  | cons x xs ih => exact trans (h σ x) (ih _)

@[simp] theorem advLine_emitted (l σ) : (advLine l σ).emitted = σ.emitted := rfl
@[simp] theorem advLine_pending (l σ) : (advLine l σ).pending = σ.pending := rfl
@[simp] theorem advLine_lossD (l σ) : (advLine l σ).lossD = σ.lossD := rfl
@[simp] theorem advLine_inlineN (l σ) : (advLine l σ).inlineN = σ.inlineN := rfl
@[simp] theorem advLine_hdocs (l σ) : (advLine l σ).hdocs = σ.hdocs := rfl
@[simp] theorem bslashNewl_emitted (σ) : (bslashNewl σ).emitted = σ.emitted := rfl
@[simp] theorem bslashNewl_pending (σ) : (bslashNewl σ).pending = σ.pending := rfl
@[simp] theorem bslashNewl_lossD (σ) : (bslashNewl σ).lossD = σ.lossD := rfl
@[simp] theorem bslashNewl_inlineN (σ) : (bslashNewl σ).inlineN = σ.inlineN := rfl

structure Same (σ τ : St) : Prop where
  emitted : τ.emitted = σ.emitted
  pending : τ.pending = σ.pending
  lossD : τ.lossD = σ.lossD
  inlineN : τ.inlineN = σ.inlineN

theorem Same.refl (σ : St) : Same σ σ := ⟨rfl, rfl, rfl, rfl⟩
theorem Same.trans {a b c : St} (h1 : Same a b) (h2 : Same b c) : Same a c :=
  ⟨h2.emitted.trans h1.emitted, h2.pending.trans h1.pending, h2.lossD.trans h1.lossD,
   h2.inlineN.trans h1.inlineN⟩

theorem Same.ite {σ a b : St} (c : Prop) [Decidable c] (h1 : Same σ a) (h2 : Same σ b) :
    Same σ (if c then a else b) := ite_cases (fun _ => h1) (fun _ => h2)

theorem runL_same (o x σ) : Same σ (runL o x σ) := by
  cases x with
  | adv l => exact ⟨rfl, rfl, rfl, rfl⟩
  | bsl l => exact Same.ite _ ⟨rfl, rfl, rfl, rfl⟩ (Same.refl σ)
  | qnl l => exact Same.ite _ ⟨rfl, rfl, rfl, rfl⟩ (Same.refl σ)

theorem runLs_same (o xs σ) : Same σ (runLs o xs σ) :=
  foldl_rel Same.refl Same.trans _ (fun σ x => runL_same o x σ) xs σ

theorem runHdoc_same (o σ h) : Same σ (runHdoc o σ h) :=
  (((show Same σ { σ with line := σ.line + 1, wantNewline := false, mustNewline := false } from
        ⟨rfl, rfl, rfl, rfl⟩).trans
      (Same.ite _ (Same.refl _) (Same.ite _ (runLs_same o h.body _) (Same.refl _)))).trans
    (runLs_same o h.wordU _)).trans (Same.ite _ ⟨rfl, rfl, rfl, rfl⟩ (Same.refl _))

theorem hdocBodies_same (o hs σ) : Same σ (hdocBodies o hs σ) :=
  foldl_rel Same.refl Same.trans _ (runHdoc_same o) hs σ

theorem emitComs_frame {α} (f : St → α)
    (hf : ∀ (σ : St) (c : Com),
      f { σ with firstLine := false, line := max σ.line c.pos.line, emitted := σ.emitted ++ [c],
                 wantNewline := true, mustNewline := true } = f σ)
    (cs : List Com) (σ : St) : f (emitComs cs σ) = f σ := by
  unfold emitComs
  induction cs generalizing σ with
  | nil => rfl
  | cons c cs ih => exact (ih _).trans (hf σ c)

theorem emitComs_pending (cs σ) : (emitComs cs σ).pending = σ.pending :=
  emitComs_frame (·.pending) (fun _ _ => rfl) cs σ

theorem emitComs_lossD (cs σ) : (emitComs cs σ).lossD = σ.lossD :=
  emitComs_frame (·.lossD) (fun _ _ => rfl) cs σ

theorem emitComs_inlineN (cs σ) : (emitComs cs σ).inlineN = σ.inlineN :=
  emitComs_frame (·.inlineN) (fun _ _ => rfl) cs σ

theorem emitComs_hdocs (cs σ) : (emitComs cs σ).hdocs = σ.hdocs :=
  emitComs_frame (·.hdocs) (fun _ _ => rfl) cs σ

theorem emitComs_emitted (cs σ) : (emitComs cs σ).emitted = σ.emitted ++ cs := by
  unfold emitComs
  induction cs generalizing σ with
  | nil => exact (List.append_nil _).symm
  | cons c cs ih => exact (ih _).trans (List.append_assoc _ _ _)

structure Keeps (σ τ : St) : Prop where
  acc : τ.acc = σ.acc
  lossD : τ.lossD = σ.lossD
  inlineN : τ.inlineN = σ.inlineN
  pnil : σ.pending = [] → τ.pending = []

theorem Keeps.refl (σ : St) : Keeps σ σ := ⟨rfl, rfl, rfl, id⟩
theorem Keeps.trans {a b c : St} (h1 : Keeps a b) (h2 : Keeps b c) : Keeps a c :=
  ⟨h2.acc.trans h1.acc, h2.lossD.trans h1.lossD, h2.inlineN.trans h1.inlineN, fun h => h2.pnil (h1.pnil h)⟩
theorem Same.keeps {σ τ : St} (h : Same σ τ) : Keeps σ τ :=
  ⟨by rw [St.acc, St.acc, h.emitted, h.pending], h.lossD, h.inlineN, fun hp => h.pending.trans hp⟩
theorem Keeps.ite {σ a b : St} (c : Prop) [Decidable c] (h1 : Keeps σ a) (h2 : Keeps σ b) :
    Keeps σ (if c then a else b) := ite_cases (fun _ => h1) (fun _ => h2)

theorem Keeps.frame {σ τ : St} (he : τ.emitted = σ.emitted := by rfl) (hp : τ.pending = σ.pending := by rfl)
    (hl : τ.lossD = σ.lossD := by rfl) (hi : τ.inlineN = σ.inlineN := by rfl) : Keeps σ τ :=
  Same.keeps ⟨he, hp, hl, hi⟩

theorem Keeps.optional {σ a : St} (c : Prop) [Decidable c] (h : Keeps σ a) : Keeps σ (if c then a else σ) :=
  Keeps.ite c h (Keeps.refl σ)

theorem advLine_keeps (l σ) : Keeps σ (advLine l σ) := Keeps.frame
theorem bslashNewl_keeps (σ) : Keeps σ (bslashNewl σ) := Keeps.frame

/-- the shape of `flushHeredocs`' result: the bodies are printed from a state `τ` that has written
    some of the pending comments, the others (`rest`) are queued again -/
theorem keeps_of_bodies {σ τ : St} (o hs) (rest : List Com) (ha : τ.emitted ++ rest = σ.acc)
    (hl : τ.lossD = σ.lossD) (hi : τ.inlineN = σ.inlineN) (hn : σ.pending = [] → rest = []) :
    Keeps σ { hdocBodies o hs τ with pending := rest, mustNewline := true } :=
  have s := hdocBodies_same o hs τ
  ⟨(congrArg (· ++ rest) s.emitted).trans ha, s.lossD.trans hl, s.inlineN.trans hi, hn⟩

theorem flushHeredocs_keeps (o σ) : Keeps σ (flushHeredocs o σ) := by
  unfold flushHeredocs
  split
  · exact Keeps.refl σ
  · rename_i h hs _
    cases hp : σ.pending with
    | nil => exact keeps_of_bodies o _ [] (by rw [St.acc, hp]) rfl rfl (fun _ => rfl)
    | cons c rest =>
      have hn {r : List Com} (h0 : σ.pending = []) : r = [] := nomatch hp.symm.trans h0
      refine Keeps.ite _ (keeps_of_bodies o _ rest ?_ rfl rfl hn) (keeps_of_bodies o _ (c :: rest) ?_ rfl rfl hn)
      · rw [St.acc, hp]; exact List.append_assoc _ _ _
      · rw [St.acc, hp]

theorem flushComments_pending (o σ) : (flushComments o σ).pending = [] := rfl

theorem flushComments_keeps (o σ) : Keeps σ (flushComments o σ) := by
  unfold flushComments
  have h1 : Keeps σ (if σ.pending.isEmpty = true then σ else flushHeredocs o σ) :=
    Keeps.ite _ (Keeps.refl σ) (flushHeredocs_keeps o σ)
  refine h1.trans ?_
  generalize (if σ.pending.isEmpty = true then σ else flushHeredocs o σ) = τ
  exact ⟨by simp [St.acc, emitComs_emitted], emitComs_lossD _ _, emitComs_inlineN _ _, fun _ => rfl⟩

theorem newline_keeps (o p σ) : Keeps σ (newline o p σ) :=
  ((flushHeredocs_keeps o σ).trans (flushComments_keeps o _)).trans Keeps.frame

theorem newlines_keeps (o p σ) : Keeps σ (newlines o p σ) :=
  Keeps.ite _ Keeps.frame (Keeps.ite _ (Keeps.refl σ) (newline_keeps o p σ))

theorem semiRsrv_keeps (o p σ) : Keeps σ (semiRsrv o p σ) :=
  Keeps.ite _ (newlines_keeps o p σ) (Keeps.refl σ)

theorem semiOrNewl_keeps (o p σ) : Keeps σ (semiOrNewl o p σ) :=
  Keeps.ite _ (newline_keeps o p σ) Keeps.frame

theorem rightParen_keeps (o p σ) : Keeps σ (rightParen o p σ) :=
  Keeps.ite _ (newlines_keeps o p σ) (Keeps.refl σ)

theorem nestedPre_keeps (n e c σ) : Keeps σ (nestedPre n e c σ) :=
  Keeps.ite _ Keeps.frame (Keeps.ite _ Keeps.frame (Keeps.ite _ Keeps.frame (Keeps.refl σ)))

theorem nestedPost_keeps (o c σ) : Keeps σ (nestedPost o c σ) :=
  Keeps.ite _ (flushComments_keeps o σ) (Keeps.refl σ)

/-- `τ` is reached from `σ`; the lossy-branch counter never decreases, and if it did not
    increase, exactly the comments `cs` were appended to `acc`. -/
def Step (σ τ : St) (cs : List Com) : Prop :=
  σ.lossD ≤ τ.lossD ∧ (τ.lossD = σ.lossD → τ.acc = σ.acc ++ cs)

theorem Step.refl (σ : St) : Step σ σ [] := ⟨Nat.le_refl _, fun _ => (List.append_nil _).symm⟩

theorem Step.andThen {a b c : St} {cs1 cs2 : List Com} (h1 : Step a b cs1) (h2 : Step b c cs2) :
    Step a c (cs1 ++ cs2) := by
  refine ⟨Nat.le_trans h1.1 h2.1, fun h => ?_⟩
  have hb : b.lossD = a.lossD := Nat.le_antisymm (h ▸ h2.1) h1.1
  rw [h2.2 (h.trans hb.symm), h1.2 hb, List.append_assoc]

theorem Keeps.step {σ τ : St} (h : Keeps σ τ) : Step σ τ [] :=
  ⟨Nat.le_of_eq h.lossD.symm, fun _ => h.acc.trans (List.append_nil _).symm⟩

theorem Step.ite {σ a b : St} {cs : List Com} (c : Prop) [Decidable c]
    (h1 : c → Step σ a cs) (h2 : ¬c → Step σ b cs) : Step σ (if c then a else b) cs :=
  ite_cases (P := fun τ => Step σ τ cs) h1 h2

theorem Step.idIte {σ a : St} (c : Prop) [Decidable c] (h : Step σ a []) :
    Step σ (if c then σ else a) [] :=
  Step.ite c (fun _ => Step.refl σ) (fun _ => h)

theorem Step.bump (σ : St) (cs : List Com) : Step σ { σ with lossD := σ.lossD + 1 } cs :=
  ⟨Nat.le_succ _, fun h => absurd h (Nat.succ_ne_self _)⟩

/-- once the lossy counter has gone up, any claim about the comments holds vacuously -/
theorem Step.ofLt {a b c d : St} {cs1 cs2 : List Com} (cs : List Com) (h1 : Step a b cs1)
    (h : b.lossD < c.lossD) (h2 : Step c d cs2) : Step a d cs :=
  have hlt : a.lossD < d.lossD := Nat.lt_of_lt_of_le (Nat.lt_of_le_of_lt h1.1 h) h2.1
  ⟨Nat.le_of_lt hlt, fun e => absurd e (Nat.ne_of_gt hlt)⟩

theorem comments_step (o : Opts) (hm : o.minify = false) (cs σ) : Step σ (comments o cs σ) cs := by
  unfold comments
  rw [hm, if_neg Bool.false_ne_true]
  exact ⟨Nat.le_refl _, fun _ => (List.append_assoc _ _ _).symm⟩

theorem emitInline_step (c : Com) (σ : St) : Step σ (emitInline c σ) [c] := by
  unfold emitInline
  cases hp : σ.pending with
  | nil => exact ⟨Nat.le_refl _, fun _ => by simp [St.acc, hp]⟩
  | cons d ds => exact ⟨Nat.le_succ _, fun h => absurd h (Nat.succ_ne_self _)⟩

theorem inlineCand_some {o : Opts} {noStmts : Bool} {last : List Com} {right : Pos} {σ : St} {c : Com}
    (h : inlineCand o noStmts last right σ = some c) : noStmts = true ∧ last = [c] ∧ o.minify = false := by
  unfold inlineCand at h
  split at h
  · split at h
    · rename_i h1
      simp only [Bool.and_eq_true, Bool.not_eq_true'] at h1
      simp only [Option.some.injEq] at h
      exact ⟨h1.1.1, by rw [h], h1.1.2⟩
    · cases h
  · cases h

/-- `τ` is reached from `σ`: if nothing was pending, nothing is pending and every newly written
    comment is a 1:1 shebang (written by `comments`; the inline backquote comment branch of
    `cmdSubst` is disabled by Minify). -/
def MStep (σ τ : St) : Prop :=
  σ.pending = [] → τ.pending = [] ∧ ∀ c ∈ τ.emitted, c ∈ σ.emitted ∨ shebangAt11 c = true

theorem MStep.refl (σ : St) : MStep σ σ := fun h => ⟨h, fun _ hc => Or.inl hc⟩

theorem MStep.andThen {a b c : St} (h1 : MStep a b) (h2 : MStep b c) : MStep a c := by
  intro hp
  obtain ⟨p1, e1⟩ := h1 hp
  obtain ⟨p2, e2⟩ := h2 p1
  exact ⟨p2, fun x hx => (e2 x hx).elim (e1 x) Or.inr⟩

theorem Keeps.mstep {σ τ : St} (h : Keeps σ τ) : MStep σ τ := by
  refine fun hp => ⟨h.pnil hp, fun c hc => Or.inl ?_⟩
  have := h.acc
  rw [St.acc, St.acc, hp, h.pnil hp, List.append_nil, List.append_nil] at this
  rwa [this] at hc

theorem comments_mstep (o : Opts) (hm : o.minify = true) (cs σ) : MStep σ (comments o cs σ) := by
  unfold comments
  rw [hm, if_pos rfl]
  refine foldl_rel MStep.refl MStep.andThen _ (fun σ c => ?_) cs σ
  refine ite_cases (P := MStep σ) (fun hs hp => ⟨hp, fun x hx => ?_⟩) (fun _ => MStep.refl σ)
  rcases List.mem_append.1 hx with h | h
  · exact Or.inl h
  · exact Or.inr (List.mem_singleton.1 h ▸ hs)

def LStep (σ τ : St) : Prop := τ.lossD = σ.lossD

theorem LStep.refl (σ : St) : LStep σ σ := rfl
theorem LStep.andThen {a b c : St} (h1 : LStep a b) (h2 : LStep b c) : LStep a c := h2.trans h1
theorem Keeps.lstep {σ τ : St} (h : Keeps σ τ) : LStep σ τ := h.lossD
theorem Same.lstep {σ τ : St} (h : Same σ τ) : LStep σ τ := h.lossD

theorem comments_lstep (o : Opts) (cs σ) : LStep σ (comments o cs σ) := by
  unfold comments
  refine ite_cases (P := LStep σ) (fun _ => ?_) (fun _ => rfl)
  refine foldl_rel LStep.refl LStep.andThen _ (fun σ c => ?_) cs σ
  exact ite_cases (P := LStep σ) (fun _ => rfl) (fun _ => rfl)

theorem onlyLast_cons {p : Com → Bool} {c d : Com} {rest : List Com} (h : onlyLast p (c :: d :: rest) = true) :
    p c = false ∧ onlyLast p (d :: rest) = true := by
  rw [onlyLast, Bool.and_eq_true, Bool.not_eq_true'] at h; exact h

theorem onlyLast_split (p : Com → Bool) :
    ∀ cs : List Com, onlyLast p cs = true → cs.filter (fun c => !p c) ++ cs.filter p = cs
  | [], _ => rfl
  | [c], _ => by cases h : p c <;> simp [h]
  | c :: d :: rest, hw => by
    obtain ⟨h, hw⟩ := onlyLast_cons hw
    have ih := onlyLast_split p (d :: rest) hw
    simp only [List.filter_cons, h, Bool.not_false, ↓reduceIte, Bool.false_eq_true] at ih ⊢
    simpa using ih

theorem classifyP_of_onlyLast (pe pa : Com → Bool) :
    ∀ cs : List Com, onlyLast pe cs = true →
      classifyP pe pa cs =
        (cs.filter (fun c => !pe c && !pa c), cs.filter (fun c => !pe c && pa c), cs.filter pe, [])
  | [], _ => rfl
  | [c], _ => by
    cases h : pe c <;> cases h2 : pa c <;> simp [classifyP, h, h2]
  | c :: d :: rest, hw => by
    obtain ⟨h, hw⟩ := onlyLast_cons hw
    rw [classifyP, if_neg (by rw [h]; exact Bool.false_ne_true), classifyP_of_onlyLast pe pa (d :: rest) hw]
    cases h2 : pa c <;> simp [h, h2, List.filter_cons]

theorem classify_of_onlyLast (pos cmdEnd : Pos) (hasCmd : Bool) (cs : List Com)
    (hw : onlyLast (isEndCom cmdEnd hasCmd) cs = true) :
    classify pos cmdEnd hasCmd cs =
      (beforeOf pos cmdEnd hasCmd cs, midOf pos cmdEnd hasCmd cs, endOf cmdEnd hasCmd cs, []) := by
  unfold classify beforeOf midOf endOf
  exact classifyP_of_onlyLast _ _ cs hw

theorem splitLeft_of_onlyLast (pos : Pos) :
    ∀ cs : List Com, onlyLast (fun c => c.pos.after pos) cs = true →
      splitLeft pos cs = (cs.filter (fun c => !c.pos.after pos), cs.filter (fun c => c.pos.after pos), [])
  | [], _ => rfl
  | [c], _ => by
    by_cases h : c.pos.after pos = true <;> simp [splitLeft, h]
  | c :: d :: rest, hw => by
    obtain ⟨h, hw⟩ := onlyLast_cons hw
    rw [splitLeft, if_neg (by rw [h]; exact Bool.false_ne_true), splitLeft_of_onlyLast pos (d :: rest) hw]
    simp [List.filter_cons, h]

theorem splitCase_of_monotone (pos : Pos) :
    ∀ cs : List Com, monotoneP (fun c => c.pos.after pos) cs = true →
      splitCase pos cs = (cs.filter (fun c => !c.pos.after pos), cs.filter (fun c => c.pos.after pos))
  | [], _ => rfl
  | c :: rest, hw => by
    simp only [monotoneP, Bool.and_eq_true] at hw
    rw [splitCase]
    by_cases h : c.pos.after pos = true
    · have hall : rest.all (fun c => c.pos.after pos) = true := by simpa [h] using hw.1
      have e1 : rest.filter (fun c => !c.pos.after pos) = [] := by
        rw [List.filter_eq_nil_iff]
        intro a ha
        have := List.all_eq_true.mp hall a ha
        simp [this]
      have e2 : rest.filter (fun c => c.pos.after pos) = rest := by
        rw [List.filter_eq_self]
        intro a ha
        exact List.all_eq_true.mp hall a ha
      simp [h, e1, e2]
    · have ih := splitCase_of_monotone pos rest hw.2
      simp [h, ih]

end ShVerif.C05
