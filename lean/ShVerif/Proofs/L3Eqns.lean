import ShVerif.Model.L3Glob
/-
  L3 — the defining equations of the model's recursive functions, one per shape of the input, so
  that proofs rewrite with the case they are in and never unfold a whole function body.  `afterLo`
  and `suppAfterLo` name what `scanItems` and `brSupported` do after the first character of an
  element, which is the same in several of their cases; `bodyOf` and `sbOfRes` name the two ends of
  `scanBracket` around its call of `scanItems`.
-/
namespace ShVerif.L3

theorem next_cons (m : Mode) (total fuel : Nat) (prev c : Rune) (rest : Str) :
    next m total (fuel + 1) prev (c :: rest) =
      if m.ext && isExtOp c && rest.head? == some cLP then
        let start := total - (rest.length + 1)
        match group m total fuel cLP rest.tail with
        | .closed alts rest' =>
          if c = cBang then .neg start (total - rest'.length) cRP rest'
          else .tok (wrapOp c (.grp (altsRegex alts))) cRP rest'
        | .unterminated alts =>
          if c = cBang then .neg start total 0 []
          else .tok (wrapOp c (.ugrp (altsRegex alts))) 0 []
        | .err e => .err e
        | .neg s e p r => .neg s e p r
      else if c = cStar then
        if !m.filenames then .tok (.star .any) c rest
        else
          let singleBefore := prev == 0 || prev == cSlash
          match rest with
          | c2 :: rest2 =>
            if c2 = cStar then
              let singleAfter := rest2.isEmpty || rest2.head? == some cSlash
              if !m.noglobstar && singleBefore && singleAfter then
                let body := if !m.dotglob then globStarRe else .star .any
                match rest2 with
                | _ :: rest3 => .tok (.opt (.grp (.cat body (.chr cSlash)))) cSlash rest3
                | [] => .tok body c []
              else .tok (singleStar m singleBefore) c rest2
            else .tok (singleStar m singleBefore) c rest
          | [] => .tok (singleStar m singleBefore) c rest
      else if c = cQuest then
        .tok (if m.filenames then notSlash else .any) c rest
      else if c = cBS then
        match rest with
        | [] => .err .trailingBackslash
        | d :: rest' => .tok (.chr d) d rest'
      else if c = cLB then
        match bracket m.filenames rest with
        | .literal => .tok (.chr cLB) cLB rest
        | .err e => .err e
        | .closed neg st rest' =>
          if st.hasSlash then
            .tok (seqRegex ((cLB :: rest.take (rest.length - rest'.length)).map .chr)) cRB rest'
          else match st.deferred with
            | some e => .err e
            | none => .tok (.set neg st.items) cRB rest'
      else .tok (.chr c) c rest := by
  conv => lhs; rw [next.eq_def]
  all_goals rfl

theorem next_nil (m : Mode) (total fuel : Nat) (prev : Rune) : next m total (fuel + 1) prev [] = .eof := by
  conv => lhs; rw [next.eq_def]

theorem not_group {m : Mode} {c : Rune} (rest : Str) (h : isExtOp c = false) :
    ¬ (m.ext && isExtOp c && rest.head? == some cLP) = true := by
  rw [h, Bool.and_false, Bool.false_and]; exact Bool.false_ne_true

theorem next_bs_nil (m : Mode) (total f : Nat) (prev : Rune) :
    next m total (f + 1) prev [cBS] = .err .trailingBackslash := by
  rw [next_cons, if_neg (not_group _ rfl), if_neg (by decide), if_neg (by decide), if_pos rfl]

theorem next_bs (m : Mode) (total f : Nat) (prev d : Rune) (rest : Str) :
    next m total (f + 1) prev (cBS :: d :: rest) = .tok (.chr d) d rest := by
  rw [next_cons, if_neg (not_group _ rfl), if_neg (by decide), if_neg (by decide), if_pos rfl]

theorem next_quest (m : Mode) (total f : Nat) (prev : Rune) {rest : Str}
    (hg : (m.ext && isExtOp cQuest && rest.head? == some cLP) = false) :
    next m total (f + 1) prev (cQuest :: rest) = .tok (if m.filenames then notSlash else .any) cQuest rest := by
  rw [next_cons, if_neg (ne_true_of_eq_false hg), if_neg (by decide), if_pos rfl]

theorem next_star_nofn (m : Mode) (total f : Nat) (prev : Rune) {rest : Str}
    (hg : (m.ext && isExtOp cStar && rest.head? == some cLP) = false) (hnf : m.filenames = false) :
    next m total (f + 1) prev (cStar :: rest) = .tok (.star .any) cStar rest := by
  rw [next_cons, if_neg (ne_true_of_eq_false hg), if_pos rfl, hnf]
  rfl

/-- In filename mode with NoGlobStar a `*` swallows a second `*`. -/
theorem next_star_fn (m : Mode) (total f : Nat) (prev : Rune) {rest : Str}
    (hg : (m.ext && isExtOp cStar && rest.head? == some cLP) = false) (hf : m.filenames = true)
    (hns : m.noglobstar = true) :
    next m total (f + 1) prev (cStar :: rest) =
      .tok (singleStar m (prev == 0 || prev == cSlash)) cStar
        (match (generalizing := false) rest with
         | c2 :: rest2 => if c2 = cStar then rest2 else rest
         | [] => []) := by
  rw [next_cons, if_neg (ne_true_of_eq_false hg), if_pos rfl, hf, hns]
  cases rest with
  | nil => rfl
  | cons c2 rest2 =>
    by_cases h : c2 = cStar
    · subst h; rfl
    · simp only [Bool.not_true, Bool.false_eq_true, if_false, h]

theorem next_lb (m : Mode) (total f : Nat) (prev : Rune) (rest : Str) :
    next m total (f + 1) prev (cLB :: rest) =
      match bracket m.filenames rest with
      | .literal => .tok (.chr cLB) cLB rest
      | .err e => .err e
      | .closed neg st rest' =>
        if st.hasSlash then
          .tok (seqRegex ((cLB :: rest.take (rest.length - rest'.length)).map .chr)) cRB rest'
        else match st.deferred with
          | some e => .err e
          | none => .tok (.set neg st.items) cRB rest' := by
  rw [next_cons, if_neg (not_group _ rfl), if_neg (by decide), if_neg (by decide), if_neg (by decide),
    if_pos rfl]

theorem next_group (m : Mode) (total f : Nat) (prev : Rune) {c : Rune} {rest : Str}
    (hg : (m.ext && isExtOp c && rest.head? == some cLP) = true) :
    next m total (f + 1) prev (c :: rest) =
      match group m total f cLP rest.tail with
      | .closed alts rest' =>
        if c = cBang then .neg (total - (rest.length + 1)) (total - rest'.length) cRP rest'
        else .tok (wrapOp c (.grp (altsRegex alts))) cRP rest'
      | .unterminated alts =>
        if c = cBang then .neg (total - (rest.length + 1)) total 0 []
        else .tok (wrapOp c (.ugrp (altsRegex alts))) 0 []
      | .err e => .err e
      | .neg s e p r => .neg s e p r := by
  rw [next_cons, if_pos hg]

theorem next_lit (m : Mode) (total f : Nat) (prev : Rune) {c : Rune} {rest : Str} (hbs : c ≠ cBS)
    (hq : c ≠ cQuest) (hst : c ≠ cStar) (hlb : c ≠ cLB)
    (hg : (m.ext && isExtOp c && rest.head? == some cLP) = false) :
    next m total (f + 1) prev (c :: rest) = .tok (.chr c) c rest := by
  rw [next_cons, if_neg (ne_true_of_eq_false hg), if_neg hst, if_neg hq, if_neg hbs, if_neg hlb]

theorem group_cons (m : Mode) (total fuel : Nat) (prev c : Rune) (rest : Str) :
    group m total (fuel + 1) prev (c :: rest) =
      if c = cRP then .closed [[]] rest
      else if c = cBar then
        match group m total fuel cBar rest with
        | .closed alts r => .closed ([] :: alts) r
        | .unterminated alts => .unterminated ([] :: alts)
        | o => o
      else
        match next m total fuel prev (c :: rest) with
        | .eof => .unterminated [[]]
        | .err e => .err e
        | .neg s e p r => .neg s e p r
        | .tok r p' rest' =>
          match group m total fuel p' rest' with
          | .closed alts r' => .closed (consAlt r alts) r'
          | .unterminated alts => .unterminated (consAlt r alts)
          | o => o := by
  conv => lhs; rw [group.eq_def]
  all_goals rfl

theorem topLoop_succ (m : Mode) (total fuel : Nat) (prev : Rune) (rest : Str) :
    topLoop m total (fuel + 1) prev rest =
      match next m total (2 * total + 4) prev rest with
      | .eof => .ok (.eps, [])
      | .err e => .error e
      | .tok r p' rest' =>
        match topLoop m total fuel p' rest' with
        | .ok (b, negs) => .ok (.cat r b, negs)
        | .error e => .error e
      | .neg s e p' rest' =>
        match topLoop m total fuel p' rest' with
        | .ok (b, negs) => .ok (b, (s, e) :: negs)
        | .error e => .error e := by
  conv => lhs; rw [topLoop.eq_def]
  all_goals rfl

theorem brLoop_cons (fn neg : Bool) (fuel : Nat) (st : BrSt) (prev c : Rune) (rest : Str) :
    brLoop fn neg (fuel + 1) st prev (c :: rest) =
    if c = cBS then
      match rest with
      | [] => brLoop fn neg fuel st c []
      | d :: rest' => brLoop fn neg fuel (pushItem st (.esc d) (fn && d == cSlash)) d rest'
    else if c = cDash then
      let e := rest.headD 0
      let st1 := pushItem st (.raw cDash) false
      let st2 := if e ≠ cRB ∧ prev > e ∧ st.deferred.isNone
                 then { st1 with deferred := some (.badRange prev e) } else st1
      brLoop fn neg fuel st2 c rest
    else if c = cRB then .closed neg st rest
    else if c = cLB then
      let (n, ce) := charClass rest
      let classErr := match ce, st.classErr with
        | some e, none => some (Err.cls e)
        | _, old => old
      let deferred := match ce, st.deferred with
        | some _, none => classErr
        | _, old => old
      let txt := rest.take n
      let st1 : BrSt :=
        { items := st.items ++ (if n > 0 then classItems txt else [.raw cLB]),
          hasSlash := st.hasSlash || (fn && n > 0 && txt.contains cSlash),
          deferred := deferred, classErr := classErr }
      brLoop fn neg fuel st1 (if n > 0 then txt.getLastD cLB else cLB) (rest.drop n)
    else
      brLoop fn neg fuel (pushItem st (.raw c) (fn && c == cSlash)) c rest := by
  conv => lhs; rw [brLoop.eq_def]
  all_goals rfl

theorem brLoop_nil (fn neg : Bool) (fuel : Nat) (st : BrSt) (prev : Rune) :
    brLoop fn neg (fuel + 1) st prev [] =
      match st.classErr with
      | some e => .err e
      | none => .literal := by
  conv => lhs; rw [brLoop.eq_def]
  all_goals rfl

theorem brLoop_bs (fn neg : Bool) (f : Nat) (st : BrSt) (prev d : Rune) (rest : Str) :
    brLoop fn neg (f + 1) st prev (cBS :: d :: rest) =
      brLoop fn neg f (pushItem st (.esc d) (fn && d == cSlash)) d rest := by
  rw [brLoop_cons]; rfl

theorem brLoop_bs_nil (fn neg : Bool) (f : Nat) (st : BrSt) (prev : Rune) :
    brLoop fn neg (f + 1) st prev [cBS] = brLoop fn neg f st cBS [] := by
  rw [brLoop_cons]; rfl

/-- A dash: pattern.go looks at the raw characters on both sides, whatever they are. -/
theorem brLoop_dash (fn neg : Bool) (f : Nat) (st : BrSt) (prev : Rune) (rest : Str) :
    brLoop fn neg (f + 1) st prev (cDash :: rest) =
      brLoop fn neg f
        { pushItem st (.raw cDash) false with
          deferred := if rest.headD 0 ≠ cRB ∧ prev > rest.headD 0 ∧ st.deferred.isNone = true
            then some (.badRange prev (rest.headD 0)) else st.deferred } cDash rest := by
  rw [brLoop_cons, if_neg (by decide), if_pos rfl]
  by_cases h : rest.headD 0 ≠ cRB ∧ prev > rest.headD 0 ∧ st.deferred.isNone = true
  · simp only [if_pos h]
  · simp only [if_neg h]; rfl

theorem brLoop_rb (fn neg : Bool) (f : Nat) (st : BrSt) (prev : Rune) (rest : Str) :
    brLoop fn neg (f + 1) st prev (cRB :: rest) = .closed neg st rest := by
  rw [brLoop_cons]; rfl

theorem brLoop_raw (fn neg : Bool) (f : Nat) (st : BrSt) (prev : Rune) {c : Rune} (rest : Str)
    (h1 : c ≠ cBS) (h2 : c ≠ cDash) (h3 : c ≠ cRB) (h4 : c ≠ cLB) :
    brLoop fn neg (f + 1) st prev (c :: rest) =
      brLoop fn neg f (pushItem st (.raw c) (fn && c == cSlash)) c rest := by
  rw [brLoop_cons, if_neg h1, if_neg h2, if_neg h3, if_neg h4]

theorem cut2_spec (a b : Rune) (s name after : Str) (h : cut2 a b s = some (name, after)) :
    s = name ++ a :: b :: after := by
  induction s generalizing name with
  | nil => simp [cut2] at h
  | cons x s ih =>
    cases s with
    | nil => simp [cut2] at h
    | cons y s' =>
      simp only [cut2] at h
      split at h
      · rename_i hxy
        obtain ⟨rfl, rfl⟩ := hxy
        simp at h; obtain ⟨rfl, rfl⟩ := h
        rfl
      · cases hc : cut2 a b (y :: s') with
        | none => simp [hc] at h
        | some p =>
          obtain ⟨n, r⟩ := p
          simp [hc] at h
          obtain ⟨rfl, rfl⟩ := h
          rw [ih n hc]; rfl

/-- `charClass` (pattern.go) and `scanClass` (reference) classify an element the same way. -/
theorem charClass_scanClass (s : Str) :
    match scanClass s with
    | none => charClass s = (0, none)
    | some (n, .ok k) => charClass s = (n, none) ∧ 0 < n ∧ classItems (s.take n) = [.named k]
    | some (n, .error e) => charClass s = (n, some e) := by
  cases s with
  | nil => simp [scanClass, charClass]
  | cons c s1 =>
    unfold scanClass charClass
    by_cases hc : c = cColon
    · subst hc
      have h1 : ¬ (cColon = cDot ∨ cColon = cEq) := by decide
      simp only [h1, if_false, if_true]
      cases hcut : cut2 cColon cRB s1 with
      | none => simp
      | some p =>
        obtain ⟨name, after⟩ := p
        simp only []
        cases hn : ClassName.ofName name with
        | none => simp
        | some k =>
          simp only []
          refine ⟨trivial, by omega, ?_⟩
          have hs := cut2_spec _ _ _ _ _ hcut
          subst hs
          have : (cColon :: (name ++ cColon :: cRB :: after)).take (name.length + 3)
              = cColon :: (name ++ [cColon, cRB]) := by
            rw [show cColon :: (name ++ cColon :: cRB :: after) = (cColon :: (name ++ [cColon, cRB])) ++ after by
              rw [List.cons_append, List.append_assoc]; rfl]
            exact List.take_left' (by simp)
          rw [this]
          simp only [classItems, if_true]
          have h2 : (name ++ [cColon, cRB]).take ((name ++ [cColon, cRB]).length - 2) = name := by
            simp
          rw [h2, hn]
    · simp only [hc, if_false]
      by_cases hd : c = cDot ∨ c = cEq
      · simp only [hd, if_true]
        cases hcut : cut2 c cRB s1 with
        | none => simp
        | some p => obtain ⟨name, after⟩ := p; simp
      · simp [hd]

theorem brLoop_lb (fn neg : Bool) (f : Nat) (st : BrSt) (prev : Rune) {rest : Str} {n : Nat}
    {ce : Option ClsErr} (h : charClass rest = (n, ce)) :
    brLoop fn neg (f + 1) st prev (cLB :: rest) =
      brLoop fn neg f
        { items := st.items ++ (if n > 0 then classItems (rest.take n) else [.raw cLB]),
          hasSlash := st.hasSlash || (fn && decide (n > 0) && (rest.take n).contains cSlash),
          deferred := match (generalizing := false) ce with
            | some e => st.deferred <|> (st.classErr <|> some (.cls e))
            | none => st.deferred,
          classErr := match (generalizing := false) ce with
            | some e => st.classErr <|> some (.cls e)
            | none => st.classErr }
        (if n > 0 then (rest.take n).getLastD cLB else cLB) (rest.drop n) := by
  rw [brLoop_cons, if_neg (by decide), if_neg (by decide), if_neg (by decide), if_pos rfl, h]
  cases ce <;> cases st.deferred <;> cases st.classErr <;> rfl

theorem brLoop_lb_plain (fn neg : Bool) (f : Nat) (st : BrSt) (prev : Rune) {rest : Str}
    (h : charClass rest = (0, none)) :
    brLoop fn neg (f + 1) st prev (cLB :: rest) = brLoop fn neg f (pushItem st (.raw cLB) false) cLB rest := by
  rw [brLoop_lb fn neg f st prev h]
  simp [pushItem]

theorem parseSeq_cons (m : Mode) (fuel : Nat) (prev c : Rune) (rest : Str) :
    parseSeq m (fuel + 1) prev (c :: rest) =
    if c = cBS then
      match rest with
      | [] => .error .trailingBackslash
      | d :: rest' => andThenG (litTok m prev d) (parseSeq m fuel d rest')
    else if c = cQuest ∧ !(m.ext && rest.head? == some cLP) then andThenG .any (parseSeq m fuel c rest)
    else if c = cStar ∧ !(m.ext && rest.head? == some cLP) then
      if m.filenames && !m.noglobstar && (prev == 0 || prev == cSlash) && rest.head? == some cStar
          && (rest.tail.isEmpty || rest.tail.head? == some cSlash) then
        match rest.tail with
        | _ :: rest3 => andThenG (.globstar true) (parseSeq m fuel cSlash rest3)
        | [] => .ok (.seq (.globstar false) .eps)
      else andThenG .star (parseSeq m fuel c rest)
    else if c = cLB then
      match scanBracket m.filenames rest with
      | .notBracket => andThenG (.lit cLB) (parseSeq m fuel cLB rest)
      | .malformed e => .error e
      | .ok neg items rest' => andThenG (.bracket neg items) (parseSeq m fuel cRB rest')
    else if m.ext && isExtOp c && rest.head? == some cLP then
      match scanGroup m.filenames (rest.length + 1) 0 [] [] rest.tail with
      | .error e => .error e
      | .ok none => andThenG (.lit c) (parseSeq m fuel c rest)
      | .ok (some (alts, rest')) =>
        match alts.mapM (parseSeq m fuel cLP) with
        | .error e => .error e
        | .ok gs => andThenG (.ext c (altGlob gs)) (parseSeq m fuel cRP rest')
    else andThenG (litTok m prev c) (parseSeq m fuel c rest) := by
  conv => lhs; rw [parseSeq.eq_def]
  rfl

theorem parseSeq_nil (m : Mode) (fuel : Nat) (prev : Rune) : parseSeq m (fuel + 1) prev [] = .ok .eps := by
  conv => lhs; rw [parseSeq.eq_def]

theorem parseSeq_bs_nil (m : Mode) (f : Nat) (prev : Rune) :
    parseSeq m (f + 1) prev [cBS] = .error .trailingBackslash := by
  rw [parseSeq_cons]; rfl

theorem parseSeq_bs (m : Mode) (f : Nat) (prev d : Rune) (rest : Str) :
    parseSeq m (f + 1) prev (cBS :: d :: rest) = andThenG (litTok m prev d) (parseSeq m f d rest) := by
  rw [parseSeq_cons]; rfl

theorem parseSeq_quest (m : Mode) (f : Nat) (prev : Rune) {rest : Str}
    (hg : (m.ext && isExtOp cQuest && rest.head? == some cLP) = false) :
    parseSeq m (f + 1) prev (cQuest :: rest) = andThenG .any (parseSeq m f cQuest rest) := by
  rw [show isExtOp cQuest = true from rfl, Bool.and_true] at hg
  rw [parseSeq_cons, if_neg (by decide), if_pos ⟨rfl, by rw [hg]; rfl⟩]

theorem parseSeq_star (m : Mode) (f : Nat) (prev : Rune) {rest : Str}
    (hg : (m.ext && isExtOp cStar && rest.head? == some cLP) = false)
    (hgs : m.filenames = false ∨ m.noglobstar = true) :
    parseSeq m (f + 1) prev (cStar :: rest) = andThenG .star (parseSeq m f cStar rest) := by
  rw [show isExtOp cStar = true from rfl, Bool.and_true] at hg
  have hgs' : (m.filenames && !m.noglobstar) = false := by rcases hgs with h | h <;> simp [h]
  rw [parseSeq_cons, if_neg (by decide), if_neg (fun h => absurd h.1 (by decide)),
    if_pos ⟨rfl, by rw [hg]; rfl⟩, hgs', Bool.false_and, Bool.false_and, Bool.false_and, if_neg Bool.false_ne_true]

theorem parseSeq_lb (m : Mode) (f : Nat) (prev : Rune) (rest : Str) :
    parseSeq m (f + 1) prev (cLB :: rest) =
      match scanBracket m.filenames rest with
      | .notBracket => andThenG (.lit cLB) (parseSeq m f cLB rest)
      | .malformed e => .error e
      | .ok neg items rest' => andThenG (.bracket neg items) (parseSeq m f cRB rest') := by
  rw [parseSeq_cons, if_neg (by decide), if_neg (fun h => absurd h.1 (by decide)),
    if_neg (fun h => absurd h.1 (by decide)), if_pos rfl]

theorem parseSeq_group (m : Mode) (f : Nat) (prev : Rune) {c : Rune} {rest : Str}
    (hg : (m.ext && isExtOp c && rest.head? == some cLP) = true) :
    parseSeq m (f + 1) prev (c :: rest) =
      match scanGroup m.filenames (rest.length + 1) 0 [] [] rest.tail with
      | .error e => .error e
      | .ok none => andThenG (.lit c) (parseSeq m f c rest)
      | .ok (some (alts, rest')) =>
        match alts.mapM (parseSeq m f cLP) with
        | .error e => .error e
        | .ok gs => andThenG (.ext c (altGlob gs)) (parseSeq m f cRP rest') := by
  have h := hg
  simp only [Bool.and_eq_true] at h
  obtain ⟨⟨hx, hop⟩, hh⟩ := h
  have hbs : c ≠ cBS := fun e => by rw [e] at hop; cases hop
  have hlb : c ≠ cLB := fun e => by rw [e] at hop; cases hop
  have hne : ¬ (!(m.ext && rest.head? == some cLP)) = true := by rw [hx, hh]; decide
  rw [parseSeq_cons, if_neg hbs, if_neg (fun h => hne h.2), if_neg (fun h => hne h.2), if_neg hlb, if_pos hg]

theorem parseSeq_lit (m : Mode) (f : Nat) (prev : Rune) {c : Rune} {rest : Str} (hbs : c ≠ cBS)
    (hq : c ≠ cQuest) (hst : c ≠ cStar) (hlb : c ≠ cLB)
    (hg : (m.ext && isExtOp c && rest.head? == some cLP) = false) :
    parseSeq m (f + 1) prev (c :: rest) = andThenG (litTok m prev c) (parseSeq m f c rest) := by
  rw [parseSeq_cons, if_neg hbs, if_neg (fun h => hq h.1), if_neg (fun h => hst h.1), if_neg hlb,
    if_neg (ne_true_of_eq_false hg)]

theorem scanGroup_cons (fn : Bool) (fuel depth : Nat) (cur : Str) (alts : List Str) (c : Rune) (rest : Str) :
    scanGroup fn (fuel + 1) depth cur alts (c :: rest) =
      if c = cBS then
        match rest with
        | [] => .ok none
        | d :: rest' => scanGroup fn fuel depth (cur ++ [c, d]) alts rest'
      else if c = cLB then
        match scanBracket fn rest with
        | .ok _ _ rest' =>
          scanGroup fn fuel depth (cur ++ c :: rest.take (rest.length - rest'.length)) alts rest'
        | .malformed e => .error e
        | .notBracket => scanGroup fn fuel depth (cur ++ [c]) alts rest
      else if c = cLP then scanGroup fn fuel (depth + 1) (cur ++ [c]) alts rest
      else if c = cRP then
        if depth = 0 then .ok (some (alts ++ [cur], rest))
        else scanGroup fn fuel (depth - 1) (cur ++ [c]) alts rest
      else if c = cBar ∧ depth = 0 then scanGroup fn fuel 0 [] (alts ++ [cur]) rest
      else scanGroup fn fuel depth (cur ++ [c]) alts rest := by
  conv => lhs; rw [scanGroup.eq_def]
  all_goals rfl

theorem elemChar_cons_ne {c : Rune} (rest : Str) (h : c ≠ cBS) : elemChar (c :: rest) = some (c, false, rest) := by
  simp only [elemChar, h, if_false]

theorem elemChar_suffix {s : Str} {lo : Rune} {esc : Bool} {r1 : Str}
    (h : elemChar s = some (lo, esc, r1)) : r1 <:+ s := by
  unfold elemChar at h
  split at h
  · cases h
  · split at h
    · split at h
      · cases h
      · cases h; exact (List.suffix_cons _ _).trans (List.suffix_cons _ _)
    · cases h; exact List.suffix_cons _ _

theorem scanItems_cons (fn : Bool) (fuel : Nat) (first : Bool) (st : BSt) (c : Rune) (rest : Str) :
    scanItems fn (fuel + 1) first st (c :: rest) =
    if c = cRB ∧ !first then (st, some rest)
    else
      match (if c = cLB then scanClass rest else none) with
      | some (n, .ok k) =>
        scanItems fn fuel false
          { st with items := st.items ++ [.cls k], slash := st.slash || (fn && (rest.take n).contains cSlash) }
          (rest.drop n)
      | some (n, .error e) =>
        let st1 := st.addErr (.cls e) true
        scanItems fn fuel false
          { st1 with slash := st1.slash || (fn && (rest.take n).contains cSlash) } (rest.drop n)
      | none =>
        match elemChar (c :: rest) with
        | none => (st, none)
        | some (lo, _, r1) =>
          let sl1 := fn && lo == cSlash
          match r1 with
          | d :: r2 =>
            if d = cDash ∧ r2.head? ≠ some cRB then
              match elemChar r2 with
              | none => (st, none)
              | some (hi, _, r3) =>
                let st1 := { st with items := st.items ++ [.range lo hi],
                                     slash := st.slash || sl1 || (fn && hi == cSlash) }
                scanItems fn fuel false
                  (if hi < lo then st1.addErr (.badRange lo hi) false else st1) r3
            else scanItems fn fuel false { st with items := st.items ++ [.ch lo], slash := st.slash || sl1 } r1
          | [] => (st, none) := by
  conv => lhs; rw [scanItems.eq_def]
  all_goals rfl

theorem scanItems_nil (fn : Bool) (fuel : Nat) (first : Bool) (st : BSt) :
    scanItems fn fuel first st [] = (st, none) := by
  rw [scanItems.eq_def]
  cases fuel <;> rfl

/-- The reference scan after the first character `lo` of an element. -/
def afterLo (fn : Bool) (fS : Nat) (st : BSt) (lo : Rune) (r1 : Str) : BSt × Option Str :=
  match r1 with
  | d :: r2 =>
    if d = cDash ∧ r2.head? ≠ some cRB then
      match elemChar r2 with
      | none => (st, none)
      | some (hi, _, r3) =>
        let st1 := { st with items := st.items ++ [.range lo hi],
                             slash := st.slash || (fn && lo == cSlash) || (fn && hi == cSlash) }
        scanItems fn fS false (if hi < lo then st1.addErr (.badRange lo hi) false else st1) r3
    else scanItems fn fS false
      { st with items := st.items ++ [.ch lo], slash := st.slash || (fn && lo == cSlash) } r1
  | [] => (st, none)

theorem scanItems_close (fn : Bool) (f : Nat) (st : BSt) (rest : Str) :
    scanItems fn (f + 1) false st (cRB :: rest) = (st, some rest) := by
  rw [scanItems_cons]; rfl

theorem scanItems_lb (fn : Bool) (f : Nat) (first : Bool) (st : BSt) (rest : Str) :
    scanItems fn (f + 1) first st (cLB :: rest) =
      match scanClass rest with
      | some (n, .ok k) =>
        scanItems fn f false
          { st with items := st.items ++ [.cls k], slash := st.slash || (fn && (rest.take n).contains cSlash) }
          (rest.drop n)
      | some (n, .error e) =>
        scanItems fn f false
          { st.addErr (.cls e) true with
            slash := (st.addErr (.cls e) true).slash || (fn && (rest.take n).contains cSlash) } (rest.drop n)
      | none => afterLo fn f st cLB rest := by
  rw [scanItems_cons, if_neg (fun h => absurd h.1 (by decide)), if_pos rfl]
  rfl

theorem scanItems_bs (fn : Bool) (f : Nat) (first : Bool) (st : BSt) (d : Rune) (rest : Str) :
    scanItems fn (f + 1) first st (cBS :: d :: rest) = afterLo fn f st d rest := by
  rw [scanItems_cons]; rfl

theorem scanItems_bs_nil (fn : Bool) (f : Nat) (first : Bool) (st : BSt) :
    scanItems fn (f + 1) first st [cBS] = (st, none) := by
  rw [scanItems_cons]; rfl

theorem scanItems_char (fn : Bool) (f : Nat) (first : Bool) (st : BSt) {c : Rune} (rest : Str)
    (h1 : c ≠ cBS) (h2 : c ≠ cLB) (h3 : ¬ (c = cRB ∧ first = false)) :
    scanItems fn (f + 1) first st (c :: rest) = afterLo fn f st c rest := by
  have h3' : ¬ (c = cRB ∧ (!first) = true) := fun h => h3 ⟨h.1, (Bool.not_eq_true' first).mp h.2⟩
  rw [scanItems_cons, if_neg h3', if_neg h2, elemChar_cons_ne rest h1]
  rfl

def st0S : BSt := { items := [], slash := false, rangeErr := none, classErr := none }

/-- The text between the optional `!`/`^` and the closing bracket, as both scanners take it. -/
def bodyOf (s : Str) : Str := if s.head? = some cBang ∨ s.head? = some cCaret then s.tail else s

/-- The verdict of `scanBracket` from the final scan result. -/
def sbOfRes (neg : Bool) (res : BSt × Option Str) : BScan :=
  match res with
  | (st, some rest) =>
    if st.slash then .notBracket
    else match st.rangeErr with
      | some e => .malformed e
      | none => .ok neg st.items rest
  | (st, none) =>
    match st.classErr with
    | some e => .malformed e
    | none => .notBracket

theorem scanBracket_eq (fn : Bool) (s : Str) :
    scanBracket fn s = sbOfRes (decide (s.head? = some cBang ∨ s.head? = some cCaret))
      (scanItems fn ((bodyOf s).length + 1) true st0S (bodyOf s)) := rfl

theorem sbOfRes_ok {neg neg' : Bool} {res : BSt × Option Str} {items : List BItem} {rest' : Str}
    (h : sbOfRes neg res = .ok neg' items rest') : res.2 = some rest' := by
  obtain ⟨st, o⟩ := res
  cases o with
  | none => simp only [sbOfRes] at h; split at h <;> cases h
  | some r0 =>
    simp only [sbOfRes] at h
    split at h
    · cases h
    · split at h <;> cases h
      rfl

theorem supp_cons (m : Mode) (inGroup : Bool) (fuel : Nat) (pos : Pos) (prev c : Rune) (rest : Str) :
    supp m inGroup (fuel + 1) pos prev (c :: rest) =
      (if c = cBS then
        match rest with
        | [] => true
        | d :: rest' =>
          !(m.filenames && !m.dotglob && pos == .unknown && d == cDot) && supp m inGroup fuel (posAfter d) d rest'
      else if m.ext && isExtOp c && rest.head? == some cLP then
        if c = cBang then false
        else
          match scanGroup m.filenames (rest.length + 1) 0 [] [] rest.tail with
          | .error _ => false
          | .ok none => false
          | .ok (some (alts, rest')) =>
            (!(m.filenames && !m.dotglob) || pos == .mid) &&
            alts.all (fun a => !(m.filenames && a.contains cSlash) && supp m true fuel .mid cLP a) &&
            supp m inGroup fuel (if (m.filenames && !m.dotglob) then .unknown else .mid) cRP rest'
      else if c = cQuest then (!(m.filenames && !m.dotglob) || pos == .mid) && supp m inGroup fuel .mid c rest
      else if c = cStar then
        if !m.filenames then supp m inGroup fuel .mid c rest
        else if !m.noglobstar && (prev == 0 || prev == cSlash) && rest.head? == some cStar
            && (rest.tail.isEmpty || rest.tail.head? == some cSlash) then
          match rest.tail with
          | _ :: rest3 => supp m inGroup fuel .start cSlash rest3
          | [] => true
        else
          (!(m.filenames && !m.dotglob) || pos != .unknown) &&
          !(m.ext && rest.head? == some cStar && rest.tail.head? == some cLP) &&
          (match rest with
           | c2 :: rest2 => if c2 = cStar then supp m inGroup fuel (if pos == .mid then Pos.mid else Pos.unknown) c rest2
                            else supp m inGroup fuel (if pos == .mid then Pos.mid else Pos.unknown) c rest
           | [] => true)
      else if c = cLB then
        bracketSupported m.filenames rest &&
        (match scanBracket m.filenames rest with
         | .ok neg items rest' =>
           !(m.filenames && (neg || items.any (·.mem cSlash))) &&
           !(m.nocase && items.any (·.isCls)) &&
           (!(m.filenames && !m.dotglob) || pos == .mid) && supp m inGroup fuel .mid cRB rest'
         | .notBracket => supp m inGroup fuel .mid cLB rest
         | .malformed _ => true)
      else if inGroup && c == cLP then false
      else !(m.filenames && !m.dotglob && pos == .unknown && c == cDot) && supp m inGroup fuel (posAfter c) c rest) := by
  conv => lhs; rw [supp.eq_def]
  all_goals rfl

theorem brSupported_cons (fn : Bool) (fuel : Nat) (first : Bool) (c : Rune) (rest : Str) :
    brSupported fn (fuel + 1) first (c :: rest) =
    if c = cRB ∧ !first then true
    else
      match (if c = cLB then scanClass rest else none) with
      | some (n, _) => !(fn && (rest.take n).contains cSlash) && brSupported fn fuel false (rest.drop n)
      | none =>
        match elemChar (c :: rest) with
        | none => true
        | some (lo, esc, r1) =>
          if fn && lo == cSlash then false
          else if c = cDash ∧ !esc then
            r1.head? == some cRB && brSupported fn fuel false r1
          else
            match r1 with
            | d :: r2 =>
              if d = cDash ∧ r2.head? ≠ some cRB then
                match r2 with
                | hi :: r3 =>
                  hi != cBS && hi != cLB && hi != cDash && !(fn && hi == cSlash) && brSupported fn fuel false r3
                | [] => true
              else brSupported fn fuel false r1
            | [] => true := by
  conv => lhs; rw [brSupported.eq_def]
  all_goals rfl

/-- `brSupported` after the first character of an element. -/
def suppAfterLo (fn : Bool) (fB : Nat) (r1 : Str) : Bool :=
  match r1 with
  | d :: r2 =>
    if d = cDash ∧ r2.head? ≠ some cRB then
      match r2 with
      | hi :: r3 =>
        hi != cBS && hi != cLB && hi != cDash && !(fn && hi == cSlash) && brSupported fn fB false r3
      | [] => true
    else brSupported fn fB false r1
  | [] => true

theorem brSupported_lb (fn : Bool) (f : Nat) (first : Bool) (rest : Str) :
    brSupported fn (f + 1) first (cLB :: rest) =
      match scanClass rest with
      | some (n, _) => !(fn && (rest.take n).contains cSlash) && brSupported fn f false (rest.drop n)
      | none => suppAfterLo fn f rest := by
  rw [brSupported_cons, if_neg (fun h => absurd h.1 (by decide)), if_pos rfl]
  cases scanClass rest with
  | some p => rfl
  | none =>
    show (if (fn && cLB == cSlash) = true then false else _) = _
    rw [show (cLB == cSlash) = false from rfl, Bool.and_false, if_neg Bool.false_ne_true]
    rfl

theorem brSupported_bs (fn : Bool) (f : Nat) (first : Bool) (d : Rune) (rest : Str) :
    brSupported fn (f + 1) first (cBS :: d :: rest) =
      if fn && d == cSlash then false else suppAfterLo fn f rest := by
  rw [brSupported_cons]; rfl

theorem brSupported_dash (fn : Bool) (f : Nat) (first : Bool) (rest : Str) :
    brSupported fn (f + 1) first (cDash :: rest) =
      (rest.head? == some cRB && brSupported fn f false rest) := by
  rw [brSupported_cons, if_neg (fun h => absurd h.1 (by decide)), if_neg (by decide)]
  show (if (fn && cDash == cSlash) = true then false else _) = _
  rw [show (cDash == cSlash) = false from rfl, Bool.and_false, if_neg Bool.false_ne_true]
  rfl

theorem brSupported_char (fn : Bool) (f : Nat) (first : Bool) {c : Rune} (rest : Str)
    (h1 : c ≠ cBS) (h2 : c ≠ cLB) (h3 : c ≠ cDash) (h4 : ¬ (c = cRB ∧ first = false)) :
    brSupported fn (f + 1) first (c :: rest) =
      if fn && c == cSlash then false else suppAfterLo fn f rest := by
  have h4' : ¬ (c = cRB ∧ (!first) = true) := fun h => h4 ⟨h.1, (Bool.not_eq_true' first).mp h.2⟩
  rw [brSupported_cons, if_neg h4', if_neg h2, elemChar_cons_ne rest h1]
  have hd : ¬ (c = cDash ∧ (!false) = true) := fun h => h3 h.1
  simp only [if_neg hd]
  rfl

theorem flatRest_cons (c : Rune) (rest : Str) :
    flatRest (c :: rest) =
      if c = cBS then
        match rest with
        | [] => none
        | d :: rest' => (flatRest rest').map (fun (as, r) => (consHead [c, d] as, r))
      else if c = cLB ∨ c = cLP then none
      else if c = cRP then some ([[]], rest)
      else if c = cBar then (flatRest rest).map (fun (as, r) => ([] :: as, r))
      else (flatRest rest).map (fun (as, r) => (consHead [c] as, r)) := by
  conv => lhs; rw [flatRest.eq_def]
  all_goals rfl

theorem flatGroups_cons (m : Mode) (fuel : Nat) (c : Rune) (rest : Str) :
    flatGroups m (fuel + 1) (c :: rest) =
      if c = cBS then
        match rest with
        | [] => true
        | _ :: r => flatGroups m fuel r
      else if m.ext && isExtOp c && rest.head? == some cLP then
        match flatRest rest.tail with
        | some (_, rest') => flatGroups m fuel rest'
        | none => false
      else if c = cLB then
        match scanBracket m.filenames rest with
        | .ok _ _ rest' => flatGroups m fuel rest'
        | _ => flatGroups m fuel rest
      else flatGroups m fuel rest := by
  conv => lhs; rw [flatGroups.eq_def]
  all_goals rfl

theorem hasMetaAux_cons (ob : Bool) (c : Rune) (rest : Str) :
    hasMetaAux ob (c :: rest) =
      if c = cBS then
        (match rest with
         | [] => false
         | _ :: rest' => hasMetaAux ob rest')
      else if c = cStar ∨ c = cQuest then true
      else if c = cLB then hasMetaAux true rest
      else if c = cRB then (if ob then true else hasMetaAux ob rest)
      else hasMetaAux ob rest := by
  conv => lhs; rw [hasMetaAux.eq_def]
  rfl

theorem hasMetaAux_bs (ob : Bool) (d : Rune) (rest : Str) :
    hasMetaAux ob (cBS :: d :: rest) = hasMetaAux ob rest := by
  rw [hasMetaAux_cons, if_pos rfl]

theorem hasMetaAux_true_cons {c : Rune} (rest : Str) (hc : c ≠ cBS) :
    hasMetaAux true (c :: rest) = (decide (c = cStar ∨ c = cQuest ∨ c = cRB) || hasMetaAux true rest) := by
  rw [hasMetaAux_cons, if_neg hc]
  by_cases h1 : c = cStar ∨ c = cQuest
  · rw [if_pos h1]; rcases h1 with h | h <;> simp [h]
  · rw [if_neg h1]
    have h1' := not_or.mp h1
    by_cases h2 : c = cLB
    · subst h2; rw [if_pos rfl]; rfl
    · rw [if_neg h2]
      by_cases h3 : c = cRB
      · subst h3; rfl
      · simp [h1'.1, h1'.2, h3]

theorem unescape_cons_ne {c : Rune} (rest : Str) (h : c ≠ cBS) :
    unescape (c :: rest) = c :: unescape rest := by
  conv => lhs; rw [unescape.eq_def]
  simp [h]

theorem unescape_bs_cons (d : Rune) (rest : Str) : unescape (cBS :: d :: rest) = d :: unescape rest := by
  conv => lhs; rw [unescape.eq_def]
  simp

theorem hasExtGroup_cons_ne {c : Rune} (rest : Str) (h : c ≠ cBS) :
    hasExtGroup (c :: rest) = ((isExtOp c && rest.head? == some cLP) || hasExtGroup rest) := by
  conv => lhs; rw [hasExtGroup.eq_def]
  simp [h]

theorem hasExtGroup_bs_cons (d : Rune) (rest : Str) : hasExtGroup (cBS :: d :: rest) = hasExtGroup rest := by
  conv => lhs; rw [hasExtGroup.eq_def]
  simp

end ShVerif.L3
