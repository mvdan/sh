import ShVerif.Proofs.C20Misc
import ShVerif.Proofs.C20Lex
/-
  C20: on the property's domain the evaluator model returns what the bash specification returns
  (`eval_main`, by induction on the specification's fuel), and a larger nesting budget does not change
  a result that did not hit the limit (`specEval_depth_refines`).  Both are statements `Refines Q ps pm`
  (every good result of `ps` is the result of `pm` and satisfies `Q`), proved by following the
  definition with the rules `Refines.bind` (for `andThen`) and `Refines.ite`; for the evaluator `Q` is
  `Sound`: the invariant `EnvOK` of the environment, and a value inside int64.
-/
namespace ShVerif.C20

theorem setVar_ok {env env' : Env} {n : Bytes} {v : Int} {r : Res}
    (h : setVar env n v = (r, env')) : ∀ w, r = .ok w → w = v := by
  unfold setVar at h
  split at h
  · cases h; intro w hw; cases hw
  · cases h; intro w hw; cases hw; rfl

theorem valOK_fmtInt (v : Int) : ValOK (fmtInt v) := Or.inr (Or.inl ⟨_, _, fmtInt_intLit v⟩)

theorem specEval_zero (D : Nat) (env : Env) (e : Expr) : specEval 0 D env e = (.err .fuel, env) := by
  rw [specEval]

theorem specEval_word (fuel D : Nat) (env : Env) (w : Bytes) :
    specEval (fuel + 1) D env (.word w) =
      if validName w then
        if env.get w = [] then (.ok 0, env)
        else match parseText (env.get w) with
          | none => (.err .syntaxErr, env)
          | some none => (.ok 0, env)
          | some (some e') =>
            match D with
            | 0 => (.err .recursion, env)
            | D' + 1 => specEval fuel D' env e'
      else match specNumber w with
        | some n => (chk (Int.ofNat n), env)
        | none => (.err .badNumber, env) := by
  rw [specEval]
  rfl

theorem specEval_paren (fuel D : Nat) (env : Env) (x : Expr) :
    specEval (fuel + 1) D env (.paren x) = specEval fuel D env x := by
  rw [specEval]

theorem specEval_unary (fuel D : Nat) (env : Env) (op : UnOp) (post : Bool) (x : Expr) :
    specEval (fuel + 1) D env (.unary op post x) =
      if op = .inc ∨ op = .dec then
        match wordOf x with
        | some n =>
          if validName n then
            andThen (specEval fuel D env (.word n)) fun old env1 =>
              if inI64 (if op = .inc then old + 1 else old - 1) then
                andThen (setVar env1 n (if op = .inc then old + 1 else old - 1)) fun _ env2 =>
                  (.ok (if post then old else (if op = .inc then old + 1 else old - 1)), env2)
              else (.err .outOfDomain, env1)
          else (.err .syntaxErr, env)
        | none => (.err .syntaxErr, env)
      else if post then (.err .syntaxErr, env)
      else
        andThen (specEval fuel D env x) fun v env1 =>
          match op with
          | .not => (.ok (oneIf (v == 0)), env1)
          | .bitNeg => (.ok (-v - 1), env1)
          | .plus => (.ok v, env1)
          | _ => (chk (-v), env1) := by
  rw [specEval]
  rfl

theorem specEval_binary (fuel D : Nat) (env : Env) (op : BinOp) (x y : Expr) :
    specEval (fuel + 1) D env (.binary op x y) =
      if isAssign op then
        match wordOf x with
        | some n =>
          if validName n then
            match assignOp op with
            | none =>
              if op = .assgn then
                andThen (specEval fuel D env y) fun v env1 => setVar env1 n v
              else (.err .syntaxErr, env)
            | some aop =>
              andThen (specEval fuel D env (.word n)) fun cur env1 =>
                andThen (specEval fuel D env1 y) fun arg env2 =>
                  match specBin aop cur arg with
                  | .ok v => setVar env2 n v
                  | r => (r, env2)
          else (.err .syntaxErr, env)
        | none => (.err .syntaxErr, env)
      else if op = .ternQuest then
        match colonParts y with
        | some (t, f) =>
          andThen (specEval fuel D env x) fun c env1 =>
            if c ≠ 0 then specEval fuel D env1 t else specEval fuel D env1 f
        | none => (.err .syntaxErr, env)
      else if op = .andL ∨ op = .orL then
        andThen (specEval fuel D env x) fun l env1 =>
          if op = .andL ∧ l = 0 then (.ok 0, env1)
          else if op = .orL ∧ l ≠ 0 then (.ok 1, env1)
          else andThen (specEval fuel D env1 y) fun r env2 => (.ok (oneIf (r != 0)), env2)
      else
        andThen (specEval fuel D env x) fun l env1 =>
          andThen (specEval fuel D env1 y) fun r env2 => (specBin op l r, env2) := by
  rw [specEval]
  rfl

theorem specEval_unary_plain {fuel D : Nat} {env : Env} {op : UnOp} {x : Expr} :
    ¬ (op = .inc ∨ op = .dec) →
    specEval (fuel + 1) D env (.unary op false x) =
      andThen (specEval fuel D env x) fun v env1 =>
        match op with
        | .not => (.ok (oneIf (v == 0)), env1)
        | .bitNeg => (.ok (-v - 1), env1)
        | .plus => (.ok v, env1)
        | _ => (chk (-v), env1) := by
  intro hop
  rw [specEval_unary, if_neg hop, if_neg Bool.false_ne_true]

theorem specEval_incdec {fuel D : Nat} {env : Env} {op : UnOp} {post : Bool} {n : Bytes}
    (hop : op = .inc ∨ op = .dec) (hv : validName n = true) :
    specEval (fuel + 1) D env (.unary op post (.word n)) =
      andThen (specEval fuel D env (.word n)) fun old env1 =>
        if inI64 (if op = .inc then old + 1 else old - 1) then
          andThen (setVar env1 n (if op = .inc then old + 1 else old - 1)) fun _ env2 =>
            (.ok (if post then old else (if op = .inc then old + 1 else old - 1)), env2)
        else (.err .outOfDomain, env1) := by
  rw [specEval_unary, if_pos hop, wordOf_name hv]
  exact if_pos hv

theorem specEval_assgn {fuel D : Nat} {env : Env} {n : Bytes} {y : Expr}
    (hv : validName n = true) :
    specEval (fuel + 1) D env (.binary .assgn (.word n) y) =
      andThen (specEval fuel D env y) fun v env1 => setVar env1 n v := by
  rw [specEval_binary, if_pos (show isAssign .assgn = true from rfl), wordOf_name hv]
  exact (if_pos hv).trans (if_pos rfl)

theorem specEval_opassign {fuel D : Nat} {env : Env} {op aop : BinOp} {n : Bytes} {y : Expr}
    (hop : assignOp op = some aop) (hv : validName n = true) :
    specEval (fuel + 1) D env (.binary op (.word n) y) =
      andThen (specEval fuel D env (.word n)) fun cur env1 =>
        andThen (specEval fuel D env1 y) fun arg env2 =>
          andThen (specBin aop cur arg, env2) fun v env3 => setVar env3 n v := by
  rw [specEval_binary, if_pos (isAssign_of_assignOp hop), wordOf_name hv, hop]
  refine (if_pos hv).trans ?_
  show andThen _ _ = _
  congr 1; funext cur env1
  congr 1; funext arg env2
  cases specBin aop cur arg <;> rfl

theorem specEval_tern (fuel D : Nat) (env : Env) (x t f : Expr) :
    specEval (fuel + 1) D env (.binary .ternQuest x (.binary .ternColon t f)) =
      andThen (specEval fuel D env x) fun c env1 =>
        if c ≠ 0 then specEval fuel D env1 t else specEval fuel D env1 f := by
  rw [specEval_binary, if_neg (by decide), if_pos rfl]
  rfl

theorem specEval_logic {fuel D : Nat} {env : Env} {op : BinOp} {x y : Expr}
    (hop : op = .andL ∨ op = .orL) :
    specEval (fuel + 1) D env (.binary op x y) =
      andThen (specEval fuel D env x) fun l env1 =>
        if op = .andL ∧ l = 0 then (.ok 0, env1)
        else if op = .orL ∧ l ≠ 0 then (.ok 1, env1)
        else andThen (specEval fuel D env1 y) fun r env2 => (.ok (oneIf (r != 0)), env2) := by
  have h : isAssign op = false ∧ op ≠ .ternQuest := by rcases hop with rfl | rfl <;> decide
  rw [specEval_binary, if_neg (by rw [h.1]; decide), if_neg h.2, if_pos hop]

theorem specEval_plain {fuel D : Nat} {env : Env} {op : BinOp} {x y : Expr}
    (hop : plainBin op = true) :
    specEval (fuel + 1) D env (.binary op x y) =
      andThen (specEval fuel D env x) fun l env1 =>
        andThen (specEval fuel D env1 y) fun r env2 => (specBin op l r, env2) := by
  obtain ⟨h1, h2, h3⟩ := plainBin_facts hop
  rw [specEval_binary, if_neg (by rw [h1]; decide), if_neg h2, if_neg h3]

theorem lit_not_name {lit : Bytes} {n : Nat} (h : specNumber lit = some n) : validName lit = false := by
  simpa using intLit_not_name (IntLit.pos [] lit [] n nofun nofun h)

theorem chk_nat {n : Nat} {r : Res} (h : chk (Int.ofNat n) = r) (hd : r.inDomain) :
    n < 2 ^ 63 ∧ r = .ok (Int.ofNat n) := by
  obtain ⟨hv, hr⟩ := chk_ok h hd
  rw [inI64_iff, Int.ofNat_eq_natCast] at hv
  exact ⟨by omega, hr⟩

theorem specEval_lit {lit : Bytes} {n : Nat} (hl : specNumber lit = some n) {fuel D : Nat} {env env' : Env}
    {r : Res} (h : specEval fuel D env (.word lit) = (r, env')) (hd : r.inDomain) :
    n < 2 ^ 63 ∧ r = .ok (Int.ofNat n) ∧ env' = env := by
  cases fuel with
  | zero => rw [specEval_zero] at h; cases h; exact hd.elim
  | succ f =>
    rw [specEval_word, lit_not_name hl, hl] at h
    obtain ⟨h1, h2⟩ := Prod.mk.inj h
    obtain ⟨a, b⟩ := chk_nat h1 hd
    exact ⟨a, b, h2.symm⟩

theorem specEval_lit_then {lit : Bytes} {n : Nat} (hl : specNumber lit = some n) {fuel D : Nat}
    {env env' : Env} {g : Int → Env → Res × Env} {r : Res}
    (h : andThen (specEval fuel D env (.word lit)) g = (r, env')) (hd : r.inDomain) :
    n < 2 ^ 63 ∧ g (Int.ofNat n) env = (r, env') := by
  obtain ⟨r1, e1, hx⟩ : ∃ r1 e1, specEval fuel D env (.word lit) = (r1, e1) := ⟨_, _, rfl⟩
  rw [hx] at h
  have hd1 : r1.inDomain := by
    cases r1 with
    | err er => cases h; exact hd
    | _ => trivial
  obtain ⟨a, rfl, rfl⟩ := specEval_lit hl hx hd1
  exact ⟨a, h⟩

theorem litExpr_spec {e' : Expr} {neg : Bool} {n : Nat} (hl : LitExpr e' neg n) {fuel D : Nat}
    {env env' : Env} {r : Res} (h : specEval fuel D env e' = (r, env')) (hd : r.inDomain) :
    n < 2 ^ 63 ∧ r = .ok (if neg then -(Int.ofNat n) else Int.ofNat n) ∧ env' = env := by
  cases fuel with
  | zero => rw [specEval_zero] at h; cases h; exact hd.elim
  | succ f =>
    cases hl with
    | pos lit n hs => simpa using specEval_lit hs h hd
    | plus lit n hs =>
      rw [specEval_unary_plain (by decide)] at h
      obtain ⟨a, hg⟩ := specEval_lit_then hs h hd
      cases hg
      exact ⟨a, rfl, rfl⟩
    | minus lit n hs =>
      rw [specEval_unary_plain (by decide)] at h
      obtain ⟨a, hg⟩ := specEval_lit_then hs h hd
      obtain ⟨h1, rfl⟩ := Prod.mk.inj hg
      exact ⟨a, (chk_ok h1 hd).2, rfl⟩

theorem numberLike_of_lit {v : Bytes} {c : UInt8} {rest : Bytes}
    (hstrip : stripSign (trimSpace v) = c :: rest)
    (h1 : 48 ≤ c) (h2 : c ≤ 57) (hall : ∀ b ∈ c :: rest, isWordB b = true) :
    numberLike v = true := by
  unfold numberLike
  split
  · rfl
  · rw [hstrip]
    simp only []
    have hc : (decide (48 ≤ c) && decide (c ≤ 57)) = true := by simp [h1, h2]
    rw [hc, Bool.true_and, List.all_eq_true]
    intro b hb
    have := hall b hb
    unfold isWordB at this
    exact this

theorem numberLike_name {n : Bytes} (h : validName n = true) : numberLike n = true := by
  unfold numberLike
  rw [if_pos h]

theorem numberLike_intLit {v : Bytes} {neg : Bool} {k : Nat} (h : IntLit v neg k) :
    numberLike v = true := by
  obtain ⟨c, rest, hl, h1, h2, hv⟩ := intLit_trim h
  obtain ⟨_, _, h43, h45, _⟩ := word_facts (word_of_nameChar (nameChar_of_digit h1 h2))
  refine numberLike_of_lit (c := c) (rest := rest) ?_ h1 h2 (specNumber_wordChars hl)
  rcases hv with ⟨_, hv⟩ | ⟨_, hv⟩ | ⟨_, hv⟩ <;> rw [hv]
  · simp [stripSign, h43, h45]
  · rfl
  · rfl

theorem exprText_not_name {v : Bytes} (h : ExprText v) : validName v = false := by
  cases hv : validName v with
  | false => rfl
  | true => have h1 := h.1; rw [numberLike_name hv] at h1; cases h1

theorem parseText_nil : parseText [] = some none := by decide

theorem exprText_ne_nil {v : Bytes} (h : ExprText v) : v ≠ [] := by
  intro he
  obtain ⟨_, e', hp, _⟩ := h
  rw [he, parseText_nil] at hp
  cases hp

theorem parseValue_of_parseText {v : Bytes} {e' : Expr} (h : parseText v = some (some e')) :
    parseValue v = .expr e' := by
  unfold parseText at h
  unfold parseValue
  cases hl : lexArith (v.length + 1) v with
  | none => rw [hl] at h; cases h
  | some toks =>
    rw [hl] at h
    cases toks with
    | nil => cases h
    | cons t ts =>
      simp only [] at h ⊢
      unfold parseArith at h
      cases hp : parseLevel (20 * (t :: ts).length + 20) lvComma (t :: ts) with
      | none => rw [hp] at h; cases h
      | some pr =>
        obtain ⟨oe, rest⟩ := pr
        rw [hp] at h
        cases oe with
        | none => cases h
        | some e2 =>
          cases rest with
          | nil => simp only [Option.map] at h; cases h; rfl
          | cons _ _ => cases h

theorem trimSpace_blanks {v : Bytes} (h : IsBlanks v) : trimSpace v = [] := by
  unfold trimSpace
  have := dropWhile_all_append (p := isSpaceB) v [] (isBlanks_space h)
  rw [List.append_nil] at this
  rw [this]
  rfl

theorem blanks_facts {v : Bytes} (h : IsBlanks v) (hne : v ≠ []) :
    validName v = false ∧ numberLike v = true ∧ atoi v = 0 ∧ parseText v = some none := by
  have hvn : validName v = false := by
    cases v with
    | nil => exact absurd rfl hne
    | cons b r =>
      have := blank_not_start (h b (List.mem_cons_self ..))
      simp [validName, this]
  refine ⟨hvn, ?_, ?_, ?_⟩
  · unfold numberLike
    rw [hvn, trimSpace_blanks h]
    rfl
  · unfold atoi
    rw [trimSpace_blanks h]
    decide
  · unfold parseText
    have := lexArith_only_blanks v 0 h
    have e : v.length + 1 = 0 + 1 + v.length := by omega
    rw [e, this]

/-- the `deeper` parameter of `evalAt d` -/
def deeperOf : Nat → Env → Bytes → Res × Env
  | 0 => fun env _ => (.err .recursion, env)
  | d + 1 => fun env str =>
    match parseValue str with
    | .syntaxErr => (.err .syntaxErr, env)
    | .empty => (.ok 0, env)
    | .expr e' => evalAt d env e'

theorem evalAt_eq (d : Nat) : evalAt d = evalWith (deeperOf d) := by
  cases d <;> rfl

/-- what the word rule does with the chased string -/
def finish (d : Nat) (env : Env) (str : Bytes) : Res × Env :=
  if numberLike str then (.ok (atoi str), env) else deeperOf d env str

theorem finish_numberLike {d : Nat} {env : Env} {str : Bytes} (h : numberLike str = true) :
    finish d env str = (.ok (atoi str), env) := if_pos h

theorem evalWord_name (d : Nat) (env : Env) (w : Bytes) (hv : validName w = true) :
    evalWord (deeperOf d) env w = finish d env (chase env.get 99 w) := by
  unfold evalWord finish
  simp only [hv, Bool.true_and, maxNameRefDepth]
  show (if ((env.get w != []) && !numberLike (chase env.get 99 w)) = true then _ else _) = _
  by_cases he : env.get w = []
  · rw [chase_end _ _ _ hv he, numberLike_name hv]
    simp [he]
  · have : (env.get w != []) = true := by simpa using he
    simp only [this, Bool.true_and]
    by_cases hn : numberLike (chase env.get 99 w) = true
    · simp [hn]
    · simp [hn]

theorem evalWord_lit {deeper : Env → Bytes → Res × Env} {env : Env} {w : Bytes}
    (hv : validName w = false) : evalWord deeper env w = (.ok (atoi w), env) := by
  unfold evalWord
  simp [hv, chase_not_name hv]

theorem good_ok (v : Int) : (Res.ok v).good := trivial

theorem good_inDomain {r : Res} (h : r.good) : r.inDomain := by
  cases r with
  | ok v => trivial
  | panic => trivial
  | err e => cases e <;> first | trivial | exact h

/-- Whatever good result the left side (the specification) has, the right side has it too, and it
    satisfies `Q`. -/
def Refines (Q : Res → Env → Prop) (ps pm : Res × Env) : Prop :=
  ∀ r env', ps = (r, env') → r.good → pm = (r, env') ∧ Q r env'

theorem Refines.same {Q : Res → Env → Prop} {r : Res} {env : Env} (h : r.good → Q r env) :
    Refines Q (r, env) (r, env) := by
  intro r' env' he hd
  cases he
  exact ⟨rfl, h hd⟩

theorem Refines.bad {Q : Res → Env → Prop} {r : Res} {env : Env} {pm : Res × Env} (h : ¬ r.good) :
    Refines Q (r, env) pm := by
  intro r' env' he hd
  cases he
  exact absurd hd h

theorem Refines.bind {Q : Res → Env → Prop} {ps pm : Res × Env} {fs fm : Int → Env → Res × Env}
    (h : Refines Q ps pm) (hf : ∀ v e1, Q (.ok v) e1 → Refines Q (fs v e1) (fm v e1)) :
    Refines Q (andThen ps fs) (andThen pm fm) := by
  intro r env' he hd
  obtain ⟨r1, e1⟩ := ps
  cases r1 with
  | ok v =>
    obtain ⟨h1, h2⟩ := h (.ok v) e1 rfl trivial
    rw [h1]
    exact hf v e1 h2 r env' he hd
  | err er =>
    cases he
    rw [(h _ _ rfl hd).1]
    exact ⟨rfl, (h _ _ rfl hd).2⟩
  | panic =>
    cases he
    rw [(h _ _ rfl hd).1]
    exact ⟨rfl, (h _ _ rfl hd).2⟩

theorem Refines.ite {Q : Res → Env → Prop} {c : Prop} [Decidable c] {a b a' b' : Res × Env}
    (ha : c → Refines Q a a') (hb : ¬ c → Refines Q b b') :
    Refines Q (if c then a else b) (if c then a' else b') := by
  by_cases hc : c
  · rw [if_pos hc, if_pos hc]; exact ha hc
  · rw [if_neg hc, if_neg hc]; exact hb hc

theorem inI64_sval {neg : Bool} {k : Nat} (hk : k < 2 ^ 63) :
    inI64 (if neg then -(Int.ofNat k) else Int.ofNat k) = true := by
  rw [inI64_iff, Int.ofNat_eq_natCast]
  cases neg <;> simp <;> omega

/-- what the induction establishes about a result: the invariant of the environment, and a value
    that fits int64 -/
def Sound (r : Res) (env' : Env) : Prop := EnvOK env' ∧ ∀ w, r = .ok w → inI64 w = true

theorem Sound.val {v : Int} {env : Env} (h : Sound (.ok v) env) : inI64 v = true := h.2 v rfl

theorem sound_ok {v : Int} {env : Env} (henv : EnvOK env) (hv : inI64 v = true) : Sound (.ok v) env :=
  ⟨henv, fun w hw => by cases hw; exact hv⟩

theorem Refines.ret {v : Int} {env : Env} (henv : EnvOK env) (hv : inI64 v = true) :
    Refines Sound (.ok v, env) (.ok v, env) := .same fun _ => sound_ok henv hv

theorem setVar_envOK {env env' : Env} {n : Bytes} {v : Int} {r : Res} (henv : EnvOK env)
    (h : setVar env n v = (r, env')) : EnvOK env' := by
  unfold setVar at h
  split at h
  · cases h; exact henv
  · rename_i e2 hset
    cases h
    unfold Env.set at hset
    split at hset
    · cases hset
    · cases hset
      intro m
      by_cases hm : m = n
      · simp only [hm, if_true]; exact valOK_fmtInt v
      · simp only [hm, if_false]; exact henv m

theorem refines_setVar {env : Env} (n : Bytes) {v : Int} (henv : EnvOK env) (hv : inI64 v = true) :
    Refines Sound (setVar env n v) (setVar env n v) := by
  intro r env' h _
  exact ⟨h, setVar_envOK henv h, fun w hw => by rw [setVar_ok h w hw]; exact hv⟩

theorem refines_binArit {op : BinOp} {l rr : Int} {env : Env} (hop : plainBin op = true)
    (hl : inI64 l = true) (hrr : inI64 rr = true) (henv : EnvOK env) :
    Refines Sound (specBin op l rr, env) (binArit op l rr, env) := by
  intro r env' h hd
  obtain ⟨h1, rfl⟩ := Prod.mk.inj h
  have hb := binArit_eq_spec hop hrr h1 (good_inDomain hd)
  exact ⟨by rw [hb], henv, fun w hw => binArit_inI64 hl hrr (hb.trans hw)⟩

theorem refines_chk {v : Int} {env : Env} (henv : EnvOK env) :
    Refines Sound (chk v, env) (.ok (wrap64 v), env) := by
  intro r env' h hd
  obtain ⟨a, rfl⟩ := Prod.mk.inj h
  obtain ⟨hi, rfl⟩ := chk_ok a (good_inDomain hd)
  rw [wrap64_eq hi]
  exact ⟨rfl, sound_ok henv hi⟩

theorem eval_main : ∀ (fuel : Nat),
    (∀ (d D : Nat) (env : Env) (e : Expr), D ≤ d → D ≤ 99 → WF e = true → EnvOK env → LitsOK e →
      Refines Sound (specEval fuel D env e) (evalWith (deeperOf d) env e)) ∧
    (∀ (d D hops : Nat) (env : Env) (n : Bytes), D ≤ d → D ≤ 99 → D ≤ hops → validName n = true →
      EnvOK env → Refines Sound (specEval fuel D env (.word n)) (finish d env (chase env.get hops n)))
  | 0 => by
    constructor
    · intro d D env e _ _ _ _ _
      rw [specEval_zero]; exact .bad id
    · intro d D hops env n _ _ _ _ _
      rw [specEval_zero]; exact .bad id
  | fuel + 1 => by
    obtain ⟨IH1, IH2⟩ := eval_main fuel
    -- following names: the code chases them inside one nesting level (`hops` updates are left), the
    -- specification spends a level on each; `D ≤ hops` says that the specification gives up first
    have P2 : ∀ (d D hops : Nat) (env : Env) (n : Bytes), D ≤ d → D ≤ 99 → D ≤ hops →
        validName n = true → EnvOK env →
        Refines Sound (specEval (fuel + 1) D env (.word n)) (finish d env (chase env.get hops n)) := by
      intro d D hops env n hDd hD99 hDh hv henv
      have hzero : Refines Sound (.ok 0, env) (finish d env n) := by
        rw [finish_numberLike (numberLike_name hv), atoi_name hv]
        exact .ret henv rfl
      by_cases he : env.get n = []
      · rw [specEval_word, if_pos hv, if_pos he, chase_end _ _ _ hv he]
        exact hzero
      -- a name with a value: the specification parses the text and spends a level on it
      have text : ∀ e', parseText (env.get n) = some (some e') →
          (∀ D', D = D' + 1 → Refines Sound (specEval fuel D' env e')
            (finish d env (chase env.get (hops - 1) (env.get n)))) →
          Refines Sound (specEval (fuel + 1) D env (.word n)) (finish d env (chase env.get hops n)) := by
        intro e' hp hrec
        rw [specEval_word, if_pos hv, if_neg he, hp]
        cases D with
        | zero => exact .bad id
        | succ D' => rw [chase_step hv he (by omega)]; exact hrec D' rfl
      rcases henv n with hnil | ⟨neg, k, hl⟩ | hvn | hex | hbl
      · exact absurd hnil he
      · obtain ⟨e', hp, hle⟩ := parseText_intLit hl
        refine text e' hp fun D' _ r env' h' hd => ?_
        obtain ⟨a, rfl, rfl⟩ := litExpr_spec hle h' (good_inDomain hd)
        rw [chase_not_name (intLit_not_name hl), finish_numberLike (numberLike_intLit hl),
          atoi_intLit hl a]
        exact ⟨rfl, sound_ok henv (inI64_sval a)⟩
      · refine text _ (parseText_name hvn) fun D' hD => ?_
        exact IH2 d D' (hops - 1) env (env.get n) (by omega) (by omega) (by omega) hvn henv
      · obtain ⟨hnl, e', hp, hwf', hlit'⟩ := hex
        refine text e' hp fun D' hD => ?_
        obtain ⟨d', rfl⟩ : ∃ d', d = d' + 1 := ⟨d - 1, by omega⟩
        rw [chase_not_name (exprText_not_name ⟨hnl, e', hp, hwf', hlit'⟩)]
        unfold finish
        rw [hnl]
        simp only [Bool.false_eq_true, if_false, deeperOf, parseValue_of_parseText hp]
        rw [evalAt_eq]
        exact IH1 d' D' env e' (by omega) (by omega) hwf' henv hlit'
      · obtain ⟨b1, b2, b3, b4⟩ := blanks_facts hbl he
        rw [specEval_word, if_pos hv, if_neg he, b4]
        cases hops with
        | zero => exact hzero
        | succ h' =>
          rw [chase_succ, if_pos hv, if_neg he, chase_not_name b1, finish_numberLike b2, b3]
          exact .ret henv rfl
    refine ⟨?_, P2⟩
    intro d D env e hDd hD99 hwf henv hlit
    have IH := fun e1 x => IH1 d D e1 x hDd hD99
    cases e with
    | word w =>
      rw [evalWith_word]
      by_cases hv : validName w = true
      · rw [evalWord_name d env w hv]
        exact P2 d D 99 env w hDd hD99 hD99 hv henv
      · rcases hlit with hl | ⟨n, hn⟩
        · exact absurd hl hv
        · intro r env' h hd
          obtain ⟨a, rfl, rfl⟩ := specEval_lit hn h (good_inDomain hd)
          rw [evalWord_lit (by simpa using hv), atoi_lit hn a]
          exact ⟨rfl, sound_ok henv (inI64_sval (neg := false) a)⟩
    | paren x =>
      rw [specEval_paren, evalWith]
      exact IH env x (by simpa [WF] using hwf) henv hlit
    | unary op post x =>
      by_cases hinc : op = .inc ∨ op = .dec
      · simp only [WF, hinc, if_true] at hwf
        obtain ⟨n, rfl, hvn⟩ := isNameWord_elim hwf
        rw [specEval_incdec hinc hvn, evalWith_incdec hinc (validName_ne_nil hvn)]
        refine (IH env (.word n) rfl henv (Or.inl hvn)).bind fun old e1 h1 => ?_
        have hw : (if op = UnOp.inc then wrap64 (old + 1) else wrap64 (old - 1)) =
            wrap64 (if op = UnOp.inc then old + 1 else old - 1) := by
          split <;> rfl
        rw [hw]
        generalize (if op = UnOp.inc then old + 1 else old - 1) = val
        by_cases hval : inI64 val = true
        · rw [if_pos hval, wrap64_eq hval]
          refine (refines_setVar n h1.1 hval).bind fun _ e2 h2 => .ret h2.1 ?_
          cases post
          · exact hval
          · exact h1.val
        · rw [if_neg hval]
          exact .bad id
      · simp only [WF, hinc, if_false, Bool.and_eq_true, Bool.not_eq_true'] at hwf
        obtain ⟨hpost, hwx⟩ := hwf
        subst hpost
        rw [specEval_unary_plain hinc, evalWith_unary_plain hinc]
        refine (IH env x hwx henv hlit).bind fun v e1 h1 => ?_
        have hv := h1.val
        cases op with
        | inc => exact absurd (Or.inl rfl) hinc
        | dec => exact absurd (Or.inr rfl) hinc
        | not => exact .ret h1.1 (oneIf_inI64 _)
        | bitNeg =>
          refine .ret h1.1 ?_
          rw [inI64_iff] at hv ⊢
          omega
        | plus => exact .ret h1.1 hv
        | minus => exact refines_chk h1.1
    | binary op x y =>
      have hlitx : LitsOK x := hlit.1
      have hlity : LitsOK y := hlit.2
      by_cases hass : op = .assgn ∨ (assignOp op).isSome = true
      · simp only [WF, hass, if_true, Bool.and_eq_true] at hwf
        obtain ⟨n, rfl, hvn⟩ := isNameWord_elim hwf.1
        rcases hass.imp_right Option.isSome_iff_exists.1 with rfl | ⟨aop, hop⟩
        · rw [specEval_assgn hvn, evalWith_assgn (validName_ne_nil hvn)]
          exact (IH env y hwf.2 henv hlity).bind fun v e1 h1 => refines_setVar n h1.1 h1.val
        · rw [specEval_opassign hop hvn, evalWith_opassign hop (validName_ne_nil hvn)]
          exact (IH env (.word n) rfl henv (Or.inl hvn)).bind fun cur e1 h1 =>
            (IH e1 y hwf.2 h1.1 hlity).bind fun arg e2 h2 =>
              (refines_binArit (assignOp_plainBin hop) h1.val h2.val h2.1).bind fun v e3 h3 =>
                refines_setVar n h3.1 h3.val
      · simp only [WF, hass, if_false] at hwf
        by_cases ht : op = .ternQuest
        · subst ht
          simp only [if_true, Bool.and_eq_true] at hwf
          obtain ⟨hwx, hwc⟩ := hwf
          obtain ⟨t, f, rfl, hwt, hwff⟩ := WFColon_elim hwc
          rw [specEval_tern, evalWith_tern]
          refine (IH env x hwx henv hlitx).bind fun c e1 h1 => ?_
          rw [evalTernBranch]
          exact .ite (fun _ => IH e1 t hwt h1.1 hlity.1) fun _ => IH e1 f hwff h1.1 hlity.2
        · simp only [ht, if_false] at hwf
          by_cases hl : op = .andL ∨ op = .orL
          · simp only [hl, if_true, Bool.and_eq_true] at hwf
            rw [specEval_logic hl, evalWith_logic hl]
            exact (IH env x hwf.1 henv hlitx).bind fun l e1 h1 =>
              .ite (fun _ => .ret h1.1 rfl) fun _ => .ite (fun _ => .ret h1.1 rfl) fun _ =>
                (IH e1 y hwf.2 h1.1 hlity).bind fun rr e2 h2 => .ret h2.1 (oneIf_inI64 _)
          · simp only [hl, if_false, Bool.and_eq_true] at hwf
            obtain ⟨⟨hpl, hwx⟩, hwy⟩ := hwf
            rw [specEval_plain hpl, evalWith_plain hpl]
            exact (IH env x hwx henv hlitx).bind fun l e1 h1 =>
              (IH e1 y hwy h1.1 hlity).bind fun rr e2 h2 => refines_binArit hpl h1.val h2.val h2.1

/-- no condition on the result: the two sides are only compared -/
def Any : Res → Env → Prop := fun _ _ => True

theorem Refines.rfl {p : Res × Env} : Refines Any p p := fun _ _ he _ => ⟨he, trivial⟩

theorem specEval_depth_refines : ∀ (fuel D D' : Nat) (env : Env) (e : Expr), D ≤ D' →
    Refines Any (specEval fuel D env e) (specEval fuel D' env e)
  | 0, D, D', env, e, _ => by
    rw [specEval_zero]; exact .bad id
  | fuel + 1, D, D', env, e, hDD => by
    have IH := fun env1 x => specEval_depth_refines fuel D D' env1 x hDD
    have keep : ∀ {p p' : Res × Env} {f : Int → Env → Res × Env}, Refines Any p p' →
        Refines Any (andThen p f) (andThen p' f) := fun h => h.bind fun _ _ _ => .rfl
    cases e with
    | word w =>
      rw [specEval_word, specEval_word]
      refine .ite (fun _ => .ite (fun _ => .rfl) fun _ => ?_) fun _ => .rfl
      cases parseText (env.get w) with
      | none => exact .rfl
      | some oe =>
        cases oe with
        | none => exact .rfl
        | some e' =>
          cases D with
          | zero => exact .bad id
          | succ D1 =>
            obtain ⟨D2, rfl⟩ : ∃ D2, D' = D2 + 1 := ⟨D' - 1, by omega⟩
            exact specEval_depth_refines fuel D1 D2 env e' (by omega)
    | paren x =>
      rw [specEval_paren, specEval_paren]
      exact IH env x
    | unary op post x =>
      rw [specEval_unary, specEval_unary]
      refine .ite (fun _ => ?_) fun _ => .ite (fun _ => .rfl) fun _ => keep (IH env x)
      cases wordOf x with
      | none => exact .rfl
      | some n => exact .ite (fun _ => keep (IH env (.word n))) fun _ => .rfl
    | binary op x y =>
      rw [specEval_binary, specEval_binary]
      refine .ite (fun _ => ?_) fun _ => .ite (fun _ => ?_) fun _ => .ite (fun _ => ?_) fun _ => ?_
      · cases wordOf x with
        | none => exact .rfl
        | some n =>
          refine .ite (fun _ => ?_) fun _ => .rfl
          cases assignOp op with
          | none => exact .ite (fun _ => keep (IH env y)) fun _ => .rfl
          | some aop => exact (IH env (.word n)).bind fun _ e1 _ => keep (IH e1 y)
      · cases colonParts y with
        | none => exact .rfl
        | some tf =>
          exact (IH env x).bind fun _ e1 _ => .ite (fun _ => IH e1 tf.1) fun _ => IH e1 tf.2
      · exact (IH env x).bind fun _ e1 _ =>
          .ite (fun _ => .rfl) fun _ => .ite (fun _ => .rfl) fun _ => keep (IH e1 y)
      · exact (IH env x).bind fun _ e1 _ => keep (IH e1 y)

theorem specEval_depth_mono : ∀ (fuel D D' : Nat) (env : Env) (e : Expr) (r : Res) (env' : Env),
    D ≤ D' → specEval fuel D env e = (r, env') → r.good → specEval fuel D' env e = (r, env') :=
  fun fuel D D' env e r env' hDD h hd => (specEval_depth_refines fuel D D' env e hDD r env' h hd).1

/-- nesting budget under which the code and bash cannot differ by their different limits -/
def codeDepth : Nat := 99

theorem eval_eq_spec_core (fuel : Nat) (env : Env) (e : Expr) (r : Res) (env' : Env)
    (hwf : WF e = true) (henv : EnvOK env) (hlit : LitsOK e)
    (h : specEval fuel codeDepth env e = (r, env')) (hd : r.good) :
    evalArith env e = (r, env') ∧ specEval fuel bashMaxDepth env e = (r, env') ∧ EnvOK env' ∧
      (∀ v, r = .ok v → inI64 v = true) := by
  obtain ⟨a, b, c⟩ := (eval_main fuel).1 maxNameRefDepth codeDepth env e (by decide) (by decide)
    hwf henv hlit r env' h hd
  refine ⟨?_, specEval_depth_mono fuel codeDepth bashMaxDepth env e r env' (by decide) h hd, b, c⟩
  unfold evalArith
  rw [evalAt_eq]
  exact a

/-- the arguments of a `let`, each in the environment the previous ones leave, stay inside the domain -/
def LetDomain (fuel : Nat) : Env → List Expr → Prop
  | _, [] => True
  | env, e :: rest =>
    WF e = true ∧ LitsOK e ∧ (specEval fuel codeDepth env e).1.good ∧
      (∀ v, (specEval fuel codeDepth env e).1 = .ok v →
        LetDomain fuel (specEval fuel codeDepth env e).2 rest)

theorem letLoop_eq_spec (fuel : Nat) : ∀ (es : List Expr) (env : Env) (val : Int), EnvOK env →
    LetDomain fuel env es →
    letLoop env val es = (((specLetLoop fuel env val es).1).getD 0, (specLetLoop fuel env val es).2)
  | [], env, val, _, _ => rfl
  | e :: rest, env, val, henv, hdom => by
    obtain ⟨hwf, hlit, hd, hnext⟩ := hdom
    obtain ⟨r, env', hs⟩ : ∃ r env', specEval fuel codeDepth env e = (r, env') := ⟨_, _, rfl⟩
    rw [hs] at hd hnext
    obtain ⟨hm, hb, henv', _⟩ := eval_eq_spec_core fuel env e r env' hwf henv hlit hs hd
    rw [letLoop, specLetLoop]
    unfold runnerArithm
    rw [hm, hb]
    cases r with
    | ok v =>
      simp only []
      exact letLoop_eq_spec fuel rest env' v henv' (hnext v rfl)
    | err er => rfl
    | panic => rfl

/-- `x=x`: the specification runs into bash's recursion limit whatever the fuel. -/
theorem specEval_name_cycle {env : Env} {n : Bytes} (hv : validName n = true) (hx : env.get n = n) :
    ∀ (D fuel : Nat), D < fuel → specEval fuel D env (.word n) = (.err .recursion, env)
  | D, 0, h => by omega
  | 0, fuel + 1, _ => by
    rw [specEval_word, if_pos hv, hx, if_neg (validName_ne_nil hv), parseText_name hv]
  | D + 1, fuel + 1, h => by
    rw [specEval_word, if_pos hv, hx, if_neg (validName_ne_nil hv), parseText_name hv]
    exact specEval_name_cycle hv hx D fuel (by omega)

end ShVerif.C20
