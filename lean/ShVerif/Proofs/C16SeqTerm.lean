import ShVerif.Model.C16
import ShVerif.Proofs.C16Tree
/-
  C16 — `seqAgree` from SplitBraces' validity test: bash's `expand_seqterm` reads a sequence term
  `a..b[..c]` made of safe literals with the parameters `bracesSeqRec` computes.
-/
namespace ShVerif.C16

theorem findDots_safe (a : Bytes) (ha : a.all safeByte = true) (r : Bytes) :
    findDots (a ++ cDot :: cDot :: r) = some (a, r) := by
  induction a with
  | nil => rw [findDots.eq_def]; simp
  | cons x a ih =>
    simp only [List.all_cons, Bool.and_eq_true] at ha
    have hx : x ≠ cDot := (safeByte_ne x ha.1).2.2.2.1
    have := ih ha.2
    cases a with
    | nil =>
      simp only [List.nil_append] at this ⊢
      rw [findDots.eq_def]
      simp [hx, this]
    | cons y a' =>
      simp only [List.cons_append] at this ⊢
      rw [findDots.eq_def]
      simp [hx, this]

theorem takeWhile_digits (ds ep : Bytes) (hds : ds.all isDigit = true)
    (hep : ep = [] ∨ ∃ c r, ep = c :: r ∧ isDigit c = false) :
    (ds ++ ep).takeWhile isDigit = ds ∧ (ds ++ ep).dropWhile isDigit = ep := by
  induction ds with
  | nil =>
    rcases hep with rfl | ⟨c, r, rfl, hc⟩
    · simp
    · simp [hc]
  | cons d ds ih =>
    simp only [List.all_cons, Bool.and_eq_true] at hds
    have := ih hds.2
    simp [hds.1, this.1, this.2]

theorem parseDigits_ok (neg : Bool) (ds : Bytes) (h : (parseDigits neg ds).2 = true) :
    ds ≠ [] ∧ ds.all isDigit = true ∧
    (parseDigits neg ds).1 = (if neg then -(digitsVal ds : Int) else (digitsVal ds : Int)) := by
  unfold parseDigits at h ⊢
  by_cases h1 : ds = []
  · rw [if_pos h1] at h; cases h
  by_cases h2 : (!ds.all isDigit) = true
  · rw [if_neg h1, if_pos h2] at h; cases h
  rw [if_neg h1, if_neg h2] at h ⊢
  refine ⟨h1, by simpa using h2, ?_⟩
  dsimp only at h ⊢
  generalize (if neg = true then -(digitsVal ds : Int) else (digitsVal ds : Int)) = v at h ⊢
  by_cases h3 : v > maxI64
  · rw [if_pos h3] at h; cases h
  by_cases h4 : v < minI64
  · rw [if_neg h3, if_pos h4] at h; cases h
  rw [if_neg h3, if_neg h4]

theorem inI64_parseInt (s : Bytes) : inI64 (parseInt s).1 = true := decide_eq_true (parseInt_in64 s)

@[simp] theorem minus_ne_plus : (cMinus = cPlus) = False := by decide
@[simp] theorem minus_ne_zero : (cMinus = cZero) = False := by decide
@[simp] theorem plus_ne_zero : (cPlus = cZero) = False := by decide

theorem digit_not_sign (c : UInt8) (h : isDigit c = true) : c ≠ cMinus ∧ c ≠ cPlus := by
  simp only [isDigit, decide_eq_true_eq] at h
  constructor <;> (intro hc; subst hc; exact absurd h (by decide))

/-- `strconv.ParseInt` and `strtoimax` split off the sign in the same way. -/
theorem sign_split (c : UInt8) (r : Bytes) :
    ∃ neg ds, parseInt (c :: r) = parseDigits neg ds ∧ ∀ ep, numPrefix (c :: r ++ ep) =
      if (ds ++ ep).takeWhile isDigit = [] then none
      else some ((if neg then -((digitsVal ((ds ++ ep).takeWhile isDigit) : Nat) : Int)
                  else ((digitsVal ((ds ++ ep).takeWhile isDigit) : Nat) : Int)),
                 (ds ++ ep).dropWhile isDigit) := by
  by_cases hm : c = cMinus
  · subst hm; exact ⟨true, r, rfl, fun ep => rfl⟩
  by_cases hp : c = cPlus
  · subst hp; exact ⟨false, r, rfl, fun ep => rfl⟩
  · exact ⟨false, c :: r, by rw [parseInt, if_neg hp, if_neg hm], fun ep => by
      simp only [numPrefix, List.cons_append, if_neg hm, if_neg hp]⟩

theorem numPrefix_of_parse (s ep : Bytes) (h : (parseInt s).2 = true)
    (hep : ep = [] ∨ ∃ c r, ep = c :: r ∧ isDigit c = false) :
    numPrefix (s ++ ep) = some ((parseInt s).1, ep) := by
  cases s with
  | nil => cases h
  | cons c r =>
    obtain ⟨neg, ds, hp, hn⟩ := sign_split c r
    rw [hp] at h ⊢
    obtain ⟨hne, hds, hv⟩ := parseDigits_ok neg ds h
    obtain ⟨h1, h2⟩ := takeWhile_digits ds ep hds hep
    rw [hn, h1, h2, if_neg hne, hv]

theorem letter_facts (x : UInt8) (h : asciiLetter x = true) :
    x ≠ cMinus ∧ x ≠ cPlus ∧ isDigit x = false := by
  simp only [asciiLetter, decide_eq_true_eq] at h
  refine ⟨?_, ?_, ?_⟩
  · intro hc; subst hc; exact absurd h (by decide)
  · intro hc; subst hc; exact absurd h (by decide)
  · simp only [isDigit, decide_eq_false_iff_not]; omega

theorem numPrefix_letter (x : UInt8) (ep : Bytes) (h : asciiLetter x = true) :
    numPrefix (x :: ep) = none := by
  obtain ⟨h1, h2, h3⟩ := letter_facts x h
  simp [numPrefix, h1, h2, h3]

theorem parse_letter_fails (x : UInt8) (h : asciiLetter x = true) : (parseInt [x]).2 = false := by
  obtain ⟨h1, h2, h3⟩ := letter_facts x h
  simp [parseInt, h1, h2, parseDigits, h3]

theorem zeroPadded_eq (s : Bytes) : zeroPadded s = hasLeadingZeros s := by
  unfold zeroPadded hasLeadingZeros
  match s with
  | [] => simp
  | [c] =>
    by_cases hc : c = cMinus <;> simp [hc]
  | c :: d :: rest =>
    by_cases hc : c = cMinus
    · subst hc
      cases rest with
      | nil => simp
      | cons e r => simp
    · simp [hc]

/-- What follows the second endpoint: nothing, or `..c` with a parsable increment. -/
def IncrTail (ep : Bytes) (inc : Int) : Prop :=
  (ep = [] ∧ inc = 1) ∨
  (∃ c, ep = cDot :: cDot :: c ∧ c ≠ [] ∧ numPrefix c = some (inc, []) ∧ inI64 inc = true)

theorem seqTerm_num (a b ep : Bytes) (va vb inc : Int) (ha : a.all safeByte = true)
    (hane : a ≠ []) (hbne : b ≠ [])
    (hna : numPrefix a = some (va, [])) (hia : inI64 va = true)
    (hnb : numPrefix (b ++ ep) = some (vb, ep)) (hib : inI64 vb = true)
    (hep : IncrTail ep inc) :
    seqTerm (a ++ (dots ++ (b ++ ep))) =
      some { chars := false, «from» := va, to := vb, step := idealStep inc,
             width := if (zeroPadded a || zeroPadded b) then max a.length b.length else 0 } := by
  have hfd : findDots (a ++ (dots ++ (b ++ ep))) = some (a, b ++ ep) := by
    simpa [dots] using findDots_safe a ha (b ++ ep)
  have hrne : b ++ ep ≠ [] := by simp [hbne]
  have htake : (b ++ ep).take b.length = b := by simp
  unfold seqTerm
  rw [hfd]
  simp only [hane, hrne, or_self, if_false, hna, hia, if_true, hnb, hib]
  rcases hep with ⟨rfl, rfl⟩ | ⟨c, rfl, hcne, hnc, hic⟩
  · simp
  · simp [hcne, hnc, hic, htake]

theorem seqTerm_chr (x y : UInt8) (ep : Bytes) (inc : Int) (hxs : safeByte x = true)
    (hx : asciiLetter x = true) (hy : asciiLetter y = true) (hep : IncrTail ep inc) :
    seqTerm ([x] ++ (dots ++ ([y] ++ ep))) =
      some { chars := true, «from» := (x.toNat : Int), to := (y.toNat : Int),
             step := idealStep inc, width := 0 } := by
  have hfd : findDots ([x] ++ (dots ++ ([y] ++ ep))) = some ([x], [y] ++ ep) := by
    simpa [dots] using findDots_safe [x] (by simp [hxs]) ([y] ++ ep)
  unfold seqTerm
  rw [hfd]
  have h1 := numPrefix_letter x [] hx
  have h2 := numPrefix_letter y ep hy
  simp only [List.singleton_append] at h2 ⊢
  rcases hep with ⟨rfl, rfl⟩ | ⟨c, rfl, hcne, hnc, hic⟩
  · simp [h1, h2, hx, hy]
  · simp [h1, h2, hx, hy, hcne, hnc, hic]

@[simp] theorem litOf_single (v : Bytes) : litOf [.lit v] = v := by
  simp [litOf, Part.isLit, Part.litVal]

theorem seqAgree_core (a b : Bytes) (more : List Word) (ep : Bytes)
    (ha : safeLit a = true) (hb : safeLit b = true)
    (hjoin : joinSep dots (renderElems ([.lit a] :: [.lit b] :: more)) = a ++ (dots ++ (b ++ ep)))
    (hep : IncrTail ep (seqRaw ([.lit a] :: [.lit b] :: more)))
    (hepd : ep = [] ∨ ∃ c r, ep = c :: r ∧ isDigit c = false)
    (k : Bool) (hk0 : endpointKind [.lit a] = some k) (hk1 : endpointKind [.lit b] = some k) :
    seqAgree ([.lit a] :: [.lit b] :: more) = true := by
  have hane := safeLit_ne_nil a ha
  have hbne := safeLit_ne_nil b hb
  unfold seqAgree
  rw [hjoin]
  rcases endpointKind_some _ k hk0 with ⟨rfl, p0⟩ | ⟨rfl, p0, x, hx, hxl⟩
  · rcases endpointKind_some _ false hk1 with ⟨_, p1⟩ | ⟨hk', _⟩
    · simp only [litOf_single] at p0 p1
      have na := numPrefix_of_parse a [] p0 (Or.inl rfl)
      rw [List.append_nil] at na
      rw [seqTerm_num a b ep _ _ _ (safeLit_all a ha) hane hbne na (inI64_parseInt a)
        (numPrefix_of_parse b ep p1 hepd) (inI64_parseInt b) hep]
      simp [seqParams, p0, p1, zeroPadded_eq]
    · cases hk'
  · rcases endpointKind_some _ true hk1 with ⟨hk', _⟩ | ⟨_, p1, y, hy, hyl⟩
    · cases hk'
    · simp only [litOf_single] at p0 p1 hx hy
      subst hx hy
      have hxs : safeByte x = true := by
        have := safeLit_all [x] ha; simpa using this
      have := seqTerm_chr x y ep _ hxs hxl hyl hep
      simp only [List.cons_append, List.nil_append] at this ⊢
      rw [this]
      simp [seqParams, p0, p1]

theorem seqAgree_of_valid (elems : List Word) (hv : seqValid elems = true)
    (hs : seqShape elems = true) : seqAgree elems = true := by
  obtain ⟨e0, e1, more, k, rfl, hk0, hk1, hmore⟩ := seqValid_cases elems hv
  obtain ⟨a, rfl, ha⟩ := seqShape_mem _ hs e0 (by simp)
  obtain ⟨b, rfl, hb⟩ := seqShape_mem _ hs e1 (by simp)
  rcases hmore with rfl | ⟨e2, rfl, hpc⟩
  · exact seqAgree_core a b [] [] ha hb (by simp [joinSep]) (Or.inl ⟨rfl, by simp [seqRaw]⟩)
      (Or.inl rfl) k hk0 hk1
  · obtain ⟨c, rfl, hc⟩ := seqShape_mem _ hs e2 (by simp)
    simp only [litOf_single] at hpc
    have nc := numPrefix_of_parse c [] hpc (Or.inl rfl)
    rw [List.append_nil] at nc
    exact seqAgree_core a b [[.lit c]] (cDot :: cDot :: c) ha hb (by simp [joinSep, dots])
      (Or.inr ⟨c, rfl, safeLit_ne_nil c hc, by simpa [seqRaw] using nc,
        by simpa [seqRaw] using inI64_parseInt c⟩)
      (Or.inr ⟨cDot, cDot :: c, rfl, by decide⟩) k hk0 hk1

@[simp] theorem seqsAgree_nil : seqsAgree [] = true := by simp [seqsAgree]
@[simp] theorem seqsAgree_cons (p : Part) (ps : List Part) :
    seqsAgree (p :: ps) = (seqsAgreePart p && seqsAgree ps) := by simp [seqsAgree]

theorem seqsAgreeElems_of_mem (es : List (List Part)) (h : ∀ e ∈ es, seqsAgree e = true) :
    seqsAgreeElems es = true := by
  induction es with
  | nil => rfl
  | cons e es ih =>
    rw [seqsAgreeElems, h e (by simp), ih fun x hx => h x (by simp [hx])]
    rfl

theorem seqsAgree_of_canon : ∀ (u : List Part), canon u = true → seqsAgree u = true := by
  refine canon_induct (P := fun u => seqsAgree u = true) rfl (fun _ _ => rfl) ?_ ?_
  · intro s elems hcp hel
    cases s with
    | true =>
      simp only [canonPart, if_true, Bool.and_eq_true] at hcp
      simp only [seqsAgree_cons, seqsAgree_nil, seqsAgreePart, if_true, Bool.and_true]
      exact seqAgree_of_valid elems hcp.1 hcp.2
    | false =>
      simp only [seqsAgree_cons, seqsAgree_nil, seqsAgreePart, Bool.false_eq_true, if_false,
        Bool.and_true]
      exact seqsAgreeElems_of_mem elems fun e he => (hel e he).2
  · intro p ps h1 h2
    simp only [seqsAgree_cons, seqsAgree_nil, Bool.and_true] at h1 ⊢
    rw [h1, h2]
    rfl

theorem seqsAgreeElems_of_canon : ∀ (es : List (List Part)), canonElems es = true →
    seqsAgreeElems es = true := fun es h =>
  seqsAgreeElems_of_mem es fun e he => seqsAgree_of_canon e (canonElems_mem es h e he)

end ShVerif.C16
