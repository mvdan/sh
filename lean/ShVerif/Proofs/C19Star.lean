import ShVerif.Proofs.C19
/-
  C19 — the specification relations for the `**` walk and for the component loop (`StarReach`,
  `StepStar`, `SelStar`), the model against them, and `Sel` as the case without an active `**`.
-/
namespace ShVerif.C19
open ShVerif ShVerif.L3

/-- What the `**` walk may reach from the prefix `d`: `d` itself and, repeatedly, the entries
    (not starting with a dot unless dotglob; directories only when `wantDir`) of anything reached. -/
inductive StarReach (rd : Reader) (base : Str) (dotglob wantDir : Bool) : Str → Str → Prop
  | refl (d : Str) : StarReach rd base dotglob wantDir d d
  | step {d y x : Str} {l : List Str} : StarReach rd base dotglob wantDir d y →
      globDir rd base y (starName dotglob) wantDir = .ok l → x ∈ l → StarReach rd base dotglob wantDir d x

def StepStar (rd : Reader) (mk : Matcher) (cfg : Cfg) (base : Str) (wantDir : Bool) (p d x : Str) : Prop :=
  if isGlobStar cfg p = true then StarReach rd base cfg.dotglob wantDir (pathJoin2 d []) x
  else Step rd mk cfg base wantDir p d x

inductive SelStar (rd : Reader) (mk : Matcher) (cfg : Cfg) (base : Str) : List Str → Str → Str → Prop
  | done (d : Str) : SelStar rd mk cfg base [] d d
  | step {p : Str} {rest : List Str} {d x r : Str} :
      StepStar rd mk cfg base (!rest.isEmpty) p d x → SelStar rd mk cfg base rest x r →
      SelStar rd mk cfg base (p :: rest) d r

theorem StarReach.kid {rd : Reader} {base : Str} {dg wd : Bool} {d y x : Str}
    (h : StarReach rd base dg wd d y) (hx : x ∈ kids rd base (starName dg) wd y) : StarReach rd base dg wd d x :=
  let ⟨_, hg, hl⟩ := mem_kids_iff_globDir.mp hx
  h.step hg hl

theorem StarReach.of_kid {rd : Reader} {base : Str} {dg wd : Bool} {c x dir : Str}
    (hc : c ∈ kids rd base (starName dg) wd dir) (h : StarReach rd base dg wd c x) : StarReach rd base dg wd dir x := by
  induction h with
  | refl => exact (StarReach.refl dir).kid hc
  | step _ hg hx ih => exact ih.step hg hx

/-- Left decomposition (the constructor `step` extends on the right). -/
theorem starReach_iff {rd : Reader} {base : Str} {dg wd : Bool} (dir x : Str) :
    StarReach rd base dg wd dir x ↔ x = dir ∨ ∃ c ∈ kids rd base (starName dg) wd dir, StarReach rd base dg wd c x := by
  constructor
  · intro h
    induction h with
    | refl => exact Or.inl rfl
    | step hy hg hx ih =>
      rcases ih with rfl | ⟨c, hc, hcy⟩
      · exact Or.inr ⟨_, mem_kids_iff_globDir.mpr ⟨_, hg, hx⟩, StarReach.refl _⟩
      · exact Or.inr ⟨c, hc, hcy.step hg hx⟩
  · rintro (rfl | ⟨c, hc, h⟩)
    · exact StarReach.refl _
    · exact h.of_kid hc

theorem starWalk_succ {rd : Reader} {base : Str} {dg wd : Bool} (fuel : Nat) (dir : Str) (stack acc : List Str) :
    starWalk rd base dg wd (fuel + 1) (dir :: stack) acc =
      starWalk rd base dg wd fuel (kids rd base (starName dg) wd dir ++ stack) (dir :: acc) := by
  rw [starWalk, kids]
  cases globDir rd base dir (starName dg) wd <;> rfl

theorem starWalk_mem {rd : Reader} {base : Str} {dg wd : Bool} :
    ∀ (fuel : Nat) (stack acc out : List Str), starWalk rd base dg wd fuel stack acc = some out →
      ∀ x, x ∈ out ↔ x ∈ acc ∨ ∃ d ∈ stack, StarReach rd base dg wd d x := by
  intro fuel
  induction fuel with
  | zero =>
    intro stack acc out h x
    cases stack with
    | nil => cases h; simp
    | cons d rest => cases h
  | succ fuel ih =>
    intro stack acc out h x
    cases stack with
    | nil => cases h; simp
    | cons dir rest =>
      rw [starWalk_succ] at h
      rw [ih _ _ out h x]
      simp only [List.mem_cons, List.mem_append]
      constructor
      · rintro ((rfl | hx) | ⟨d, hd | hd, hr⟩)
        · exact Or.inr ⟨x, Or.inl rfl, StarReach.refl x⟩
        · exact Or.inl hx
        · exact Or.inr ⟨dir, Or.inl rfl, hr.of_kid hd⟩
        · exact Or.inr ⟨d, Or.inr hd, hr⟩
      · rintro (hx | ⟨d, rfl | hd, hr⟩)
        · exact Or.inl (Or.inr hx)
        · rcases (starReach_iff d x).mp hr with rfl | ⟨c, hc, hcx⟩
          · exact Or.inl (Or.inl rfl)
          · exact Or.inr ⟨c, Or.inl hc, hcx⟩
        · exact Or.inr ⟨d, Or.inr hd, hr⟩

theorem step_special {rd : Reader} {mk : Matcher} {cfg : Cfg} {base : Str} {wantDir : Bool} {p d x : Str}
    (hs : isSpecialPart p = true) : Step rd mk cfg base wantDir p d x ↔ x = pathJoin2 d p := by
  refine ⟨fun h => ?_, fun h => Or.inl ⟨hs, h⟩⟩
  rcases h with ⟨_, h⟩ | ⟨h, _⟩ | ⟨h, _⟩
  · exact h
  · rw [hs] at h; cases h
  · rw [hs] at h; cases h

theorem step_literal {rd : Reader} {mk : Matcher} {cfg : Cfg} {base : Str} {wantDir : Bool} {p d x : Str}
    (hs : isSpecialPart p = false) (hm : hasMeta p = false) :
    Step rd mk cfg base wantDir p d x ↔ literalKeep rd base d p wantDir = true ∧ x = pathJoin2 d p := by
  refine ⟨fun h => ?_, fun h => Or.inr (Or.inl ⟨hs, hm, h⟩)⟩
  rcases h with ⟨h, _⟩ | ⟨_, _, h⟩ | ⟨_, h, _⟩
  · rw [hs] at h; cases h
  · exact h
  · rw [hm] at h; cases h

theorem step_match {rd : Reader} {mk : Matcher} {cfg : Cfg} {base : Str} {wantDir : Bool} {p d x : Str}
    (hs : isSpecialPart p = false) (hm : hasMeta p = true) :
    Step rd mk cfg base wantDir p d x ↔ ∃ f, mk cfg.mode p = .ok f ∧ x ∈ kids rd base f wantDir d := by
  constructor
  · intro h
    rcases h with ⟨h, _⟩ | ⟨_, h, _⟩ | ⟨_, _, f, ents, e, hf, h⟩
    · rw [hs] at h; cases h
    · rw [hm] at h; cases h
    · exact ⟨f, hf, mem_kids.mpr ⟨ents, e, h⟩⟩
  · rintro ⟨f, hf, hx⟩
    obtain ⟨ents, e, h⟩ := mem_kids.mp hx
    exact Or.inr (Or.inr ⟨hs, hm, f, ents, e, hf, h⟩)

theorem not_globStar {cfg : Cfg} {p : Str} (h : isSpecialPart p = true ∨ hasMeta p = false) :
    isGlobStar cfg p = false :=
  Bool.eq_false_iff.mpr fun hg => by
    rw [(isGlobStar_iff.mp hg).1] at h
    revert h
    decide

theorem stepStar_plain {rd : Reader} {mk : Matcher} {cfg : Cfg} {base : Str} {wantDir : Bool} {p d x : Str}
    (hg : isGlobStar cfg p = false) :
    StepStar rd mk cfg base wantDir p d x ↔ Step rd mk cfg base wantDir p d x := by
  unfold StepStar
  rw [if_neg (by rw [hg]; exact Bool.false_ne_true)]

theorem stepStar_star {rd : Reader} {mk : Matcher} {cfg : Cfg} {base : Str} {wantDir : Bool} {p d x : Str}
    (hg : isGlobStar cfg p = true) :
    StepStar rd mk cfg base wantDir p d x ↔ StarReach rd base cfg.dotglob wantDir (pathJoin2 d []) x := by
  unfold StepStar
  rw [if_pos hg]

theorem globPart_mem {rd : Reader} {mk : Matcher} {cfg : Cfg} {base : Str} {wantDir : Bool}
    {ms out : List Str} {p : Str}
    (h : globPart rd mk cfg base wantDir ms p = .ok out) (x : Str) :
    x ∈ out ↔ ∃ d ∈ ms, StepStar rd mk cfg base wantDir p d x := by
  rcases globPart_ok h with ⟨hs, rfl⟩ | ⟨hs, hm, rfl⟩ | ⟨hg, hw⟩ | ⟨hs, hm, hg, f, hf, rfl⟩
  · have key : ∀ d, StepStar rd mk cfg base wantDir p d x ↔ pathJoin2 d p = x := fun d =>
      (stepStar_plain (not_globStar (Or.inl hs))).trans ((step_special hs).trans eq_comm)
    exact List.mem_map.trans (exists_congr fun d => and_congr_right fun _ => (key d).symm)
  · have key : ∀ d, StepStar rd mk cfg base wantDir p d x ↔
        literalKeep rd base d p wantDir = true ∧ pathJoin2 d p = x := fun d =>
      (stepStar_plain (not_globStar (Or.inr hm))).trans ((step_literal hs hm).trans (and_congr_right fun _ => eq_comm))
    refine List.mem_map.trans (exists_congr fun d => ?_)
    rw [List.mem_filter, and_assoc, key d]
  · rw [starWalk_mem _ _ _ _ hw x]
    refine (or_iff_right List.not_mem_nil).trans ⟨fun ⟨_, hd, hr⟩ => ?_, fun ⟨d, hd, hr⟩ =>
      ⟨_, List.mem_map.mpr ⟨d, hd, rfl⟩, (stepStar_star hg).mp hr⟩⟩
    obtain ⟨d, hd', rfl⟩ := List.mem_map.mp hd
    exact ⟨d, hd', (stepStar_star hg).mpr hr⟩
  · have key : ∀ d, StepStar rd mk cfg base wantDir p d x ↔ x ∈ kids rd base f wantDir d := fun d =>
      (stepStar_plain hg).trans ((step_match hs hm).trans
        ⟨fun ⟨f', hf', hx⟩ => by rw [hf] at hf'; cases hf'; exact hx, fun hx => ⟨f, hf, hx⟩⟩)
    exact List.mem_flatMap.trans (exists_congr fun d => and_congr_right fun _ => (key d).symm)

theorem globLoop_selStar {rd : Reader} {mk : Matcher} {cfg : Cfg} {base : Str} :
    ∀ (parts : List Str) (ms out : List Str),
      globLoop rd mk cfg base ms parts = .ok out →
      ∀ r, r ∈ out ↔ ∃ d ∈ ms, SelStar rd mk cfg base parts d r := by
  intro parts
  induction parts with
  | nil =>
    intro ms out h r
    cases h
    exact ⟨fun hr => ⟨r, hr, SelStar.done r⟩, fun ⟨d, hd, hs⟩ => by cases hs; exact hd⟩
  | cons p rest ih =>
    intro ms out h r
    obtain ⟨m', hp, h⟩ := globLoop_cons_ok h
    rw [ih m' out h r]
    constructor
    · rintro ⟨x, hx, hs⟩
      obtain ⟨d, hd, hst⟩ := (globPart_mem hp x).mp hx
      exact ⟨d, hd, SelStar.step hst hs⟩
    · rintro ⟨d, hd, hs⟩
      cases hs with
      | step hst hs' => exact ⟨_, (globPart_mem hp _).mpr ⟨d, hd, hst⟩, hs'⟩

theorem selStar_iff_sel {rd : Reader} {mk : Matcher} {cfg : Cfg} {base : Str} {parts : List Str}
    (hns : ∀ p ∈ parts, isGlobStar cfg p = false) (d r : Str) :
    SelStar rd mk cfg base parts d r ↔ Sel rd mk cfg base parts d r := by
  induction parts generalizing d with
  | nil => exact ⟨fun h => by cases h; exact Sel.done _, fun h => by cases h; exact SelStar.done _⟩
  | cons p rest ih =>
    have hp : ∀ {x}, StepStar rd mk cfg base (!rest.isEmpty) p d x ↔ Step rd mk cfg base (!rest.isEmpty) p d x :=
      stepStar_plain (hns p (List.mem_cons_self ..))
    have ih := fun x => ih (fun q hq => hns q (List.mem_cons_of_mem _ hq)) x
    constructor
    · intro h
      cases h with
      | step hst hs => exact Sel.step (hp.mp hst) ((ih _).mp hs)
    · intro h
      cases h with
      | step hst hs => exact SelStar.step (hp.mpr hst) ((ih _).mpr hs)

end ShVerif.C19
