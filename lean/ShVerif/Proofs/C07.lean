/-
  C07 — the chunked byte source refines the unchunked one (helper lemmas):
  the refinement relation, `fill`, `peek`, `peekTwo`.
-/
import ShVerif.Proofs.C07Spec
namespace ShVerif.C07
open ShVerif ShVerif.L2

/-- The refinement relation between a state of the chunked byte source (whatever its schedule,
    `io.EOF` with or after the last bytes) and a state of the unchunked machine.

    Each clause reads a few fields only.  A goal `R s' a'` about updated records is therefore proved
    as `{ h with clause := … }` from `h : R s a`: the clauses that do not read an updated field hold
    by unfolding the projections, and only the others are named and proved. -/
structure R (s : St) (a : LSt) : Prop where
  blen_eq : s.blen = s.back.length + s.front.length
  cursor : s.bsp = s.back.length ∨ (s.front = [] ∧ s.bsp = s.blen + 1 ∧ s.r = runeEOF)
  errP : s.readErr = true → s.pending = []
  eofE : s.readEOF = true → s.readErr = true
  tot : s.front.length + s.pending.length ≤ s.total
  stopLen : s.stopPat.length ≤ 4
  alive : a.err = none → a.rest = s.front ++ s.pending ∧ a.consumed = s.offs + s.bsp
  dead : a.err ≠ none → a.rest = [] ∧ s.front = [] ∧ s.bsp = s.blen + 1 ∧ s.r = runeEOF
  eofR : a.err = none → s.r = runeEOF → a.halted = false →
    s.pending = [] ∧ s.front = [] ∧ s.bsp = s.blen + 1
  f_line : a.line = s.line
  f_col : a.col = s.col
  f_r : a.r = s.r
  f_w : a.w = s.w
  f_lit : a.lit = s.lit
  f_openBq : a.openBq = s.openBq
  f_openBqDbl : a.openBqDbl = s.openBqDbl
  f_lastBqEsc : a.lastBqEsc = s.lastBqEsc
  f_err : a.err = s.err
  f_stop : a.stopPat = s.stopPat
  look : a.err = none → a.look ≤ s.front.length ∨ s.pending = []
  behind : ∀ l, a.behind = some l → s.bsp = s.back.length ∧ l <+: s.back

theorem R.err_none {s a} (h : R s a) (hr : s.r ≠ runeEOF) : a.err = none :=
  Classical.byContradiction fun he => hr (h.dead he).2.2.2

theorem R.cursor_of_ne {s a} (h : R s a) (hr : s.r ≠ runeEOF) : s.bsp = s.back.length :=
  h.cursor.resolve_right fun hc => hr hc.2.2

theorem R.bsp_le {s a} (h : R s a) (hr : s.r ≠ runeEOF) : s.bsp ≤ s.blen := by
  rw [h.cursor_of_ne hr, h.blen_eq]; omega

theorem R.rest_nil {s a} (h : R s a) (hf : s.front = []) (hp : a.err = none → s.pending = []) :
    a.rest = [] := by
  by_cases hal : a.err = none
  · rw [(h.alive hal).1, hf, hp hal]; rfl
  · exact (h.dead hal).1

theorem R.head {s a b f} (h : R s a) (hf : s.front = b :: f) :
    a.err = none ∧ a.rest = b :: (f ++ s.pending) := by
  have hal : a.err = none :=
    Classical.byContradiction fun he => List.cons_ne_nil b f (hf ▸ (h.dead he).2.1)
  exact ⟨hal, by rw [(h.alive hal).1, hf]; rfl⟩

theorem R.front_nil {s a} (h : R s a) (hr : a.rest = []) : s.front = [] := by
  cases hf : s.front with
  | nil => rfl
  | cons b f => exact absurd ((h.head hf).2 ▸ hr) (List.cons_ne_nil _ _)

theorem R.pending_nil {s a} (h : R s a) (hal : a.err = none) (hr : a.rest = []) : s.pending = [] :=
  (List.append_eq_nil_iff.1 ((h.alive hal).1 ▸ hr)).2

theorem R.r_ne_of_front {s a b f} (h : R s a) (hf : s.front = b :: f) (hh : a.halted = false) :
    a.r ≠ runeEOF := fun hr =>
  List.cons_ne_nil b f (hf ▸ (h.eofR (h.head hf).1 (h.f_r ▸ hr) hh).2.1)

theorem R.rest_le {s a} (h : R s a) : a.rest.length ≤ s.total := by
  by_cases he : a.err = none
  · rw [(h.alive he).1, List.length_append]; exact h.tot
  · rw [(h.dead he).1]; exact Nat.zero_le _

theorem R.raiseLook {s a} (h : R s a) (k : Nat)
    (hk : a.err = none → k ≤ s.front.length ∨ s.pending = []) :
    R s { a with look := max a.look k } :=
  { h with
    look := fun hal => (h.look hal).elim (fun hl => (hk hal).imp (fun hk => Nat.max_le.2 ⟨hl, hk⟩) id) .inr }

theorem R.setOk {s a} (h : R s a) (v : Bool) : R s { a with ok := v } :=
  { h with }

theorem R.forget {s a} (h : R s a) : R s a.forget :=
  { h with behind := fun _ hl => nomatch hl }

theorem fill_refines {s a} (h : R s a) (hb : a.behind = none) (hh : a.halted = false)
    (hlen : s.front.length < bufSize) :
    ∃ n s', s.fill = .ok (n, s') ∧ R s' a ∧
      ((n = 0 ∧ s'.front = s.front ∧ (a.err = none → s'.pending = [])) ∨
       (0 < n ∧ s.front.length < s'.front.length)) := by
  unfold St.fill
  by_cases h1 : (s.readEOF || s.r == runeEOF) = true
  · rw [if_pos h1]
    refine ⟨0, s, rfl, h, .inl ⟨rfl, rfl, fun hal => ?_⟩⟩
    rcases Bool.or_eq_true_iff.1 h1 with he | hr
    · exact h.errP (h.eofE he)
    · exact (h.eofR hal (by simpa using hr) hh).1
  · have hr : s.r ≠ runeEOF := fun hx => h1 (by simp [hx])
    have hal := h.err_none hr
    have ha := h.alive hal
    have hle := h.bsp_le hr
    rw [if_neg h1, if_neg (by omega)]
    by_cases h2 : s.readErr = true
    · rw [if_pos h2]
      exact ⟨0, _, rfl,
        { h with blen_eq := (Nat.zero_add _).symm, cursor := .inl rfl,
                 alive := fun _ => ha, dead := fun he => absurd hal he,
                 eofR := fun _ hx => absurd hx hr, behind := fun _ hl => nomatch hb ▸ hl },
        .inl ⟨rfl, rfl, fun _ => h.errP h2⟩⟩
    · obtain ⟨chunk, e, rest, sc, hrl, happ, hne, he, _⟩ :=
        readLoop_ok (bufSize - s.front.length) (by omega) s.eofWith s.pending s.sched
      simp only [if_neg h2, hrl, bind_ok, pure_eq_ok]
      have hlen' : (s.front ++ chunk).length + rest.length = s.front.length + s.pending.length := by
        rw [← happ]; simp only [List.length_append]; omega
      refine ⟨_, _, rfl,
        { h with blen_eq := by simp only [List.length_nil, List.length_append, Nat.zero_add],
                 cursor := .inl rfl, errP := he, eofE := id,
                 tot := hlen' ▸ h.tot,
                 alive := fun _ => ⟨by rw [ha.1, ← happ, List.append_assoc], ha.2⟩,
                 dead := fun hx => absurd hal hx, eofR := fun _ hx => absurd hx hr,
                 look := fun _ => (h.look hal).imp
                   (fun hl => by rw [List.length_append]; omega)
                   (fun hp => (List.append_eq_nil_iff.1 (hp ▸ happ)).2),
                 behind := fun _ hl => nomatch hb ▸ hl }, ?_⟩
      cases chunk with
      | nil =>
        have hp := hne rfl
        exact .inl ⟨rfl, List.append_nil _, fun _ => (List.append_eq_nil_iff.1 (hp ▸ happ)).2⟩
      | cons c t => exact .inr ⟨Nat.succ_pos _, by simp only [List.length_append, List.length_cons]; omega⟩

/-- the common prologue of `peek` and `rune`: with an empty buffer, `fill()` -/
theorem ensure1 {s a} (h : R s a) (hb : a.behind = none) (hh : a.halted = false) (hf : s.front = []) :
    ∃ n s', s.fill = .ok (n, s') ∧ R s' a ∧
      ((n = 0 ∧ s'.front = [] ∧ a.rest = []) ∨ (n ≠ 0 ∧ s'.front ≠ [])) := by
  obtain ⟨n, s', h1, hR, hc⟩ := fill_refines h hb hh (by rw [hf]; exact Nat.succ_pos _)
  refine ⟨n, s', h1, hR, hc.imp ?_ ?_⟩
  · rintro ⟨hn, hf', hp⟩
    exact ⟨hn, hf'.trans hf, hR.rest_nil (hf'.trans hf) hp⟩
  · rintro ⟨hn, hl⟩
    exact ⟨Nat.ne_of_gt hn, fun hx => by rw [hx, hf] at hl; exact Nat.lt_irrefl _ hl⟩

theorem R.peeked {s a} (h : R s a) (hne : s.front ≠ [] ∨ a.rest = []) :
    pk1 s.front = pk1 a.rest ∧ R s a.peekEff0 := by
  cases hf : s.front with
  | cons b f =>
    exact ⟨by rw [(h.head hf).2]; rfl, h.raiseLook 1 fun _ => .inl (by rw [hf]; exact Nat.succ_pos _)⟩
  | nil =>
    have hr := hne.resolve_left (fun hx => hx hf)
    exact ⟨by rw [hr], h.raiseLook 1 fun hal => .inr (h.pending_nil hal hr)⟩

theorem St.peek_match (s : St) :
    (match s.front with
      | [] => pure (runeSelf, s)
      | b :: _ => pure (b.toNat, s) : M (Nat × St)) = .ok (pk1 s.front, s) := by
  cases s.front <;> rfl

theorem peek_step {s a} (h : R s a) (hh : a.halted = false) :
    ∃ s', s.peek = .ok (pk1 a.rest, s') ∧ R s' a.forget.peekEff0 := by
  have h0 := h.forget
  unfold St.peek
  cases hf : s.front with
  | cons b f =>
    have hp := h0.peeked (.inl (hf ▸ List.cons_ne_nil b f))
    exact ⟨s, hp.1 ▸ St.peek_match s, hp.2⟩
  | nil =>
    obtain ⟨n, s', h1, h2, hc⟩ := ensure1 h0 (forget_behind a) hh hf
    have hp := h2.peeked (hc.elim (fun hc => .inr hc.2.2) (fun hc => .inl hc.2))
    simp only [List.isEmpty_nil, if_true, h1, map_ok, bind_ok]
    exact ⟨s', hp.1 ▸ St.peek_match s', hp.2⟩

theorem peek_refines {s a} (h : R s a) (hok : a.peek.2.ok = true) :
    ∃ s', s.peek = .ok (a.peek.1, s') ∧ R s' a.peek.2 := by
  rw [peek_eq] at hok ⊢
  exact peek_step h (forget_ok_halted hok)

theorem peekTwoFill_refines (fuel : Nat) : ∀ {s a}, R s a → a.behind = none → a.halted = false →
    3 ≤ s.front.length + fuel → 1 ≤ fuel →
    ∃ s', St.peekTwoFill fuel s = .ok s' ∧ R s' a ∧
      (a.err = none → 2 ≤ s'.front.length ∨ s'.pending = []) := by
  induction fuel with
  | zero => intro s a _ _ _ _ h1; omega
  | succ fuel ih =>
    intro s a h hb hh hlen _
    unfold St.peekTwoFill
    rcases hf : s.front with _ | ⟨b, _ | ⟨c, f⟩⟩
    all_goals simp only
    case cons.cons => exact ⟨s, rfl, h, fun _ => .inl (by rw [hf]; exact Nat.le_add_left ..)⟩
    all_goals
      rw [hf] at hlen
      obtain ⟨n, s', h1, h2, hc⟩ := fill_refines h hb hh (by rw [hf]; simp [bufSize])
      rw [hf] at hc
      rcases hc with ⟨hn, _, hp⟩ | ⟨hn, hl⟩
      · exact ⟨s', by rw [h1, hn]; rfl, h2, fun hal => .inr (hp hal)⟩
      · have hn0 : (n == 0) = false := by simp; omega
        simp only [h1, bind_ok, hn0, Bool.false_eq_true, if_false]
        simp only [List.length_nil, List.length_cons] at hlen hl
        exact ih h2 hb hh (by omega) (by omega)

theorem R.peekedTwo {s a} (h : R s a) (h2 : a.err = none → 2 ≤ s.front.length ∨ s.pending = []) :
    (pk1 s.front = pk1 a.rest ∧ pk2 s.front = pk2 a.rest) ∧ R s a.peekTwoEff0 := by
  refine ⟨?_, h.raiseLook 2 h2⟩
  by_cases hal : a.err = none
  · rw [(h.alive hal).1]
    rcases h2 hal with h2 | h2
    · rcases hf : s.front with _ | ⟨b, _ | ⟨c, f⟩⟩
      · simp [hf] at h2
      · simp [hf] at h2
      · exact ⟨rfl, rfl⟩
    · rw [h2, List.append_nil]; exact ⟨rfl, rfl⟩
  · rw [(h.dead hal).2.1, (h.dead hal).1]; exact ⟨rfl, rfl⟩

theorem St.peekTwo_match (s : St) :
    (match s.front with
      | [] => pure (runeSelf, runeSelf, s)
      | [b] => pure (b.toNat, runeSelf, s)
      | b :: c :: _ => pure (b.toNat, c.toNat, s) : M (Nat × Nat × St))
      = .ok (pk1 s.front, pk2 s.front, s) := by
  rcases s.front with _ | ⟨b, _ | ⟨c, f⟩⟩ <;> rfl

theorem peekTwo_step {s a} (h : R s a) (hh : a.halted = false) :
    ∃ s', s.peekTwo = .ok (pk1 a.rest, pk2 a.rest, s') ∧ R s' a.forget.peekTwoEff0 := by
  obtain ⟨s', h1, h2, h3⟩ := peekTwoFill_refines 3 h.forget (forget_behind a) hh (by omega) (by omega)
  obtain ⟨⟨e1, e2⟩, hR⟩ := h2.peekedTwo h3
  unfold St.peekTwo
  simp only [h1, bind_ok]
  exact ⟨s', e1 ▸ e2 ▸ St.peekTwo_match s', hR⟩

theorem peekTwo_refines {s a} (h : R s a) (hok : a.peekTwo.2.2.ok = true) :
    ∃ s', s.peekTwo = .ok (a.peekTwo.1, a.peekTwo.2.1, s') ∧ R s' a.peekTwo.2.2 := by
  rw [peekTwo_eq] at hok ⊢
  exact peekTwo_step h (forget_ok_halted hok)

end ShVerif.C07
