/-
  L4 parser: the grammar it accepts.  `G…` relate a parser state, the tree read from it and the
  state left behind, one rule per production of

      First ::= word+ | ( Stmts ) | { Stmts }        Pipe  ::= First | Pipe '|' nl? First
      Neg   ::= '!'? Pipe                             AndOr ::= Neg | AndOr ('&&' | '||') nl? Neg
      Stmt  ::= AndOr (';' | '&')?                    Stmts ::= (nl? Stmt)* nl?

  with the positions the parser puts into the tree.  The rules have no fuel, and a derivation has
  the shape of the tree it derives: the loops of the parser (`pipeF`, `andOrF`, `stmtsF`) build
  their left-nested trees with an accumulator, the rules are left-recursive instead, so nothing
  proved over them speaks of "what has been read so far".  The flags of the parser do not occur
  either: with `binCmd = true` its loops return at once, so the right operand of `|` is a `GFirst`
  and the right operand of `&&`/`||` a `GNeg`; `readEnd` is the difference between `GAndOr` and
  `GStmt`; `inSub`/`stopBrace`/`gotEnd` only decide where a list stops, which a rule need not
  say.  `GFirst`/`GPipe` derive commands: the statement `mkStmt pos neg c` is formed once, in `GNeg`.

  `parse_gram`: every accepted input is derived by these rules (`s_all`: one induction on the
  fuel through the inversion lemmas of L4ParseStep; the accumulators are dealt with there, once).
  What holds of every tree the parser returns is then an induction over the rules (L4Flat,
  L4PosFirst; for argument lists also `GArgs.wf` of L4ParseWF).  The rules keep what those need of
  the side conditions, not all of them: they do not characterise acceptance.
-/
import ShVerif.Proofs.L4ParseStep
namespace ShVerif.L4

inductive GArgs : PS → List Word → PS → Prop
  | nil {ps} : GArgs ps [] ps
  | cons {w lit p rest ws ps'} : plainLit lit → GArgs ⟨rest⟩ ws ps' → GArgs ⟨(.word w lit, p) :: rest⟩ (w :: ws) ps'

mutual
inductive GFirst : PS → Cmd → PS → Prop
  | call {ps w ws ps'} : GArgs ps (w :: ws) ps' → GFirst ps (.call (w :: ws)) ps'
  | subshell {lp rest ss rp rest'} : GStmts ⟨rest⟩ ss ⟨(.rparen, rp) :: rest'⟩ → ss ≠ [] →
      GFirst ⟨(.lparen, lp) :: rest⟩ (.subshell lp rp (Stmts.ofList ss)) ⟨rest'⟩
  | block {w lb rest ss w' rb rest'} : GStmts ⟨rest⟩ ss ⟨(.word w' (some [125]), rb) :: rest'⟩ → ss ≠ [] →
      GFirst ⟨(.word w (some [123]), lb) :: rest⟩ (.block lb rb (Stmts.ofList ss)) ⟨rest'⟩
/-- `pos` is the position the left operands get: that of the first token of the statement -/
inductive GPipe : Pos → PS → Cmd → PS → Prop
  | first {pos ps c ps'} : GFirst ps c ps' → GPipe pos ps c ps'
  | pipe {pos ps c q rest cy ps'} : GPipe pos ps c ⟨(.pipe, q) :: rest⟩ → GFirst (PS.mk rest).gotNewl.2 cy ps' →
      GPipe pos ps (.binary q .pipe (mkStmt pos false c) (mkStmt (PS.mk rest).gotNewl.2.pos false cy)) ps'
inductive GNeg : PS → Stmt → PS → Prop
  | mk {ps c ps'} : GPipe ps.pos (if ps.tok.isLit [33] then ps.next else ps) c ps' →
      GNeg ps (mkStmt ps.pos (ps.tok.isLit [33]) c) ps'
inductive GAndOr : PS → Stmt → PS → Prop
  | one {ps s ps'} : GNeg ps s ps' → GAndOr ps s ps'
  | op {ps x op q rest y ps'} : op ≠ .pipe → GAndOr ps x ⟨(op.tok, q) :: rest⟩ → GNeg (PS.mk rest).gotNewl.2 y ps' →
      GAndOr ps (mkStmt x.pos false (.binary q op x y)) ps'
inductive GStmt : PS → Stmt → PS → Prop
  | bare {ps s ps'} : GAndOr ps s ps' → GStmt ps s ps'
  | term {ps s bg q rest} : GAndOr ps s ⟨((if bg then Tok.amp else Tok.semi), q) :: rest⟩ → GStmt ps (s.setEnd q bg) ⟨rest⟩
inductive GStmts : PS → List Stmt → PS → Prop
  | nil {ps ps'} : ps' = ps ∨ ps' = ps.gotNewl.2 → GStmts ps [] ps'
  | cons {ps s ps2 ss ps'} : GStmt ps.gotNewl.2 s ps2 → GStmts ps2 ss ps' → GStmts ps (s :: ss) ps'
end

theorem callArgs_gram {n : Nat} {inSub : Bool} {ps : PS} {acc args : List Word} {ps' : PS}
    (h : callArgs n inSub ps acc = .ok (args, ps')) : ∃ ws, args = acc.reverse ++ ws ∧ GArgs ps ws ps' := by
  induction n generalizing ps acc with
  | zero => cases h
  | succ n ih =>
    rcases callArgs_inv h with ⟨rfl, rfl⟩ | ⟨w, lit, p, rest, e, hp, h'⟩
    · exact ⟨[], (List.append_nil _).symm, .nil⟩
    · obtain ⟨ws, rfl, hg⟩ := ih h'
      obtain ⟨toks⟩ := ps
      cases e
      exact ⟨w :: ws, by simp, .cons hp hg⟩

theorem callArgs_prefix (n : Nat) {inSub : Bool} {ps : PS} {acc args : List Word} {ps' : PS}
    (h : callArgs n inSub ps acc = .ok (args, ps')) : ∃ more, args = acc.reverse ++ more :=
  let ⟨ws, e, _⟩ := callArgs_gram h
  ⟨ws, e⟩

/-! Soundness, one claim per parser function.  The loops (`pipeF`, `andOrF`, `stmtsF`) are entered
    with what has been read so far: a derivation up to the current state, which they extend. -/

def SFirst (n : Nat) : Prop :=
  ∀ (inSub : Bool) (pos : Pos) (neg : Bool) (ps : PS) (s : Stmt) (ps' : PS),
    firstCmdF n inSub pos neg ps = .ok (some s, ps') → ∃ c, s = mkStmt pos neg c ∧ GFirst ps c ps'
def SPipe (n : Nat) : Prop :=
  ∀ (inSub binCmd : Bool) (s : Stmt) (ps : PS) (s' : Stmt) (ps' : PS),
    pipeF n inSub binCmd s ps = .ok (s', ps') → (binCmd = true → s' = s ∧ ps' = ps) ∧
    ∀ pos neg c ps0, s = mkStmt pos neg c → GPipe pos ps0 c ps → ∃ c', s' = mkStmt pos neg c' ∧ GPipe pos ps0 c' ps'
def SGot (n : Nat) : Prop :=
  ∀ (inSub : Bool) (pos : Pos) (neg binCmd : Bool) (ps : PS) (s : Stmt) (ps' : PS),
    gotStmtPipeF n inSub pos neg binCmd ps = .ok (some s, ps') →
    ∃ c, s = mkStmt pos neg c ∧ GPipe pos ps c ps' ∧ (binCmd = true → GFirst ps c ps')
def SAndOr (n : Nat) : Prop :=
  ∀ (inSub binCmd : Bool) (s : Stmt) (ps : PS) (s' : Stmt) (ps' : PS),
    andOrF n inSub binCmd s ps = .ok (s', ps') → (binCmd = true → s' = s ∧ ps' = ps) ∧
    ∀ ps0, GAndOr ps0 s ps → GAndOr ps0 s' ps'
def SGet (n : Nat) : Prop :=
  ∀ (inSub readEnd binCmd : Bool) (ps : PS) (s : Stmt) (ps' : PS),
    getStmtF n inSub readEnd binCmd ps = .ok (some s, ps') →
    GStmt ps s ps' ∧ (readEnd = false → binCmd = true → GNeg ps s ps')
def SStmts (n : Nat) : Prop :=
  ∀ (inSub stopBrace gotEnd : Bool) (ps : PS) (acc ss : List Stmt) (ps' : PS),
    stmtsF n inSub stopBrace gotEnd ps acc = .ok (ss, ps') → ∃ new, ss = acc.reverse ++ new ∧ GStmts ps new ps'

theorem s_first (n : Nat) (hS : SStmts n) : SFirst (n + 1) := by
  intro inSub pos neg ps s ps' h
  cases firstCmdF_inv h with
  | call hp hk hca =>
    obtain ⟨ws, rfl, hg⟩ := callArgs_gram hca
    exact ⟨_, rfl, .call (.cons hp hg)⟩
  | subshell hst hne =>
    obtain ⟨new, rfl, hg⟩ := hS _ _ _ _ _ _ _ hst
    exact ⟨_, rfl, .subshell hg hne⟩
  | block hst hne =>
    obtain ⟨new, rfl, hg⟩ := hS _ _ _ _ _ _ _ hst
    exact ⟨_, rfl, .block hg hne⟩

theorem s_got (n : Nat) (hF : SFirst n) (hP : SPipe n) : SGot (n + 1) := by
  intro inSub pos neg binCmd ps s ps' h
  obtain ⟨s1, ps1, hf, hp⟩ := gotStmtPipeF_inv h
  obtain ⟨c, rfl, hc⟩ := hF _ _ _ _ _ _ hf
  obtain ⟨p1, p2⟩ := hP _ _ _ _ _ _ hp
  obtain ⟨c', rfl, hc'⟩ := p2 pos neg c ps rfl (.first hc)
  refine ⟨c', rfl, hc', fun hb => ?_⟩
  obtain ⟨e1, rfl⟩ := p1 hb
  cases e1
  exact hc

theorem s_pipe (n : Nat) (hG : SGot n) (hP : SPipe n) : SPipe (n + 1) := by
  intro inSub binCmd s ps s' ps' h
  rcases pipeF_inv h with ⟨rfl, rfl⟩ | ⟨hbin, q, rest, y, ps2, e, hy, h'⟩
  · exact ⟨fun _ => ⟨rfl, rfl⟩, fun pos neg c ps0 hs hc => ⟨c, hs, hc⟩⟩
  · refine ⟨fun hb => (by rw [hbin] at hb; cases hb), fun pos neg c ps0 hs hc => ?_⟩
    obtain ⟨cy, rfl, _, hy'⟩ := hG _ _ _ _ _ _ _ hy
    obtain ⟨toks⟩ := ps
    cases e
    subst hs
    exact (hP _ _ _ _ _ _ h').2 pos neg _ ps0 rfl (.pipe hc (hy' rfl))

theorem s_andor (n : Nat) (hGet : SGet n) (hA : SAndOr n) : SAndOr (n + 1) := by
  intro inSub binCmd s ps s' ps' h
  rcases andOrF_inv h with ⟨rfl, rfl⟩ | ⟨hbin, op, q, rest, y, ps2, hop, e, hy, h'⟩
  · exact ⟨fun _ => ⟨rfl, rfl⟩, fun ps0 hs => hs⟩
  · refine ⟨fun hb => (by rw [hbin] at hb; cases hb), fun ps0 hs => ?_⟩
    obtain ⟨toks⟩ := ps
    cases e
    exact (hA _ _ _ _ _ _ h').2 ps0 (.op hop hs ((hGet _ _ _ _ _ _ hy).2 rfl rfl))

theorem s_get (n : Nat) (hG : SGot n) (hA : SAndOr n) : SGet (n + 1) := by
  intro inSub readEnd binCmd ps s ps' h
  obtain ⟨s1, ps2, s2, ps3, hg, ha, hend⟩ := getStmtF_inv h
  obtain ⟨c, rfl, hc, _⟩ := hG _ _ _ _ _ _ _ hg
  obtain ⟨a1, a2⟩ := hA _ _ _ _ _ _ ha
  have hneg : GNeg ps (mkStmt ps.pos (ps.tok.isLit [33]) c) ps2 := .mk hc
  have h2 := a2 ps (.one hneg)
  rcases hend with ⟨rfl, rfl⟩ | ⟨hre, bg, q, rest, e, rfl, rfl⟩
  · refine ⟨.bare h2, fun _ hb => ?_⟩
    obtain ⟨rfl, rfl⟩ := a1 hb
    exact hneg
  · obtain ⟨toks⟩ := ps3
    cases e
    exact ⟨.term h2, fun hf => by rw [hre] at hf; cases hf⟩

theorem s_stmts (n : Nat) (hGet : SGet n) (hS : SStmts n) : SStmts (n + 1) := by
  intro inSub stopBrace gotEnd ps acc ss ps' h
  rcases stmtsF_inv h with ⟨rfl, hps⟩ | ⟨s, ps2, hg, h'⟩
  · exact ⟨[], (List.append_nil _).symm, .nil hps⟩
  · obtain ⟨new, rfl, hn⟩ := hS _ _ _ _ _ _ _ h'
    exact ⟨s :: new, by simp, .cons (hGet _ _ _ _ _ _ hg).1 hn⟩

theorem s_all : ∀ n : Nat, SFirst n ∧ SGot n ∧ SPipe n ∧ SGet n ∧ SAndOr n ∧ SStmts n
  | 0 => by
    refine ⟨?_, ?_, ?_, ?_, ?_, ?_⟩
    · intro inSub pos neg ps s ps' h; simp [firstCmdF] at h
    · intro inSub pos neg binCmd ps s ps' h; simp [gotStmtPipeF] at h
    · intro inSub binCmd s ps s' ps' h; simp [pipeF] at h
    · intro inSub readEnd binCmd ps s ps' h; simp [getStmtF] at h
    · intro inSub binCmd s ps s' ps' h; simp [andOrF] at h
    · intro inSub stopBrace gotEnd ps acc ss ps' h; simp [stmtsF] at h
  | n + 1 => by
    obtain ⟨hF, hG, hP, hGet, hA, hS⟩ := s_all n
    exact ⟨s_first n hS, s_got n hF hP, s_pipe n hG hP, s_get n hG hA, s_andor n hGet hA, s_stmts n hGet hS⟩

/-- the tree the parser returns is derived from the token stream, up to an `eof` token -/
theorem parseToksF_gram {fuel : Nat} {toks : List TokPos} {f : File} (h : parseToksF fuel toks = .ok f) :
    ∃ ss ps', f = ⟨Stmts.ofList ss⟩ ∧ GStmts ⟨toks⟩ ss ps' ∧ ps'.tok = .eof := by
  obtain ⟨ss, ps, hst, heof, rfl⟩ := parseToksF_inv h
  obtain ⟨new, e, hg⟩ := (s_all fuel).2.2.2.2.2 _ _ _ _ _ _ _ hst
  cases e
  exact ⟨_, ps, rfl, hg, heof⟩

theorem parse_gram {l : Lang} {src : Bytes} {f : File} (h : parse l src = .ok f) :
    ∃ ss ps', f = ⟨Stmts.ofList ss⟩ ∧ GStmts ⟨lexAll src⟩ ss ps' ∧ ps'.tok = .eof :=
  parseToksF_gram h

end ShVerif.L4
