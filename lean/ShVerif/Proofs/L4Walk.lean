/-
  L4: what the walk of `Proofs/L4WalkN.lean` is made of, on the side of the re-read text — the
  lexer's tokens of rendered pieces have the kinds and lines `pinfo` computes (`bridge`; the same
  list for a printer run is `P.tl`, `Proofs/L4Lines.lean`), and the gluing of words, calls and
  terminators of the re-read tree to what the run wrote.  The walk (`transcriptN`) ties
  `printFile_fix` (the printer is a fixpoint on transcripts) to the lexer/parser facts:
  `lexAll_pieces_lines` (where the tokens of printed text sit), `lexAll_ok3` (where a word ends),
  `parse_flatten` (the tree is the token stream), `parse_pk` (statement positions are first-token
  positions), `parse_wf_posMono`, and the round trip on norms.
-/
import ShVerif.Proofs.L4Fix
import ShVerif.Proofs.L4ParseWF
import ShVerif.Proofs.L4LexLines
import ShVerif.Proofs.L4PosFirst
import ShVerif.Proofs.L4PrintGen
namespace ShVerif.L4

/-! ## The tokens of lexed text, with their lines -/

def tkOf : Tok → TK
  | .semi => .semi
  | .amp => .amp
  | _ => .other

def tinfo (tp : TokPos) : TK × Nat := (tkOf tp.1, tp.2.line)

theorem opTok_kind {b : Bytes} {a : ATok} {t : Tok} (h : opTok b = some a) (hm : tokMatch a t) :
    tkOf t = tkOfOp b ∧ t ≠ .newl ∧ nls b = 0 := by
  have hmem := opTok_mem h
  simp only [opTable, List.mem_cons, Prod.mk.injEq, List.not_mem_nil, or_false] at hmem
  rcases hmem with ⟨rfl, rfl⟩ | ⟨rfl, rfl⟩ | ⟨rfl, rfl⟩ | ⟨rfl, rfl⟩ | ⟨rfl, rfl⟩ | ⟨rfl, rfl⟩ | ⟨rfl, rfl⟩ |
    ⟨rfl, rfl⟩ | ⟨rfl, rfl⟩ | ⟨rfl, rfl⟩
  all_goals first
    | (cases hm; exact ⟨rfl, nofun, rfl⟩)
    | (obtain ⟨w, rfl⟩ := hm; exact ⟨rfl, nofun, rfl⟩)

theorem lexChain_shape : ∀ ps : List Piece, lexChain ps = true → ∀ pc ∈ ps, pc.shapeOK = true
  | [] => fun _ _ h => by cases h
  | x :: r => fun hc pc h => by
    simp only [lexChain, Bool.and_eq_true] at hc
    rcases List.mem_cons.mp h with rfl | h
    · exact hc.1.1
    · exact lexChain_shape r hc.2 pc h

theorem nls_blanks {b : Bytes} (h : b.all (· == 32) = true ∨ b.all (· == 9) = true) : nls b = 0 := by
  rcases h with h | h
  · rw [all_eq_replicate b 32 h]; simp [nls, List.count_replicate]
  · rw [all_eq_replicate b 9 h]; simp [nls, List.count_replicate]

/-- from the abstract tokens and the lines of the lexed text to kinds and lines of its pieces -/
theorem bridge : ∀ (ps : List Piece) (sk : Bool) (L : Nat) (toks : List TokPos),
    (∀ pc ∈ ps, pc.shapeOK = true) → toksMatch (expect sk ps) toks →
    toks.map (fun tp => tp.2.line) = expectLines sk L ps →
    ∃ Le, (dropNl toks).map tinfo = pinfo L ps ++ [(.other, Le)] := by
  intro ps
  induction ps with
  | nil =>
    intro sk L toks _ hm hl
    cases toks with
    | nil => simp [expect, toksMatch] at hm
    | cons tp ts =>
      obtain ⟨t, p⟩ := tp
      simp only [expect, toksMatch, tokMatch] at hm
      obtain ⟨rfl, hm2⟩ := hm
      cases ts with
      | nil => exact ⟨p.line, by simp [dropNl, tinfo, tkOf, pinfo]⟩
      | cons _ _ => simp [toksMatch] at hm2
  | cons pc rest ih =>
    intro sk L toks hsh hm hl
    have hrest : ∀ q ∈ rest, q.shapeOK = true := fun q hq => hsh q (by simp [hq])
    have hpc := hsh pc (by simp)
    cases pc with
    | word parts =>
      cases toks with
      | nil => simp [expect, toksMatch] at hm
      | cons tp ts =>
        obtain ⟨t, p⟩ := tp
        simp only [expect, toksMatch] at hm
        obtain ⟨⟨w, lit, rfl, _, _⟩, hm2⟩ := hm
        simp only [expectLines, List.map_cons, List.cons.injEq] at hl
        obtain ⟨Le, hh⟩ := ih false _ ts hrest hm2 hl.2
        refine ⟨Le, ?_⟩
        rw [dropNl_cons _ _ (by simp)]
        simp only [List.map_cons, pinfo, List.cons_append, hh, tinfo, tkOf, hl.1]
    | op b =>
      simp only [Piece.shapeOK, Option.isSome_iff_exists] at hpc
      obtain ⟨a, ha⟩ := hpc
      cases toks with
      | nil => simp [expect, toksMatch, ha] at hm
      | cons tp ts =>
        obtain ⟨t, p⟩ := tp
        simp only [expect, ha, List.singleton_append, toksMatch] at hm
        obtain ⟨hm1, hm2⟩ := hm
        obtain ⟨k1, k2, k3⟩ := opTok_kind ha hm1
        simp only [expectLines, ha, List.singleton_append, List.map_cons, List.cons.injEq] at hl
        obtain ⟨Le, hh⟩ := ih false L ts hrest hm2 hl.2
        refine ⟨Le, ?_⟩
        rw [dropNl_cons _ _ k2]
        simp only [List.map_cons, pinfo, List.cons_append, k3, Nat.add_zero, hh, tinfo, k1, hl.1]
    | gap b =>
      simp only [Piece.shapeOK] at hpc
      cases hgk : gapKind b with
      | none => simp [hgk] at hpc
      | some k =>
        cases k with
        | newline =>
          have hb := gapKind_newline hgk
          subst hb
          have hn : nls [10] = 1 := rfl
          cases sk with
          | true =>
            simp only [expect, hgk, ↓reduceIte] at hm
            simp only [expectLines, hgk, ↓reduceIte] at hl
            obtain ⟨Le, hh⟩ := ih true (L + 1) toks hrest hm hl
            exact ⟨Le, by simp only [pinfo, hn, hh]⟩
          | false =>
            simp only [expect, hgk, Bool.false_eq_true, ↓reduceIte] at hm
            simp only [expectLines, hgk, Bool.false_eq_true, ↓reduceIte] at hl
            cases toks with
            | nil => simp [toksMatch] at hm
            | cons tp ts =>
              obtain ⟨t, p⟩ := tp
              simp only [toksMatch, tokMatch] at hm
              obtain ⟨rfl, hm2⟩ := hm
              simp only [List.map_cons, List.cons.injEq] at hl
              obtain ⟨Le, hh⟩ := ih true (L + 1) ts hrest hm2 hl.2
              refine ⟨Le, ?_⟩
              have : dropNl ((Tok.newl, p) :: ts) = dropNl ts := by simp [dropNl]
              rw [this]
              simp only [pinfo, hn, hh]
        | bsnl =>
          have hb := gapKind_bsnl hgk
          subst hb
          have hn : nls [92, 10] = 1 := rfl
          simp only [expect, hgk] at hm
          simp only [expectLines, hgk] at hl
          obtain ⟨Le, hh⟩ := ih sk (L + 1) toks hrest hm hl
          exact ⟨Le, by simp only [pinfo, hn, hh]⟩
        | blanks =>
          obtain ⟨_, hall⟩ := gapKind_blanks hgk
          have hn := nls_blanks hall
          simp only [expect, hgk] at hm
          simp only [expectLines, hgk] at hl
          obtain ⟨Le, hh⟩ := ih sk L toks hrest hm hl
          exact ⟨Le, by simp only [pinfo, hn, Nat.add_zero, hh]⟩

/-! ## The walk: from token lines to transcripts -/

theorem call_wordsOK {args : List Word} (h : (Cmd.call args).wf = true) : wordsOK args ∧ args ≠ [] :=
  ⟨fun x hx => Word.wf_parts_ne ((call_wf_args h).2 x hx), (call_wf_args h).1⟩

theorem safe_ne_bs (b : UInt8) (h : isSafe b = true) : (b != 92) = true := by
  rw [bne, (safe_facts b h).2.2.1]; rfl

theorem normParts_plain : ∀ parts : List WordPart, (∀ p ∈ parts, p.wf = true) →
    (normParts parts).all NPart.plain = true
  | [] => fun _ => rfl
  | .sgl l r v :: rest => fun h => by
    have ih := normParts_plain rest (fun p hp => h p (by simp [hp]))
    simp only [normParts, List.all_cons, NPart.plain, Bool.true_and]
    exact ih
  | .lit a e v :: rest => fun h => by
    have ih := normParts_plain rest (fun p hp => h p (by simp [hp]))
    have hv : v.all (· != 92) = true := by
      have := h (.lit a e v) (by simp)
      simp only [WordPart.wf, Bool.and_eq_true, List.all_eq_true] at this
      exact List.all_eq_true.mpr (fun b hb => safe_ne_bs b (this.2 b hb))
    simp only [normParts]
    split
    · rename_i v' r hr
      rw [hr] at ih
      simp only [List.all_cons, NPart.plain, Bool.and_eq_true] at ih
      simp only [List.all_cons, NPart.plain, List.all_append, Bool.and_eq_true]
      exact ⟨⟨hv, ih.1⟩, ih.2⟩
    · simp only [List.all_cons, NPart.plain, Bool.and_eq_true]
      exact ⟨hv, ih⟩

theorem wordBytes_of_norm {w w' : Word} (hw : w.wf = true) (hw' : w'.wf = true) (hn : w'.norm = w.norm) :
    wordBytes w'.parts = wordBytes w.parts := by
  rw [wordBytes_norm _ (normParts_plain _ (Word.wf_parts hw')), wordBytes_norm _ (normParts_plain _ (Word.wf_parts hw))]
  unfold Word.norm at hn
  rw [hn]

/-- the line and kind of a word of the re-read tree -/
def wline (w : Word) : TK × Nat := (.other, ((w.pos?).getD Pos.zero).line)

/-- what the lexer guarantees about a word of the re-read tree -/
def wok3 (w : Word) : Prop := partsMax w.parts = ((w.pos?).getD Pos.zero).line + nls (wordBytes w.parts)

theorem glue_word (p : P) (w w' : Word) (hw : w.wf = true) (hw' : w'.wf = true) (hn : w'.norm = w.norm)
    (h3 : wok3 w') (hl : wline w' = (.other, (p.preWord w).cur)) : TrWord p w w' := by
  have hb := wordBytes_of_norm hw hw' hn
  have hl' : ((w'.pos?).getD Pos.zero).line = (p.preWord w).cur := by
    simpa [wline] using hl
  refine ⟨Word.wf_parts_ne hw, hb, ?_, ?_⟩
  · cases hp : w'.parts with
    | nil => exact absurd hp (Word.wf_parts_ne hw')
    | cons wp' r =>
      refine ⟨wp', r, rfl, ?_⟩
      rw [← hl']
      simp [Word.pos?, hp]
  · unfold wok3 at h3
    rw [h3, hl', hb]

theorem glue_args : ∀ (ws ws' : List Word) (p : P) (any : Bool), (∀ w ∈ ws, w.wf = true) →
    (∀ w ∈ ws', w.wf = true ∧ wok3 w) → ws'.map Word.norm = ws.map Word.norm →
    ws'.map wline = argsD p any ws → TrArgs p any ws ws'
  | [], [] => fun _ _ _ _ _ _ => by simp [TrArgs]
  | [], _ :: _ => fun _ _ _ _ hn _ => by simp at hn
  | _ :: _, [] => fun _ _ _ _ hn _ => by simp at hn
  | w :: rest, w' :: rest' => fun p any hw hw' hn hd => by
    simp only [List.map_cons, List.cons.injEq] at hn
    have hwf := hw w (by simp)
    obtain ⟨pos, hp⟩ := pos_of_parts (Word.wf_parts_ne hwf)
    simp only [argsD, hp, List.map_cons, List.cons.injEq] at hd
    simp only [TrArgs]
    refine ⟨pos, hp, ?_, ?_⟩
    · exact glue_word _ w w' hwf (hw' w' (by simp)).1 hn.1 (hw' w' (by simp)).2 hd.1
    · exact glue_args rest rest' _ _ (fun x hx => hw x (by simp [hx])) (fun x hx => hw' x (by simp [hx])) hn.2 hd.2

theorem argsD_length : ∀ (ws : List Word) (p : P) (any : Bool), wordsOK ws → (argsD p any ws).length = ws.length
  | [] => fun _ _ _ => rfl
  | w :: rest => fun p any h => by
    obtain ⟨pos, hp⟩ := pos_of_parts (h w (by simp))
    simp only [argsD, hp, List.length_cons]
    rw [argsD_length rest _ _ (fun x hx => h x (by simp [hx]))]

theorem glue_call (p : P) (args args' : List Word) (K K' : List (TK × Nat)) (hwf : (Cmd.call args).wf = true)
    (hwf' : (Cmd.call args').wf = true) (h3 : ∀ w ∈ args', wok3 w)
    (hn : args'.map Word.norm = args.map Word.norm)
    (hd : args'.map wline ++ K' = callD p args ++ K) : TrCall p args args' ∧ K' = K := by
  obtain ⟨ho, hne⟩ := call_wordsOK hwf
  obtain ⟨ho', _⟩ := call_wordsOK hwf'
  have hallwf := (call_wf_args hwf).2
  have hallwf' : ∀ w ∈ args', w.wf = true ∧ wok3 w := fun w hw => ⟨(call_wf_args hwf').2 w hw, h3 w hw⟩
  cases args with
  | nil => exact absurd rfl hne
  | cons w rest =>
    cases args' with
    | nil => simp at hn
    | cons w' rest' =>
      obtain ⟨pos, hp⟩ := pos_of_parts (ho w (by simp))
      simp only [callD, hp] at hd
      have hlen : rest'.length = rest.length := by
        have := congrArg List.length hn
        simpa using this
      have horest : wordsOK rest := fun x hx => ho x (by simp [hx])
      have ho1 : wordsOK [w] := fun x hx => ho x (by simp only [List.mem_singleton] at hx; simp [hx])
      -- split the token list: the first word, the other words, the continuation
      have e1 : (List.map wline (w' :: rest') ++ K') = ([wline w'] ++ (rest'.map wline ++ K')) := by simp
      rw [e1, List.append_assoc] at hd
      obtain ⟨d1, d2⟩ := List.append_inj hd (by rw [argsD_length _ _ _ ho1]; rfl)
      obtain ⟨d3, d4⟩ := List.append_inj d2 (by rw [argsD_length _ _ _ horest, List.length_map, hlen])
      simp only [List.map_cons, List.cons.injEq] at hn
      refine ⟨?_, d4⟩
      simp only [TrCall]
      refine ⟨pos, hp, ?_, ?_⟩
      · exact glue_args [w] [w'] _ false (fun x hx => hallwf x (by simp only [List.mem_singleton] at hx; simp [hx]))
          (fun x hx => hallwf' x (by simp only [List.mem_singleton] at hx; simp [hx])) (by simp [hn.1]) (by simpa using d1)
      · exact glue_args rest rest' _ false (fun x hx => hallwf x (by simp [hx])) (fun x hx => hallwf' x (by simp [hx])) hn.2 d3

/-- the head of a token list is not `;` or `&` -/
def NoSA (K : List (TK × Nat)) : Prop := ∀ x rest, K = x :: rest → x.1 = .other

/-- what may follow a statement: no `;`/`&`, except the `;` that `semiRsrv` writes on line `c` -/
def SemiAt (c : Nat) (K : List (TK × Nat)) : Prop :=
  ∀ x rest, K = x :: rest → x.1 = .other ∨ x = (TK.semi, c)

/-- the terminator of the re-read statement -/
def semiToks (semi' : Pos) (bg : Bool) : List TokPos :=
  if semi'.valid then [((if bg then Tok.amp else Tok.semi), semi')] else []

/-- The terminator of a statement, glued: the tokens of the re-read statement's terminator followed
    by `K'` are what `stmtEnd` wrote followed by `K`.  Each side has one terminator token or none; a
    token the other side lacks heads the other continuation, where `NoSA K'` excludes it and
    `SemiAt c K` leaves only the `;` of `semiRsrv`, which the re-read statement then owns. -/
theorem semi_glueS (p : P) (semi semi' : Pos) (bg : Bool) (K K' : List (TK × Nat)) (c : Nat)
    (hc : ¬ (semi.valid = true ∧ semi.line > p.line) → c = p.cur)
    (hd : (semiToks semi' bg).map tinfo ++ K' = semiD p semi bg ++ K)
    (hs : (NoSA K' ∧ SemiAt c K) ∨ ((bg = false ∧ semi.valid = false) ∧ semi'.valid = false)) :
    TrSemi p semi bg semi' ∧
      ((K' = K ∧ semi'.valid = ((semi.valid && decide (semi.line > p.line)) || bg)) ∨
       (K = (TK.semi, c) :: K' ∧ semi'.valid = true ∧ bg = false ∧ ¬ (semi.valid = true ∧ semi.line > p.line))) := by
  have hA' : (semi'.valid = true ∧ (semiToks semi' bg).map tinfo = [((if bg then TK.amp else TK.semi), semi'.line)]) ∨
      (semi'.valid = false ∧ (semiToks semi' bg).map tinfo = []) := by
    unfold semiToks
    cases hv : semi'.valid
    · exact Or.inr ⟨rfl, rfl⟩
    · refine Or.inl ⟨rfl, ?_⟩
      cases bg <;> rfl
  -- the re-read statement has no terminator, so `K'` starts with the one the run wrote
  have hno : ∀ (k : TK) (n : Nat), k ≠ .other → K' = (k, n) :: K → (NoSA K' ∧ SemiAt c K) → False :=
    fun k n hk e h => hk (h.1 _ _ e)
  rcases semiD_cases p semi bg with ⟨hv, hl, eA⟩ | ⟨hn, eA⟩
  · -- written on a continuation line
    rw [eA] at hd
    rcases hs with hs | ⟨⟨_, hv0⟩, _⟩
    · rcases hA' with ⟨hv', eA'⟩ | ⟨hv', eA'⟩
      · rw [eA'] at hd
        simp only [List.cons_append, List.nil_append, List.cons.injEq, Prod.mk.injEq] at hd
        exact ⟨⟨fun _ _ => ⟨hv', hd.1.2⟩, fun hn _ => absurd ⟨hv, hl⟩ hn⟩, Or.inl ⟨hd.2, by simp [hv, hl, hv']⟩⟩
      · rw [eA'] at hd
        exact (hno _ _ (by cases bg <;> simp) hd hs).elim
    · rw [hv0] at hv; cases hv
  · rw [eA] at hd
    have sepV : semi.valid = true → semi.line > p.line → semi'.valid = true ∧ semi'.line = p.cur + 1 :=
      fun h1 h2 => absurd ⟨h1, h2⟩ hn
    cases bg with
    | true =>
      rcases hs with hs | ⟨⟨hb, _⟩, _⟩
      · rcases hA' with ⟨hv', eA'⟩ | ⟨hv', eA'⟩
        · rw [eA'] at hd
          simp only [↓reduceIte, List.cons_append, List.nil_append, List.cons.injEq, Prod.mk.injEq, true_and] at hd
          exact ⟨⟨sepV, fun _ _ => hd.1⟩, Or.inl ⟨hd.2, by simp [hv']⟩⟩
        · rw [eA'] at hd
          exact (hno _ _ (by simp) hd hs).elim
      · cases hb
    | false =>
      simp only [Bool.false_eq_true, ↓reduceIte, List.nil_append] at hd
      rcases hA' with ⟨hv', eA'⟩ | ⟨hv', eA'⟩
      · -- the re-read statement has a `;` the run did not write for it: the `;` of `semiRsrv`
        rw [eA'] at hd
        simp only [Bool.false_eq_true, ↓reduceIte, List.cons_append, List.nil_append] at hd
        rcases hs with hs | ⟨_, hv0⟩
        · rcases hs.2 _ _ hd.symm with h1 | h1
          · cases h1
          · simp only [Prod.mk.injEq, true_and] at h1
            refine ⟨⟨sepV, fun _ _ => by rw [h1, hc hn]⟩, Or.inr ⟨?_, hv', rfl, hn⟩⟩
            rw [← hd, h1]
        · rw [hv0] at hv'; cases hv'
      · rw [eA'] at hd
        exact ⟨⟨sepV, fun _ hv => by rw [hv'] at hv; cases hv⟩, Or.inl ⟨hd, by rw [hv', sep_false hn]; rfl⟩⟩

/-- where nothing but `;`-free text can follow (programs without blocks), the terminators agree exactly -/
theorem semi_glue (p : P) (semi semi' : Pos) (bg : Bool) (K K' : List (TK × Nat))
    (hd : (semiToks semi' bg).map tinfo ++ K' = semiD p semi bg ++ K)
    (hs : (NoSA K ∧ NoSA K') ∨ ((bg = false ∧ semi.valid = false) ∧ semi'.valid = false)) :
    TrSemiS p semi bg semi' ∧ K' = K := by
  have hs' : (NoSA K' ∧ SemiAt p.cur K) ∨ ((bg = false ∧ semi.valid = false) ∧ semi'.valid = false) :=
    hs.imp (fun h => ⟨h.2, fun x r e => Or.inl (h.1 x r e)⟩) id
  obtain ⟨t, h | h⟩ := semi_glueS p semi semi' bg K K' p.cur (fun _ => rfl) hd hs'
  · refine ⟨⟨h.2, fun hv hl => (t.sepV hv hl).2, fun hn hb => t.nosep hn ?_⟩, h.1⟩
    rw [h.2, hb]; simp
  · rcases hs with hs | hs
    · cases hs.1 _ _ h.1
    · rw [hs.2] at h; cases h.2.1

theorem semi_glueN (p : P) (semi semi' : Pos) (bg : Bool) (K K' : List (TK × Nat)) (c : Nat)
    (hc : ¬ (semi.valid = true ∧ semi.line > p.line) → c = p.cur)
    (hd : (semiToks semi' bg).map tinfo ++ K' = semiD p semi bg ++ K)
    (hs : (NoSA K' ∧ SemiAt c K) ∨ ((bg = false ∧ semi.valid = false) ∧ semi'.valid = false)) :
    TrSemi p semi bg semi' ∧ (K' = K ∨ K = (TK.semi, c) :: K') :=
  (semi_glueS p semi semi' bg K K' c hc hd hs).imp id (Or.imp And.left And.left)

/-- what is known of a statement of the re-read tree -/
structure OKs (s' : Stmt) : Prop where
  wf : s'.wf = true
  ok3 : ∀ tp ∈ s'.ftoks, tp.1.ok3 tp.2
  sorted : Sorted s'.lines
structure OKc (c' : Cmd) : Prop where
  wf : c'.wf = true
  ok3 : ∀ tp ∈ c'.ftoks, tp.1.ok3 tp.2
  sorted : Sorted c'.lines

theorem OKs.cmd {pos semi : Pos} {neg bg : Bool} {cmd : Cmd} (h : OKs (.mk pos semi neg bg cmd)) : OKc cmd := by
  refine ⟨?_, ?_, ?_⟩
  · have := h.wf
    simp only [Stmt.wf, Bool.and_eq_true] at this
    exact this.1
  · intro tp htp
    exact h.ok3 tp (by simp [Stmt.ftoks, htp])
  · have := h.sorted
    unfold Sorted at this ⊢
    simp only [Stmt.lines] at this
    exact (List.pairwise_append.mp (List.pairwise_cons.mp this).2).1

theorem OKc.binary {opPos : Pos} {op : BinOp} {x y : Stmt} (h : OKc (.binary opPos op x y)) :
    OKs x ∧ OKs y ∧ opPos.line ≤ y.pos.line ∧ x.bare = true ∧ y.bare = true := by
  have hw := h.wf
  simp only [Cmd.wf, Bool.and_eq_true] at hw
  have hs := h.sorted
  unfold Sorted at hs
  simp only [Cmd.lines] at hs
  obtain ⟨s1, s2, _⟩ := List.pairwise_append.mp hs
  obtain ⟨s3, s4⟩ := List.pairwise_cons.mp s2
  obtain ⟨t, ht⟩ := Stmt.lines_cons y
  refine ⟨⟨hw.1.1.1.1, fun tp htp => h.ok3 tp (by simp [Cmd.ftoks, htp]), s1⟩,
    ⟨hw.1.1.1.2, fun tp htp => h.ok3 tp (by simp [Cmd.ftoks, htp]), s4⟩, ?_, hw.1.1.2, hw.1.2⟩
  exact s3 _ (by rw [ht]; simp)

theorem OKc.call {args : List Word} (h : OKc (.call args)) : ∀ w ∈ args, wok3 w := by
  intro w hw
  have := h.ok3 (Tok.word w (litWord? w.parts), (w.pos?).getD Pos.zero) (by
    simp only [Cmd.ftoks, List.mem_map]
    exact ⟨w, hw, rfl⟩)
  exact this

theorem call_tinfo (args : List Word) : (Cmd.call args).ftoks.map tinfo = args.map wline := by
  simp [Cmd.ftoks, tinfo, tkOf, wline, Function.comp_def]

theorem bare_facts {pos semi : Pos} {neg bg : Bool} {cmd : Cmd} (h : (Stmt.mk pos semi neg bg cmd).bare = true) :
    bg = false ∧ semi.valid = false := by
  simpa [Stmt.bare, Stmt.bg, Stmt.semi] using h

/-- the context of the command of a statement -/
def ctxCmd (ctx : Option Pos) (neg : Bool) (pos : Pos) : Option Pos :=
  match ctx with
  | none => if neg then some pos else none
  | some bp => some bp

/-! ## Lists -/

mutual
/-- the first token of a well-formed statement is not `;` or `&` -/
theorem ftoks_head_s : ∀ s : Stmt, s.wf = true → ∃ tp r, s.ftoks = tp :: r ∧ tkOf tp.1 = .other
  | .mk pos semi neg bg cmd => fun h => by
    have hc : cmd.wf = true := by simp only [Stmt.wf, Bool.and_eq_true] at h; exact h.1
    cases neg with
    | true => exact ⟨_, _, by simp only [Stmt.ftoks, ↓reduceIte, List.singleton_append]; rfl, rfl⟩
    | false =>
      obtain ⟨tp, r, e, k⟩ := ftoks_head_c cmd hc
      exact ⟨tp, _, by simp only [Stmt.ftoks, Bool.false_eq_true, ↓reduceIte, List.nil_append, e, List.cons_append]; rfl, k⟩
theorem ftoks_head_c : ∀ c : Cmd, c.wf = true → ∃ tp r, c.ftoks = tp :: r ∧ tkOf tp.1 = .other
  | .call args => fun h => by
    cases args with
    | nil => simp [Cmd.wf] at h
    | cons w rest => exact ⟨_, _, by simp only [Cmd.ftoks, List.map_cons]; rfl, rfl⟩
  | .subshell lp rp ss => fun _ => ⟨_, _, by simp only [Cmd.ftoks]; rfl, rfl⟩
  | .block lb rb ss => fun _ => ⟨_, _, by simp only [Cmd.ftoks]; rfl, rfl⟩
  | .binary opPos op x y => fun h => by
    have hx : x.wf = true := by simp only [Cmd.wf, Bool.and_eq_true] at h; exact h.1.1.1.1
    obtain ⟨tp, r, e, k⟩ := ftoks_head_s x hx
    exact ⟨tp, _, by simp only [Cmd.ftoks, e, List.cons_append]; rfl, k⟩
end

structure OKS (ss' : Stmts) : Prop where
  wf : ss'.wf = true
  ok3 : ∀ tp ∈ ss'.ftoks, tp.1.ok3 tp.2
  sorted : Sorted ss'.lines
  pk : ss'.pkAll

theorem OKS.cons {s : Stmt} {r : Stmts} (h : OKS (.cons s r)) : OKs s ∧ s.pk none ∧ OKS r := by
  obtain ⟨w1, w2⟩ := Stmts.wf_cons h.wf
  have hs := h.sorted
  unfold Sorted at hs
  simp only [Stmts.lines] at hs
  obtain ⟨s1, s2, _⟩ := List.pairwise_append.mp hs
  have hp := h.pk
  simp only [Stmts.pkAll] at hp
  exact ⟨⟨w1, fun tp htp => h.ok3 tp (by simp [Stmts.ftoks, htp]), s1⟩, hp.1,
    ⟨w2, fun tp htp => h.ok3 tp (by simp [Stmts.ftoks, htp]), s2, hp.2⟩⟩

theorem mem_dropNl {tp : TokPos} {l : List TokPos} (h : tp ∈ dropNl l) : tp ∈ l := by
  unfold dropNl at h
  exact (List.mem_filter.mp h).1

end ShVerif.L4
