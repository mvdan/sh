import ShVerif.Model.C33
/-
  C33 — helper lemmas.  Core Lean only.

  A sparse array stands for `indexes.zip list`, a dense one for `enumFrom 0 list`, which is the zip
  with `0, 1, …` (`zip_iotaFrom`).  On increasing indices Go's binary search is the linear scan
  `lb`/`foundAt` (`search_eq`), and the facts about the sparse code are inductions along that scan;
  the dense special cases of the code have their own lemmas about `enumFrom`.
-/
namespace ShVerif.C33

namespace SMap

theorem lookup_insert (m : SMap) (k : Int) (v : Str) (j : Int) :
    lookup (insert m k v) j = if j = k then some v else lookup m j := by
  induction m with
  | nil => rfl
  | cons p m ih =>
    obtain ⟨k', v'⟩ := p
    simp only [insert]
    by_cases h1 : k < k'
    · rw [if_pos h1]; rfl
    · rw [if_neg h1]
      by_cases h2 : k = k'
      · subst h2
        rw [if_pos rfl]
        simp only [lookup]
        by_cases e : j = k
        · rw [if_pos e, if_pos e]
        · rw [if_neg e, if_neg e, if_neg e]
      · rw [if_neg h2]
        simp only [lookup, ih]
        by_cases e : j = k'
        · subst e; rw [if_pos rfl, if_neg (Ne.symm h2), if_pos rfl]
        · rw [if_neg e, if_neg e]

theorem mem_insert {m : SMap} {k : Int} {v : Str} {p : Int × Str} (h : p ∈ insert m k v) :
    p = (k, v) ∨ p ∈ m := by
  induction m with
  | nil => exact Or.inl (List.mem_singleton.1 h)
  | cons q m ih =>
    obtain ⟨k', v'⟩ := q
    simp only [insert] at h
    by_cases h1 : k < k'
    · rw [if_pos h1] at h; exact List.mem_cons.1 h
    · rw [if_neg h1] at h
      by_cases h2 : k = k'
      · rw [if_pos h2] at h
        exact (List.mem_cons.1 h).imp_right (List.mem_cons_of_mem _)
      · rw [if_neg h2] at h
        rcases List.mem_cons.1 h with h | h
        · exact Or.inr (h ▸ List.mem_cons_self ..)
        · exact (ih h).imp_right (List.mem_cons_of_mem _)

theorem insert_sorted {m : SMap} (hs : m.Sorted) (k : Int) (v : Str) : (insert m k v).Sorted := by
  induction m with
  | nil => exact List.pairwise_singleton _ _
  | cons q m ih =>
    obtain ⟨k', v'⟩ := q
    have hs' := List.pairwise_cons.1 hs
    simp only [insert]
    by_cases h1 : k < k'
    · rw [if_pos h1]
      refine List.pairwise_cons.2 ⟨fun p hp => ?_, hs⟩
      rcases List.mem_cons.1 hp with rfl | hp
      · exact h1
      · exact Int.lt_trans h1 (hs'.1 p hp)
    · rw [if_neg h1]
      by_cases h2 : k = k'
      · rw [if_pos h2]; subst h2; exact List.pairwise_cons.2 hs'
      · rw [if_neg h2]
        refine List.pairwise_cons.2 ⟨fun p hp => ?_, ih hs'.2⟩
        rcases mem_insert hp with rfl | hp
        · exact Int.lt_iff_le_and_ne.2 ⟨Int.not_lt.1 h1, Ne.symm h2⟩
        · exact hs'.1 p hp

theorem lookup_none_of_lt {m : SMap} {j : Int} (h : ∀ p ∈ m, j < p.1) : lookup m j = none := by
  induction m with
  | nil => rfl
  | cons q m ih =>
    obtain ⟨k', v'⟩ := q
    simp only [lookup]
    rw [if_neg (Int.ne_of_lt (h (k', v') (List.mem_cons_self ..))),
      ih fun p hp => h p (List.mem_cons_of_mem _ hp)]

theorem erase_sublist (m : SMap) (k : Int) : (erase m k).Sublist m := by
  induction m with
  | nil => exact List.Sublist.refl _
  | cons q m ih =>
    obtain ⟨k', v'⟩ := q
    simp only [erase]
    by_cases h : k = k'
    · rw [if_pos h]; exact List.sublist_cons_self ..
    · rw [if_neg h]; exact List.Sublist.cons_cons _ ih

theorem erase_sorted {m : SMap} (hs : m.Sorted) (k : Int) : (erase m k).Sorted :=
  List.Pairwise.sublist (erase_sublist m k) hs

theorem lookup_erase {m : SMap} (hs : m.Sorted) (k j : Int) :
    lookup (erase m k) j = if j = k then none else lookup m j := by
  induction m with
  | nil => simp only [erase, lookup, ite_self]
  | cons q m ih =>
    obtain ⟨k', v'⟩ := q
    have hs' := List.pairwise_cons.1 hs
    simp only [erase]
    by_cases h : k = k'
    · subst h
      rw [if_pos rfl]
      simp only [lookup]
      by_cases e : j = k
      · rw [if_pos e, e]; exact lookup_none_of_lt hs'.1
      · rw [if_neg e, if_neg e]
    · rw [if_neg h]
      simp only [lookup, ih hs'.2]
      by_cases e : j = k'
      · subst e; rw [if_pos rfl, if_neg (Ne.symm h), if_pos rfl]
      · rw [if_neg e, if_neg e]

theorem erase_of_not_mem {m : SMap} {k : Int} (h : ∀ p ∈ m, p.1 ≠ k) : erase m k = m := by
  induction m with
  | nil => rfl
  | cons q m ih =>
    obtain ⟨k', v'⟩ := q
    simp only [erase]
    rw [if_neg (Ne.symm (h (k', v') (List.mem_cons_self ..))),
      ih fun p hp => h p (List.mem_cons_of_mem _ hp)]

theorem lookup_ne_none_iff_mem_keys (m : SMap) (k : Int) : lookup m k ≠ none ↔ k ∈ m.keys := by
  induction m with
  | nil => simp [lookup, keys]
  | cons q m ih =>
    obtain ⟨k', v'⟩ := q
    simp only [lookup, keys, List.map_cons, List.mem_cons]
    by_cases e : k = k'
    · simp [e]
    · simp only [e, if_false, false_or]
      exact ih

theorem lookup_head (k : Int) (v : Str) (m : SMap) : lookup ((k, v) :: m) k = some v := by
  simp only [lookup, if_true]

theorem insert_head (k : Int) (v' v : Str) (m : SMap) : insert ((k, v') :: m) k v = (k, v) :: m := by
  simp only [insert, Int.lt_irrefl, if_false, if_true]

theorem insert_cons_of_lt {k' k : Int} (h : k' < k) (v' v : Str) (m : SMap) :
    insert ((k', v') :: m) k v = (k', v') :: insert m k v := by
  simp only [insert, if_neg (Int.lt_asymm h), if_neg (Int.ne_of_lt h).symm]

theorem lookup_cons_of_lt {k j : Int} (v : Str) {m : SMap} (hs : Sorted ((k, v) :: m)) (h : j < k) :
    lookup ((k, v) :: m) j = none :=
  lookup_none_of_lt fun p hp => by
    rcases List.mem_cons.1 hp with rfl | hp
    · exact h
    · exact Int.lt_trans h ((List.pairwise_cons.1 hs).1 p hp)

theorem maxKey_cons_cons (p q : Int × Str) (m : SMap) : maxKey (p :: q :: m) = maxKey (q :: m) := by
  obtain ⟨k, v⟩ := p
  rfl

theorem maxKey_eq_getLastD (m : SMap) : maxKey m = m.keys.getLastD (-1) := by
  induction m with
  | nil => rfl
  | cons p m ih =>
    cases m with
    | nil => obtain ⟨k, v⟩ := p; rfl
    | cons q m => rw [maxKey_cons_cons, ih]; rfl

theorem maxKey_mem {m : SMap} (h : m ≠ []) : maxKey m ∈ m.keys := by
  induction m with
  | nil => exact absurd rfl h
  | cons p m ih =>
    cases m with
    | nil => obtain ⟨k, v⟩ := p; exact List.mem_singleton.2 rfl
    | cons q m =>
      rw [maxKey_cons_cons]
      exact List.mem_cons_of_mem _ (ih (List.cons_ne_nil _ _))

theorem le_maxKey {m : SMap} (hs : m.Sorted) : ∀ k ∈ m.keys, k ≤ maxKey m := by
  induction m with
  | nil => intro k hk; cases hk
  | cons p m ih =>
    have hs' := List.pairwise_cons.1 hs
    cases m with
    | nil =>
      intro k hk
      rw [List.mem_singleton.1 hk]
      obtain ⟨k', v⟩ := p
      exact Int.le_refl _
    | cons q m =>
      intro k hk
      rw [maxKey_cons_cons]
      rcases List.mem_cons.1 hk with rfl | hk
      · exact Int.le_trans (Int.le_of_lt (hs'.1 q (List.mem_cons_self ..)))
          (ih hs'.2 q.1 (List.mem_cons_self ..))
      · exact ih hs'.2 k hk

theorem maxKey_ge_neg_one {m : SMap} (h : ∀ k ∈ m.keys, 0 ≤ k) : -1 ≤ maxKey m := by
  by_cases e : m = []
  · subst e; exact Int.le_refl _
  · exact Int.le_trans (by decide) (h _ (maxKey_mem e))
end SMap

theorem length_iotaFrom (s : Int) (n : Nat) : (iotaFrom s n).length = n := by
  induction n generalizing s with
  | zero => rfl
  | succ n ih => simp only [iotaFrom, List.length_cons, ih]

theorem zip_iotaFrom (s : Int) (l : List Str) : (iotaFrom s l.length).zip l = enumFrom s l := by
  induction l generalizing s with
  | nil => rfl
  | cons x xs ih => simp only [List.length_cons, iotaFrom, List.zip_cons_cons, enumFrom, ih]

theorem isIotaFrom_iotaFrom (s : Int) (n : Nat) : isIotaFrom s (iotaFrom s n) = true := by
  induction n generalizing s with
  | zero => rfl
  | succ n ih => simp only [iotaFrom, isIotaFrom, beq_self_eq_true, ih, Bool.and_self]

theorem eq_iotaFrom_of_isIotaFrom {s : Int} {ix : List Int} (h : isIotaFrom s ix = true) :
    ix = iotaFrom s ix.length := by
  induction ix generalizing s with
  | nil => rfl
  | cons k ks ih =>
    simp only [isIotaFrom, Bool.and_eq_true, beq_iff_eq] at h
    simp only [List.length_cons, iotaFrom]
    rw [← ih h.2, h.1]

theorem keys_zip {ix : List Int} {list : List Str} (h : ix.length = list.length) :
    SMap.keys (ix.zip list) = ix :=
  List.map_fst_zip (Nat.le_of_eq h)

theorem vals_zip {ix : List Int} {list : List Str} (h : ix.length = list.length) :
    SMap.vals (ix.zip list) = list :=
  List.map_snd_zip (Nat.le_of_eq h.symm)

theorem length_enumFrom (s : Int) (l : List Str) : (enumFrom s l).length = l.length := by
  rw [← zip_iotaFrom, List.length_zip, length_iotaFrom, Nat.min_self]

theorem keys_enumFrom (s : Int) (l : List Str) : SMap.keys (enumFrom s l) = iotaFrom s l.length := by
  rw [← zip_iotaFrom, keys_zip (length_iotaFrom ..)]

theorem vals_enumFrom (s : Int) (l : List Str) : SMap.vals (enumFrom s l) = l := by
  rw [← zip_iotaFrom, vals_zip (length_iotaFrom ..)]

theorem mem_iotaFrom {s : Int} {n : Nat} {k : Int} : k ∈ iotaFrom s n ↔ s ≤ k ∧ k < s + n := by
  induction n generalizing s with
  | zero => simp [iotaFrom]
  | succ n ih =>
    simp only [iotaFrom, List.mem_cons, ih]
    omega

theorem increasing_iotaFrom (s : Int) (n : Nat) : Increasing (iotaFrom s n) := by
  induction n generalizing s with
  | zero => exact List.Pairwise.nil
  | succ n ih =>
    refine List.pairwise_cons.2 ⟨fun k hk => ?_, ih _⟩
    exact Int.lt_of_lt_of_le (Int.lt_succ s) (mem_iotaFrom.1 hk).1

theorem sorted_iff_keys (m : SMap) : m.Sorted ↔ Increasing m.keys := by
  unfold SMap.Sorted Increasing SMap.keys
  rw [List.pairwise_map]

theorem toNat_sub_succ {k s : Int} (h : s < k) : (k - s).toNat = (k - (s + 1)).toNat + 1 := by
  have e : k - s = (k - (s + 1)) + 1 := by rw [← Int.sub_sub, Int.sub_add_cancel]
  rw [e, Int.toNat_add (Int.sub_nonneg_of_le h) (by decide)]; rfl

theorem lookup_enumFrom (s : Int) (l : List Str) (k : Int) (h : s ≤ k) :
    SMap.lookup (enumFrom s l) k = l[(k - s).toNat]? := by
  induction l generalizing s with
  | nil => rfl
  | cons y ys ih =>
    simp only [enumFrom, SMap.lookup]
    by_cases e : k = s
    · rw [if_pos e, e, Int.sub_self]; rfl
    · have hlt : s < k := Int.lt_iff_le_and_ne.2 ⟨h, Ne.symm e⟩
      rw [if_neg e, ih (s + 1) hlt, toNat_sub_succ hlt, List.getElem?_cons_succ]

theorem enumFrom_set (s : Int) (l : List Str) (k : Int) (v : Str) (hk : s ≤ k)
    (h : (k - s).toNat < l.length) :
    enumFrom s (l.set (k - s).toNat v) = SMap.insert (enumFrom s l) k v := by
  induction l generalizing s with
  | nil => cases h
  | cons y ys ih =>
    by_cases e : k = s
    · subst e
      rw [Int.sub_self, Int.toNat_zero, List.set_cons_zero, enumFrom, enumFrom, SMap.insert_head]
    · have hlt : s < k := Int.lt_iff_le_and_ne.2 ⟨hk, Ne.symm e⟩
      rw [toNat_sub_succ hlt] at h ⊢
      rw [List.set_cons_succ, enumFrom, enumFrom, SMap.insert_cons_of_lt hlt,
        ih (s + 1) hlt (Nat.lt_of_succ_lt_succ h)]

theorem enumFrom_append (s : Int) (l : List Str) (k : Int) (v : Str) (hk : s ≤ k)
    (h : (k - s).toNat = l.length) :
    enumFrom s (l ++ [v]) = SMap.insert (enumFrom s l) k v := by
  induction l generalizing s with
  | nil =>
    rw [Int.le_antisymm hk (Int.le_of_sub_nonpos (Int.toNat_eq_zero.1 h))]; rfl
  | cons y ys ih =>
    have hlt : s < k := Int.lt_iff_le_and_ne.2 ⟨hk, fun e => by
      rw [e, Int.sub_self] at h; cases h⟩
    rw [toNat_sub_succ hlt] at h
    rw [List.cons_append, enumFrom, enumFrom, SMap.insert_cons_of_lt hlt,
      ih (s + 1) hlt (Nat.succ.inj h)]

theorem enumFrom_take_last (s : Int) (l : List Str) (k : Int) (hk : s ≤ k)
    (h : (k - s).toNat + 1 = l.length) :
    enumFrom s (l.take (k - s).toNat) = SMap.erase (enumFrom s l) k := by
  induction l generalizing s with
  | nil => cases h
  | cons y ys ih =>
    by_cases e : k = s
    · subst e
      rw [Int.sub_self, Int.toNat_zero] at h ⊢
      cases ys with
      | nil => simp only [List.take_zero, enumFrom, SMap.erase, if_true]
      | cons _ _ => cases Nat.succ.inj h
    · have hlt : s < k := Int.lt_iff_le_and_ne.2 ⟨hk, Ne.symm e⟩
      rw [toNat_sub_succ hlt] at h ⊢
      rw [List.take_succ_cons, enumFrom, enumFrom, SMap.erase, if_neg e,
        ih (s + 1) hlt (Nat.succ.inj h)]

theorem filter_enumFrom (s : Int) (l : List Str) (o : Int) :
    SMap.vals ((enumFrom s l).filter (fun p => decide (o ≤ p.1))) = l.drop (o - s).toNat := by
  induction l generalizing s with
  | nil => rw [List.drop_nil]; rfl
  | cons y ys ih =>
    rw [enumFrom]
    by_cases c : o ≤ s
    · have e0 : (o - s).toNat = 0 := Int.toNat_eq_zero.2 (Int.sub_nonpos_of_le c)
      have e1 : (o - (s + 1)).toNat = 0 :=
        Int.toNat_eq_zero.2 (Int.sub_nonpos_of_le (Int.le_trans c (Int.le_add_one (Int.le_refl s))))
      rw [List.filter_cons_of_pos (by rw [decide_eq_true_eq]; exact c), SMap.vals, List.map_cons,
        ← SMap.vals, ih (s + 1), e0, e1]
      rfl
    · rw [List.filter_cons_of_neg (by rw [decide_eq_true_eq]; exact c), ih (s + 1),
        toNat_sub_succ (Int.not_le.1 c), List.drop_succ_cons]

theorem mem_enumFrom_key {s : Int} {l : List Str} {p : Int × Str} (hp : p ∈ enumFrom s l) :
    s ≤ p.1 ∧ p.1 < s + l.length := by
  have : p.1 ∈ SMap.keys (enumFrom s l) := List.mem_map_of_mem hp
  rw [keys_enumFrom] at this
  exact mem_iotaFrom.mp this

/-- The invariant of `Variable.Indexes` before canonicalisation. -/
structure PreWF (list : List Str) (ix : List Int) : Prop where
  len : ix.length = list.length
  inc : Increasing ix
  nonneg : ∀ k ∈ ix, 0 ≤ k

theorem PreWF.iota (list : List Str) : PreWF list (iotaFrom 0 list.length) :=
  ⟨length_iotaFrom .., increasing_iotaFrom .., fun _ hk => (mem_iotaFrom.mp hk).1⟩

theorem Arr.WF.dense (list : List Str) : (Arr.mk list none).WF :=
  ⟨fun ix h => by cases h⟩

theorem Arr.WF.pre {a : Arr} (h : a.WF) {ix : List Int} (e : a.idx = some ix) : PreWF a.list ix :=
  let ⟨h1, h2, h3, _⟩ := h.shape ix e
  ⟨h1, h2, h3⟩

theorem Arr.WF.notIota {a : Arr} (h : a.WF) {ix : List Int} (e : a.idx = some ix) :
    isIotaFrom 0 ix = false :=
  (h.shape ix e).2.2.2

/-- The index list of a well-formed array is not empty: `[]` is `0, 1, …` (none of them). -/
theorem Arr.WF.idx_cons {a : Arr} (h : a.WF) {ix : List Int} (e : a.idx = some ix) :
    ∃ x xs, ix = x :: xs := by
  cases ix with
  | nil => exact absurd (h.notIota e) (by decide)
  | cons x xs => exact ⟨x, xs, rfl⟩

theorem Arr.WF.sparse {list : List Str} {ix : List Int} (h : PreWF list ix)
    (hi : isIotaFrom 0 ix = false) : (Arr.mk list (some ix)).WF :=
  ⟨fun _ e => by cases e; exact ⟨h.len, h.inc, h.nonneg, hi⟩⟩

theorem sorted_zip_iff {list : List Str} {ix : List Int} (hl : ix.length = list.length) :
    SMap.Sorted (ix.zip list) ↔ Increasing ix := by
  rw [sorted_iff_keys, keys_zip hl]

theorem canonical_spec {list : List Str} {ix : List Int} (h : PreWF list ix) :
    (Arr.mk list (canonical (some ix))).WF ∧ (Arr.mk list (canonical (some ix))).abs = ix.zip list := by
  simp only [canonical]
  by_cases hi : isIotaFrom 0 ix = true
  · rw [if_pos hi]
    refine ⟨Arr.WF.dense _, ?_⟩
    simp only [Arr.abs]
    rw [eq_iotaFrom_of_isIotaFrom hi, h.len, zip_iotaFrom]
  · rw [if_neg hi]
    exact ⟨Arr.WF.sparse h (Bool.not_eq_true _ ▸ hi), rfl⟩

theorem abs_of_none {a : Arr} (e : a.idx = none) : a.abs = enumFrom 0 a.list := by
  rw [Arr.abs, e]

theorem abs_of_some {a : Arr} {ix : List Int} (e : a.idx = some ix) : a.abs = ix.zip a.list := by
  rw [Arr.abs, e]

theorem abs_eq_zip {a : Arr} (h : a.WF) : ∃ ix, PreWF a.list ix ∧ a.abs = ix.zip a.list := by
  unfold Arr.abs
  cases e : a.idx with
  | none => exact ⟨_, PreWF.iota a.list, (zip_iotaFrom 0 a.list).symm⟩
  | some ix => exact ⟨ix, h.pre e, rfl⟩

theorem abs_sorted {a : Arr} (h : a.WF) : a.abs.Sorted := by
  obtain ⟨ix, p, e⟩ := abs_eq_zip h
  rw [e]; exact (sorted_zip_iff p.len).2 p.inc

theorem abs_keys_nonneg {a : Arr} (h : a.WF) : ∀ k ∈ a.abs.keys, 0 ≤ k := by
  obtain ⟨ix, p, e⟩ := abs_eq_zip h
  rw [e, keys_zip p.len]; exact p.nonneg

/-- First position holding an element that is not `< k` (a linear scan). -/
def lb : List Int → Int → Nat
  | [], _ => 0
  | x :: xs, k => if x < k then lb xs k + 1 else 0

def foundAt : List Int → Int → Bool
  | [], _ => false
  | x :: xs, k => if x < k then foundAt xs k else x == k

theorem lb_le_length (xs : List Int) (k : Int) : lb xs k ≤ xs.length := by
  induction xs with
  | nil => exact Nat.le_refl 0
  | cons x xs ih =>
    simp only [lb]
    by_cases h : x < k
    · rw [if_pos h]; exact Nat.succ_le_succ ih
    · rw [if_neg h]; exact Nat.zero_le _

theorem getD_mem {xs : List Int} {p : Nat} (h : p < xs.length) : xs.getD p 0 ∈ xs := by
  rw [List.getD_eq_getElem?_getD, List.getElem?_eq_getElem h]; exact List.getElem_mem h

theorem lt_lb_iff {xs : List Int} (inc : Increasing xs) (k : Int) {p : Nat} (hp : p < xs.length) :
    p < lb xs k ↔ xs.getD p 0 < k := by
  induction xs generalizing p with
  | nil => cases hp
  | cons x xs ih =>
    have inc' := List.pairwise_cons.1 inc
    simp only [lb]
    by_cases h : x < k
    · rw [if_pos h]
      cases p with
      | zero => exact ⟨fun _ => h, fun _ => Nat.succ_pos _⟩
      | succ p =>
        rw [List.getD_cons_succ, Nat.succ_lt_succ_iff]
        exact ih inc'.2 (Nat.lt_of_succ_lt_succ hp)
    · rw [if_neg h]
      refine ⟨fun c => absurd c (Nat.not_lt_zero _), fun c => absurd (Int.lt_of_le_of_lt ?_ c) h⟩
      cases p with
      | zero => exact Int.le_refl _
      | succ p =>
        exact Int.le_of_lt (inc'.1 _ (getD_mem (Nat.lt_of_succ_lt_succ hp)))

theorem foundAt_eq (xs : List Int) (k : Int) :
    foundAt xs k = (decide (lb xs k < xs.length) && xs.getD (lb xs k) 0 == k) := by
  induction xs with
  | nil => rfl
  | cons x xs ih =>
    simp only [foundAt, lb]
    by_cases h : x < k
    · simp only [if_pos h, ih, List.length_cons, Nat.succ_lt_succ_iff, List.getD_cons_succ]
    · simp only [if_neg h, List.length_cons, Nat.succ_pos, decide_true, Bool.true_and, List.getD_cons_zero]

theorem foundAt_iff_mem {xs : List Int} (inc : Increasing xs) (k : Int) :
    foundAt xs k = true ↔ k ∈ xs := by
  induction xs with
  | nil => exact ⟨fun h => absurd h Bool.false_ne_true, fun h => absurd h List.not_mem_nil⟩
  | cons x xs ih =>
    have inc' := List.pairwise_cons.1 inc
    simp only [foundAt, List.mem_cons]
    by_cases hx : x < k
    · rw [if_pos hx, ih inc'.2]
      exact ⟨Or.inr, fun h => h.resolve_left (Int.ne_of_lt hx).symm⟩
    · rw [if_neg hx, beq_iff_eq]
      refine ⟨fun h => Or.inl h.symm, fun h => (h.resolve_right fun hk => hx (inc'.1 k hk)).symm⟩

theorem lb_lt_of_foundAt {xs : List Int} {k : Int} (h : foundAt xs k = true) : lb xs k < xs.length := by
  rw [foundAt_eq, Bool.and_eq_true, decide_eq_true_eq] at h
  exact h.1

theorem bsearch_succ (xs : List Int) (k : Int) (fuel i j : Nat) :
    bsearch xs k (fuel + 1) i j =
      if i < j then
        if xs.getD ((i + j) / 2) 0 < k then bsearch xs k fuel ((i + j) / 2 + 1) j
        else bsearch xs k fuel i ((i + j) / 2)
      else i := rfl

theorem mid_bounds {i j : Nat} (h : i < j) : i ≤ (i + j) / 2 ∧ (i + j) / 2 < j := by
  constructor
  · rw [Nat.le_div_iff_mul_le Nat.two_pos, Nat.mul_two]; exact Nat.add_le_add_left (Nat.le_of_lt h) i
  · rw [Nat.div_lt_iff_lt_mul Nat.two_pos, Nat.mul_two]; exact Nat.add_lt_add_right h j

/-- The loop invariant of Go's binary search: the stopping point of the linear scan stays within
    `[i, j]`; the fuel covers `j - i`. -/
theorem bsearch_eq_lb {xs : List Int} (inc : Increasing xs) (k : Int) :
    ∀ fuel i j, j ≤ fuel + i → i ≤ lb xs k → lb xs k ≤ j → j ≤ xs.length →
      bsearch xs k fuel i j = lb xs k := by
  intro fuel
  induction fuel with
  | zero =>
    intro i j h hi hj _
    rw [Nat.zero_add] at h
    exact Nat.le_antisymm hi (Nat.le_trans hj h)
  | succ fuel ih =>
    intro i j hfu hi hj hjn
    rw [Nat.succ_add] at hfu
    rw [bsearch_succ]
    by_cases hij : i < j
    · obtain ⟨h1, h2⟩ := mid_bounds hij
      rw [if_pos hij]
      generalize (i + j) / 2 = m at h1 h2 ⊢
      have hm := lt_lb_iff inc k (Nat.lt_of_lt_of_le h2 hjn)
      by_cases hlt : xs.getD m 0 < k
      · rw [if_pos hlt]
        exact ih _ _ (Nat.le_trans hfu (Nat.succ_le_succ (Nat.add_le_add_left h1 fuel)))
          (hm.2 hlt) hj hjn
      · rw [if_neg hlt]
        exact ih _ _ (Nat.le_of_lt_succ (Nat.lt_of_lt_of_le h2 hfu)) hi
          (Nat.le_of_not_lt fun c => hlt (hm.1 c)) (Nat.le_trans (Nat.le_of_lt h2) hjn)
    · rw [if_neg hij]
      exact Nat.le_antisymm hi (Nat.le_trans hj (Nat.le_of_not_lt hij))

theorem search_eq (xs : List Int) (k : Int) (inc : Increasing xs) :
    search xs k = (lb xs k, foundAt xs k) := by
  rw [search, foundAt_eq, bsearch_eq_lb inc k _ _ _ (Nat.le_succ _)
    (Nat.zero_le _) (lb_le_length xs k) (Nat.le_refl _)]

theorem length_insertAt {α : Type} (l : List α) (n : Nat) (a : α) (h : n ≤ l.length) :
    (insertAt l n a).length = l.length + 1 := by
  induction l generalizing n with
  | nil => cases n <;> rfl
  | cons x xs ih =>
    cases n with
    | zero => rfl
    | succ n => simp only [insertAt, List.length_cons, ih n (Nat.le_of_succ_le_succ h)]

theorem mem_insertAt {α : Type} {l : List α} {n : Nat} {a x : α} (h : x ∈ insertAt l n a) :
    x = a ∨ x ∈ l := by
  induction l generalizing n with
  | nil => cases n <;> exact Or.inl (List.mem_singleton.1 h)
  | cons y ys ih =>
    cases n with
    | zero => exact List.mem_cons.1 h
    | succ n =>
      rcases List.mem_cons.1 h with h | h
      · exact Or.inr (h ▸ List.mem_cons_self ..)
      · exact (ih h).imp_right (List.mem_cons_of_mem _)

theorem length_removeAt {α : Type} (l : List α) (n : Nat) (h : n < l.length) :
    (removeAt l n).length + 1 = l.length := by
  induction l generalizing n with
  | nil => cases h
  | cons x xs ih =>
    cases n with
    | zero => rfl
    | succ n => simp only [removeAt, List.length_cons, ih n (Nat.lt_of_succ_lt_succ h)]

theorem removeAt_sublist {α : Type} (l : List α) (n : Nat) : (removeAt l n).Sublist l := by
  induction l generalizing n with
  | nil => exact List.Sublist.refl _
  | cons x xs ih =>
    cases n with
    | zero => exact List.sublist_cons_self ..
    | succ n => exact List.Sublist.cons_cons _ (ih n)

theorem zip_set_found (ix : List Int) (list : List Str) (k : Int) (v : Str)
    (hl : ix.length = list.length) (hf : foundAt ix k = true) :
    ix.zip (list.set (lb ix k) v) = SMap.insert (ix.zip list) k v := by
  induction ix generalizing list with
  | nil => cases hf
  | cons x xs ih =>
    cases list with
    | nil => cases hl
    | cons y ys =>
      simp only [foundAt] at hf
      simp only [lb]
      by_cases hx : x < k
      · rw [if_pos hx] at hf
        rw [if_pos hx, List.set_cons_succ, List.zip_cons_cons, List.zip_cons_cons,
          SMap.insert_cons_of_lt hx, ih ys (Nat.succ.inj hl) hf]
      · rw [if_neg hx, beq_iff_eq] at hf
        subst hf
        rw [if_neg hx, List.set_cons_zero, List.zip_cons_cons, List.zip_cons_cons, SMap.insert_head]

theorem zip_insert_notfound (ix : List Int) (list : List Str) (k : Int) (v : Str)
    (hl : ix.length = list.length) (hf : foundAt ix k = false) :
    (insertAt ix (lb ix k) k).zip (insertAt list (lb ix k) v) = SMap.insert (ix.zip list) k v := by
  induction ix generalizing list with
  | nil =>
    cases list with
    | nil => rfl
    | cons y ys => cases hl
  | cons x xs ih =>
    cases list with
    | nil => cases hl
    | cons y ys =>
      simp only [foundAt] at hf
      simp only [lb]
      by_cases hx : x < k
      · rw [if_pos hx] at hf
        rw [if_pos hx, insertAt, insertAt, List.zip_cons_cons, List.zip_cons_cons,
          SMap.insert_cons_of_lt hx, ih ys (Nat.succ.inj hl) hf]
      · rw [if_neg hx, beq_eq_false_iff_ne] at hf
        rw [if_neg hx, insertAt, insertAt, List.zip_cons_cons, List.zip_cons_cons, SMap.insert,
          if_pos (Int.lt_iff_le_and_ne.2 ⟨Int.not_lt.1 hx, hf.symm⟩)]

theorem zip_remove_found (ix : List Int) (list : List Str) (k : Int)
    (hl : ix.length = list.length) (hf : foundAt ix k = true) :
    (removeAt ix (lb ix k)).zip (removeAt list (lb ix k)) = SMap.erase (ix.zip list) k := by
  induction ix generalizing list with
  | nil => cases hf
  | cons x xs ih =>
    cases list with
    | nil => cases hl
    | cons y ys =>
      simp only [foundAt] at hf
      simp only [lb]
      by_cases hx : x < k
      · rw [if_pos hx] at hf
        rw [if_pos hx, removeAt, removeAt, List.zip_cons_cons, List.zip_cons_cons, SMap.erase,
          if_neg (Int.ne_of_lt hx).symm, ih ys (Nat.succ.inj hl) hf]
      · rw [if_neg hx, beq_iff_eq] at hf
        subst hf
        rw [if_neg hx, removeAt, removeAt, List.zip_cons_cons, SMap.erase, if_pos rfl]

/-- `hni`: where `k` is found the index list is stored as it is, without `CanonicalIndexes`, so it
    must not be `0, 1, …` (it comes from a well-formed sparse array, or `k` is not among them). -/
theorem sparseSet_spec {list : List Str} {ix : List Int} (h : PreWF list ix) (k : Int) (v : Str)
    (hk : 0 ≤ k) (hni : k ∈ ix → isIotaFrom 0 ix = false) :
    ∃ a', sparseSet list ix k v = .ok a' ∧ a'.WF ∧ a'.abs = SMap.insert (ix.zip list) k v := by
  simp only [sparseSet, search_eq ix k h.inc]
  cases hf : foundAt ix k with
  | true =>
    rw [if_pos rfl, if_pos (h.len ▸ lb_lt_of_foundAt hf)]
    exact ⟨_, rfl, Arr.WF.sparse ⟨(List.length_set ..).symm ▸ h.len, h.inc, h.nonneg⟩
      (hni ((foundAt_iff_mem h.inc k).1 hf)), zip_set_found ix list k v h.len hf⟩
  | false =>
    have hle := lb_le_length ix k
    have hle' : lb ix k ≤ list.length := h.len ▸ hle
    rw [if_neg Bool.false_ne_true, if_pos hle']
    have hz := zip_insert_notfound ix list k v h.len hf
    have hlen : (insertAt ix (lb ix k) k).length = (insertAt list (lb ix k) v).length := by
      rw [length_insertAt _ _ _ hle, length_insertAt _ _ _ hle', h.len]
    have pre : PreWF (insertAt list (lb ix k) v) (insertAt ix (lb ix k) k) := by
      refine ⟨hlen, ?_, fun j hj => (mem_insertAt hj).elim (fun e => e ▸ hk) (h.nonneg j)⟩
      have := SMap.insert_sorted ((sorted_zip_iff h.len).2 h.inc) k v
      rwa [← hz, sorted_zip_iff hlen] at this
    obtain ⟨w, ab⟩ := canonical_spec pre
    exact ⟨_, rfl, w, ab.trans hz⟩

theorem setElem_spec {a : Arr} (h : a.WF) (k : Int) (v : Str) (hk : 0 ≤ k) :
    ∃ a', setElem a k v = .ok a' ∧ a'.WF ∧ a'.abs = a.abs.insert k v := by
  cases e : a.idx with
  | some ix =>
    rw [setElem, e, abs_of_some e]
    exact sparseSet_spec (h.pre e) k v hk fun _ => h.notIota e
  | none =>
    rw [setElem, e, abs_of_none e]
    simp only
    by_cases hlt : k < a.list.length
    · rw [if_pos hlt, if_neg (Int.not_lt.2 hk)]
      refine ⟨_, rfl, Arr.WF.dense _, ?_⟩
      have := enumFrom_set 0 a.list k v hk (by rw [Int.sub_zero]; exact (Int.toNat_lt hk).2 hlt)
      rwa [Int.sub_zero] at this
    · rw [if_neg hlt]
      by_cases heq : k = a.list.length
      · rw [if_pos heq]
        refine ⟨_, rfl, Arr.WF.dense _, ?_⟩
        exact enumFrom_append 0 a.list k v hk (by rw [heq, Int.sub_zero, Int.toNat_natCast])
      · rw [if_neg heq]
        -- `k` is past the end, so it is not among `0, 1, …`
        have := sparseSet_spec (PreWF.iota a.list) k v hk fun hm =>
          absurd (mem_iotaFrom.1 hm).2 (by rwa [Int.zero_add])
        rwa [zip_iotaFrom] at this

/-- `hni`: likewise where `k` is not found. -/
theorem sparseDel_spec {list : List Str} {ix : List Int} (h : PreWF list ix) (k : Int)
    (hni : k ∉ ix → isIotaFrom 0 ix = false) :
    ∃ a', sparseDel list ix k = .ok a' ∧ a'.WF ∧ a'.abs = SMap.erase (ix.zip list) k := by
  simp only [sparseDel, search_eq ix k h.inc]
  cases hf : foundAt ix k with
  | false =>
    have hnm : k ∉ ix := fun hm => by rw [(foundAt_iff_mem h.inc k).2 hm] at hf; cases hf
    simp only [Bool.not_false, if_true]
    exact ⟨_, rfl, Arr.WF.sparse h (hni hnm),
      (SMap.erase_of_not_mem fun p hp (e : p.1 = k) => hnm (e ▸ (List.of_mem_zip hp).1)).symm⟩
  | true =>
    have hlt := lb_lt_of_foundAt hf
    have hlt' : lb ix k < list.length := h.len ▸ hlt
    simp only [Bool.not_true, Bool.false_eq_true, if_false]
    rw [if_pos (Nat.succ_le_of_lt hlt')]
    have hlen : (removeAt ix (lb ix k)).length = (removeAt list (lb ix k)).length :=
      Nat.succ.inj ((length_removeAt ix _ hlt).trans (h.len.trans (length_removeAt list _ hlt').symm))
    have pre : PreWF (removeAt list (lb ix k)) (removeAt ix (lb ix k)) :=
      ⟨hlen, List.Pairwise.sublist (removeAt_sublist ..) h.inc,
        fun j hj => h.nonneg j ((removeAt_sublist ..).subset hj)⟩
    obtain ⟨w, ab⟩ := canonical_spec pre
    exact ⟨_, rfl, w, ab.trans (zip_remove_found ix list k h.len hf)⟩

theorem deleteElem_spec {a : Arr} (h : a.WF) (k : Int) :
    ∃ a', deleteElem a k = .ok a' ∧ a'.WF ∧ a'.abs = a.abs.erase k := by
  cases e : a.idx with
  | some ix =>
    rw [deleteElem, e, abs_of_some e]
    exact sparseDel_spec (h.pre e) k fun _ => h.notIota e
  | none =>
    rw [deleteElem, e, abs_of_none e]
    simp only
    by_cases hout : k < 0 ∨ k ≥ a.list.length
    · rw [if_pos hout]
      refine ⟨⟨a.list, none⟩, rfl, Arr.WF.dense _, ?_⟩
      show enumFrom 0 a.list = _
      refine (SMap.erase_of_not_mem fun p hp => ?_).symm
      have := mem_enumFrom_key hp
      omega
    · rw [if_neg hout]
      have h0 : 0 ≤ k := Int.not_lt.1 fun c => hout (Or.inl c)
      have hin : 0 ≤ k ∧ k < 0 + (a.list.length : Int) :=
        ⟨h0, by rw [Int.zero_add]; exact Int.not_le.1 fun c => hout (Or.inr c)⟩
      by_cases hlast : k = (a.list.length : Int) - 1
      · rw [if_pos hlast]
        refine ⟨_, rfl, Arr.WF.dense _, ?_⟩
        have hlen : (k - 0).toNat + 1 = a.list.length := Int.ofNat_inj.1 (by
          rw [Int.sub_zero, Int.natCast_succ, Int.toNat_of_nonneg h0, hlast, Int.sub_add_cancel])
        have := enumFrom_take_last 0 a.list k h0 hlen
        rwa [Int.sub_zero] at this
      · rw [if_neg hlast]
        -- `k` is inside, so it is among `0, 1, …`
        have := sparseDel_spec (PreWF.iota a.list) k fun hnm => absurd (mem_iotaFrom.2 hin) hnm
        rwa [zip_iotaFrom] at this

theorem getLastD_iotaFrom_succ (s : Int) (n : Nat) (d : Int) :
    (iotaFrom s (n + 1)).getLastD d = s + n := by
  induction n generalizing s d with
  | zero => exact (Int.add_zero s).symm
  | succ n ih =>
    rw [iotaFrom, List.getLastD_cons, ih, Int.natCast_succ, Int.add_assoc, Int.add_comm 1]

theorem indexedMax_of_none {a : Arr} (e : a.idx = none) :
    indexedMax a = (a.list.length : Int) - 1 := by
  simp only [indexedMax, e]

theorem indexedMax_of_cons {a : Arr} {x : Int} {xs : List Int} (e : a.idx = some (x :: xs)) :
    indexedMax a = (x :: xs).getLastD 0 := by
  simp only [indexedMax, e]

theorem indexedMax_spec {a : Arr} (h : a.WF) : indexedMax a = a.abs.maxKey := by
  rw [SMap.maxKey_eq_getLastD]
  cases e : a.idx with
  | none =>
    rw [indexedMax_of_none e, abs_of_none e, keys_enumFrom]
    cases a.list with
    | nil => rfl
    | cons y ys =>
      rw [List.length_cons, getLastD_iotaFrom_succ, Int.natCast_succ, Int.add_sub_cancel,
        Int.zero_add]
  | some ix =>
    obtain ⟨x, xs, rfl⟩ := h.idx_cons e
    rw [indexedMax_of_cons e, abs_of_some e, keys_zip (h.pre e).len, List.getLastD_cons,
      List.getLastD_cons]

theorem indexedMax_ge {a : Arr} (h : a.WF) : -1 ≤ indexedMax a := by
  rw [indexedMax_spec h]
  exact SMap.maxKey_ge_neg_one (abs_keys_nonneg h)

theorem resolve_model {a : Arr} (h : a.WF) (i : Int) :
    (if i < 0 then i + (indexedMax a + 1) else i) = resolve a.abs i := by
  rw [resolve, indexedMax_spec h]

theorem indexedKeys_spec {a : Arr} (h : a.WF) : indexedKeys a = .ok a.abs.keys := by
  cases e : a.idx with
  | none => rw [indexedKeys, e, abs_of_none e, keys_enumFrom]
  | some ix =>
    have pre := h.pre e
    rw [indexedKeys, e, abs_of_some e, keys_zip pre.len]
    simp only
    rw [if_pos (Nat.le_of_eq pre.len.symm), ← pre.len, List.take_length]

theorem lookup_zip (ix : List Int) (list : List Str) (k : Int) (hl : ix.length = list.length)
    (inc : Increasing ix) :
    SMap.lookup (ix.zip list) k = if foundAt ix k = true then list[lb ix k]? else none := by
  induction ix generalizing list with
  | nil => rfl
  | cons x xs ih =>
    cases list with
    | nil => cases hl
    | cons y ys =>
      have inc' := List.pairwise_cons.1 inc
      simp only [List.zip_cons_cons, SMap.lookup, foundAt, lb]
      by_cases hx : x < k
      · simp only [if_pos hx, if_neg (Int.ne_of_lt hx).symm, ih ys (Nat.succ.inj hl) inc'.2,
          List.getElem?_cons_succ]
      · simp only [if_neg hx, List.getElem?_cons_zero, beq_iff_eq]
        by_cases e : k = x
        · rw [if_pos e, if_pos e.symm]
        · rw [if_neg e, if_neg fun c => e c.symm]
          refine SMap.lookup_none_of_lt fun p hp => ?_
          exact Int.lt_trans (Int.lt_iff_le_and_ne.2 ⟨Int.not_lt.1 hx, e⟩)
            (inc'.1 _ (List.of_mem_zip hp).1)

theorem indexedVal_spec {a : Arr} (h : a.WF) (i : Int) (hi : 0 ≤ i) :
    indexedVal a i = .ok (a.abs.lookup i) := by
  cases e : a.idx with
  | some ix =>
    have pre := h.pre e
    rw [indexedVal, e, abs_of_some e]
    simp only [search_eq ix i pre.inc, lookup_zip ix a.list i pre.len pre.inc]
    cases hf : foundAt ix i with
    | false => rfl
    | true =>
      rw [if_pos rfl, if_pos rfl, List.getElem?_eq_getElem (pre.len ▸ lb_lt_of_foundAt hf)]
  | none =>
    rw [indexedVal, e, abs_of_none e, lookup_enumFrom 0 _ i hi, Int.sub_zero]
    simp only
    by_cases hlt : i < a.list.length
    · rw [if_pos hlt, if_neg (Int.not_lt.2 hi), List.getElem?_eq_getElem ((Int.toNat_lt hi).2 hlt)]
    · rw [if_neg hlt, List.getElem?_eq_none ((Int.le_toNat hi).2 (Int.not_lt.1 hlt))]

theorem drop_lb_zip (ix : List Int) (list : List Str) (o : Int) (hl : ix.length = list.length)
    (inc : Increasing ix) :
    list.drop (lb ix o) = SMap.vals ((ix.zip list).filter (fun p => decide (o ≤ p.1))) := by
  induction ix generalizing list with
  | nil =>
    cases list with
    | nil => rfl
    | cons y ys => cases hl
  | cons x xs ih =>
    cases list with
    | nil => cases hl
    | cons y ys =>
      have inc' := List.pairwise_cons.1 inc
      simp only [lb, List.zip_cons_cons]
      by_cases hx : x < o
      · rw [if_pos hx, List.drop_succ_cons, ih ys (Nat.succ.inj hl) inc'.2,
          List.filter_cons_of_neg (by rw [decide_eq_true_eq]; exact Int.not_le.2 hx)]
      · rw [if_neg hx, List.drop_zero, List.filter_eq_self.2, ← List.zip_cons_cons, vals_zip hl]
        intro p hp
        rw [decide_eq_true_eq]
        rcases List.mem_cons.1 hp with rfl | hp
        · exact Int.not_lt.1 hx
        · exact Int.le_trans (Int.not_lt.1 hx) (Int.le_of_lt (inc'.1 _ (List.of_mem_zip hp).1))

/-- The right-hand side is the offset of `specOffset` on a dense array (`maxKey + 1 = length`). -/
theorem drop_slicePos {α : Type} (l : List α) (off : Int) :
    l.drop (slicePos l.length off)
      = l.drop (if off < 0 then (if off + l.length < 0 then (l.length : Int) else off + l.length)
          else off).toNat := by
  unfold slicePos
  by_cases hneg : off < 0
  · rw [if_pos hneg, if_pos hneg]
    simp only
    rw [Int.add_comm]
    by_cases h2 : off + (l.length : Int) < 0
    · rw [if_pos h2, if_pos h2]; rfl
    · rw [if_neg h2, if_neg h2]
  · rw [if_neg hneg, if_neg hneg]
    by_cases h2 : off > l.length
    · rw [if_pos h2, List.drop_of_length_le (Nat.le_refl _),
        List.drop_of_length_le ((Int.le_toNat (Int.not_lt.1 hneg)).2 (Int.le_of_lt h2))]
    · rw [if_neg h2]

theorem slicePos_nonneg (len : Nat) (n : Int) (h : 0 ≤ n) : slicePos len n = min n.toNat len := by
  unfold slicePos
  rw [if_neg (Int.not_lt.2 h)]
  by_cases h2 : n > len
  · rw [if_pos h2, Nat.min_eq_right ((Int.le_toNat h).2 (Int.le_of_lt h2))]
  · rw [if_neg h2, Nat.min_eq_left (Int.toNat_le.2 (Int.not_lt.1 h2))]

theorem sliceOffset_spec {a : Arr} (h : a.WF) (offset : Option Int) :
    sliceOffset a offset = .ok (specOffset a.abs offset).vals := by
  cases offset with
  | none =>
    obtain ⟨ix, p, e⟩ := abs_eq_zip h
    rw [sliceOffset, specOffset, e, vals_zip p.len]
  | some off =>
    cases e : a.idx with
    | none =>
      rw [sliceOffset, e, specOffset, ← indexedMax_spec h, indexedMax_of_none e, abs_of_none e]
      simp only [Int.sub_add_cancel, filter_enumFrom, Int.sub_zero, drop_slicePos]
    | some ix =>
      obtain ⟨x, xs, rfl⟩ := h.idx_cons e
      have pre := h.pre e
      rw [sliceOffset, e, specOffset, ← indexedMax_spec h, indexedMax_of_cons e, abs_of_some e]
      simp only [search_eq _ _ pre.inc]
      rw [if_pos (pre.len ▸ lb_le_length ..), drop_lb_zip _ _ _ pre.len pre.inc]

theorem litLoop_spec (es : List Elem) : ∀ (a : Arr) (index : Int), a.WF → 0 ≤ index →
    ∃ a', litLoop a index es = .ok a' ∧ a'.WF ∧ a'.abs = specLit a.abs index es := by
  induction es with
  | nil => intro a index h _; exact ⟨a, rfl, h, rfl⟩
  | cons e es ih =>
    intro a index h hi
    have plain : ∀ k v, 0 ≤ k → ∃ a', litLoop a k (.plain v :: es) = .ok a' ∧ a'.WF ∧
        a'.abs = specLit a.abs k (.plain v :: es) := by
      intro k v hk
      obtain ⟨a1, e1, w1, ab1⟩ := setElem_spec h k v hk
      obtain ⟨a2, e2, w2, ab2⟩ := ih a1 (k + 1) w1 (Int.le_add_one hk)
      refine ⟨a2, by simp only [litLoop, e1, e2], w2, ?_⟩
      rw [specLit, ← ab1]; exact ab2
    cases e with
    | plain v => exact plain index v hi
    | «at» i v =>
      -- `[i]=v` is skipped, or else it is the word `v` with the counter at the resolved subscript
      simp only [litLoop, resolve_model h, specLit]
      by_cases hj : resolve a.abs i < 0
      · rw [if_pos hj, if_pos hj]
        exact ih a index h hi
      · rw [if_neg hj, if_neg hj]
        exact plain _ v (Int.not_lt.1 hj)

theorem baseArr_spec {v : Var} (h : v.WF) : (baseArr v).WF ∧ (baseArr v).abs = v.absMap := by
  unfold baseArr Var.absMap
  cases v.kind with
  | unknown => exact ⟨Arr.WF.dense _, rfl⟩
  | str => exact ⟨Arr.WF.dense _, rfl⟩
  | indexed => exact ⟨h.arr, rfl⟩

theorem Var.WF.zero_var : Var.zero.WF := ⟨Arr.WF.dense _, fun _ => rfl⟩

/-- What `applyOp_spec` shows of the variable `v'` an operation on `v` ends with.  There are four
    outcomes: the variable is left alone, becomes the zero variable, a scalar, or an array (the
    last two set). -/
structure Outcome (v v' : Var) (x' : SVar) : Prop where
  wf : v'.WF
  setOK : v.SetOK → v'.SetOK
  abs : v'.abs = x'

theorem Outcome.same {v : Var} (h : v.WF) : Outcome v v v.abs := ⟨h, id, rfl⟩

theorem Outcome.zero (v : Var) : Outcome v Var.zero SVar.unset :=
  ⟨Var.WF.zero_var, fun _ c => (c rfl).elim, rfl⟩

theorem Outcome.str {v : Var} (h : v.WF) (s : Str) :
    Outcome v ⟨.str, true, s, v.arr, v.nilList⟩ ⟨.str, [(0, s)]⟩ :=
  ⟨⟨h.arr, fun c => nomatch c⟩, fun _ _ => rfl, rfl⟩

theorem Outcome.indexed (v : Var) {a' : Arr} (w : a'.WF) (str : Str) :
    Outcome v ⟨.indexed, true, str, a', false⟩ ⟨.indexed, a'.abs⟩ :=
  ⟨⟨w, fun c => nomatch c⟩, fun _ _ => rfl, rfl⟩

theorem setWithIndex_spec {v : Var} (h : v.WF) {base : Arr} (hb : base.WF) (i : Int) (s : Str) :
    ∃ v', setWithIndex v base i s = .ok v' ∧ Outcome v v'
      (if resolve base.abs i < 0 then v.abs
        else ⟨.indexed, base.abs.insert (resolve base.abs i) s⟩) := by
  by_cases hj : resolve base.abs i < 0
  · rw [if_pos hj]
    exact ⟨v, by simp only [setWithIndex, resolve_model hb, if_pos hj], Outcome.same h⟩
  · obtain ⟨a1, e1, w1, ab1⟩ := setElem_spec hb (resolve base.abs i) s (Int.not_lt.1 hj)
    rw [if_neg hj, ← ab1]
    exact ⟨⟨.indexed, true, v.str, a1, false⟩,
      by simp only [setWithIndex, resolve_model hb, if_neg hj, e1], Outcome.indexed v w1 _⟩

theorem appendWithIndex_eq (v : Var) {base : Arr} (hb : base.WF) (i : Int) (s : Str) :
    appendWithIndex v base i s
      = setWithIndex v base i (optStr (base.abs.lookup (resolve base.abs i)) ++ s) := by
  simp only [appendWithIndex, setWithIndex, resolve_model hb]
  by_cases hj : resolve base.abs i < 0
  · rw [if_pos hj, if_pos hj]
  · rw [if_neg hj, if_neg hj, indexedVal_spec hb _ (Int.not_lt.1 hj)]

theorem appendZero_spec {a : Arr} (h : a.WF) (s : Str) :
    ∃ a', appendZero a s = .ok a' ∧ a'.WF ∧
      a'.abs = a.abs.insert 0 (optStr (a.abs.lookup 0) ++ s) := by
  -- the general path: `SetIndexedElem(…, 0, s)` when index 0 is unset
  have viaSet : a.abs.lookup 0 = none →
      ∃ a', setElem a 0 s = .ok a' ∧ a'.WF ∧
        a'.abs = a.abs.insert 0 (optStr (a.abs.lookup 0) ++ s) := by
    intro hl
    rw [hl]
    exact setElem_spec h 0 s (Int.le_refl _)
  unfold appendZero
  cases el : a.list with
  | nil =>
    simp only
    refine viaSet ?_
    obtain ⟨ix, p, e⟩ := abs_eq_zip h
    rw [e, el, List.zip_nil_right]; rfl
  | cons x xs =>
    cases ei : a.idx with
    | none =>
      refine ⟨_, rfl, Arr.WF.dense _, ?_⟩
      rw [abs_of_none ei, el, enumFrom, SMap.lookup_head, SMap.insert_head]
      rfl
    | some ix =>
      obtain ⟨i0, is, rfl⟩ := h.idx_cons ei
      have pre := h.pre ei
      simp only
      by_cases h0 : i0 = 0
      · subst h0
        rw [if_pos rfl]
        have hlen : (0 :: is).length = ((x ++ s) :: xs).length := by rw [pre.len, el]; rfl
        refine ⟨_, rfl, Arr.WF.sparse ⟨hlen, pre.inc, pre.nonneg⟩ (h.notIota ei), ?_⟩
        rw [abs_of_some ei, el, List.zip_cons_cons, SMap.lookup_head, SMap.insert_head]
        rfl
      · rw [if_neg h0]
        refine viaSet (SMap.lookup_none_of_lt fun p hp => ?_)
        -- every index is at least `i0 > 0`
        have hk : p.1 ∈ i0 :: is := by
          rw [abs_of_some ei] at hp; exact (List.of_mem_zip hp).1
        have i0pos : 0 < i0 :=
          Int.lt_iff_le_and_ne.2 ⟨pre.nonneg i0 (List.mem_cons_self ..), Ne.symm h0⟩
        rcases List.mem_cons.1 hk with e | hk
        · exact e ▸ i0pos
        · exact Int.lt_trans i0pos ((List.pairwise_cons.1 pre.inc).1 _ hk)

theorem abs_of_indexed {v : Var} (hk : v.kind = .indexed) : v.abs = ⟨.indexed, v.arr.abs⟩ := by
  rw [Var.abs, Var.absMap, hk]

theorem abs_of_str {v : Var} (hk : v.kind = .str) : v.abs = ⟨.str, [(0, v.str)]⟩ := by
  rw [Var.abs, Var.absMap, hk]

theorem abs_of_unknown {v : Var} (hk : v.kind = .unknown) : v.abs = SVar.unset := by
  rw [Var.abs, Var.absMap, hk]; rfl

theorem liftArr_litLoop (v : Var) {base : Arr} (hb : base.WF) {index : Int} (hi : 0 ≤ index)
    (es : List Elem) :
    ∃ v', liftArr v (litLoop base index es) = .ok v' ∧
      Outcome v v' ⟨.indexed, specLit base.abs index es⟩ := by
  obtain ⟨a', e, w, ab⟩ := litLoop_spec es base index hb hi
  rw [e, ← ab]
  exact ⟨_, rfl, Outcome.indexed v w _⟩

theorem applyOp_setElem {v : Var} (h : v.WF) (i : Int) (s : Str) :
    ∃ v', setWithIndex v (baseArr v) i s = .ok v' ∧ Outcome v v' (specOp v.abs (.setElem i s)) := by
  obtain ⟨bw, bab⟩ := baseArr_spec h
  have := setWithIndex_spec h bw i s
  rwa [bab] at this

/-- `opOK`: `unset a` meets a variable that `IsSet()`, which `runOK_always` shows is always the
    case. -/
theorem applyOp_spec (v : Var) (op : Op) (h : v.WF) :
    ∃ v', applyOp v op = .ok v' ∧ v'.WF ∧ (v.SetOK → v'.SetOK) ∧
      (opOK v op = true → v'.abs = specOp v.abs op) := by
  -- every case exhibits the outcome `v'` and the abstract variable `x'` it stands for
  suffices ∃ v' x', applyOp v op = .ok v' ∧ Outcome v v' x' ∧
      (opOK v op = true → x' = specOp v.abs op) from
    let ⟨v', _, e, o, hx⟩ := this
    ⟨v', e, o.wf, o.setOK, fun ok => o.abs.trans (hx ok)⟩
  cases op with
  | assign es =>
    obtain ⟨v', e, o⟩ := liftArr_litLoop v (Arr.WF.dense []) (Int.le_refl 0) es
    exact ⟨v', _, e, o, fun _ => rfl⟩
  | append es =>
    obtain ⟨bw, bab⟩ := baseArr_spec h
    obtain ⟨v', e, o⟩ := liftArr_litLoop v bw (Int.add_le_add_right (indexedMax_ge bw) 1) es
    rw [indexedMax_spec bw, bab] at o
    exact ⟨v', _, e, o, fun _ => rfl⟩
  | setElem i s =>
    obtain ⟨v', e, o⟩ := applyOp_setElem h i s
    exact ⟨v', _, e, o, fun _ => rfl⟩
  | appElem i s =>
    obtain ⟨bw, bab⟩ := baseArr_spec h
    obtain ⟨v', e, o⟩ := applyOp_setElem h i (optStr (v.absMap.lookup (resolve v.absMap i)) ++ s)
    refine ⟨v', _, ?_, o, fun _ => rfl⟩
    rw [applyOp, appendWithIndex_eq v bw, bab]
    exact e
  | setStr s =>
    cases hk : v.kind with
    | indexed =>
      -- "fall back to the zero value for the index": `a=s` on an array is `a[0]=s`
      obtain ⟨v', e, o⟩ := applyOp_setElem h 0 s
      refine ⟨v', _, ?_, o, fun _ => ?_⟩
      · simpa only [applyOp, baseArr, hk] using e
      · rw [abs_of_indexed hk]; rfl
    | unknown =>
      refine ⟨_, _, by simp only [applyOp, hk], Outcome.str h s, fun _ => ?_⟩
      rw [abs_of_unknown hk]; rfl
    | str =>
      refine ⟨_, _, by simp only [applyOp, hk], Outcome.str h s, fun _ => ?_⟩
      rw [abs_of_str hk]; rfl
  | appStr s =>
    cases hk : v.kind with
    | indexed =>
      obtain ⟨a', e, w, ab⟩ := appendZero_spec h.arr s
      refine ⟨_, _, by simp only [applyOp, hk, e, liftArr], Outcome.indexed v w v.str, fun _ => ?_⟩
      rw [abs_of_indexed hk, ab]; rfl
    | unknown =>
      refine ⟨_, _, by simp only [applyOp, hk], Outcome.str h (v.str ++ s), fun _ => ?_⟩
      -- an unset variable carries no stale string
      rw [abs_of_unknown hk, h.zero hk]; rfl
    | str =>
      refine ⟨_, _, by simp only [applyOp, hk], Outcome.str h (v.str ++ s), fun _ => ?_⟩
      rw [abs_of_str hk]; rfl
  | unsetElem i =>
    cases hk : v.kind with
    | indexed =>
      simp only [applyOp, hk, resolve_model h.arr, abs_of_indexed hk, specOp]
      by_cases hj : resolve v.arr.abs i < 0
      · rw [if_pos hj, if_pos hj]
        exact ⟨v, _, rfl, Outcome.same h, fun _ => abs_of_indexed hk⟩
      · rw [if_neg hj, if_neg hj]
        obtain ⟨a', e, w, ab⟩ := deleteElem_spec h.arr (resolve v.arr.abs i)
        rw [e, ← ab]
        exact ⟨_, _, rfl, ⟨⟨w, fun c => nomatch c⟩, fun so _ => so (hk ▸ fun c => nomatch c), rfl⟩,
          fun _ => rfl⟩
    | unknown =>
      refine ⟨v, _, by simp only [applyOp, hk], Outcome.same h, fun _ => ?_⟩
      rw [abs_of_unknown hk]; rfl
    | str =>
      by_cases h0 : i = 0
      · refine ⟨_, _, by simp only [applyOp, hk, h0, if_true], Outcome.zero v, fun _ => ?_⟩
        rw [abs_of_str hk, h0]; rfl
      · refine ⟨v, _, by simp only [applyOp, hk, h0, if_false], Outcome.same h, fun _ => ?_⟩
        rw [abs_of_str hk]
        exact (if_neg h0).symm
  | unsetAll =>
    cases hs : v.set with
    | true => exact ⟨_, _, by simp only [applyOp, hs, if_true], Outcome.zero v, fun _ => rfl⟩
    | false =>
      refine ⟨v, _, by simp only [applyOp, hs, Bool.false_eq_true, if_false], Outcome.same h,
        fun ok => ?_⟩
      -- `unset a` is a no-op only on a variable that is not set: by `opOK` it is unset
      simp only [opOK, hs, Bool.false_or, beq_iff_eq] at ok
      exact abs_of_unknown ok
  | readArr vs => exact ⟨_, _, rfl, Outcome.indexed v (Arr.WF.dense vs) [], fun _ => rfl⟩
  | mapfile vs => exact ⟨_, _, rfl, Outcome.indexed v (Arr.WF.dense vs) [], fun _ => rfl⟩

theorem opOK_of_setOK {v : Var} (hs : v.SetOK) (op : Op) : opOK v op = true := by
  cases op <;> try rfl
  cases hk : v.kind with
  | unknown => simp only [opOK, hk, beq_self_eq_true, Bool.or_true]
  | str => simp only [opOK, hs (hk ▸ fun c => nomatch c), Bool.true_or]
  | indexed => simp only [opOK, hs (hk ▸ fun c => nomatch c), Bool.true_or]

theorem runOps_spec (ops : List Op) : ∀ (v : Var), v.WF → v.SetOK →
    ∃ v', runOps v ops = .ok v' ∧ v'.WF ∧ v'.abs = specRun v.abs ops := by
  induction ops with
  | nil => intro v h _; exact ⟨v, rfl, h, rfl⟩
  | cons op ops ih =>
    intro v h hs
    obtain ⟨v1, e1, w1, so1, ab1⟩ := applyOp_spec v op h
    obtain ⟨v2, e2, w2, ab2⟩ := ih v1 w1 (so1 hs)
    refine ⟨v2, by simp only [runOps, e1, e2], w2, ?_⟩
    rw [specRun, List.foldl_cons, ← ab1 (opOK_of_setOK hs op)]
    exact ab2

theorem runOK_always (ops : List Op) : ∀ v, v.WF → v.SetOK → runOK v ops = true := by
  induction ops with
  | nil => intro v _ _; rfl
  | cons op ops ih =>
    intro v h hs
    obtain ⟨v', e, w, so, _⟩ := applyOp_spec v op h
    simp only [runOK, e, Bool.and_eq_true]
    exact ⟨opOK_of_setOK hs op, ih v' w (so hs)⟩

end ShVerif.C33
