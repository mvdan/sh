import ShVerif.Model.C12
/-
  C12 — the model parser `parse c` recognises exactly `Derives c .program`: soundness (completeness is
  in `C12Complete`).  The token-list loops that do not recurse into statements are each sound and
  complete for their piece of the grammar.  The mutually recursive functions get one equation per
  shape of input (one unit of fuel unfolds one function), which both directions use.  Soundness is
  an induction on the fuel over the record `SoundIH`, one field per function.
-/
namespace ShVerif.C12
open Tok

theorem nls_succ (k : Nat) : nls (k+1) = nl :: nls k := rfl
theorem nls_zero : nls 0 = [] := rfl
theorem nls_length (k : Nat) : (nls k).length = k := List.length_replicate
theorem bangs_length (k : Nat) : (bangs k).length = k := List.length_replicate

theorem skipNL_cons_ne {t : Tok} {r : List Tok} (h : t ≠ nl) : skipNL (t :: r) = t :: r := by
  unfold skipNL
  split
  · rename_i h'; cases h'; exact absurd rfl h
  · rfl

theorem skipNL_of_head {r : List Tok} (h : r.head? ≠ some nl) : skipNL r = r := by
  cases r with
  | nil => rfl
  | cons t r => exact skipNL_cons_ne fun ht => h (congrArg some ht)

theorem skipNL_nls_append (k : Nat) (r : List Tok) : skipNL (nls k ++ r) = skipNL r := by
  induction k with
  | zero => rfl
  | succ k ih => exact ih

theorem skipNL_nls_cons {k : Nat} {t : Tok} {r : List Tok} (h : t ≠ nl) :
    skipNL (nls k ++ t :: r) = t :: r := by
  rw [skipNL_nls_append, skipNL_cons_ne h]

theorem skipNL_spec (ts : List Tok) :
    ∃ k s, ts = nls k ++ s ∧ skipNL ts = s ∧ s.head? ≠ some nl := by
  induction ts with
  | nil => exact ⟨0, [], rfl, rfl, nofun⟩
  | cons t r ih =>
    by_cases h : t = nl
    · obtain ⟨k, s, h1, h2, h3⟩ := ih
      exact ⟨k+1, s, h ▸ congrArg (nl :: ·) h1, h ▸ h2, h3⟩
    · exact ⟨0, t :: r, rfl, skipNL_cons_ne h, fun h' => h (Option.some.inj h')⟩

theorem nls_head_ne {k : Nat} {t : Tok} {r : List Tok} (h : t ≠ nl) :
    (nls k ++ t :: r).head? ≠ some nl ∨ k ≠ 0 := by
  cases k with
  | zero => exact .inl fun h' => h (Option.some.inj h')
  | succ k => exact .inr (Nat.succ_ne_zero k)

/-- bash's run of `!`s, as `getStmt` skips it. -/
theorem dropWhile_bang_spec (r : List Tok) :
    ∃ k s, r = bangs k ++ s ∧ r.dropWhile (· == bang) = s ∧ s.head? ≠ some bang := by
  induction r with
  | nil => exact ⟨0, [], rfl, rfl, nofun⟩
  | cons t r ih =>
    by_cases h : t = bang
    · subst h
      obtain ⟨k, s, h1, h2, h3⟩ := ih
      exact ⟨k+1, s, congrArg (bang :: ·) h1, h2, h3⟩
    · exact ⟨0, t :: r, rfl, by rw [List.dropWhile_cons_of_neg (by simpa using h)],
        fun h' => h (Option.some.inj h')⟩

theorem dropWhile_bangs {k : Nat} {X : List Tok} (h : X.head? ≠ some bang) :
    (bangs k ++ X).dropWhile (· == bang) = X := by
  induction k with
  | zero =>
    cases X with
    | nil => rfl
    | cons t r => exact List.dropWhile_cons_of_neg (by simpa using h)
  | succ k ih => exact ih

theorem wordLike_ne_io {t : Tok} (h : wordLike t = true) : t ≠ io := by
  rintro rfl; cases h

theorem wordLike_not_stopTok {t : Tok} (h : wordLike t = true) : stopTok t = false := by
  cases t <;> first | rfl | cases h

theorem stopTok_not_lit {t : Tok} (h : stopTok t = true) : isLitWord t = false := by
  cases t <;> first | rfl | cases h

theorem wordLike_not_callStop {t : Tok} (h : wordLike t = true) : callStop t = false :=
  (Bool.or_eq_false_iff.mp (wordLike_not_stopTok h)).1

theorem redirs_of_head {ts : List Tok} (h : ts.head? ≠ some io) : redirs ts = some (false, ts) := by
  unfold redirs
  split
  · exact absurd rfl h
  · exact absurd rfl h
  · rfl

theorem redirs_cons {w : Tok} (hw : wordLike w = true) (r : List Tok) :
    redirs (io :: w :: r) = (redirs r).map fun x => (true, x.2) := by
  rw [redirs, if_pos hw]; cases redirs r <;> rfl

theorem redirs_sound (ts : List Tok) {b : Bool} {r : List Tok} (h : redirs ts = some (b, r)) :
    ∃ pr, Redirs pr ∧ ts = pr ++ r ∧ b = !pr.isEmpty ∧ r.head? ≠ some io := by
  fun_induction redirs ts generalizing b with
  | case1 w r0 hw _ r' heq ih =>
    cases h
    obtain ⟨pr, h1, h2, _, h4⟩ := ih heq
    exact ⟨io :: w :: pr, .cons hw h1, by rw [h2]; rfl, rfl, h4⟩
  | case2 | case3 | case4 => cases h
  | case5 ts h1 h2 =>
    have hh : ts.head? ≠ some io := fun hh => by
      cases ts with
      | nil => cases hh
      | cons t r1 =>
        cases hh
        cases r1 with
        | nil => exact h2 rfl
        | cons w r => exact h1 w r rfl
    cases h
    exact ⟨[], .nil, rfl, rfl, hh⟩

theorem redirs_complete {pr : List Tok} (h : Redirs pr) (rest : List Tok) (hr : rest.head? ≠ some io) :
    redirs (pr ++ rest) = some (!pr.isEmpty, rest) := by
  induction h with
  | nil => exact redirs_of_head hr
  | @cons w r hw _ ih => rw [List.cons_append, List.cons_append, redirs_cons hw, ih]; rfl

theorem callExpr_cons {q : Q} {t : Tok} {r : List Tok} (h : t ≠ io) :
    callExpr q (t :: r) = if callStop t then some (t :: r) else if wordLike t then callExpr q r
      else if t = rparen then (if q = .sub then some (t :: r) else none) else none := by
  rw [callExpr]
  · exact fun _ _ ht _ => h ht
  · exact fun ht _ => h ht

theorem callExpr_sound (q : Q) (ts : List Tok) {r : List Tok} (h : callExpr q ts = some r) :
    ∃ its, Items its ∧ ts = its ++ r ∧ openOK q r.head? = true := by
  fun_induction callExpr q ts with
  | case1 => cases h; exact ⟨[], .nil, rfl, rfl⟩
  | case2 w r0 hw ih =>
    obtain ⟨its, h1, h2, h3⟩ := ih h
    exact ⟨io :: w :: its, .redir hw h1, by rw [h2]; rfl, h3⟩
  | case5 t r0 _ _ hc =>
    cases h; exact ⟨[], .nil, rfl, by simp only [List.head?, openOK, hc, Bool.true_or]⟩
  | case6 t r0 _ _ _ hw ih =>
    obtain ⟨its, h1, h2, h3⟩ := ih h
    exact ⟨t :: its, .arg hw h1, by rw [h2]; rfl, h3⟩
  | case7 r0 hq => cases h; subst hq; exact ⟨[], .nil, rfl, rfl⟩
  | case3 | case4 | case8 | case9 => cases h

theorem callExpr_stop {q : Q} (rest : List Tok) (h : openOK q rest.head? = true) :
    callExpr q rest = some rest := by
  cases rest with
  | nil => rfl
  | cons t r =>
    simp only [List.head?, openOK, Bool.or_eq_true, Bool.and_eq_true, beq_iff_eq] at h
    rcases h with h | ⟨rfl, rfl⟩
    · rw [callExpr_cons (by rintro rfl; cases h), if_pos h]
    · rfl

theorem callExpr_complete {q : Q} {its : List Tok} (h : Items its) (rest : List Tok)
    (hr : openOK q rest.head? = true) : callExpr q (its ++ rest) = some rest := by
  induction h with
  | nil => exact callExpr_stop rest hr
  | @arg t r hw _ ih =>
    rw [List.cons_append, callExpr_cons (wordLike_ne_io hw), if_neg (by simp [wordLike_not_callStop hw]),
      if_pos hw, ih]
  | @redir w r hw _ ih => rw [List.cons_append, List.cons_append, callExpr, if_pos hw, ih]

theorem callExpr_not_lparen {q : Q} {X rest : List Tok} (h : callExpr q X = some rest) :
    X.head? ≠ some lparen := by
  intro hx
  cases X with
  | nil => cases hx
  | cons x xs => cases hx; cases h

theorem forWords_sound (ts : List Tok) {r : List Tok} (h : forWords ts = some r) :
    ∃ ws, Words ws ∧ ts = ws ++ r ∧ followsOpen r.head? = true := by
  fun_induction forWords ts with
  | case1 => cases h; exact ⟨[], .nil, rfl, rfl⟩
  | case2 t r0 hs => cases h; exact ⟨[], .nil, rfl, hs⟩
  | case3 t r0 _ hw ih =>
    obtain ⟨ws, h1, h2, h3⟩ := ih h
    exact ⟨t :: ws, .cons hw h1, by rw [h2]; rfl, h3⟩
  | case4 => cases h

theorem forWords_complete {ws : List Tok} (h : Words ws) (rest : List Tok)
    (hr : followsOpen rest.head? = true) : forWords (ws ++ rest) = some rest := by
  induction h with
  | nil =>
    cases rest with
    | nil => rfl
    | cons t r' => exact if_pos hr
  | @cons t r hw _ ih =>
    rw [List.cons_append, forWords, if_neg (by simp [wordLike_not_stopTok hw]), if_pos hw, ih]

theorem patterns_sound (ts : List Tok) {r : List Tok} (h : patterns ts = some r) :
    ∃ pat, Pats pat ∧ ts = pat ++ r := by
  fun_induction patterns ts with
  | case1 w r0 hw => cases h; exact ⟨[w, rparen], .one hw, rfl⟩
  | case3 w r0 hw ih =>
    obtain ⟨pat, hp, he⟩ := ih h
    exact ⟨w :: pipe :: pat, .more hw hp, by rw [he]; rfl⟩
  | case2 | case4 | case5 => cases h

theorem patterns_complete {pat : List Tok} (h : Pats pat) (rest : List Tok) :
    patterns (pat ++ rest) = some rest := by
  induction h with
  | @one w hw => exact if_pos hw
  | @more w r hw _ ih => rw [List.cons_append, List.cons_append, patterns, if_pos hw, ih]

/-- The second disjunct: `in words` ended by a terminator other than `;` and newline, where `forIter`
    succeeds too and it is `forOpen` that fails (`forOpen_atStop`). -/
theorem forIter_sound {r r2 : List Tok} (h : forIter r = some r2) :
    (∃ it b, ForIter it b ∧ r = it ++ r2 ∧ (b = false → r2.head? = some kDo)) ∨
      followsOpen r2.head? = true := by
  revert h
  fun_cases forIter r <;> intro h
  case case1 r' =>
    cases h
    obtain ⟨k, s, rfl, hs, -⟩ := skipNL_spec r'
    exact .inl ⟨semi :: nls k, true, .semi, by rw [hs]; rfl, nofun⟩
  case case2 r'' r3 hw _ heq =>
    cases h
    obtain ⟨k, s, rfl, hs, -⟩ := skipNL_spec r
    obtain ⟨ws, w1, rfl, -⟩ := forWords_sound r'' hw
    obtain ⟨j, s3, rfl, hs3, -⟩ := skipNL_spec r3
    refine .inl ⟨nls k ++ kIn :: ws ++ semi :: nls j, true, .inSemi w1, ?_, nofun⟩
    rw [hs3, ← hs, heq]
    simp only [List.append_assoc, List.cons_append]
  case case3 r'' r3 _ hw _ heq =>
    cases h
    obtain ⟨k, s, rfl, hs, -⟩ := skipNL_spec r
    obtain ⟨ws, w1, rfl, w3⟩ := forWords_sound r'' hw
    obtain ⟨j, s3, rfl, hs3, -⟩ := skipNL_spec r3
    rw [hs3]
    cases j with
    | zero => exact .inr w3
    | succ j =>
      refine .inl ⟨nls k ++ kIn :: ws ++ nl :: nls j, true, .inNl w1, ?_, nofun⟩
      rw [← hs, heq]
      simp only [List.append_assoc, List.cons_append, nls_succ]
  case case4 => cases h
  case case5 r'' _ heq =>
    cases h
    obtain ⟨k, s, rfl, hs, -⟩ := skipNL_spec r
    exact .inl ⟨nls k, false, .plain, by rw [← hs, heq], fun _ => rfl⟩
  case case6 => cases h

theorem forOpen_atStop {c : Cfg} {r : List Tok} (h : followsOpen r.head? = true) :
    forOpen c r = none := by
  cases r with
  | nil => rfl
  | cons t r' => cases t <;> first | rfl | cases h

theorem forHead_sound {c : Cfg} {ts : List Tok} {close : Tok} {r2 : List Tok}
    (h : forHead c ts = some (close, r2)) : ∃ hd, ForHead c hd close ∧ ts = hd ++ r2 := by
  cases ts with
  | nil => cases h
  | cons nm r =>
    rw [forHead] at h
    split at h
    · rename_i hn
      simp only [Bool.and_eq_true, Bool.or_eq_true, bne_iff_ne, ne_eq] at hn
      obtain ⟨hn1, hn2⟩ := hn
      cases hi : forIter r with
      | none => rw [hi] at h; cases h
      | some r1 =>
        rw [hi] at h
        have ho : forOpen c r1 = some (close, r2) := h
        rcases forIter_sound hi with ⟨it, b, hit, rfl, hb⟩ | hstop
        · revert ho
          fun_cases forOpen c r1 <;> intro ho <;> cases ho
          · rename_i hfb
            cases b with
            | true => exact ⟨nm :: it ++ [lbrace], .brace hfb hn1 hn2 hit, by simp⟩
            | false => cases hb rfl
          · exact ⟨nm :: it ++ [kDo], .doLoop hn1 hn2 hit, by simp⟩
        · rw [forOpen_atStop hstop] at ho; cases ho
    · cases h

theorem forIter_nls (k : Nat) {t : Tok} (X : List Tok) (ht : t = kIn ∨ t = kDo) :
    forIter (nls k ++ t :: X) = forIter (t :: X) := by
  cases k with
  | zero => rfl
  | succ k =>
    have hsk : skipNL (nl :: (nls k ++ t :: X)) = t :: X :=
      skipNL_nls_cons (k := k+1) (by rcases ht with rfl | rfl <;> decide)
    show (match skipNL (nl :: (nls k ++ t :: X)) with | kIn :: r'' => _ | kDo :: r'' => _ | _ => _) = _
    rw [hsk]
    rcases ht with rfl | rfl <;> rfl

theorem forIter_complete {it : List Tok} {b : Bool} (h : ForIter it b) (o : Tok) (rest : List Tok)
    (ho : o = kDo ∨ (o = lbrace ∧ b = true)) : forIter (it ++ o :: rest) = some (o :: rest) := by
  have hon : o ≠ nl := by rcases ho with rfl | ⟨rfl, _⟩ <;> decide
  have hsk : ∀ j, some (skipNL (nls j ++ o :: rest)) = some (o :: rest) :=
    fun j => congrArg some (skipNL_nls_cons hon)
  have inWords : ∀ k j {ws} sep, Words ws → sep = semi ∨ sep = nl →
      forIter (nls k ++ kIn :: ws ++ sep :: nls j ++ o :: rest) = some (o :: rest) := by
    intro k j ws sep hw hsep
    have hw := forWords_complete hw (sep :: (nls j ++ o :: rest))
      (by rcases hsep with rfl | rfl <;> rfl)
    simp only [List.append_assoc, List.cons_append]
    rw [forIter_nls k _ (.inl rfl)]
    show (match forWords (ws ++ sep :: (nls j ++ o :: rest)) with
      | some (semi :: r3) => some (skipNL r3) | some r3 => some (skipNL r3) | none => none) = _
    rw [hw]
    rcases hsep with rfl | rfl <;> exact hsk j
  cases h with
  | @semi k => exact hsk k
  | @plain k =>
    rcases ho with rfl | ⟨_, hb⟩
    · exact forIter_nls k _ (.inr rfl)
    · cases hb
  | @inSemi k ws j hw => exact inWords k j semi hw (.inl rfl)
  | @inNl k ws j hw => exact inWords k j nl hw (.inr rfl)

theorem forHead_complete {c : Cfg} {hd : List Tok} {close : Tok} (h : ForHead c hd close)
    (rest : List Tok) : forHead c (hd ++ rest) = some (close, rest) := by
  have lit : ∀ {nm}, isLitWord nm = true → (nm ≠ assign ∨ c.forAssign = true) →
      (isLitWord nm && (nm != assign || c.forAssign)) = true := by
    intro nm h1 h2; rcases h2 with h | h <;> simp [h1, h]
  cases h with
  | @doLoop nm it b hn1 hn2 hit =>
    simp only [List.cons_append, List.append_assoc, List.nil_append]
    rw [forHead, if_pos (lit hn1 hn2), forIter_complete hit kDo rest (.inl rfl)]
    rfl
  | @brace nm it hfb hn1 hn2 hit =>
    simp only [List.cons_append, List.append_assoc, List.nil_append]
    rw [forHead, if_pos (lit hn1 hn2), forIter_complete hit lbrace rest (.inr ⟨rfl, rfl⟩)]
    exact if_pos hfb

theorem forHead_close {c : Cfg} {hd : List Tok} {close : Tok} (h : ForHead c hd close) :
    close = kDone ∨ close = rbrace := by
  cases h with
  | doLoop => exact .inl rfl
  | brace => exact .inr rfl

theorem caseHead_sound {ts r : List Tok} (h : caseHead ts = some r) :
    ∃ w k j, wordLike w = true ∧ ts = w :: nls k ++ kIn :: nls j ++ r := by
  revert h
  fun_cases caseHead ts <;> intro h
  case case1 w r0 hw r' heq =>
    cases h
    obtain ⟨k, s, rfl, hs, -⟩ := skipNL_spec r0
    obtain ⟨j, s', rfl, hs', -⟩ := skipNL_spec r'
    obtain rfl := hs.symm.trans heq
    exact ⟨w, k, j, hw, by rw [hs']; simp only [List.append_assoc, List.cons_append]⟩
  all_goals cases h

theorem caseHead_complete {w : Tok} (hw : wordLike w = true) (k j : Nat) (rest : List Tok)
    (hr : rest.head? ≠ some nl) : caseHead (w :: nls k ++ kIn :: nls j ++ rest) = some rest := by
  simp only [List.cons_append, List.append_assoc]
  rw [caseHead, if_pos hw, skipNL_nls_cons (by decide)]
  exact congrArg some ((skipNL_nls_append j rest).trans (skipNL_of_head hr))

theorem allows_ne_io {q : Q} {e : End} {n : Option Tok} (h : allows q e n = true) : n ≠ some io := by
  rintro rfl; cases e <;> cases h

/-- Soundness records what may follow a parsed string under `Q.sub`, the most permissive context
    (it alone lets `)` follow); any other token that may follow there may follow under every `q`. -/
theorem allows_of_sub {q : Q} {e : End} {t : Tok} (ht : t ≠ rparen)
    (h : allows .sub e (some t) = true) : allows q e (some t) = true := by
  have : openOK .sub (some t) = openOK q (some t) := by
    simp only [openOK, beq_eq_false_iff_ne.mpr ht, Bool.false_and]
  cases e <;> first | exact h | (simp only [allows, this] at h ⊢; exact h)

theorem allows_none_of_sub {q : Q} {e : End} (h : allows .sub e none = true) :
    allows q e none = true := by
  cases e <;> exact h

theorem allows_closed_of_ne {q : Q} {n : Option Tok} (h : n ≠ some io) : allows q .closed n = true := by
  simp only [allows, bne_iff_ne, ne_eq, h, not_false_eq_true]

theorem notCont_iff {n : Option Tok} :
    notCont n = true ↔ n ≠ some andIf ∧ n ≠ some orIf ∧ n ≠ some pipe := by
  constructor
  · intro h; refine ⟨?_, ?_, ?_⟩ <;> (rintro rfl; cases h)
  · rintro ⟨h1, h2, h3⟩
    cases n with
    | none => rfl
    | some t => cases t <;> first | rfl | contradiction

theorem allows_seal {q : Q} {e : End} {n : Option Tok} :
    allows q e.seal n = true ↔ allows q e n = true ∧ notCont n = true := by
  cases e with
  | closed | «open» => exact Bool.and_eq_true_iff
  | bare =>
    refine ⟨fun h => ⟨h, ?_⟩, fun h => h.1⟩
    simp only [End.seal, allows, Bool.or_eq_true, beq_iff_eq] at h
    rcases h with (rfl | rfl) | rfl <;> rfl
  | sealedClosed | sealedOpen => exact ⟨fun h => ⟨h, (Bool.and_eq_true_iff.mp h).2⟩, fun h => h.1⟩

theorem openOK_sub {q : Q} {n : Option Tok} (h : openOK q n = true) : openOK .sub n = true := by
  cases n with
  | none => rfl
  | some t =>
    simp only [openOK, Bool.or_eq_true, Bool.and_eq_true, beq_iff_eq] at h ⊢
    exact h.imp_right fun h => ⟨h.1, trivial⟩

theorem openOK_sub_eq (n : Option Tok) : openOK .sub n = followsOpen n := by
  cases n with
  | none => rfl
  | some t => simp only [openOK, followsOpen, beq_self_eq_true, Bool.and_true]

theorem firstOK_cases {c : Cfg} {neg pre : Bool} {t : Tok} (h : firstOK c neg pre t = true) :
    (t = word ∨ t = qword ∨ t = assign) ∨ (pre = true ∧ c.rsrvAfterIO = false ∧ isRsrv t = true) ∨
      (t = bang ∧ neg = true) ∨ ((t = kElse ∨ t = kIn) ∧ c.elseInCmd = true) := by
  simpa only [firstOK, Bool.or_eq_true, Bool.and_eq_true, beq_iff_eq, Bool.not_eq_true', or_assoc, and_assoc]
    using h

theorem fnNameOK_cases {c : Cfg} {neg : Bool} {t : Tok} (h : fnNameOK c neg t = true) :
    t = word ∨ ((t = kElse ∨ t = kIn) ∧ c.elseInCmd = true) ∨
      (t = bang ∧ neg = true ∧ c.posix = false) := by
  simpa only [fnNameOK, Bool.or_eq_true, Bool.and_eq_true, beq_iff_eq, Bool.not_eq_true', or_assoc, and_assoc]
    using h

theorem firstOK_ne_io {c : Cfg} {neg pre : Bool} {t : Tok} (h : firstOK c neg pre t = true) : t ≠ io := by
  rintro rfl
  rcases firstOK_cases h with (h | h | h) | ⟨-, -, h⟩ | ⟨h, -⟩ | ⟨h | h, -⟩ <;> cases h

theorem fnName_ne_io {c : Cfg} {neg : Bool} {nm : Tok} (h : fnNameOK c neg nm = true) : nm ≠ io := by
  rintro rfl
  rcases fnNameOK_cases h with h | ⟨h | h, -⟩ | ⟨h, -⟩ <;> cases h

/-- First tokens: a command never starts with an operator other than `(`; after no redirection it
    does not start with a closing reserved word either. -/
def isStart0 : Tok → Bool
  | word | qword | assign | io | bang | kElse | kIn | lbrace | lparen | kIf | kWhile | kUntil | kFor
  | kCase => true
  | _ => false

theorem firstOK_start0 {c : Cfg} {neg : Bool} {t : Tok} (h : firstOK c neg false t = true) :
    isStart0 t = true ∧ (neg = false → t ≠ bang) := by
  rcases firstOK_cases h with (rfl | rfl | rfl) | ⟨h, -⟩ | ⟨rfl, rfl⟩ | ⟨rfl | rfl, -⟩
  all_goals first | exact ⟨rfl, nofun⟩ | cases h

theorem fnNameOK_start0 {c : Cfg} {neg : Bool} {t : Tok} (h : fnNameOK c neg t = true) :
    isStart0 t = true ∧ (neg = false → t ≠ bang) := by
  rcases fnNameOK_cases h with rfl | ⟨rfl | rfl, -⟩ | ⟨rfl, rfl, -⟩
  all_goals exact ⟨rfl, nofun⟩

theorem start0_ne_nl {t : Tok} (h : isStart0 t = true) : t ≠ nl := by rintro rfl; cases h

theorem start0_not_stop {t : Tok} (h : isStart0 t = true) : stopTok t = false := by
  cases t <;> first | rfl | cases h

theorem compoundStart_start0 {t : Tok} (h : isCompoundStart t = true) : isStart0 t = true := by
  cases t <;> first | rfl | cases h

theorem compound_first {c : Cfg} {q e ts} (h : Derives c (.compound q) e ts) :
    ∃ t r, ts = t :: r ∧ isCompoundStart t = true := by
  cases h with
  | block => exact ⟨lbrace, _, rfl, rfl⟩
  | subshell => exact ⟨lparen, _, rfl, rfl⟩
  | ifc => exact ⟨kIf, _, rfl, rfl⟩
  | loop hk => rcases hk with rfl | rfl <;> exact ⟨_, _, rfl, rfl⟩
  | forc => exact ⟨kFor, _, rfl, rfl⟩
  | casec => exact ⟨kCase, _, rfl, rfl⟩

theorem command_first {c : Cfg} {q neg e ts} (h : Derives c (.command q neg) e ts) :
    ∃ t r, ts = t :: r ∧ isStart0 t = true ∧ (neg = false → t ≠ bang) := by
  cases h with
  | c_simple hpre hf _ =>
    cases hpre with
    | nil => exact ⟨_, _, rfl, firstOK_start0 hf⟩
    | cons _ _ => exact ⟨io, _, rfl, rfl, fun _ => nofun⟩
  | c_redir => exact ⟨io, _, rfl, rfl, fun _ => nofun⟩
  | c_compound hb =>
    obtain ⟨t, r, rfl, ht⟩ := compound_first hb
    exact ⟨t, _, rfl, compoundStart_start0 ht, by rintro _ rfl; cases ht⟩
  | f_andor _ hn | f_command _ hn | f_compound _ hn => exact ⟨_, _, rfl, fnNameOK_start0 hn⟩

theorem pipeline_first {c : Cfg} {q neg e ts} (h : Derives c (.pipeline q neg) e ts) :
    ∃ t r, ts = t :: r ∧ isStart0 t = true ∧ (neg = false → t ≠ bang) := by
  cases h with
  | pipeline hc => obtain ⟨t, r, rfl, ht⟩ := command_first hc; exact ⟨t, _, rfl, ht⟩

theorem bpipe_first {c : Cfg} {q e ts} (h : Derives c (.bpipe q) e ts) :
    ∃ t r, ts = t :: r ∧ isStart0 t = true := by
  cases h with
  | b_plain hp => obtain ⟨t, r, rfl, ht, _⟩ := pipeline_first hp; exact ⟨t, r, rfl, ht⟩
  | b_bang | b_bangs | b_bare => exact ⟨bang, _, rfl, rfl⟩

theorem stmt_first {c : Cfg} {q e ts} (h : Derives c (.stmt q) e ts) :
    ∃ t r, ts = t :: r ∧ isStart0 t = true := by
  cases h with
  | stmt hp => obtain ⟨t, r, rfl, ht⟩ := bpipe_first hp; exact ⟨t, _, rfl, ht⟩

theorem pats_first {pat : List Tok} (h : Pats pat) : ∃ w r, pat = w :: r ∧ wordLike w = true := by
  cases h with
  | one hw | more hw => exact ⟨_, _, rfl, hw⟩

theorem caseItems_first {c : Cfg} {e ts} (h : Derives c .caseItems e ts) :
    ∃ t r, ts = t :: r ∧ t ≠ nl := by
  cases h with
  | ci_esac => exact ⟨kEsac, _, rfl, nofun⟩
  | ci_last hlp hpat | ci_item hlp hpat =>
    obtain ⟨w, r, rfl, hw⟩ := pats_first hpat
    rcases hlp with rfl | rfl
    · exact ⟨w, _, rfl, by rintro rfl; cases hw⟩
    · exact ⟨lparen, _, rfl, nofun⟩

theorem ifTail_first {c : Cfg} {q e0 e t} (h : Derives c (.ifTail q e0) e t) :
    ∃ x r, t = x :: r ∧ (x = kFi ∨ x = kElse ∨ x = kElif) ∧ allows q e0 (some x) = true := by
  cases h with
  | i_fi h => exact ⟨kFi, _, rfl, .inl rfl, h⟩
  | i_else h => exact ⟨kElse, _, rfl, .inr (.inl rfl), h⟩
  | i_elif h => exact ⟨kElif, _, rfl, .inr (.inr rfl), h⟩

theorem bind_ok {α β} {x : R α} {g : α → R β} {b : β} (h : x.bind g = .ok b) :
    ∃ a, x = .ok a ∧ g a = .ok b := by
  cases x with
  | ok a => exact ⟨a, rfl, h⟩
  | oof | err => cases h

theorem expect_ok {t : Tok} {ts rest : List Tok} (h : expect t ts = .ok rest) : ts = t :: rest := by
  cases ts with
  | nil => cases h
  | cons t' r =>
    rw [expect] at h
    split at h
    · rename_i ht; cases h; rw [ht]
    · cases h

theorem expect_cons (t : Tok) (r : List Tok) : expect t (t :: r) = .ok r := if_pos rfl

theorem ofOpt_ok {α} {o : Option α} {a : α} (h : ofOpt o = .ok a) : o = some a := by
  cases o with
  | none => cases h
  | some b => cases h; rfl

section equations
variable {c : Cfg} {q : Q} {f : Nat}

/-- A newline sets `gotEnd`; the lexer has merged it with the newlines that follow. -/
theorem stmts_nl {stops : List Tok} {gotEnd any : Bool} (X : List Tok) :
    stmts c q stops f gotEnd any (nl :: X) = stmts c q stops f true any X := by
  cases f with
  | zero => rfl
  | succ f =>
    cases X with
    | nil => rfl
    | cons t0 r0 =>
      simp only [stmts, skipNL]
      cases skipNL (t0 :: r0) with
      | nil => rfl
      | cons t r => simp only [beq_self_eq_true, Bool.not_true, Bool.false_and, Bool.and_false]

theorem stmts_cons {stops : List Tok} {gotEnd any : Bool} {t : Tok} {r : List Tok} (h : t ≠ nl) :
    stmts c q stops (f+1) gotEnd any (t :: r) =
      if stops.contains t then .ok (any, t :: r)
      else if t = rbrace then .err
      else if t = rparen && q == .sub then .ok (any, t :: r)
      else if t = dsemi then (if q = .case then .ok (any, t :: r) else .err)
      else if !gotEnd then .err
      else (getStmt c q true false f (t :: r)).bind fun x => stmts c q stops f x.1 true x.2 := by
  simp only [stmts, skipNL_cons_ne h, beq_eq_false_iff_ne.mpr h, Bool.not_false, Bool.true_and]
  cases getStmt c q true false f (t :: r) <;> rfl

theorem getStmt_plain {re bc : Bool} {ts : List Tok} (h : ts.head? ≠ some bang) :
    getStmt c q re bc (f+1) ts = (pipeline c q false false f ts).bind (andOrTail c q re bc f) := by
  unfold getStmt
  split
  · exact absurd rfl h
  · rfl

/-- What `getStmt` / `andOrTail` return when the and-or list is over. -/
def readEndRes (readEnd : Bool) : List Tok → Bool × List Tok
  | semi :: r => if readEnd then (true, r) else (false, semi :: r)
  | amp :: r => if readEnd then (true, r) else (false, amp :: r)
  | rest => (false, rest)

theorem readEndRes_false (rest : List Tok) : readEndRes false rest = (false, rest) := by
  unfold readEndRes
  split <;> rfl

theorem readEndRes_cases (readEnd : Bool) (ts : List Tok) :
    readEndRes readEnd ts = (false, ts) ∨
    (readEnd = true ∧ ∃ sep r, (sep = semi ∨ sep = amp) ∧ ts = sep :: r ∧
      readEndRes readEnd ts = (true, r)) := by
  unfold readEndRes
  split
  · cases readEnd
    · exact .inl rfl
    · exact .inr ⟨rfl, semi, _, .inl rfl, rfl, rfl⟩
  · cases readEnd
    · exact .inl rfl
    · exact .inr ⟨rfl, amp, _, .inr rfl, rfl, rfl⟩
  · exact .inl rfl

theorem andOrTail_op {readEnd binCmd : Bool} {op : Tok} (r : List Tok) (hop : op = andIf ∨ op = orIf) :
    andOrTail c q readEnd binCmd (f+1) (op :: r) =
      if binCmd then .ok (false, op :: r)
      else (getStmt c q false true f (skipNL r)).bind fun x => andOrTail c q readEnd binCmd f x.2 := by
  rcases hop with rfl | rfl <;> (simp only [andOrTail]; cases getStmt c q false true f (skipNL r) <;> rfl)

theorem andOrTail_stop {readEnd binCmd : Bool} {ts : List Tok}
    (h1 : ts.head? ≠ some andIf) (h2 : ts.head? ≠ some orIf) :
    andOrTail c q readEnd binCmd (f+1) ts = .ok (readEndRes readEnd ts) := by
  cases ts with
  | nil => rfl
  | cons t r =>
    cases t <;> first | rfl | (cases readEnd <;> rfl) | exact absurd rfl h1 | exact absurd rfl h2

theorem pipeTail_stop {binCmd : Bool} {ts : List Tok} (h : ts.head? ≠ some pipe) :
    pipeTail c q binCmd (f+1) ts = .ok ts := by
  unfold pipeTail
  split
  · exact absurd rfl h
  · rfl

theorem pipeTail_pipe {binCmd : Bool} (r : List Tok) :
    pipeTail c q binCmd (f+1) (pipe :: r) =
      if binCmd then .ok (pipe :: r)
      else (pipeline c q false true f (skipNL r)).bind (pipeTail c q binCmd f) := rfl

theorem andOrTail_bin (ts : List Tok) :
    andOrTail c q false true (f+1) ts = .ok (false, ts) := by
  unfold andOrTail
  split <;> rfl

theorem pipeTail_bin (ts : List Tok) :
    pipeTail c q true (f+1) ts = .ok ts := by
  unfold pipeTail
  split <;> rfl

theorem name_call {pre : Bool} {t : Tok} {X : List Tok} (h : X.head? ≠ some lparen) :
    name c q pre (f+1) t X = ofOpt (callExpr q X) := by
  unfold name
  split
  · exact absurd rfl h
  · exact absurd rfl h
  · rfl

theorem name_fn {pre : Bool} {t : Tok} (r2 : List Tok) :
    name c q pre (f+1) t (lparen :: rparen :: r2) =
      if c.posix && t == bang then .err
      else if pre then .err
      else
        match c.fnBody with
        | .andOr => (getStmt c q false false f (skipNL r2)).bind fun x => .ok x.2
        | .command => pipeline c q false true f (skipNL r2)
        | .compound =>
          match skipNL r2 with
          | t3 :: _ => if isCompoundStart t3 then pipeline c q false true f (skipNL r2) else .err
          | [] => .err := rfl

theorem name_lparen {pre : Bool} {t : Tok} {X : List Tok} (h : X.head? ≠ some rparen) :
    name c q pre (f+1) t (lparen :: X) = .err := by
  unfold name
  split
  · rename_i heq; cases heq; exact absurd rfl h
  · rfl
  · rename_i hne; exact absurd rfl (hne _)

theorem caseItems_cons {t : Tok} (r : List Tok) (ht : t ≠ kEsac) :
    caseItems c (f+1) (t :: r) =
      match patterns (if t = lparen then r else t :: r) with
      | none => .err
      | some r1 =>
        match stmts c .case [kEsac] f true false r1 with
        | .ok (_, dsemi :: r2) => caseItems c f (skipNL r2)
        | .ok (_, r2) => expect kEsac r2
        | .err => .err
        | .oof => .oof := by
  rw [caseItems]
  · rfl
  · exact ht

end equations

/-- How `getStmt` / `andOrTail` leave the input: nothing consumed after the derived string `s`, or
    (with `readEnd`) the `;` / `&` that follows it. -/
def Tail (readEnd sm : Bool) (s : List Tok) (e : End) (ts rest : List Tok) : Prop :=
  (sm = false ∧ ts = s ++ rest ∧ allows .sub e rest.head? = true) ∨
  (sm = true ∧ readEnd = true ∧ ∃ sep, (sep = semi ∨ sep = amp) ∧ ts = s ++ sep :: rest ∧
    allows .sub e (some sep) = true)

structure SoundIH (c : Cfg) (f : Nat) : Prop where
  stmts : ∀ q stops gotEnd any ts a' rest, stops.contains io = false →
    stmts c q stops f gotEnd any ts = .ok (a', rest) →
    ∃ pre a e, ts = pre ++ rest ∧ Derives c (.list q stops a) e pre ∧
      (gotEnd = false → pre = [] ∨ ∃ p', pre = nl :: p' ∧ Derives c (.list q stops a) e p') ∧
      a' = (any || a) ∧ allows .sub e rest.head? = true
  follow : ∀ q stops ts rest, stops.contains io = false →
    followStmts c q stops f ts = .ok rest →
    ∃ l e, ts = l ++ rest ∧ Derives c (.list q stops true) e l ∧ allows .sub e rest.head? = true
  getStmt : ∀ q readEnd binCmd ts sm rest, getStmt c q readEnd binCmd f ts = .ok (sm, rest) →
    ∃ p e0 t e, Derives c (.bpipe q) e0 p ∧ Derives c (.aoTail q e0) e t ∧
      (binCmd = true → t = [] ∧ e = e0) ∧ Tail readEnd sm (p ++ t) e ts rest ∧
      (sm = false → rest.head? ≠ some pipe) ∧ (binCmd = false → sm = false → notCont rest.head? = true)
  andOrTail : ∀ q readEnd binCmd ts sm rest e0, andOrTail c q readEnd binCmd f ts = .ok (sm, rest) →
    allows .sub e0 ts.head? = true → ts.head? ≠ some pipe →
    ∃ t e, Derives c (.aoTail q e0) e t ∧ (binCmd = true → t = [] ∧ e = e0) ∧
      Tail readEnd sm t e ts rest ∧
      (sm = false → rest.head? ≠ some pipe) ∧ (binCmd = false → sm = false → notCont rest.head? = true)
  pipeline : ∀ q neg binCmd ts rest, pipeline c q neg binCmd f ts = .ok rest →
    ∃ cm e0 t e, Derives c (.command q neg) e0 cm ∧ Derives c (.pipeTail q e0) e t ∧
      (binCmd = true → t = [] ∧ e = e0) ∧ ts = cm ++ t ++ rest ∧ allows .sub e rest.head? = true ∧
      (binCmd = false → rest.head? ≠ some pipe)
  pipeTail : ∀ q binCmd ts rest e0, pipeTail c q binCmd f ts = .ok rest →
    allows .sub e0 ts.head? = true →
    ∃ t e, Derives c (.pipeTail q e0) e t ∧ (binCmd = true → t = [] ∧ e = e0) ∧ ts = t ++ rest ∧
      allows .sub e rest.head? = true ∧ (binCmd = false → rest.head? ≠ some pipe)
  command : ∀ q neg pre ts rest pr, command c q neg pre f ts = .ok rest → Redirs pr →
    pre = !pr.isEmpty → ts.head? ≠ some io →
    ∃ cm, ts = cm ++ rest ∧
      ((∃ e, Derives c (.command q neg) e (pr ++ cm) ∧ allows .sub e rest.head? = true) ∨
       (pr = [] ∧ Derives c (.compound q) .closed cm))
  name : ∀ q neg pre t r rest pr, name c q pre f t r = .ok rest →
    (t = word ∨ (t = bang ∧ neg = true) ∨ ((t = kElse ∨ t = kIn) ∧ c.elseInCmd = true)) →
    Redirs pr → pre = !pr.isEmpty →
    ∃ cm e, r = cm ++ rest ∧ Derives c (.command q neg) e (pr ++ t :: cm) ∧
      allows .sub e rest.head? = true
  ifTail : ∀ q ts rest e0, ifTail c q f ts = .ok rest → allows .sub e0 ts.head? = true →
    ∃ t e, Derives c (.ifTail q e0) e t ∧ ts = t ++ rest
  caseItems : ∀ ts rest, caseItems c f ts = .ok rest →
    ∃ items e, Derives c .caseItems e items ∧ ts = items ++ rest

theorem tail_nil_false {readEnd : Bool} {e : End} {ts : List Tok}
    (h : allows .sub e ts.head? = true) : Tail readEnd false [] e ts ts :=
  .inl ⟨rfl, rfl, h⟩

theorem Tail.prefix {readEnd sm : Bool} {t : List Tok} {e : End} {ts rest : List Tok} (s : List Tok)
    (h : Tail readEnd sm t e ts rest) : Tail readEnd sm (s ++ t) e (s ++ ts) rest := by
  rcases h with ⟨h1, rfl, h3⟩ | ⟨h1, h2, sep, h3, rfl, h5⟩
  · exact .inl ⟨h1, (List.append_assoc ..).symm, h3⟩
  · exact .inr ⟨h1, h2, sep, h3, (List.append_assoc ..).symm, h5⟩

theorem simple_sound {c : Cfg} {q : Q} {neg : Bool} {pr : List Tok} {t : Tok} {r rest : List Tok}
    (hpr : Redirs pr) (hf : firstOK c neg (!pr.isEmpty) t = true) (h : callExpr q r = some rest) :
    ∃ cm e, r = cm ++ rest ∧ Derives c (.command q neg) e (pr ++ t :: cm) ∧
      allows .sub e rest.head? = true := by
  obtain ⟨its, hi, hr, ho⟩ := callExpr_sound q r h
  exact ⟨its, .open, hr, .c_simple hpr hf hi, openOK_sub ho⟩

/-- The tokens `command` passes to `name` are first words of a simple command … -/
theorem firstOK_of_name {c : Cfg} {neg pre : Bool} {t : Tok}
    (ht : t = word ∨ (t = bang ∧ neg = true) ∨ ((t = kElse ∨ t = kIn) ∧ c.elseInCmd = true)) :
    firstOK c neg pre t = true := by
  rcases ht with rfl | ⟨rfl, rfl⟩ | ⟨rfl | rfl, he⟩ <;> simp [firstOK, *]

/-- … and function names, `!` in LangPOSIX aside. -/
theorem fnNameOK_of_name {c : Cfg} {neg : Bool} {t : Tok}
    (ht : t = word ∨ (t = bang ∧ neg = true) ∨ ((t = kElse ∨ t = kIn) ∧ c.elseInCmd = true))
    (hpb : ¬ (c.posix && t == bang) = true) : fnNameOK c neg t = true := by
  rcases ht with rfl | ⟨rfl, rfl⟩ | ⟨rfl | rfl, he⟩ <;> simp [fnNameOK, *] <;> simpa using hpb

theorem sound_follow_expect {c : Cfg} {f : Nat} (ih : SoundIH c f) {q : Q} {stops : List Tok}
    {x : Tok} {r rest : List Tok} (hst : stops.contains io = false)
    (h : (followStmts c q stops f r).bind (expect x) = .ok rest) :
    ∃ l e, r = l ++ x :: rest ∧ Derives c (.list q stops true) e l ∧
      allows .sub e (some x) = true := by
  obtain ⟨r1, h1, h2⟩ := bind_ok h
  obtain ⟨l, e, hl, hd, hal⟩ := ih.follow _ _ _ _ hst h1
  obtain rfl := expect_ok h2
  exact ⟨l, e, hl, hd, hal⟩

theorem sound_ifBody {c : Cfg} {f : Nat} (ih : SoundIH c f) {q : Q} {r rest : List Tok}
    (h : ((followStmts c q [kThen] f r).bind (expect kThen)).bind (fun r1 =>
      (followStmts c q [kFi, kElif, kElse] f r1).bind (ifTail c q f)) = .ok rest) :
    ∃ e1 cond e2 thn e t, r = cond ++ kThen :: thn ++ t ++ rest ∧
      Derives c (.list q [kThen] true) e1 cond ∧ allows q e1 (some kThen) = true ∧
      Derives c (.list q [kFi, kElif, kElse] true) e2 thn ∧ Derives c (.ifTail q e2) e t := by
  obtain ⟨r1, ha, hb⟩ := bind_ok h
  obtain ⟨cond, e1, rfl, hd1, hal1⟩ := sound_follow_expect ih (by decide) ha
  obtain ⟨r2, hc, hd⟩ := bind_ok hb
  obtain ⟨thn, e2, rfl, hd2, hal2⟩ := ih.follow _ _ _ _ (by decide) hc
  obtain ⟨t', e, hd3, rfl⟩ := ih.ifTail _ _ _ e2 hd hal2
  exact ⟨e1, cond, e2, thn, e, t', by simp only [List.append_assoc, List.cons_append],
    hd1, allows_of_sub (by decide) hal1, hd2, hd3⟩

theorem sound_succ {c : Cfg} {f : Nat} (ih : SoundIH c f) : SoundIH c (f+1) where
  stmts := by
    intro q stops gotEnd any ts a' rest hst
    -- a newline is skipped without spending fuel, hence the induction on the input
    induction ts generalizing gotEnd with
    | nil =>
      intro h; cases h
      exact ⟨[], false, .closed, rfl, .l_nil, fun _ => .inl rfl, (Bool.or_false _).symm, rfl⟩
    | cons t r iht =>
      intro h
      by_cases hnl : t = nl
      · subst hnl
        rw [stmts_nl] at h
        obtain ⟨pre, a, e, rfl, hd, -, ha, hal⟩ := iht true h
        exact ⟨nl :: pre, a, e, rfl, .l_nl hd, fun _ => .inr ⟨pre, rfl, hd⟩, ha, hal⟩
      rw [stmts_cons hnl] at h
      -- the loop ends before `t`
      have stop : t ≠ io → R.ok (any, t :: r) = R.ok (a', rest) →
          ∃ pre a e, t :: r = pre ++ rest ∧ Derives c (.list q stops a) e pre ∧
          (gotEnd = false → pre = [] ∨ ∃ p', pre = nl :: p' ∧ Derives c (.list q stops a) e p') ∧
          a' = (any || a) ∧ allows .sub e rest.head? = true := by
        intro hio h; cases h
        exact ⟨[], false, .closed, rfl, .l_nil, fun _ => .inl rfl, (Bool.or_false _).symm,
          allows_closed_of_ne fun h => hio (Option.some.inj h)⟩
      by_cases hs : stops.contains t = true
      · rw [if_pos hs] at h; exact stop (by rintro rfl; rw [hst] at hs; cases hs) h
      rw [if_neg hs] at h
      by_cases hrb : t = rbrace
      · rw [if_pos hrb] at h; cases h
      rw [if_neg hrb] at h
      by_cases hp : (t = rparen && q == .sub) = true
      · rw [if_pos hp] at h; exact stop (by rintro rfl; cases hp) h
      rw [if_neg hp] at h
      by_cases hd : t = dsemi
      · rw [if_pos hd] at h
        by_cases hq : q = .case
        · rw [if_pos hq] at h; exact stop (by rintro rfl; cases hd) h
        · rw [if_neg hq] at h; cases h
      rw [if_neg hd] at h
      cases gotEnd with
      | false => cases h
      | true =>
      rw [if_neg (nofun : ¬ (!true) = true)] at h
      obtain ⟨⟨sm, r'⟩, hg, h⟩ := bind_ok h
      obtain ⟨p, e0, t', e1, hp, ht', -, htail, -, -⟩ := ih.getStmt _ _ _ _ _ _ hg
      have hstm : Derives c (.stmt q) e1 (p ++ t') := .stmt hp ht'
      obtain ⟨pre', a, e, rfl, hl, hshape, ha', hal⟩ := ih.stmts _ _ _ _ _ _ _ hst h
      have hany : a' = (any || true) := ha'.trans (Bool.or_true any).symm
      have hstart : ∀ tl, t :: r = (p ++ t') ++ tl → startOK stops (p ++ t') := by
        intro tl htl
        obtain ⟨t1, r1, h1, -⟩ := stmt_first hstm
        rw [h1] at htl ⊢
        cases htl
        exact Bool.eq_false_iff.mpr hs
      rcases htail with ⟨rfl, hts, hal0⟩ | ⟨rfl, -, sep, hsep, hts, hal0⟩
      · -- no separator consumed: the rest of the list is empty or starts with a newline
        rcases hshape rfl with rfl | ⟨p', rfl, hl'⟩
        · exact ⟨p ++ t', true, e1, hts, .l_last hstm (hstart _ hts), nofun, hany, hal0⟩
        · exact ⟨(p ++ t') ++ nl :: p', true, e,
            by rw [hts]; simp only [List.append_assoc, List.cons_append],
            .l_newl hstm (hstart _ hts) (allows_of_sub (by decide) hal0) hl', nofun, hany, hal⟩
      · exact ⟨(p ++ t') ++ sep :: pre', true, e,
          by rw [hts]; simp only [List.append_assoc, List.cons_append],
          .l_sep hstm (hstart _ hts) hsep
            (allows_of_sub (by rcases hsep with rfl | rfl <;> decide) hal0) hl, nofun, hany, hal⟩

  follow := by
    intro q stops ts rest hst h
    rw [followStmts] at h
    split at h
    · rename_i r heq
      cases h
      obtain ⟨pre, a, e, h1, h2, -, rfl, h5⟩ := ih.stmts _ _ _ _ _ _ _ hst heq
      exact ⟨pre, e, h1, h2, h5⟩
    all_goals cases h

  getStmt := by
    intro q readEnd binCmd ts sm rest h
    -- common continuation: a pipeline, then the and-or loop
    have fin : ∀ (pfx : List Tok) (neg : Bool) (r1 : List Tok),
        (∀ {e p}, Derives c (.pipeline q neg) e p → p.head? = r1.head? →
          Derives c (.bpipe q) e (pfx ++ p)) →
        ts = pfx ++ r1 →
        (pipeline c q neg false f r1).bind (andOrTail c q readEnd binCmd f) = .ok (sm, rest) →
        ∃ p e0 t e, Derives c (.bpipe q) e0 p ∧ Derives c (.aoTail q e0) e t ∧
          (binCmd = true → t = [] ∧ e = e0) ∧ Tail readEnd sm (p ++ t) e ts rest ∧
          (sm = false → rest.head? ≠ some pipe) ∧
          (binCmd = false → sm = false → notCont rest.head? = true) := by
      rintro pfx neg r1 bp rfl hb
      obtain ⟨r2, hp, ha⟩ := bind_ok hb
      obtain ⟨cm, e0', t1, e1, hcm, ht1, -, rfl, hal1, hnp1⟩ := ih.pipeline _ _ _ _ _ hp
      obtain ⟨t2, e, ht2, hbin, htail, hq1, hq2⟩ := ih.andOrTail _ _ _ _ _ _ e1 ha hal1 (hnp1 rfl)
      obtain ⟨x, xs, rfl, -⟩ := command_first hcm
      refine ⟨pfx ++ (x :: xs ++ t1), e1, t2, e, bp (.pipeline hcm ht1) rfl, ht2, hbin, ?_, hq1, hq2⟩
      have := htail.prefix (pfx ++ (x :: xs ++ t1))
      simp only [List.append_assoc] at this ⊢
      exact this
    by_cases hb : ts.head? = some bang
    · obtain ⟨r, rfl⟩ := List.head?_eq_some_iff.mp hb
      simp only [getStmt] at h
      by_cases hba : c.bangAlone = true
      · rw [if_pos hba] at h
        obtain ⟨k, s, rfl, hs, hk2⟩ := dropWhile_bang_spec r
        rw [hs] at h
        -- only `!`s
        have bare : allows .sub .bare s.head? = true → s.head? ≠ some pipe → notCont s.head? = true →
            R.ok (false, s) = R.ok (sm, rest) →
            ∃ p e0 t e, Derives c (.bpipe q) e0 p ∧ Derives c (.aoTail q e0) e t ∧
            (binCmd = true → t = [] ∧ e = e0) ∧
            Tail readEnd sm (p ++ t) e (bang :: (bangs k ++ s)) rest ∧
            (sm = false → rest.head? ≠ some pipe) ∧
            (binCmd = false → sm = false → notCont rest.head? = true) := by
          intro h1 h2 h3 heq
          cases heq
          exact ⟨bang :: bangs k, .bare, [], .bare, .b_bare hba, .t_nil, fun _ => ⟨rfl, rfl⟩,
            .inl ⟨rfl, by rw [List.append_nil]; rfl, h1⟩, fun _ => h2, fun _ _ => h3⟩
        split at h
        · exact bare rfl nofun rfl h
        · exact bare rfl nofun rfl h
        · cases readEnd with
          | true =>
            cases h
            exact ⟨bang :: bangs k, .bare, [], .bare, .b_bare hba, .t_nil, fun _ => ⟨rfl, rfl⟩,
              .inr ⟨rfl, rfl, semi, .inl rfl, by rw [List.append_nil]; rfl, rfl⟩, nofun, nofun⟩
          | false => exact bare rfl nofun rfl h
        · rename_i t tl _ _
          split at h
          · cases h
          · exact fin (bang :: bangs k) true (t :: tl)
              (fun hp hhead => .b_bangs hba hp (hhead ▸ hk2)) rfl h
      · rw [if_neg hba] at h
        cases r with
        | nil => cases h
        | cons t r'' =>
          dsimp only at h
          by_cases hst : (stopTok t || t == bang) = true
          · rw [if_pos hst] at h; cases h
          · rw [if_neg hst] at h
            refine fin [bang] true (t :: r'') ?_ rfl h
            intro e p hp hhead
            refine .b_bang (p := p) (by simpa using hba) hp ?_
            rw [hhead]
            simp only [Bool.or_eq_true, beq_iff_eq, not_or] at hst
            exact fun h' => hst.2 (Option.some.inj h')
    · rw [getStmt_plain hb] at h
      exact fin [] false ts (fun hp _ => .b_plain hp) rfl h

  andOrTail := by
    intro q readEnd binCmd ts sm rest e0 h hal hnp
    -- no operator: the tail is empty
    have stop : ts.head? ≠ some andIf → ts.head? ≠ some orIf →
        ∃ t e, Derives c (.aoTail q e0) e t ∧ (binCmd = true → t = [] ∧ e = e0) ∧
        Tail readEnd sm t e ts rest ∧
        (sm = false → rest.head? ≠ some pipe) ∧
        (binCmd = false → sm = false → notCont rest.head? = true) := by
      intro h1 h2
      rw [andOrTail_stop h1 h2] at h
      refine ⟨[], e0, .t_nil, fun _ => ⟨rfl, rfl⟩, ?_⟩
      rcases readEndRes_cases readEnd ts with hr | ⟨hre, sep, r, hsep, rfl, hr⟩ <;> rw [hr] at h <;>
        cases h
      · exact ⟨tail_nil_false hal, fun _ => hnp, fun _ _ => notCont_iff.mpr ⟨h1, h2, hnp⟩⟩
      · exact ⟨.inr ⟨rfl, hre, sep, hsep, rfl, hal⟩, nofun, nofun⟩
    cases ts with
    | nil => exact stop nofun nofun
    | cons op r =>
      by_cases hop : op = andIf ∨ op = orIf
      · rw [andOrTail_op r hop] at h
        cases binCmd with
        | true =>
          cases h
          exact ⟨[], e0, .t_nil, fun _ => ⟨rfl, rfl⟩, tail_nil_false hal, fun _ => hnp, nofun⟩
        | false =>
          rw [if_neg nofun] at h
          obtain ⟨⟨sm', r'⟩, hg, h⟩ := bind_ok h
          obtain ⟨p, e1, t1, e1', hp, -, hbin, htail, hnp', -⟩ := ih.getStmt _ _ _ _ _ _ hg
          obtain ⟨rfl, rfl⟩ := hbin rfl
          rcases htail with ⟨rfl, hsk, hal1⟩ | ⟨-, hre, -⟩
          · obtain ⟨t2, e, ht2, -, htail2, hq1, hq2⟩ := ih.andOrTail _ _ _ _ _ _ e1' h hal1 (hnp' rfl)
            obtain ⟨k, s, rfl, hs, -⟩ := skipNL_spec r
            obtain rfl : s = p ++ r' := by rw [← hs, hsk, List.append_nil]
            have hopok : allows q e0 (some op) = true :=
              allows_of_sub (by rcases hop with rfl | rfl <;> decide) hal
            refine ⟨op :: nls k ++ p ++ t2, e, .t_op hop hopok hp ht2, nofun, ?_, hq1, hq2⟩
            have := htail2.prefix (op :: nls k ++ p)
            simp only [List.append_assoc, List.cons_append] at this ⊢
            exact this
          · cases hre
      · exact stop (fun h => hop (.inl (Option.some.inj h))) (fun h => hop (.inr (Option.some.inj h)))

  pipeline := by
    intro q neg binCmd ts rest h
    rw [pipeline] at h
    split at h
    · cases h
    · rename_i pre ts1 hre
      obtain ⟨pr, hpr, rfl, hpre, hio⟩ := redirs_sound ts hre
      obtain ⟨r', hc, ht⟩ := bind_ok h
      obtain ⟨r, hcmd, hpost⟩ := bind_ok hc
      split at hpost
      · cases hpost
      · rename_i b' r'' hre2
        split at hpost
        · cases hpost
        · rename_i hchk
          cases hpost
          obtain ⟨cm, rfl, hcase⟩ := ih.command _ _ _ _ _ pr hcmd hpr hpre hio
          -- the command with its redirections, and what follows it
          have key : ∃ full e0, Derives c (.command q neg) e0 full ∧ pr ++ (cm ++ r) = full ++ r' ∧
              allows .sub e0 r'.head? = true := by
            rcases hcase with ⟨e0, hd, hal⟩ | ⟨rfl, hd⟩
            · rw [redirs_of_head (allows_ne_io hal)] at hre2
              cases hre2
              exact ⟨pr ++ cm, e0, hd, (List.append_assoc ..).symm, hal⟩
            · obtain ⟨post, hpost, rfl, hb', hio2⟩ := redirs_sound r hre2
              refine ⟨cm ++ post, _, .c_compound hd hpost, (List.append_assoc cm post r').symm, ?_⟩
              split
              · exact allows_closed_of_ne hio2
              · rename_i hcl
                simp only [Bool.or_eq_true, not_or, Bool.not_eq_true] at hcl
                simp only [hb', hcl.1, hcl.2, Bool.not_false, Bool.and_true, Bool.true_and,
                  Bool.not_eq_true', Bool.not_eq_false] at hchk
                exact (openOK_sub_eq _).trans hchk
          obtain ⟨full, e0, hd, hfull, hal⟩ := key
          obtain ⟨t, e, hdt, hbin, rfl, hal', hnp⟩ := ih.pipeTail _ _ _ _ e0 ht hal
          exact ⟨full, e0, t, e, hd, hdt, hbin, by rw [hfull, List.append_assoc], hal', hnp⟩

  pipeTail := by
    intro q binCmd ts rest e0 h hal
    by_cases hp : ts.head? = some pipe
    · obtain ⟨r, rfl⟩ := List.head?_eq_some_iff.mp hp
      rw [pipeTail_pipe] at h
      cases binCmd with
      | true => cases h; exact ⟨[], e0, .p_nil, fun _ => ⟨rfl, rfl⟩, rfl, hal, nofun⟩
      | false =>
        rw [if_neg nofun] at h
        obtain ⟨r2, hp2, ht2⟩ := bind_ok h
        obtain ⟨cm, e1, t1, e1', hcm, -, hbin, hr, hal1, -⟩ := ih.pipeline _ _ _ _ _ hp2
        obtain ⟨rfl, rfl⟩ := hbin rfl
        obtain ⟨t2, e, hd2, -, rfl, hal2, hnp2⟩ := ih.pipeTail _ _ _ _ e1' ht2 hal1
        obtain ⟨k, s, rfl, hs, -⟩ := skipNL_spec r
        obtain rfl : s = cm ++ (t2 ++ rest) := by rw [← hs, hr, List.append_nil]
        refine ⟨pipe :: nls k ++ cm ++ t2, e, .p_pipe (allows_of_sub (by decide) hal) hcm hd2, nofun,
          ?_, hal2, hnp2⟩
        simp only [List.append_assoc, List.cons_append]
    · rw [pipeTail_stop hp] at h
      cases h
      exact ⟨[], e0, .p_nil, fun _ => ⟨rfl, rfl⟩, rfl, hal, fun _ => hp⟩

  command := by
    intro q neg pre ts rest pr h hpr hpre hio
    have hpr0 : pre = false → pr = [] := by
      rintro rfl
      cases pr with
      | nil => rfl
      | cons x xs => cases hpre
    have redirOnly : (if pre then R.ok ts else .err) = .ok rest → openOK .sub ts.head? = true →
        ∃ cm, ts = cm ++ rest ∧
        ((∃ e, Derives c (.command q neg) e (pr ++ cm) ∧ allows .sub e rest.head? = true) ∨
         (pr = [] ∧ Derives c (.compound q) .closed cm)) := by
      intro h hstop
      cases pre with
      | false => cases h
      | true =>
        cases h
        cases hpr with
        | nil => cases hpre
        | cons hw hr =>
          exact ⟨[], rfl, .inl ⟨.open, by rw [List.append_nil]; exact .c_redir hw hr, hstop⟩⟩
    -- a first word `t`, then the rest of a simple command or a function definition
    have worded : ∀ t r, ts = t :: r →
        (∃ cm e, r = cm ++ rest ∧ Derives c (.command q neg) e (pr ++ t :: cm) ∧
          allows .sub e rest.head? = true) →
        ∃ cm, ts = cm ++ rest ∧
        ((∃ e, Derives c (.command q neg) e (pr ++ cm) ∧ allows .sub e rest.head? = true) ∨
         (pr = [] ∧ Derives c (.compound q) .closed cm)) := by
      rintro t r rfl ⟨cm, e, rfl, hd, hal⟩
      exact ⟨t :: cm, rfl, .inl ⟨e, hd, hal⟩⟩
    have named {t r} (h : name c q pre f t r = .ok rest) ht :=
      ih.name q neg pre t r rest pr h ht hpr hpre
    -- a compound command: no redirections before it
    have comp : ∀ {X : R (List Tok)}, (if pre then R.err else X) = .ok rest →
        (X = .ok rest → ∃ cm, ts = cm ++ rest ∧ Derives c (.compound q) .closed cm) →
        ∃ cm, ts = cm ++ rest ∧
        ((∃ e, Derives c (.command q neg) e (pr ++ cm) ∧ allows .sub e rest.head? = true) ∨
         (pr = [] ∧ Derives c (.compound q) .closed cm)) := by
      intro X h hX
      cases pre with
      | true => cases h
      | false =>
        obtain ⟨cm, hts, hd⟩ := hX h
        exact ⟨cm, hts, .inr ⟨hpr0 rfl, hd⟩⟩
    have loop : ∀ kw r, (kw = kWhile ∨ kw = kUntil) → ts = kw :: r →
        ((followStmts c q [kDo] f r).bind (expect kDo)).bind (fun r1 =>
          (followStmts c q [kDone] f r1).bind (expect kDone)) = .ok rest →
        ∃ cm, ts = cm ++ rest ∧ Derives c (.compound q) .closed cm := by
      rintro kw r hkw rfl h
      obtain ⟨r1, ha, hb⟩ := bind_ok h
      obtain ⟨cond, e1, rfl, hd1, hal1⟩ := sound_follow_expect ih (by decide) ha
      obtain ⟨body, e2, rfl, hd2, hal2⟩ := sound_follow_expect ih (by decide) hb
      exact ⟨kw :: cond ++ kDo :: body ++ [kDone],
        by simp only [List.append_assoc, List.cons_append, List.nil_append],
        .loop hkw hd1 (allows_of_sub (by decide) hal1) hd2 (allows_of_sub (by decide) hal2)⟩
    cases ts with
    | nil => exact redirOnly h rfl
    | cons t r =>
      unfold command at h
      dsimp only at h
      by_cases hcond : (pre && !c.rsrvAfterIO && isLitWord t && t != assign) = true
      · -- the shells: any literal word after a redirection is the command name
        rw [if_pos hcond] at h
        simp only [Bool.and_eq_true, Bool.not_eq_true', bne_iff_ne, ne_eq] at hcond
        obtain ⟨⟨⟨hp, hrs⟩, hlw⟩, hna⟩ := hcond
        have hf : firstOK c neg (!pr.isEmpty) t = true := by
          rw [← hpre, hp]
          by_cases hw : t = word
          · simp [firstOK, hw]
          · have : isRsrv t = true := by simp [isRsrv, hlw, hw, hna]
            simp [firstOK, hrs, this]
        split at h
        · cases h
        · exact worded t r rfl (simple_sound hpr hf (ofOpt_ok h))
      · rw [if_neg hcond] at h
        cases t <;> dsimp only at h
        case word => exact worded _ _ rfl (named h (.inl rfl))
        case assign => exact worded _ _ rfl (simple_sound hpr rfl (ofOpt_ok h))
        case qword =>
          split at h
          · cases h
          · exact worded _ _ rfl (simple_sound hpr rfl (ofOpt_ok h))
        case bang =>
          cases neg with
          | false => cases h
          | true => exact worded _ _ rfl (named h (.inr (.inl ⟨rfl, rfl⟩)))
        case kElse =>
          split at h
          · rename_i hn; exact worded _ _ rfl (named h (.inr (.inr ⟨.inl rfl, hn⟩)))
          · cases h
        case kIn =>
          split at h
          · rename_i hn; exact worded _ _ rfl (named h (.inr (.inr ⟨.inr rfl, hn⟩)))
          · cases h
        case lbrace =>
          refine comp h fun h => ?_
          obtain ⟨l, e, rfl, hd, hal⟩ := sound_follow_expect ih (by decide) h
          exact ⟨lbrace :: l ++ [rbrace],
            by simp only [List.append_assoc, List.cons_append, List.nil_append],
            .block hd (allows_of_sub (by decide) hal)⟩
        case lparen =>
          refine comp h fun h => ?_
          obtain ⟨l, e, rfl, hd, hal⟩ := sound_follow_expect ih (by decide) h
          exact ⟨lparen :: l ++ [rparen],
            by simp only [List.append_assoc, List.cons_append, List.nil_append],
            .subshell hd hal⟩
        case kIf =>
          refine comp h fun h => ?_
          obtain ⟨e1, cond, e2, thn, e, t, rfl, hd1, hal1, hd2, hd3⟩ := sound_ifBody ih h
          exact ⟨kIf :: cond ++ kThen :: thn ++ t, rfl, .ifc hd1 hal1 hd2 hd3⟩
        case kWhile => exact comp h (loop _ _ (.inl rfl) rfl)
        case kUntil => exact comp h (loop _ _ (.inr rfl) rfl)
        case kFor =>
          refine comp h fun hX => ?_
          split at hX
          · rename_i close r1 hfh
            obtain ⟨hd, hfd, rfl⟩ := forHead_sound hfh
            have hcl := forHead_close hfd
            obtain ⟨body, e, rfl, hd1, hal1⟩ :=
              sound_follow_expect ih (by rcases hcl with rfl | rfl <;> decide) hX
            exact ⟨kFor :: hd ++ body ++ [close],
              by simp only [List.append_assoc, List.cons_append, List.nil_append],
              .forc hfd hd1 (allows_of_sub (by rcases hcl with rfl | rfl <;> decide) hal1)⟩
          · cases hX
        case kCase =>
          refine comp h fun hX => ?_
          split at hX
          · rename_i r1 hch
            obtain ⟨w, k, j, hw, rfl⟩ := caseHead_sound hch
            obtain ⟨items, e, hd, rfl⟩ := ih.caseItems _ _ hX
            exact ⟨kCase :: w :: nls k ++ kIn :: nls j ++ items,
              by simp only [List.append_assoc, List.cons_append], .casec hw hd⟩
          · cases hX
        case io => exact absurd rfl hio
        -- a closing reserved word is an error; an operator ends a command of redirections only
        all_goals first | cases h | exact redirOnly h rfl

  name := by
    intro q neg pre t r rest pr h ht hpr hpre
    by_cases hl : r.head? = some lparen
    · obtain ⟨r1, rfl⟩ := List.head?_eq_some_iff.mp hl
      by_cases hr : r1.head? = some rparen
      · obtain ⟨r2, rfl⟩ := List.head?_eq_some_iff.mp hr
        rw [name_fn] at h
        split at h
        · cases h
        rename_i hpb
        cases pre with
        | true => cases h
        | false =>
        rw [if_neg nofun] at h
        obtain rfl : pr = [] := by
          cases pr with
          | nil => rfl
          | cons x xs => cases hpre
        have hfn := fnNameOK_of_name ht hpb
        obtain ⟨k, r3, rfl, hk, -⟩ := skipNL_spec r2
        rw [hk] at h
        split at h
        · rename_i hfb
          obtain ⟨⟨sm, rst⟩, hg, hx⟩ := bind_ok h
          cases hx
          obtain ⟨p, e0, t', e, hp, ht', -, htail, -, hnc⟩ := ih.getStmt _ _ _ _ _ _ hg
          rcases htail with ⟨rfl, rfl, hal⟩ | ⟨-, hre, -⟩
          · exact ⟨lparen :: rparen :: nls k ++ (p ++ t'), e.seal,
              by simp only [List.append_assoc, List.cons_append],
              .f_andor hfb hfn (.stmt hp ht'), allows_seal.mpr ⟨hal, hnc rfl rfl⟩⟩
          · cases hre
        · rename_i hfb
          obtain ⟨cm, e0, t', e, hcm, -, hbin, rfl, hal, -⟩ := ih.pipeline _ _ _ _ _ h
          obtain ⟨rfl, rfl⟩ := hbin rfl
          exact ⟨lparen :: rparen :: nls k ++ cm, e,
            by simp only [List.append_assoc, List.cons_append, List.append_nil],
            .f_command hfb hfn hcm, hal⟩
        · rename_i hfb
          split at h
          · rename_i t3 r4
            split at h
            · rename_i hcs
              obtain ⟨cm, e0, t', e, hcm, -, hbin, hr3, hal, -⟩ := ih.pipeline _ _ _ _ _ h
              obtain ⟨rfl, rfl⟩ := hbin rfl
              have hsc : startsCompound cm = true := by
                obtain ⟨x, xs, rfl, -⟩ := command_first hcm
                cases hr3; exact hcs
              exact ⟨lparen :: rparen :: nls k ++ cm, e,
                by rw [hr3]; simp only [List.append_assoc, List.cons_append, List.append_nil],
                .f_compound hfb hfn hcm hsc, hal⟩
            · cases h
          · cases h
      · rw [name_lparen hr] at h; cases h
    · rw [name_call hl] at h
      exact simple_sound hpr (firstOK_of_name ht) (ofOpt_ok h)

  ifTail := by
    intro q ts rest e0 h hal
    unfold ifTail at h
    split at h
    · obtain ⟨e1, cond, e2, thn, e, t, rfl, hd1, hal1, hd2, hd3⟩ := sound_ifBody ih h
      exact ⟨kElif :: cond ++ kThen :: thn ++ t, .closed,
        .i_elif (allows_of_sub (by decide) hal) hd1 hal1 hd2 hd3, rfl⟩
    · obtain ⟨l, e, rfl, hd1, hal1⟩ := sound_follow_expect ih (by decide) h
      exact ⟨kElse :: l ++ [kFi], .closed,
        .i_else (allows_of_sub (by decide) hal) hd1 (allows_of_sub (by decide) hal1),
        by simp only [List.append_assoc, List.cons_append, List.nil_append]⟩
    · cases h
      exact ⟨[kFi], .closed, .i_fi (allows_of_sub (by decide) hal), rfl⟩
    · cases h

  caseItems := by
    intro ts rest h
    cases ts with
    | nil => cases h
    | cons t r =>
      by_cases h1 : t = kEsac
      · subst h1; cases h; exact ⟨[kEsac], .closed, .ci_esac, rfl⟩
      rw [caseItems_cons r h1] at h
      split at h
      · cases h
      rename_i r1 hp
      -- the optional `(` and the patterns
      obtain ⟨lp, pat, hlp, hpat, hes, htr⟩ : ∃ lp pat, (lp = [] ∨ lp = [lparen]) ∧ Pats pat ∧
          (lp = [] → pat.head? ≠ some kEsac) ∧ t :: r = lp ++ pat ++ r1 := by
        obtain ⟨pat, hpat, hpr⟩ := patterns_sound _ hp
        by_cases hl : t = lparen
        · rw [if_pos hl] at hpr
          exact ⟨[lparen], pat, .inr rfl, hpat, nofun, by rw [hl, hpr]; rfl⟩
        · rw [if_neg hl] at hpr
          refine ⟨[], pat, .inl rfl, hpat, fun _ => ?_, hpr⟩
          obtain ⟨w, r', rfl, -⟩ := pats_first hpat
          cases hpr
          exact fun h => h1 (Option.some.inj h)
      rw [htr]
      cases hs : stmts c .case [kEsac] f true false r1 with
      | oof => rw [hs] at h; cases h
      | err => rw [hs] at h; cases h
      | ok x =>
        obtain ⟨a', r2⟩ := x
        obtain ⟨l, a, e, rfl, hd, -, -, hal⟩ := ih.stmts _ _ _ _ _ _ _ (by decide) hs
        rw [hs] at h
        split at h
        · rename_i r3 heq
          cases heq
          obtain ⟨items, e', hd', hr3⟩ := ih.caseItems _ _ h
          obtain ⟨k, s, rfl, hk, -⟩ := skipNL_spec r3
          rw [hk] at hr3; subst hr3
          exact ⟨lp ++ pat ++ l ++ dsemi :: nls k ++ items, .closed,
            .ci_item hlp hpat hes hd (allows_of_sub (by decide) hal) hd',
            by simp only [List.append_assoc, List.cons_append]⟩
        · rename_i heq
          cases heq
          obtain rfl := expect_ok h
          exact ⟨lp ++ pat ++ l ++ [kEsac], .closed,
            .ci_last hlp hpat hes hd (allows_of_sub (by decide) hal),
            by simp only [List.append_assoc, List.cons_append, List.nil_append]⟩
        · rename_i heq; cases heq
        · rename_i heq; cases heq

theorem sound_all (c : Cfg) : ∀ f, SoundIH c f
  | 0 => by constructor <;> intros <;> contradiction
  | f+1 => sound_succ (sound_all c f)

theorem parseWith_sound {c : Cfg} {fuel : Nat} {ts : List Tok} (h : parseWith c fuel ts = true) :
    Derives c .program .closed ts := by
  unfold parseWith at h
  split at h
  · rename_i a heq
    obtain ⟨pre, a', e, h1, h2, -⟩ := (sound_all c fuel).stmts _ _ _ _ _ _ _ rfl heq
    rw [h1, List.append_nil]
    exact .program h2
  · cases h

end ShVerif.C12
