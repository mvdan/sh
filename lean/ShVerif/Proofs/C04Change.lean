import ShVerif.Model.C04
/-
  C04 — the returned bool: every rewrite strictly decreases a weight (number of nodes, plus one for
  every `=` test operator), and an unmodified visit leaves the node as it is.  The same weight
  bounds the fuel every loop of the model needs.
-/
namespace ShVerif.C04

def bonus (ty : Ty) (a : List Nat) : Nat :=
  if ty = .binaryTest ∧ a = [tsMatchShort] then 1 else 0

mutual
def weight : Node → Nat
  | .mk ty a _ ks => 1 + bonus ty a + weightList ks
def weightList : List Node → Nat
  | [] => 0
  | k :: ks => weight k + weightList ks
end

theorem weight_pos (n : Node) : 0 < weight n := by
  cases n; simp only [weight]; omega

theorem weightList_append (xs ys : List Node) :
    weightList (xs ++ ys) = weightList xs + weightList ys := by
  induction xs with
  | nil => simp only [List.nil_append, weightList, Nat.zero_add]
  | cons x xs ih => simp only [List.cons_append, weightList, ih, Nat.add_assoc]

theorem weight_le_of_mem {k : Node} {ks : List Node} (h : k ∈ ks) : weight k ≤ weightList ks := by
  induction h with
  | head => exact Nat.le_add_right ..
  | tail _ _ ih => exact Nat.le_trans ih (Nat.le_add_left ..)

theorem weightList_kids_lt (n : Node) : weightList n.kids < weight n := by
  cases n; simp only [Node.kids, weight]; omega

/-- `r` is the outcome of a rewriter on `x`: unmodified means identical, modified means lighter
    in the measure `w`. -/
def ShrinksBy {α : Type} (w : α → Nat) (x : α) (r : α × Bool) : Prop :=
  (r.2 = false → r.1 = x) ∧ (r.2 = true → w r.1 < w x)

abbrev Shrinks : Node → Node × Bool → Prop := ShrinksBy weight
abbrev ShrinksL : List Node → List Node × Bool → Prop := ShrinksBy weightList

section
variable {α : Type} {w : α → Nat} {x y : α} {r : α × Bool}

theorem ShrinksBy.le (h : ShrinksBy w x r) : w r.1 ≤ w x := by
  cases hb : r.2 with
  | false => rw [h.1 hb]; exact Nat.le_refl _
  | true => exact Nat.le_of_lt (h.2 hb)

theorem ShrinksBy.changed_iff (h : ShrinksBy w x r) : r.2 = true ↔ r.1 ≠ x := by
  constructor
  · intro ht e
    have := h.2 ht
    rw [e] at this
    exact Nat.lt_irrefl _ this
  · intro hne
    cases hb : r.2 with
    | true => rfl
    | false => exact absurd (h.1 hb) hne

theorem shrinks_refl (x : α) : ShrinksBy w x (x, false) := ⟨fun _ => rfl, fun h => (nomatch h)⟩

theorem shrinks_true (h : w y < w x) : ShrinksBy w x (y, true) := ⟨fun h => (nomatch h), fun _ => h⟩

theorem ShrinksBy.comp {a b : α × Bool} (ha : ShrinksBy w x a) (hb : ShrinksBy w a.1 b) :
    ShrinksBy w x (b.1, a.2 || b.2) := by
  constructor
  · intro h
    simp only [Bool.or_eq_false_iff] at h
    simp only
    rw [hb.1 h.2, ha.1 h.1]
  · intro h
    simp only [Bool.or_eq_true] at h
    simp only
    rcases h with h | h
    · exact Nat.lt_of_le_of_lt hb.le (ha.2 h)
    · exact Nat.lt_of_lt_of_le (hb.2 h) ha.le

end

theorem Shrinks.cons {x : Node} {xs : List Node} {r : Node × Bool} {rs : List Node × Bool}
    (h : Shrinks x r) (hs : ShrinksL xs rs) : ShrinksL (x :: xs) (r.1 :: rs.1, r.2 || rs.2) := by
  constructor
  · intro hf
    simp only [Bool.or_eq_false_iff] at hf
    simp only
    rw [h.1 hf.1, hs.1 hf.2]
  · intro ht
    simp only [Bool.or_eq_true] at ht
    have := h.le; have := hs.le
    simp only [weightList]
    rcases ht with ht | ht
    · have := h.2 ht; omega
    · have := hs.2 ht; omega

theorem ShrinksL.node {n : Node} {r : List Node × Bool} (h : ShrinksL n.kids r) :
    Shrinks n (n.setKids r.1, r.2) := by
  cases n with
  | mk ty a v xs =>
    constructor
    · intro hf; simp only [Node.setKids] at hf ⊢; rw [h.1 hf]; rfl
    · intro ht
      have := h.2 ht
      simp only [Node.setKids, Node.ty, Node.attrs, Node.val, Node.kids, weight] at this ⊢; omega

theorem Shrinks.kid {x : Node} {r : Node × Bool} (h : Shrinks x r)
    (ty : Ty) (a : List Nat) (v : Bytes) (pre post : List Node) :
    Shrinks (.mk ty a v (pre ++ x :: post)) (.mk ty a v (pre ++ r.1 :: post), r.2) :=
  ShrinksL.node (n := .mk ty a v (pre ++ x :: post)) (r := (pre ++ r.1 :: post, r.2))
    ⟨fun hf => by simp only [Node.kids]; rw [h.1 hf],
     fun ht => by have := h.2 ht; simp only [Node.kids, weightList_append, weightList]; omega⟩

theorem shrinksL_map {g : Node → Node × Bool} (hg : ∀ x, Shrinks x (g x)) :
    ∀ xs : List Node, ShrinksL xs ((xs.map g).map Prod.fst, (xs.map g).any Prod.snd)
  | [] => shrinks_refl []
  | x :: xs => (hg x).cons (shrinksL_map hg xs)

theorem removeParensArithm_shrinks (f : Nat) (x : Node) : Shrinks x (removeParensArithm f x) := by
  fun_induction removeParensArithm f x with
  | case1 x => exact shrinks_refl x
  | case2 f a v y ih =>
    have := ih.le
    exact shrinks_true (by simp only [weight, weightList]; omega)
  | case3 f x => exact shrinks_refl x

theorem removeParensTest_shrinks (f : Nat) (x : Node) : Shrinks x (removeParensTest f x) := by
  fun_induction removeParensTest f x with
  | case1 x => exact shrinks_refl x
  | case2 f a v y ih =>
    have := ih.le
    exact shrinks_true (by simp only [weight, weightList]; omega)
  | case3 f x => exact shrinks_refl x

theorem weight_peParam_lt (pe : Node) (h : (peParam pe).ty = .lit) : weight (peParam pe) < weight pe := by
  cases pe with
  | mk ty a v ks =>
    simp only [peParam, Node.kids] at h ⊢
    split at h
    · simp only [weight, weightList]
      omega
    · exact nomatch h

theorem inlineSimpleParams_shrinks (x : Node) : Shrinks x (inlineSimpleParams x) := by
  fun_cases inlineSimpleParams x with
  | case1 a v pe hc =>
    simp only [Bool.and_eq_true, beq_iff_eq] at hc
    have := weight_peParam_lt pe hc.1.1.2
    exact shrinks_true (by simp [weight, weightList, bonus]; omega)
  | case2 => exact shrinks_refl _
  | case3 => exact shrinks_refl x

theorem weightList_lt_of_plainStmtSubshell {st : Node} {inner : List Node}
    (h : plainStmtSubshell st = some inner) : weightList inner < weight st := by
  unfold plainStmtSubshell at h
  split at h
  · cases h
    simp only [weight, weightList]
    omega
  · exact nomatch h

theorem inlineSubshell_shrinks (f : Nat) (xs : List Node) : ShrinksL xs (inlineSubshell f xs) := by
  fun_induction inlineSubshell f xs with
  | case1 xs => exact shrinks_refl xs
  | case2 f st inner hp ih =>
    have := ih.le; have := weightList_lt_of_plainStmtSubshell hp
    exact shrinks_true (by simp only [weightList]; omega)
  | case3 => exact shrinks_refl _
  | case4 => exact shrinks_refl _

theorem simplifyWord_shrinks (parts : List Node) : ShrinksL parts (simplifyWord parts) := by
  fun_induction simplifyWord parts with
  | case1 => exact shrinks_refl []
  | case2 => exact shrinks_refl _
  | case3 ks dattrs val attrs v _ _ r ih => exact Shrinks.cons (shrinks_refl _) ih   -- `continue parts`
  | case4 => exact shrinks_refl _
  | case5 ks dattrs val attrs v _ nv _ _ r ih =>
    have : weightList r.1 ≤ weightList ks := ih.le
    exact shrinks_true (by simp only [weight, weightList, bonus]; simp; omega)
  | case6 => exact shrinks_refl _

theorem unquoteParams_shrinks (x : Node) : Shrinks x (unquoteParams x) := by
  fun_cases unquoteParams x with
  | case1 => exact shrinks_true (by simp [weight, weightList, bonus])
  | case2 => exact shrinks_refl _
  | case3 => exact shrinks_refl x

theorem removeNegateTest_shrinks (x : Node) : Shrinks x (removeNegateTest x) := by
  fun_cases removeNegateTest x
  case case1 | case2 => exact shrinks_true (by simp [weight, weightList, bonus])
  case case3 => exact shrinks_true (by simp [weight, weightList, bonus]; omega)
  case case5 => exact shrinks_true (by simp [weight, weightList, bonus, tsNoMatch, tsMatchShort]; omega)
  case case6 => exact shrinks_true (by simp [weight, weightList, bonus, tsMatch, tsMatchShort]; omega)
  all_goals exact shrinks_refl _

theorem arithTop_shrinks (f : Nat) (x : Node) : Shrinks x (arithTop f x) :=
  (removeParensArithm_shrinks f x).comp (inlineSimpleParams_shrinks _)

theorem testTop_shrinks (f : Nat) (x : Node) : Shrinks x (testTop f x) :=
  (removeParensTest_shrinks f x).comp (removeNegateTest_shrinks _)

/-- `=` becomes `==` -/
theorem matchShort_shrinks (op : Nat) (v : Bytes) (ks : List Node) :
    Shrinks (.mk .binaryTest [op] v ks)
      (.mk .binaryTest [if op = tsMatchShort then tsMatch else op] v ks, decide (op = tsMatchShort)) := by
  by_cases hs : op = tsMatchShort
  · rw [if_pos hs, decide_eq_true hs, hs]
    exact shrinks_true (by simp [weight, bonus, tsMatch, tsMatchShort])
  · rw [if_neg hs, decide_eq_false hs]
    exact shrinks_refl _

theorem visit_shrinks (f : Nat) (n : Node) : Shrinks n (visit f n) := by
  fun_cases visit f n with
  | case1 a v nm value index arr =>
    exact (removeParensArithm_shrinks f index).kid .assign a v [nm, value] [arr]
  | case2 a v flags param nested index mods off len orig wth expw =>
    exact (removeParensArithm_shrinks f index).kid .paramExp a v [flags, param, nested]
      [mods, off, len, orig, wth, expw]
  | case3 a v flags param nested index mods off len orig wth expw =>
    exact (((removeParensArithm_shrinks f index).kid .paramExp a v [flags, param, nested]
      [mods, off, len, orig, wth, expw]).comp
      ((arithTop_shrinks f off).kid .paramExp a v [flags, param, nested, _, mods]
        [len, orig, wth, expw])).comp
      ((arithTop_shrinks f len).kid .paramExp a v [flags, param, nested, _, mods, _] [orig, wth, expw])
  | case4 a v x => exact (arithTop_shrinks f x).kid .arithmExp a v [] []
  | case5 a v x => exact (arithTop_shrinks f x).kid .arithmCmd a v [] []
  | case6 a v x => exact (arithTop_shrinks f x).kid .parenArithm a v [] []
  | case7 a v x y =>
    exact ((inlineSimpleParams_shrinks x).kid .binaryArithm a v [] [y]).comp
      ((inlineSimpleParams_shrinks y).kid .binaryArithm a v [_] [])
  | case8 a v stmts => exact (inlineSubshell_shrinks f stmts).node (n := .mk .cmdSubst a v stmts)
  | case9 a v stmts => exact (inlineSubshell_shrinks f stmts).node (n := .mk .subshell a v stmts)
  | case10 a v parts => exact (simplifyWord_shrinks parts).node (n := .mk .word a v parts)
  | case11 a v x => exact (testTop_shrinks f x).kid .testClause a v [] []
  | case12 a v x => exact (testTop_shrinks f x).kid .parenTest a v [] []
  | case13 op v x y x1 x2 short op' y1 y2 =>
    -- left operand, then the operator, then the right operand
    have hy1 : Shrinks y y1 := by
      unfold y1; split
      · exact shrinks_refl y
      · exact unquoteParams_shrinks y
    exact (((((unquoteParams_shrinks x).kid .binaryTest [op] v [] [y]).comp
      ((removeNegateTest_shrinks x1.1).kid .binaryTest [op] v [] [y])).comp (matchShort_shrinks op v [x2.1, y])).comp
      (hy1.kid .binaryTest [op'] v [x2.1] [])).comp
      ((removeNegateTest_shrinks y1.1).kid .binaryTest [op'] v [x2.1] [])
  | case14 a v x => exact (unquoteParams_shrinks x).kid .unaryTest a v [] []
  | case15 n => exact shrinks_refl n

theorem simp_shrinks : ∀ (f : Nat) (n : Node), Shrinks n (simp f n)
  | 0, n => shrinks_refl n
  | f+1, n => (visit_shrinks (f+1) n).comp (shrinksL_map (simp_shrinks f) _).node

theorem bonus_le (ty : Ty) (a : List Nat) : bonus ty a ≤ 1 := by
  unfold bonus; split <;> omega

mutual
theorem weight_le_size : ∀ n : Node, weight n ≤ 2 * size n
  | .mk ty a v ks => by
    have := weightList_le_size ks
    have := bonus_le ty a
    simp only [weight, size]
    omega
theorem weightList_le_size : ∀ ks : List Node, weightList ks ≤ 2 * sizeList ks
  | [] => Nat.le_refl 0
  | k :: ks => by
    have := weight_le_size k
    have := weightList_le_size ks
    simp only [weightList, sizeList]
    omega
end

/-- A function defined by recursion on fuel whose value at `x` is determined by its values at
    lighter arguments does not depend on the fuel, once that exceeds the weight of `x`. -/
theorem fuel_irrelevant {α β : Type} (m : α → Nat) (F : Nat → α → β)
    (step : ∀ f g x, m x ≤ f → m x ≤ g → (∀ y, m y < m x → F f y = F g y) → F (f+1) x = F (g+1) x) :
    ∀ f g x, m x < f → m x < g → F f x = F g x := by
  intro f
  induction f with
  | zero => intro g x h; exact absurd h (Nat.not_lt_zero _)
  | succ f ih =>
    intro g x hf hg
    cases g with
    | zero => exact absurd hg (Nat.not_lt_zero _)
    | succ g =>
      have hf := Nat.le_of_lt_succ hf
      have hg := Nat.le_of_lt_succ hg
      exact step f g x hf hg fun y hy => ih g y (Nat.lt_of_lt_of_le hy hf) (Nat.lt_of_lt_of_le hy hg)

theorem removeParensArithm_fuel : ∀ (f g : Nat) (x : Node), weight x < f → weight x < g →
    removeParensArithm f x = removeParensArithm g x :=
  fuel_irrelevant weight removeParensArithm fun f g x _ _ ih => by
    simp only [removeParensArithm]
    split
    · rw [ih _ (by simp only [weight, weightList]; omega)]
    · rfl

theorem removeParensTest_fuel : ∀ (f g : Nat) (x : Node), weight x < f → weight x < g →
    removeParensTest f x = removeParensTest g x :=
  fuel_irrelevant weight removeParensTest fun f g x _ _ ih => by
    simp only [removeParensTest]
    split
    · rw [ih _ (by simp only [weight, weightList]; omega)]
    · rfl

theorem inlineSubshell_fuel : ∀ (f g : Nat) (xs : List Node), weightList xs < f → weightList xs < g →
    inlineSubshell f xs = inlineSubshell g xs :=
  fuel_irrelevant weightList inlineSubshell fun f g xs _ _ ih => by
    simp only [inlineSubshell]
    split
    · split
      · rename_i hp
        have := weightList_lt_of_plainStmtSubshell hp
        rw [ih _ (by simp only [weightList]; omega)]
      · rfl
    · rfl

/-- The fuel reaches `visit`'s result only through the parenthesis and subshell loops, run on kids. -/
theorem visit_congr (f g : Nat) (n : Node)
    (hp : ∀ x ∈ n.kids, removeParensArithm f x = removeParensArithm g x)
    (ht : ∀ x ∈ n.kids, removeParensTest f x = removeParensTest g x)
    (hs : inlineSubshell f n.kids = inlineSubshell g n.kids) : visit f n = visit g n := by
  cases n using visit.fun_cases f <;>
    simp only [Node.kids, List.forall_mem_cons] at hp ht hs <;>
    simp only [visit, arithTop, testTop, hp, ht, hs]

theorem visit_fuel (f g : Nat) (n : Node) (hf : weight n ≤ f) (hg : weight n ≤ g) :
    visit f n = visit g n := by
  have hl := weightList_kids_lt n
  have hk : ∀ x ∈ n.kids, weight x < f ∧ weight x < g := fun x h => by
    have := weight_le_of_mem h; omega
  exact visit_congr f g n (fun x h => removeParensArithm_fuel f g x (hk x h).1 (hk x h).2)
    (fun x h => removeParensTest_fuel f g x (hk x h).1 (hk x h).2)
    (inlineSubshell_fuel f g _ (by omega) (by omega))

theorem simp_fuel : ∀ (f g : Nat) (n : Node), weight n < f → weight n < g → simp f n = simp g n :=
  fuel_irrelevant weight simp fun f g n hf hg ih => by
    simp only [simp]
    rw [visit_fuel (f+1) (g+1) n (by omega) (by omega)]
    have hk : ∀ k ∈ (visit (g+1) n).1.kids, simp f k = simp g k := fun k hk =>
      ih k (Nat.lt_of_le_of_lt (weight_le_of_mem hk)
        (Nat.lt_of_lt_of_le (weightList_kids_lt _) (visit_shrinks (g+1) n).le))
    rw [List.map_congr_left hk]

theorem simp_fuel_irrelevant (f : Nat) (n : Node) (h : weight n < f) : simp f n = simplify n :=
  simp_fuel f _ n h (by have := weight_le_size n; omega)

end ShVerif.C04
