import ShVerif.Model.C16
/-
  C16 — `SplitBraces` on an arbitrary byte string.  The byte loop is taken one step at a time
  (`scan_normal_cons`); every step extends the text of the machine state by the byte it consumes
  (`scan_render`, whence `render_split`) and keeps the shape `bracesSeqRec` relies on (`stWf_scan`,
  whence `wf_split`).
-/
namespace ShVerif.C16

@[simp] theorem render_nil : render [] = [] := by simp [render]
@[simp] theorem render_cons (p : Part) (ps : List Part) :
    render (p :: ps) = renderPart p ++ render ps := by simp [render]
@[simp] theorem renderPart_lit (v : Bytes) : renderPart (.lit v) = v := by simp [renderPart]
@[simp] theorem renderElems_nil : renderElems [] = [] := by simp [renderElems]
@[simp] theorem renderElems_cons (e : List Part) (es : List (List Part)) :
    renderElems (e :: es) = render e :: renderElems es := by simp [renderElems]

theorem render_append (a b : List Part) : render (a ++ b) = render a ++ render b := by
  induction a with
  | nil => simp
  | cons p ps ih => simp [ih]

theorem renderElems_append (a b : List (List Part)) :
    renderElems (a ++ b) = renderElems a ++ renderElems b := by
  induction a with
  | nil => simp
  | cons p ps ih => simp [ih]

theorem joinSep_concat (sep : Bytes) (xs : List Bytes) (y : Bytes) :
    joinSep sep (xs ++ [y]) = xs.flatMap (· ++ sep) ++ y := by
  induction xs with
  | nil => rfl
  | cons x xs ih =>
    cases xs with
    | nil => simp [joinSep]
    | cons x' xs' =>
      rw [List.cons_append, List.cons_append, joinSep, ← List.cons_append, ih]
      simp

def sepOf (seq : Bool) : Bytes := if seq then dots else [cComma]

def renderFrame (f : Frame) : Bytes := cLB :: joinSep (sepOf f.seq) (renderElems f.elems)

/-- Outermost frame first (the stack is innermost first). -/
def renderStack : List Frame → Bytes
  | [] => []
  | f :: fs => renderStack fs ++ renderFrame f

def renderSt (st : St) : Bytes := render st.top ++ renderStack st.stack

theorem renderPart_brace (seq : Bool) (elems : List (List Part)) :
    renderPart (.brace seq elems) = cLB :: (joinSep (sepOf seq) (renderElems elems) ++ [cRB]) := by
  simp [renderPart, sepOf]

theorem renderFrame_eq (f : Frame) :
    renderFrame f = cLB :: ((renderElems f.done).flatMap (· ++ sepOf f.seq) ++ render f.cur) := by
  simp [renderFrame, Frame.elems, renderElems_append, joinSep_concat]

theorem renderSt_cons (top : Word) (f : Frame) (fs : List Frame) :
    renderSt ⟨top, f :: fs⟩ = render top ++ renderStack fs ++ renderFrame f := by
  simp [renderSt, renderStack]

theorem renderSt_addParts (st : St) (ps : List Part) :
    renderSt (st.addParts ps) = renderSt st ++ render ps := by
  obtain ⟨top, stack⟩ := st
  cases stack with
  | nil => simp [St.addParts, renderSt, renderStack, render_append]
  | cons f fs => simp [St.addParts, renderSt_cons, renderFrame_eq, render_append]

theorem renderSt_add (st : St) (p : Part) : renderSt (st.add p) = renderSt st ++ renderPart p := by
  simp [St.add, renderSt_addParts]

theorem renderSt_flush (st : St) (pend : Bytes) : renderSt (st.flush pend) = renderSt st ++ pend := by
  unfold St.flush
  split
  · simp [*]
  · simp [renderSt_add]

theorem renderSt_openBrace (st : St) : renderSt st.openBrace = renderSt st ++ [cLB] := by
  simp [St.openBrace, renderSt, renderStack, renderFrame_eq]

theorem render_joinParts (sep : Bytes) (elems : List Word) :
    render (joinParts (.lit sep) elems) = joinSep sep (renderElems elems) := by
  cases elems with
  | nil => simp [joinParts, joinSep]
  | cons e es =>
    induction es generalizing e with
    | nil => simp [joinParts, joinSep]
    | cons e' es' ih =>
      have := ih e'
      simp only [joinParts, render_append, render_cons, renderPart_lit, renderElems_cons,
        joinSep] at this ⊢
      rw [this]; simp

theorem mergeDots_eq (elems : List Word) : mergeDots elems = joinParts (.lit dots) elems := by
  cases elems with
  | nil => rfl
  | cons e es =>
    induction es generalizing e with
    | nil => simp [mergeDots, joinParts]
    | cons e' es' ih =>
      have := ih e'
      simp only [mergeDots, List.map_cons, List.flatten_cons, joinParts] at this ⊢
      rw [← this]; simp

theorem renderSt_commaStep (st : St) (h : st.stack ≠ []) :
    renderSt st.commaStep = renderSt st ++ [cComma] := by
  obtain ⟨top, stack⟩ := st
  cases stack with
  | nil => exact absurd rfl h
  | cons f fs =>
    obtain ⟨s, D, cur⟩ := f
    cases s with
    | false =>
      simp [St.commaStep, renderSt_cons, renderFrame_eq, Frame.elems, renderElems_append, sepOf]
    | true =>
      simp [St.commaStep, renderSt_cons, renderFrame_eq, Frame.elems, renderElems_append, sepOf,
        mergeDots_eq, render_joinParts, joinSep_concat]

theorem renderSt_dotsStep (st : St) (f : Frame) (fs : List Frame) (hs : st.stack = f :: fs)
    (hok : f.seq = true ∨ f.done = []) : renderSt st.dotsStep = renderSt st ++ dots := by
  obtain ⟨top, stack⟩ := st
  obtain ⟨s, D, cur⟩ := f
  cases hs
  rcases hok with h | h <;> cases h <;>
    simp [St.dotsStep, renderSt_cons, renderFrame_eq, Frame.elems, renderElems_append, sepOf]

theorem renderSt_closeStep (st : St) (h : st.stack ≠ []) :
    renderSt st.closeStep = renderSt st ++ [cRB] := by
  unfold St.closeStep
  cases hs : st.stack with
  | nil => exact absurd hs h
  | cons f fs =>
    simp only
    have base : renderSt { top := st.top, stack := fs } = render st.top ++ renderStack fs := rfl
    cases hd : f.done with
    | nil =>
      simp only [renderSt_add, renderSt_addParts, renderPart_lit, base]
      simp [renderSt, hs, renderStack, renderFrame, Frame.elems, hd, joinSep]
    | cons d ds =>
      simp only
      split
      · simp only [renderSt_add, renderPart_brace, base]
        rename_i hseq
        have hseq' : f.seq = false := by simpa using hseq
        simp [renderSt, hs, renderStack, renderFrame, hseq']
      · rename_i hseq
        have hseq' : f.seq = true := by simpa using hseq
        split
        · simp only [renderSt_add, renderPart_brace, base]
          simp [renderSt, hs, renderStack, renderFrame, hseq']
        · simp only [renderSt_add, renderSt_addParts, renderPart_lit, base, render_joinParts]
          simp [renderSt, hs, renderStack, renderFrame, hseq', sepOf]

theorem addParts_stack_nil (st : St) (ps : List Part) (h : st.stack = []) :
    (st.addParts ps).stack = [] := by
  unfold St.addParts; rw [h]

theorem flush_stack_nil (st : St) (pend : Bytes) (h : st.stack = []) :
    (st.flush pend).stack = [] := by
  unfold St.flush; split
  · exact h
  · exact addParts_stack_nil _ _ h

theorem flush_stack (st : St) (pend : Bytes) (f : Frame) (fs : List Frame) (hs : st.stack = f :: fs) :
    ∃ cur, (st.flush pend).stack = { f with cur := cur } :: fs := by
  unfold St.flush St.add St.addParts
  split
  · exact ⟨f.cur, hs⟩
  · rw [hs]; exact ⟨_, rfl⟩

theorem flush_stack_ne (st : St) (pend : Bytes) (h : st.stack ≠ []) : (st.flush pend).stack ≠ [] := by
  obtain ⟨f, fs, hf⟩ := List.exists_cons_of_ne_nil h
  obtain ⟨cur, hcur⟩ := flush_stack st pend f fs hf
  simp [hcur]

theorem stack_of_flush (st : St) (pend : Bytes) (g : Frame) (fs : List Frame)
    (h : (st.flush pend).stack = g :: fs) :
    ∃ f, st.stack = f :: fs ∧ f.seq = g.seq ∧ f.done = g.done := by
  cases hs : st.stack with
  | nil => rw [flush_stack_nil st pend hs] at h; cases h
  | cons f fs' =>
    obtain ⟨cur, hcur⟩ := flush_stack st pend f fs' hs
    rw [hcur] at h
    cases h
    exact ⟨f, rfl, rfl, rfl⟩

theorem scan_nil (st : St) (m : Mode) (pend : Bytes) : scan st m pend [] = (st, pend) := by
  cases m <;> rfl
theorem scan_esc (st : St) (pend : Bytes) (c : UInt8) (r : Bytes) :
    scan st .esc pend (c :: r) = scan st .normal (pend ++ [c]) r := rfl
theorem scan_skip (st : St) (pend : Bytes) (c : UInt8) (r : Bytes) :
    scan st .skip pend (c :: r) = scan st .normal [] r := rfl
theorem scan_bs (st : St) (pend r : Bytes) :
    scan st .normal pend (cBS :: r) = scan st .esc (pend ++ [cBS]) r := by
  rw [scan, if_pos rfl]
theorem scan_lb (st : St) (pend r : Bytes) :
    scan st .normal pend (cLB :: r) = scan (st.flush pend).openBrace .normal [] r := by
  rw [scan, if_neg (by decide), if_pos rfl]
theorem scan_comma (st : St) (pend r : Bytes) (h : st.stack ≠ []) :
    scan st .normal pend (cComma :: r) = scan (st.flush pend).commaStep .normal [] r := by
  rw [scan, if_neg (by decide), if_neg (by decide), if_pos rfl]
  cases hs : st.stack with
  | nil => exact absurd hs h
  | cons f fs => rfl
theorem scan_rb (st : St) (pend r : Bytes) (h : st.stack ≠ []) :
    scan st .normal pend (cRB :: r) = scan (st.flush pend).closeStep .normal [] r := by
  rw [scan, if_neg (by decide), if_neg (by decide), if_neg (by decide), if_neg (by decide), if_pos rfl]
  cases hs : st.stack with
  | nil => exact absurd hs h
  | cons f fs => rfl
theorem scan_other (st : St) (pend r : Bytes) (c : UInt8) (h1 : c ≠ cBS) (h2 : c ≠ cLB)
    (h3 : c ≠ cComma) (h4 : c ≠ cDot) (h5 : c ≠ cRB) :
    scan st .normal pend (c :: r) = scan st .normal (pend ++ [c]) r := by
  rw [scan, if_neg h1, if_neg h2, if_neg h3, if_neg h4, if_neg h5]
theorem scan_top_keep (st : St) (pend r : Bytes) (c : UInt8) (hs : st.stack = []) (h1 : c ≠ cBS)
    (h2 : c ≠ cLB) : scan st .normal pend (c :: r) = scan st .normal (pend ++ [c]) r := by
  rw [scan, if_neg h1, if_neg h2, hs]
  simp only [ite_self]
theorem scan_dot_dots (st : St) (pend r : Bytes) (f : Frame) (fs : List Frame)
    (hs : st.stack = f :: fs) (hok : f.seq = true ∨ f.done = []) :
    scan st .normal pend (cDot :: cDot :: r) = scan (st.flush pend).dotsStep .normal [] r := by
  have hc : (!f.seq && decide (f.done.length > 0)) = false := by
    rcases hok with h | h <;> simp [h]
  rw [scan, if_neg (by decide), if_neg (by decide), if_neg (by decide), if_pos rfl, hs]
  simp only [List.head?_cons, if_true, hc, Bool.false_eq_true, if_false, scan]
theorem scan_dot_single (st : St) (pend r : Bytes) (h : r.head? ≠ some cDot) :
    scan st .normal pend (cDot :: r) = scan st .normal (pend ++ [cDot]) r := by
  rw [scan, if_neg (by decide), if_neg (by decide), if_neg (by decide), if_pos rfl]
  split
  · rfl
  · rw [if_neg h]
theorem scan_dot_list (st : St) (pend r : Bytes) (f : Frame) (fs : List Frame)
    (hs : st.stack = f :: fs) (h1 : f.seq = false) (h2 : f.done ≠ []) :
    scan st .normal pend (cDot :: r) = scan st .normal (pend ++ [cDot]) r := by
  have : f.done.length > 0 := List.length_pos_iff.mpr h2
  rw [scan, if_neg (by decide), if_neg (by decide), if_neg (by decide), if_pos rfl, hs]
  simp only [h1, this, Bool.not_false, decide_true, Bool.and_self, if_true, ite_self]

/-- One byte in normal mode: it is kept in `pend`, or `pend` is flushed and one of the four steps
    runs (a `..` also skips its second dot). -/
theorem scan_normal_cons (st : St) (pend : Bytes) (c : UInt8) (r : Bytes) :
    (∃ m, m ≠ .skip ∧ scan st .normal pend (c :: r) = scan st m (pend ++ [c]) r) ∨
    (c = cLB ∧ scan st .normal pend (c :: r) = scan (st.flush pend).openBrace .normal [] r) ∨
    (c = cComma ∧ st.stack ≠ [] ∧
      scan st .normal pend (c :: r) = scan (st.flush pend).commaStep .normal [] r) ∨
    (c = cDot ∧ (∃ r', r = cDot :: r') ∧
      (∃ f fs, (st.flush pend).stack = f :: fs ∧ (f.seq = true ∨ f.done = [])) ∧
      scan st .normal pend (c :: r) = scan (st.flush pend).dotsStep .skip [] r) ∨
    (c = cRB ∧ st.stack ≠ [] ∧
      scan st .normal pend (c :: r) = scan (st.flush pend).closeStep .normal [] r) := by
  by_cases h1 : c = cBS
  · exact .inl ⟨.esc, by decide, h1 ▸ scan_bs ..⟩
  by_cases h2 : c = cLB
  · exact .inr (.inl ⟨h2, h2 ▸ scan_lb ..⟩)
  by_cases hs : st.stack = []
  · exact .inl ⟨.normal, by decide, scan_top_keep _ _ _ _ hs h1 h2⟩
  by_cases h3 : c = cComma
  · exact .inr (.inr (.inl ⟨h3, hs, h3 ▸ scan_comma _ _ _ hs⟩))
  by_cases h5 : c = cRB
  · exact .inr (.inr (.inr (.inr ⟨h5, hs, h5 ▸ scan_rb _ _ _ hs⟩)))
  by_cases h4 : c = cDot
  · subst h4
    obtain ⟨f, fs, hf⟩ := List.exists_cons_of_ne_nil hs
    by_cases hr : r.head? = some cDot
    · by_cases hok : f.seq = true ∨ f.done = []
      · obtain ⟨r', rfl⟩ : ∃ r', r = cDot :: r' := by
          cases r with
          | nil => cases hr
          | cons d r' => exact ⟨r', by rw [Option.some.inj hr]⟩
        obtain ⟨cur, hcur⟩ := flush_stack st pend f fs hf
        exact .inr (.inr (.inr (.inl
          ⟨rfl, ⟨r', rfl⟩, ⟨_, _, hcur, hok⟩, scan_dot_dots _ _ _ f fs hf hok⟩)))
      · exact .inl ⟨.normal, by decide, scan_dot_list _ _ _ f fs hf
          (by simpa using fun h => hok (.inl h)) fun h => hok (.inr h)⟩
    · exact .inl ⟨.normal, by decide, scan_dot_single _ _ _ hr⟩
  · exact .inl ⟨.normal, by decide, scan_other _ _ _ _ h1 h2 h3 h4 h5⟩

/-- `rest.tail`: in `skip` mode the next byte, the second dot of a `..`, is already part of the
    state's text. -/
theorem scan_render (rest : Bytes) : ∀ (st : St) (m : Mode) (pend : Bytes), (m = .skip → pend = []) →
    renderSt (scan st m pend rest).1 ++ (scan st m pend rest).2 =
      renderSt st ++ pend ++ (if m = .skip then rest.tail else rest) := by
  induction rest with
  | nil => intro st m pend _; rw [scan_nil]; cases m <;> simp
  | cons c r ih =>
    intro st m pend hm
    cases m with
    | esc => rw [scan_esc, ih _ _ _ (by simp)]; simp
    | skip => rw [scan_skip, ih _ _ _ (by simp), hm rfl]; simp
    | normal =>
      rcases scan_normal_cons st pend c r with ⟨m, hm, h⟩ | ⟨rfl, h⟩ | ⟨rfl, hs, h⟩ |
        ⟨rfl, ⟨r', rfl⟩, ⟨f, fs, hf, hok⟩, h⟩ | ⟨rfl, hs, h⟩
      · rw [h, ih _ _ _ (absurd · hm), if_neg hm]; simp
      · rw [h, ih _ _ _ (by simp), renderSt_openBrace, renderSt_flush]; simp
      · rw [h, ih _ _ _ (by simp), renderSt_commaStep _ (flush_stack_ne _ _ hs), renderSt_flush]; simp
      · rw [h, ih _ _ _ (fun _ => rfl), renderSt_dotsStep _ f fs hf hok, renderSt_flush]; simp [dots]
      · rw [h, ih _ _ _ (by simp), renderSt_closeStep _ (flush_stack_ne _ _ hs), renderSt_flush]; simp

theorem render_unwind (stack : List Frame) : ∀ (carry : List Part) (top : Word),
    render (unwind stack carry top) = render top ++ renderStack stack ++ render carry := by
  induction stack with
  | nil => intro carry top; simp [unwind, renderStack, render_append]
  | cons f fs ih =>
    intro carry top
    simp only [unwind, ih, renderStack, renderFrame, render_cons, renderPart_lit]
    have hsep : render (joinParts (if f.seq = true then Part.lit dots else Part.lit [cComma])
        (f.done ++ [f.cur ++ carry])) =
        joinSep (sepOf f.seq) (renderElems (f.done ++ [f.cur ++ carry])) := by
      cases f.seq <;> simp [sepOf, render_joinParts]
    rw [hsep]
    simp only [Frame.elems, renderElems_append, renderElems_cons, renderElems_nil, render_append]
    rw [joinSep_concat, joinSep_concat]
    simp

theorem render_split (w : Bytes) : render (splitBraces w).1 = w := by
  unfold splitBraces
  split
  · simp
  · have h := scan_render w { top := [], stack := [] } .normal [] (by simp)
    generalize scan { top := [], stack := [] } Mode.normal [] w = res at h
    obtain ⟨st, pend⟩ := res
    simp only
    split
    · rw [render_unwind, render_nil, List.append_nil, ← renderSt, renderSt_flush, h]
      rfl
    · simp

@[simp] theorem wf_nil : wf [] = true := by simp [wf]
@[simp] theorem wf_cons (p : Part) (ps : List Part) : wf (p :: ps) = (wfPart p && wf ps) := by
  simp [wf]
@[simp] theorem wfPart_lit (v : Bytes) : wfPart (.lit v) = true := by simp [wfPart]
@[simp] theorem wfElems_nil : wfElems [] = true := by simp [wfElems]
@[simp] theorem wfElems_cons (e : List Part) (es : List (List Part)) :
    wfElems (e :: es) = (wf e && wfElems es) := by simp [wfElems]

theorem wf_append (a b : List Part) : wf (a ++ b) = (wf a && wf b) := by
  induction a with
  | nil => simp
  | cons p ps ih => simp [ih, Bool.and_assoc]

theorem wfElems_append (a b : List (List Part)) :
    wfElems (a ++ b) = (wfElems a && wfElems b) := by
  induction a with
  | nil => simp
  | cons p ps ih => simp [ih, Bool.and_assoc]

theorem wf_joinParts (sep : Bytes) (elems : List Word) :
    wf (joinParts (.lit sep) elems) = wfElems elems := by
  cases elems with
  | nil => simp [joinParts]
  | cons e es =>
    induction es generalizing e with
    | nil => simp [joinParts]
    | cons e' es' ih =>
      have := ih e'
      simp only [joinParts, wf_append, wf_cons, wfPart_lit, wfElems_cons, Bool.true_and] at this ⊢
      rw [this]

theorem wf_mergeDots (elems : List Word) : wf (mergeDots elems) = wfElems elems := by
  rw [mergeDots_eq, wf_joinParts]

def FrameWf (f : Frame) : Prop := wfElems f.done = true ∧ wf f.cur = true

def StWf (st : St) : Prop := wf st.top = true ∧ ∀ f ∈ st.stack, FrameWf f

theorem frameWf_elems (f : Frame) (h : FrameWf f) : wfElems f.elems = true := by
  simp [Frame.elems, wfElems_append, h.1, h.2]

theorem stWf_top (st : St) (f : Frame) (fs : List Frame) (hs : st.stack = f :: fs) (h : StWf st) :
    FrameWf f ∧ StWf ⟨st.top, fs⟩ :=
  ⟨h.2 f (by simp [hs]), h.1, fun g hg => h.2 g (by simp [hs, hg])⟩

theorem stWf_push (top : Word) (f : Frame) (fs : List Frame) (h : StWf ⟨top, fs⟩) (hf : FrameWf f) :
    StWf ⟨top, f :: fs⟩ :=
  ⟨h.1, List.forall_mem_cons.2 ⟨hf, h.2⟩⟩

theorem stWf_addParts (st : St) (ps : List Part) (h : StWf st) (hp : wf ps = true) :
    StWf (st.addParts ps) := by
  unfold St.addParts
  cases hs : st.stack with
  | nil => exact ⟨by simp [wf_append, h.1, hp], by simp⟩
  | cons f fs =>
    obtain ⟨hf, hr⟩ := stWf_top st f fs hs h
    exact stWf_push _ _ _ hr ⟨hf.1, by simp [wf_append, hf.2, hp]⟩

theorem stWf_add (st : St) (p : Part) (h : StWf st) (hp : wfPart p = true) : StWf (st.add p) :=
  stWf_addParts st [p] h (by simp [hp])

theorem stWf_flush (st : St) (pend : Bytes) (h : StWf st) : StWf (st.flush pend) := by
  unfold St.flush; split
  · exact h
  · exact stWf_add st _ h (by simp)

theorem stWf_openBrace (st : St) (h : StWf st) : StWf st.openBrace :=
  stWf_push st.top _ st.stack h ⟨rfl, rfl⟩

theorem stWf_commaStep (st : St) (h : StWf st) : StWf st.commaStep := by
  unfold St.commaStep
  cases hs : st.stack with
  | nil => simpa [hs] using h
  | cons f fs =>
    obtain ⟨hf, hr⟩ := stWf_top st f fs hs h
    simp only
    split
    · exact stWf_push _ _ _ hr ⟨by simp [wf_mergeDots, frameWf_elems f hf], rfl⟩
    · exact stWf_push _ _ _ hr ⟨frameWf_elems f hf, rfl⟩

theorem stWf_dotsStep (st : St) (h : StWf st) : StWf st.dotsStep := by
  unfold St.dotsStep
  cases hs : st.stack with
  | nil => simpa [hs] using h
  | cons f fs =>
    obtain ⟨hf, hr⟩ := stWf_top st f fs hs h
    exact stWf_push _ _ _ hr ⟨frameWf_elems f hf, rfl⟩

theorem stWf_closeStep (st : St) (h : StWf st) : StWf st.closeStep := by
  unfold St.closeStep
  cases hs : st.stack with
  | nil => simpa [hs] using h
  | cons f fs =>
    obtain ⟨hf, hst'⟩ := stWf_top st f fs hs h
    have hel := frameWf_elems f hf
    simp only
    cases hd : f.done with
    | nil =>
      simp only
      exact stWf_add _ _ (stWf_addParts _ _ (stWf_add _ _ hst' (by simp)) hf.2) (by simp)
    | cons d ds =>
      simp only
      split
      · apply stWf_add _ _ hst'
        have hel' := hel
        simp only [Frame.elems] at hel'
        simp [wfPart, hel', Frame.elems]
      · rename_i hseq
        have hseq' : f.seq = true := by simpa using hseq
        split
        · rename_i hv
          apply stWf_add _ _ hst'
          simp [wfPart, hv, hel]
        · exact stWf_add _ _ (stWf_addParts _ _ (stWf_add _ _ hst' (by simp))
            (by rw [wf_joinParts]; exact hel)) (by simp)

theorem stWf_scan (rest : Bytes) : ∀ (st : St) (mode : Mode) (pend : Bytes), StWf st →
    StWf (scan st mode pend rest).1 := by
  induction rest with
  | nil => intro st mode pend h; rw [scan_nil]; exact h
  | cons c r ih =>
    intro st mode pend h
    cases mode with
    | esc => exact ih _ _ _ h
    | skip => exact ih _ _ _ h
    | normal =>
      have hf := stWf_flush st pend h
      rcases scan_normal_cons st pend c r with
        ⟨m, _, e⟩ | ⟨_, e⟩ | ⟨_, _, e⟩ | ⟨_, _, _, e⟩ | ⟨_, _, e⟩ <;> rw [e]
      · exact ih _ _ _ h
      · exact ih _ _ _ (stWf_openBrace _ hf)
      · exact ih _ _ _ (stWf_commaStep _ hf)
      · exact ih _ _ _ (stWf_dotsStep _ hf)
      · exact ih _ _ _ (stWf_closeStep _ hf)

theorem wf_unwind (stack : List Frame) : ∀ (carry : List Part) (top : Word),
    wf top = true → (∀ f ∈ stack, FrameWf f) → wf carry = true →
    wf (unwind stack carry top) = true := by
  induction stack with
  | nil => intro carry top ht _ hc; simp [unwind, wf_append, ht, hc]
  | cons f fs ih =>
    intro carry top ht hfs hc
    simp only [unwind]
    apply ih _ _ ht (fun g hg => hfs g (by simp [hg]))
    have hf := hfs f (by simp)
    have : wf (joinParts (if f.seq = true then Part.lit dots else Part.lit [cComma])
        (f.done ++ [f.cur ++ carry])) = true := by
      have h2 : wfElems (f.done ++ [f.cur ++ carry]) = true := by
        simp [wfElems_append, wf_append, hf.1, hf.2, hc]
      cases f.seq <;> simp [wf_joinParts, h2]
    simp [this]

theorem wf_split (w : Bytes) : wf (splitBraces w).1 = true := by
  unfold splitBraces
  split
  · simp
  · simp only
    have h := stWf_scan w { top := [], stack := [] } .normal [] ⟨by simp, by simp⟩
    generalize scan { top := [], stack := [] } Mode.normal [] w = res at h
    obtain ⟨st, pend⟩ := res
    simp only at h ⊢
    have h2 := stWf_flush st pend h
    split
    · exact wf_unwind _ _ _ h2.1 h2.2 (by simp)
    · simp

end ShVerif.C16
