/-
  L4: what the lexer produces on any input.  Three invariants of the token stream.  What they say of
  one token is `NextTok.facts`, by cases on what `nextTok` can answer; a word token is its parts `Laid`
  out from the token position, and the facts are those of `Laid` (`Laid.lines` here, the others in
  `L4Lex`).  `lexAllF_ind` carries them along the stream.  `lexAll_ok`: every word token is a
  well-formed word (or one of `{ } !`), and the line numbers of the stream, flattened in source
  order, never decrease.  `lexAll_ok2`: a word token sits at the position of its first part, `{ } !`
  tokens have exactly the shape the lexer gives them, positions are valid.  `lexAll_ok3`: a word
  token that starts on line `l` ends on line `l` + the newlines in its bytes, and that is the
  largest line number of its parts.
-/
import ShVerif.Proofs.L4Lex
namespace ShVerif.L4

abbrev Sorted (l : List Nat) : Prop := l.Pairwise (· ≤ ·)

theorem Sorted.cons_le {a b : Nat} {l : List Nat} (hab : a ≤ b) (h : Sorted (b :: l)) : Sorted (a :: b :: l) :=
  List.pairwise_cons.mpr ⟨fun x hx => by
    rcases List.mem_cons.mp hx with rfl | hx
    · exact hab
    · exact Nat.le_trans hab ((List.pairwise_cons.mp h).1 x hx), h⟩

/-- two sorted stretches that share an end point -/
theorem Sorted.glue {X Y : List Nat} {a : Nat} (h1 : Sorted (X ++ [a])) (h2 : Sorted (a :: Y)) : Sorted (X ++ a :: Y) := by
  unfold Sorted at *
  rw [List.pairwise_append] at h1 ⊢
  refine ⟨h1.1, h2, fun x hx y hy => ?_⟩
  have hxa := h1.2.2 x hx a (by simp)
  rcases List.mem_cons.mp hy with rfl | hy
  · exact hxa
  · exact Nat.le_trans hxa ((List.pairwise_cons.mp h2).1 y hy)

theorem Sorted.sub {l l' : List Nat} (h : Sorted l) (hs : l'.Sublist l) : Sorted l' := List.Pairwise.sublist hs h

def wlines (parts : List WordPart) : List Nat := parts.flatMap partLines

def Tok.lines : Tok → List Nat
  | .word w _ => wlines w.parts
  | _ => []

def tokLines : List TokPos → List Nat
  | [] => []
  | tp :: rest => tp.2.line :: (tp.1.lines ++ tokLines rest)

/-- a word token as the lexer makes it: a well-formed word, `lit` its single literal, with a quoted
    part as soon as it has two parts (the lexer never splits a literal) — or one of `{`, `}`, `!` -/
def Tok.ok : Tok → Prop
  | .word w lit =>
    (w.wf = true ∧ (w.parts.length ≥ 2 → hasSgl w.parts = true) ∧ lit = litWord? w.parts) ∨
    (∃ b : UInt8, (b = 123 ∨ b = 125 ∨ b = 33) ∧ lit = some [b])
  | _ => True

theorem wlines_append (a b : List WordPart) : wlines (a ++ b) = wlines a ++ wlines b := by
  simp [wlines, List.flatMap_append]

/-- from the line of the token to the line where the word ends, through the lines of its parts -/
theorem Laid.lines {p c parts q} (h : Laid p c parts q) : Sorted (p.line :: wlines parts ++ [q.line]) := by
  induction h with
  | nil => simp [Sorted, wlines]
  | @lit p v _ _ _ _ _ _ _ ih =>
    exact (ih.cons_le (by rw [Pos.advs_line]; exact Nat.le_add_right _ _)).cons_le (Nat.le_refl _)
  | @sgl p v _ _ _ _ _ ih =>
    -- the closing quote does not change the line
    have e : (((p.adv 39).advs v).adv 39).line = ((p.adv 39).advs v).line := rfl
    rw [e] at ih
    exact (ih.cons_le (by rw [Pos.advs_line]; exact Nat.le_add_right _ _)).cons_le (Nat.le_refl _)

theorem lexWord_start_ok (b : UInt8) (rest : Bytes) (p : Pos) (parts : List WordPart) (stop : Pos) (r : Bytes)
    (pre : List Nat) (hb : (isSafe b || b == 39) = true) (hl : lexWord (b :: rest) p .idle [] = .done parts stop r)
    (hp : Sorted (pre ++ [p.line])) :
    Sorted (pre ++ [p.line] ++ wlines parts ++ [stop.line]) ∧ (Word.mk parts).wf = true ∧
      (parts.length ≥ 2 → hasSgl parts = true) := by
  obtain ⟨c, _, hlaid, hne⟩ := lexWord_start hb hl
  exact ⟨by simpa [List.append_assoc] using Sorted.glue hp hlaid.lines, hlaid.wordWf hne, hlaid.two⟩

def rsrvTok (b : UInt8) (p : Pos) : TokPos := (.word ⟨[.lit p (p.adv b) [b]]⟩ (some [b]), p)

def Tok.okAt : Tok → Pos → Prop
  | .word w lit, p =>
    (w.wf = true ∧ lit = litWord? w.parts ∧ w.pos? = some p ∧ (∀ v, lit = some v → v ≠ [123] ∧ v ≠ [125] ∧ v ≠ [33])) ∨
    (∃ b : UInt8, (b = 123 ∨ b = 125 ∨ b = 33) ∧ (Tok.word w lit, p) = rsrvTok b p)
  | _, _ => True

def TokPos.ok2 (tp : TokPos) : Prop := tp.2.valid = true ∧ tp.1.okAt tp.2

def Tok.ok3 : Tok → Pos → Prop
  | .word w _, p => partsMax w.parts = p.line + nls (wordBytes w.parts)
  | _, _ => True

theorem litWord_safe_ne {parts : List WordPart} {v : Bytes} (hwf : ∀ p ∈ parts, p.wf = true) (h : litWord? parts = some v) :
    v ≠ [123] ∧ v ≠ [125] ∧ v ≠ [33] := by
  unfold litWord? at h
  split at h
  · rename_i a e v'
    simp only [Option.some.injEq] at h
    subst h
    have := hwf (.lit a e v') (by simp)
    simp only [WordPart.wf, Bool.and_eq_true, List.all_eq_true] at this
    refine ⟨fun e => ?_, fun e => ?_, fun e => ?_⟩ <;> (subst e; have := this.2 _ (List.mem_singleton.mpr rfl); simp [isSafe] at this)
  · cases h

theorem Tok.notWord.triv {t : Tok} (h : t.notWord) (p : Pos) : t.lines = [] ∧ t.ok ∧ t.okAt p ∧ t.ok3 p := by
  cases t <;> first | exact ⟨rfl, trivial, trivial, trivial⟩ | exact h.elim

/-- everything the stream invariants say of one token -/
theorem NextTok.facts {p : Pos} {r : Bytes} {l : Lexed} (h : NextTok p r l) :
    Sorted (p.line :: l.tok.lines ++ [l.rpos.line]) ∧ l.tok.ok ∧ l.tok.okAt p ∧ l.tok.ok3 p := by
  have two : ∀ {a b : Nat}, a ≤ b → Sorted [a, b] := fun h => by simpa [Sorted] using h
  cases h with
  | eof => exact ⟨two (Nat.le_refl _), trivial, trivial, trivial⟩
  | one hn =>
    obtain ⟨e, h1⟩ := hn.triv p
    exact ⟨by rw [e]; exact two (Pos.adv_line _ _), h1⟩
  | two hn =>
    obtain ⟨e, h1⟩ := hn.triv p
    exact ⟨by rw [e]; exact two (Nat.le_trans (Pos.adv_line _ _) (Pos.adv_line _ _)), h1⟩
  | @rsrv b _ hb =>
    refine ⟨((two (Nat.le_refl (p.adv b).line)).cons_le (Pos.adv_line p b)).cons_le (Nat.le_refl _),
      Or.inr ⟨b, hb, rfl⟩, Or.inr ⟨b, hb, rfl⟩, ?_⟩
    rcases hb with rfl | rfl | rfl <;>
      simp [Tok.ok3, partsMax, WordPart.endMax, Pos.adv, wordBytes, WordPart.bytes, trailingBackslashes, nls]
  | @word c _ parts stop hne hl =>
    have hwf := hl.wordWf hne
    refine ⟨hl.lines, Or.inl ⟨hwf, hl.two, rfl⟩, Or.inl ⟨hwf, rfl, hl.first hne, fun v hv => litWord_safe_ne hl.wf hv⟩, ?_⟩
    show partsMax parts = p.line + nls (wordBytes parts)
    rw [hl.max hne, hl.bytes.1, hl.bytes.2, Pos.advs_line]

theorem lexAll_ok (src : Bytes) : Sorted (tokLines (lexAll src)) ∧ ∀ tp ∈ lexAll src, tp.1.ok := by
  have := lexAllF_ind (S := fun s toks => Sorted (s.line :: tokLines toks) ∧ ∀ tp ∈ toks, tp.1.ok)
    (fun p => ⟨by simp [Sorted, tokLines], fun _ h => nomatch h⟩)
    (fun {s p r l rest} hs hn ih => by
      obtain ⟨hl, hok, _⟩ := hn.facts
      refine ⟨?_, List.forall_mem_cons.mpr ⟨hok, ih.2⟩⟩
      rw [tokLines, hn.line.1]
      -- glued at the line where the token ends, which `tokLines` does not list
      exact ((Sorted.glue (X := p.line :: l.tok.lines) hl ih.1).sub (by simp)).cons_le hs)
    (src.length + 1) false src ⟨0, 1, 1⟩
  exact ⟨(List.pairwise_cons.mp this.1).2, this.2⟩

theorem lexAll_ok2 (src : Bytes) : ∀ tp ∈ lexAll src, tp.ok2 :=
  lexAll_forall (fun h1 hn => ⟨Pos.valid_of_line h1, hn.facts.2.2.1⟩) src

theorem lexAll_ok3 (src : Bytes) : ∀ tp ∈ lexAll src, tp.1.ok3 tp.2 :=
  lexAll_forall (fun _ hn => hn.facts.2.2.2) src

end ShVerif.L4
