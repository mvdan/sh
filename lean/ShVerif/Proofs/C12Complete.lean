import ShVerif.Proofs.C12
/-
  C12 — completeness.  Every derivation of the grammar is followed by the model parser, with an
  explicit fuel bound (8 units per token plus a constant), by induction on the derivation.
-/
namespace ShVerif.C12
open Tok

/-- Where `stmts` leaves its loop after a statement that is complete: the end of input, or a
    closing token that is no separator and no `|` `&&` `||`. -/
def ListEnd (q : Q) (stops : List Tok) (rest : List Tok) : Prop :=
  rest = [] ∨ ∃ t r, rest = t :: r ∧ (t ≠ nl ∧ t ≠ semi ∧ t ≠ amp ∧ notCont (some t) = true) ∧
    (stops.contains t = true ∨ (t = rparen ∧ q = .sub) ∨ (t = dsemi ∧ q = .case))

theorem stmts_stop {c : Cfg} {q : Q} {stops : List Tok} {f : Nat} {gotEnd any : Bool}
    {rest : List Tok} (h : ListEnd q stops rest) :
    stmts c q stops (f+1) gotEnd any rest = .ok (any, rest) := by
  rcases h with rfl | ⟨t, r, rfl, ⟨hnl, -⟩, hs⟩
  · rfl
  · rw [stmts_cons hnl]
    by_cases hc : stops.contains t = true
    · exact if_pos hc
    · rw [if_neg hc]
      rcases hs with hs | ⟨rfl, rfl⟩ | ⟨rfl, rfl⟩
      · exact absurd hs hc
      · rfl
      · rfl

/-- What completeness says for each non-terminal: the parser function(s) that read it succeed on
    `pre ++ rest`, leaving `rest`, provided `rest` may follow and the fuel is at least
    `8 * pre.length + constant`.  Fuel is call depth; the constants order the functions along the
    longest chain of calls that reads no token (`stmts` 5, `getStmt` 4, `pipeline` 3, `command` 2,
    the tails 1), and the 8 units of a token read pay for the way back up (from `command` at `(`
    to the next `command`: `followStmts`, `stmts`, `getStmt`, `pipeline`, `command`).
    For `bpipe` and `command` the function goes on with the tail loop after `pre`, so the equation
    hands over to it. -/
def Comp (c : Cfg) : NT → End → List Tok → Prop
  | .program, _, _ => True
  | .list q stops a, e, pre => ∀ f rest gotEnd any,
      allows q e rest.head? = true → ListEnd q stops rest → 8 * pre.length + 5 ≤ f →
      (gotEnd = false → pre = [] ∨ pre.head? = some nl) →
      stmts c q stops f gotEnd any (pre ++ rest) = .ok (any || a, rest)
  | .stmt q, e, pre => ∀ f rest readEnd, allows q e rest.head? = true → notCont rest.head? = true →
      8 * pre.length + 4 ≤ f →
      getStmt c q readEnd false f (pre ++ rest) = .ok (readEndRes readEnd rest)
  | .bpipe q, e, pre => ∀ f rest readEnd binCmd, allows q e rest.head? = true →
      rest.head? ≠ some pipe → 8 * pre.length + 4 ≤ f →
      getStmt c q readEnd binCmd f (pre ++ rest) = andOrTail c q readEnd binCmd (f-1) rest
  | .aoTail q e0, e, pre =>
      (∀ rest, allows q e rest.head? = true → notCont rest.head? = true →
        allows q e0 (pre ++ rest).head? = true ∧ (pre ++ rest).head? ≠ some pipe) ∧
      (∀ f rest readEnd, allows q e rest.head? = true → notCont rest.head? = true →
        8 * pre.length + 1 ≤ f →
        andOrTail c q readEnd false f (pre ++ rest) = .ok (readEndRes readEnd rest))
  | .pipeline q neg, e, pre => ∀ f rest, allows q e rest.head? = true → rest.head? ≠ some pipe →
      8 * pre.length + 3 ≤ f → pipeline c q neg false f (pre ++ rest) = .ok rest
  | .pipeTail q e0, e, pre =>
      (∀ rest, allows q e rest.head? = true → allows q e0 (pre ++ rest).head? = true) ∧
      (∀ f rest, allows q e rest.head? = true → rest.head? ≠ some pipe → 8 * pre.length + 1 ≤ f →
        pipeTail c q false f (pre ++ rest) = .ok rest)
  | .command q neg, e, pre => ∀ f rest binCmd, allows q e rest.head? = true →
      8 * pre.length + 3 ≤ f →
      pipeline c q neg binCmd f (pre ++ rest) = pipeTail c q binCmd (f-1) rest
  | .compound q, _, pre => ∀ f rest neg, 8 * pre.length + 2 ≤ f →
      command c q neg false f (pre ++ rest) = .ok rest
  | .ifTail q _, _, pre => ∀ f rest, 8 * pre.length + 1 ≤ f → ifTail c q f (pre ++ rest) = .ok rest
  | .caseItems, _, pre => ∀ f rest, 8 * pre.length + 1 ≤ f → caseItems c f (pre ++ rest) = .ok rest

theorem fuel_add (k : Nat) {n f : Nat} (h : n + k ≤ f) : ∃ f', f = f' + k ∧ n ≤ f' :=
  ⟨f - k, by omega, by omega⟩

theorem readEndRes_stop {q : Q} {stops : List Tok} {rest : List Tok} (h : ListEnd q stops rest) :
    readEndRes true rest = (false, rest) := by
  rcases h with rfl | ⟨t, r, rfl, ⟨-, h2, h3, -⟩, -⟩
  · rfl
  · cases t <;> first | rfl | exact absurd rfl h2 | exact absurd rfl h3

theorem notCont_stop {q : Q} {stops : List Tok} {rest : List Tok} (h : ListEnd q stops rest) :
    notCont rest.head? = true := by
  rcases h with rfl | ⟨t, r, rfl, ⟨-, -, -, h⟩, -⟩
  · rfl
  · exact h

/-- A statement does not start with a newline, so `stmts` reads it only with `gotEnd` set. -/
theorem gotEnd_of_stmt {c : Cfg} {q e0 s} {Y : List Tok} {gotEnd : Bool}
    (hd : Derives c (.stmt q) e0 s)
    (hg : gotEnd = false → s ++ Y = [] ∨ (s ++ Y).head? = some nl) : gotEnd = true := by
  obtain ⟨t, r, rfl, ht⟩ := stmt_first hd
  cases gotEnd with
  | true => rfl
  | false =>
    rcases hg rfl with h | h
    · cases h
    · cases h; cases ht

theorem stmts_stmt {c : Cfg} {q : Q} {stops : List Tok} {e0 s}
    (hd : Derives c (.stmt q) e0 s) (hstart : startOK stops s) (ihs : Comp c (.stmt q) e0 s)
    {f : Nat} {any : Bool} (X : List Tok)
    (hal : allows q e0 X.head? = true) (hnc : notCont X.head? = true) (hf : 8 * s.length + 4 ≤ f) :
    stmts c q stops (f+1) true any (s ++ X) =
      stmts c q stops f (readEndRes true X).1 true (readEndRes true X).2 := by
  have hget := ihs f X true hal hnc hf
  obtain ⟨t, r, rfl, ht⟩ := stmt_first hd
  have h1 : t ≠ rbrace := by rintro rfl; cases ht
  have h2 : ¬ (decide (t = rparen) && q == .sub) = true := by
    intro h; rw [Bool.and_eq_true, decide_eq_true_eq] at h; cases h.1; cases ht
  have h3 : t ≠ dsemi := by rintro rfl; cases ht
  rw [List.cons_append, stmts_cons (start0_ne_nl ht), if_neg (Bool.eq_false_iff.mp hstart), if_neg h1,
    if_neg h2, if_neg h3, if_neg nofun, ← List.cons_append, hget]
  rfl

theorem comp_l_nil {c : Cfg} {q : Q} {stops : List Tok} : Comp c (.list q stops false) .closed [] := by
  intro f rest gotEnd any _ hend hf _
  obtain ⟨f, rfl, hf⟩ := fuel_add 1 hf
  rw [Bool.or_false]
  exact stmts_stop hend

theorem comp_l_nl {c : Cfg} {q : Q} {stops : List Tok} {a e ts}
    (ih : Comp c (.list q stops a) e ts) : Comp c (.list q stops a) e (nl :: ts) := by
  intro f rest gotEnd any hal hend hf _
  obtain ⟨f, rfl, hf⟩ := fuel_add 1 hf
  rw [List.cons_append, stmts_nl]
  exact ih _ rest true any hal hend (by rw [List.length_cons] at hf; omega) nofun

theorem comp_l_last {c : Cfg} {q : Q} {stops : List Tok} {e s}
    (hd : Derives c (.stmt q) e s) (hstart : startOK stops s)
    (ih : Comp c (.stmt q) e s) : Comp c (.list q stops true) e s := by
  intro f rest gotEnd any hal hend hf hg
  obtain ⟨f, rfl, hf⟩ := fuel_add 2 hf
  obtain rfl := gotEnd_of_stmt (Y := []) hd (by rwa [List.append_nil])
  rw [stmts_stmt hd hstart ih rest hal (notCont_stop hend) (by omega), readEndRes_stop hend,
    stmts_stop hend, Bool.or_true]

theorem comp_l_sep {c : Cfg} {q : Q} {stops : List Tok} {e0 s sep a e ts}
    (hd : Derives c (.stmt q) e0 s) (hstart : startOK stops s) (hsep : sep = semi ∨ sep = amp)
    (hal0 : allows q e0 (some sep) = true)
    (ihs : Comp c (.stmt q) e0 s) (ihl : Comp c (.list q stops a) e ts) :
    Comp c (.list q stops true) e (s ++ sep :: ts) := by
  intro f rest gotEnd any hal hend hf hg
  rw [List.length_append, List.length_cons] at hf
  obtain ⟨f, rfl, hf⟩ := fuel_add 1 hf
  obtain rfl := gotEnd_of_stmt hd hg
  rw [List.append_assoc, stmts_stmt hd hstart ihs (sep :: ts ++ rest) hal0
    (by rcases hsep with rfl | rfl <;> rfl) (by omega)]
  have hres : readEndRes true (sep :: ts ++ rest) = (true, ts ++ rest) := by
    rcases hsep with rfl | rfl <;> rfl
  rw [hres, Bool.or_true]
  exact ihl f rest true true hal hend (by omega) nofun

theorem comp_l_newl {c : Cfg} {q : Q} {stops : List Tok} {e0 s a e ts}
    (hd : Derives c (.stmt q) e0 s) (hstart : startOK stops s)
    (hal0 : allows q e0 (some nl) = true)
    (ihs : Comp c (.stmt q) e0 s) (ihl : Comp c (.list q stops a) e ts) :
    Comp c (.list q stops true) e (s ++ nl :: ts) := by
  intro f rest gotEnd any hal hend hf hg
  rw [List.length_append, List.length_cons] at hf
  obtain ⟨f, rfl, hf⟩ := fuel_add 2 hf
  obtain rfl := gotEnd_of_stmt hd hg
  rw [List.append_assoc, stmts_stmt hd hstart ihs (nl :: ts ++ rest) hal0 rfl (by omega)]
  show stmts c q stops (f+1) false true (nl :: (ts ++ rest)) = _
  rw [stmts_nl, Bool.or_true]
  exact ihl (f+1) rest true true hal hend (by omega) nofun

theorem comp_stmt {c : Cfg} {q e0 p e t}
    (ihp : Comp c (.bpipe q) e0 p) (iht : Comp c (.aoTail q e0) e t) : Comp c (.stmt q) e (p ++ t) := by
  intro f rest readEnd hal hnc hf
  obtain ⟨h1, h2⟩ := iht.1 rest hal hnc
  rw [List.length_append] at hf
  rw [List.append_assoc, ihp f (t ++ rest) readEnd false h1 h2 (by omega)]
  exact iht.2 (f-1) rest readEnd hal hnc (by omega)

theorem comp_t_nil {c : Cfg} {q e0} : Comp c (.aoTail q e0) e0 [] := by
  refine ⟨fun rest hal hnc => ⟨hal, (notCont_iff.mp hnc).2.2⟩, ?_⟩
  intro f rest readEnd _ hnc hf
  obtain ⟨f, rfl, hf⟩ := fuel_add 1 hf
  exact andOrTail_stop (notCont_iff.mp hnc).1 (notCont_iff.mp hnc).2.1

theorem comp_t_op {c : Cfg} {q e0 op k e1 p e t} (hop : op = andIf ∨ op = orIf)
    (hal0 : allows q e0 (some op) = true) (hdp : Derives c (.bpipe q) e1 p)
    (ihp : Comp c (.bpipe q) e1 p) (iht : Comp c (.aoTail q e1) e t) :
    Comp c (.aoTail q e0) e (op :: nls k ++ p ++ t) := by
  refine ⟨fun rest _ _ => ⟨hal0, by rcases hop with rfl | rfl <;> nofun⟩, ?_⟩
  intro f rest readEnd hal hnc hf
  obtain ⟨h1, h2⟩ := iht.1 rest hal hnc
  simp only [List.length_append, List.length_cons, nls_length] at hf
  obtain ⟨f, rfl⟩ : ∃ f', f = f' + 3 := ⟨f - 3, by omega⟩
  have hg : getStmt c q false true (f+2) (skipNL (nls k ++ (p ++ (t ++ rest)))) = .ok (false, t ++ rest) := by
    obtain ⟨t0, r0, rfl, ht0⟩ := bpipe_first hdp
    rw [List.cons_append, skipNL_nls_cons (start0_ne_nl ht0), ← List.cons_append,
      ihp (f+2) (t ++ rest) false true h1 h2 (by omega)]
    exact andOrTail_bin _
  simp only [List.cons_append, List.append_assoc]
  rw [andOrTail_op _ hop, if_neg nofun, hg]
  exact iht.2 (f+2) rest readEnd hal hnc (by omega)

theorem comp_b_plain {c : Cfg} {q e p} (hd : Derives c (.pipeline q false) e p)
    (ih : Comp c (.pipeline q false) e p) : Comp c (.bpipe q) e p := by
  intro f rest readEnd binCmd hal hnp hf
  obtain ⟨f, rfl, hf⟩ := fuel_add 1 hf
  have hb : (p ++ rest).head? ≠ some bang := by
    obtain ⟨t, r, rfl, -, hnb⟩ := pipeline_first hd
    exact fun h => hnb rfl (Option.some.inj h)
  rw [getStmt_plain hb, ih f rest hal hnp (by omega)]
  rfl

theorem getStmt_bang {c : Cfg} {q : Q} {re bc : Bool} {f k : Nat} {t : Tok} {r : List Tok}
    (ht : isStart0 t = true) (htb : t ≠ bang) (hk : c.bangAlone = true ∨ k = 0) :
    getStmt c q re bc (f+1) (bang :: (bangs k ++ t :: r)) =
      (pipeline c q true false f (t :: r)).bind (andOrTail c q re bc f) := by
  have hst := start0_not_stop ht
  simp only [getStmt]
  by_cases hba : c.bangAlone = true
  · have hdw : (bangs k ++ t :: r).dropWhile (· == bang) = t :: r :=
      dropWhile_bangs fun h => htb (Option.some.inj h)
    simp only [if_pos hba, hdw]
    split
    · rename_i h; cases h
    · rename_i h; cases h; cases ht
    · rename_i h; cases h; cases ht
    · rename_i h; cases h; rw [if_neg (by rw [hst]; nofun)]
  · obtain rfl := hk.resolve_left hba
    simp only [if_neg hba]
    show (if (stopTok t || t == bang) = true then _ else _) = _
    rw [if_neg (by simp [hst, htb])]
    rfl

/-- Rules `b_bang` (`k = 0`) and `b_bangs`. -/
theorem comp_b_bangs {c : Cfg} {q e p k} (hk : c.bangAlone = true ∨ k = 0)
    (hd : Derives c (.pipeline q true) e p) (hnb : p.head? ≠ some bang)
    (ih : Comp c (.pipeline q true) e p) : Comp c (.bpipe q) e (bang :: bangs k ++ p) := by
  intro f rest readEnd binCmd hal hnp hf
  simp only [List.length_cons, List.length_append, bangs_length] at hf
  obtain ⟨t, r, rfl, ht, -⟩ := pipeline_first hd
  obtain ⟨f, rfl, hf⟩ := fuel_add 1 hf
  have hp := ih f rest hal hnp (by omega)
  rw [List.cons_append] at hp
  simp only [List.cons_append, List.append_assoc]
  rw [getStmt_bang ht (fun h => hnb (congrArg some h)) hk, hp]
  rfl

theorem comp_b_bare {c : Cfg} {q k} (hba : c.bangAlone = true) :
    Comp c (.bpipe q) .bare (bang :: bangs k) := by
  intro f rest readEnd binCmd hal hnp hf
  rw [List.length_cons, bangs_length] at hf
  obtain ⟨f, rfl, hf⟩ := fuel_add 2 hf
  have hrest : rest = [] ∨ (∃ r, rest = nl :: r) ∨ ∃ r, rest = semi :: r := by
    cases rest with
    | nil => exact .inl rfl
    | cons t r =>
      simp only [allows, List.head?, Bool.or_eq_true, beq_iff_eq, Option.some.injEq,
        reduceCtorEq, false_or] at hal
      rcases hal with rfl | rfl
      · exact .inr (.inl ⟨r, rfl⟩)
      · exact .inr (.inr ⟨r, rfl⟩)
  have hdw : (bangs k ++ rest).dropWhile (· == bang) = rest :=
    dropWhile_bangs (by rcases hrest with rfl | ⟨r, rfl⟩ | ⟨r, rfl⟩ <;> nofun)
  rw [List.cons_append]
  simp only [getStmt, if_pos hba, hdw]
  rcases hrest with rfl | ⟨r, rfl⟩ | ⟨r, rfl⟩
  · rfl
  · rfl
  · cases readEnd <;> rfl

theorem comp_pipeline {c : Cfg} {q neg e0 cm e t}
    (ihc : Comp c (.command q neg) e0 cm) (iht : Comp c (.pipeTail q e0) e t) :
    Comp c (.pipeline q neg) e (cm ++ t) := by
  intro f rest hal hnp hf
  rw [List.length_append] at hf
  rw [List.append_assoc, ihc f (t ++ rest) false (iht.1 rest hal) (by omega)]
  exact iht.2 (f-1) rest hal hnp (by omega)

theorem comp_p_nil {c : Cfg} {q e0} : Comp c (.pipeTail q e0) e0 [] := by
  refine ⟨fun rest hal => hal, ?_⟩
  intro f rest _ hnp hf
  obtain ⟨f, rfl, hf⟩ := fuel_add 1 hf
  exact pipeTail_stop hnp

theorem comp_p_pipe {c : Cfg} {q e0 k e1 cm e t} (hal0 : allows q e0 (some pipe) = true)
    (hdc : Derives c (.command q false) e1 cm)
    (ihc : Comp c (.command q false) e1 cm) (iht : Comp c (.pipeTail q e1) e t) :
    Comp c (.pipeTail q e0) e (pipe :: nls k ++ cm ++ t) := by
  refine ⟨fun rest _ => hal0, ?_⟩
  intro f rest hal hnp hf
  simp only [List.length_append, List.length_cons, nls_length] at hf
  obtain ⟨f, rfl⟩ : ∃ f', f = f' + 3 := ⟨f - 3, by omega⟩
  have hp : pipeline c q false true (f+2) (skipNL (nls k ++ (cm ++ (t ++ rest)))) = .ok (t ++ rest) := by
    obtain ⟨t0, r0, rfl, ht0, -⟩ := command_first hdc
    rw [List.cons_append, skipNL_nls_cons (start0_ne_nl ht0), ← List.cons_append,
      ihc (f+2) (t ++ rest) true (iht.1 rest hal) (by omega)]
    exact pipeTail_bin _
  simp only [List.cons_append, List.append_assoc]
  rw [pipeTail_pipe, if_neg nofun, hp]
  exact iht.2 (f+2) rest hal hnp (by omega)

theorem pipeline_of_command {c : Cfg} {q : Q} {neg binCmd : Bool} {f : Nat} {pr body rest : List Tok}
    (hpr : Redirs pr) (hr : rest.head? ≠ some io)
    (hc : command c q neg (!pr.isEmpty) f (body ++ rest) = .ok rest)
    (hbr : (body ++ rest).head? ≠ some io) :
    pipeline c q neg binCmd (f+1) (pr ++ body ++ rest) = pipeTail c q binCmd f rest := by
  rw [pipeline, List.append_assoc, redirs_complete hpr _ hbr]
  simp only [hc, R.bind, redirs_of_head hr, Bool.false_and, Bool.false_eq_true, if_false]

theorem command_simple {c : Cfg} {q : Q} {neg pre : Bool} {f : Nat} {t : Tok} {X rest : List Tok}
    (hf : firstOK c neg pre t = true) (hc : callExpr q X = some rest) :
    command c q neg pre (f+1+1) (t :: X) = .ok rest := by
  have hl := callExpr_not_lparen hc
  have hX : (match X with | lparen :: _ => R.err | _ => ofOpt (callExpr q X)) = .ok rest := by
    split
    · exact absurd rfl hl
    · rw [hc]; rfl
  have hn : name c q pre (f+1) t X = .ok rest := by rw [name_call hl, hc]; rfl
  unfold command
  dsimp only
  by_cases hsh : (pre && !c.rsrvAfterIO && isLitWord t && t != assign) = true
  · rw [if_pos hsh]; exact hX
  rw [if_neg hsh]
  rcases firstOK_cases hf with (rfl | rfl | rfl) | ⟨rfl, hr, hrs⟩ | ⟨rfl, rfl⟩ | ⟨rfl | rfl, he⟩
  · exact hn
  · exact hX
  · rw [hc]; rfl
  · refine absurd ?_ hsh
    simp only [isRsrv, Bool.and_eq_true, bne_iff_ne, ne_eq] at hrs
    simp [hr, hrs.1.1, hrs.2]
  · exact hn
  · exact (if_pos he).trans hn
  · exact (if_pos he).trans hn

theorem comp_c_simple {c : Cfg} {q neg pre t its} (hpr : Redirs pre)
    (hf : firstOK c neg (!pre.isEmpty) t = true) (hi : Items its) :
    Comp c (.command q neg) .open (pre ++ t :: its) := by
  intro f rest binCmd hal hfu
  rw [List.length_append, List.length_cons] at hfu
  obtain ⟨f, rfl, hfu⟩ := fuel_add 3 hfu
  have hc : callExpr q (its ++ rest) = some rest := callExpr_complete hi rest hal
  exact pipeline_of_command (body := t :: its) hpr (allows_ne_io hal) (command_simple hf hc)
    fun h => firstOK_ne_io hf (Option.some.inj h)

theorem command_redirOnly {c : Cfg} {q : Q} {neg : Bool} {f : Nat} {rest : List Tok}
    (h : openOK q rest.head? = true) : command c q neg true (f+1) rest = .ok rest := by
  cases rest with
  | nil => rfl
  | cons t r =>
    have hs : stopTok t = true := by
      simp only [List.head?, openOK, Bool.or_eq_true, Bool.and_eq_true, beq_iff_eq] at h
      rcases h with h | ⟨rfl, -⟩
      · simp only [stopTok, h, Bool.true_or]
      · rfl
    unfold command
    dsimp only
    rw [if_neg (by simp [stopTok_not_lit hs])]
    cases t <;> first | rfl | cases hs

theorem comp_c_redir {c : Cfg} {q neg w r} (hw : wordLike w = true) (hr : Redirs r) :
    Comp c (.command q neg) .open (io :: w :: r) := by
  intro f rest binCmd hal hfu
  obtain ⟨f, rfl, hfu⟩ := fuel_add 2 hfu
  have := pipeline_of_command (binCmd := binCmd) (body := []) (.cons hw hr) (allows_ne_io hal)
    (command_redirOnly (c := c) (q := q) (neg := neg) (f := f) hal) (allows_ne_io hal)
  rwa [List.append_nil] at this

theorem comp_c_compound {c : Cfg} {q neg body post} (hdb : Derives c (.compound q) .closed body)
    (ihb : Comp c (.compound q) .closed body) (hpost : Redirs post) :
    Comp c (.command q neg) (if post.isEmpty || c.closerAfterRedir then .closed else .open)
      (body ++ post) := by
  intro f rest binCmd hal hfu
  rw [List.length_append] at hfu
  obtain ⟨f, rfl, hfu⟩ := fuel_add 1 hfu
  have h1 : redirs (body ++ (post ++ rest)) = some (false, body ++ (post ++ rest)) := by
    obtain ⟨t, r, rfl, ht⟩ := compound_first hdb
    exact redirs_of_head (by rintro h; cases h; cases ht)
  have h2 := ihb f (post ++ rest) neg (by omega)
  have h3 : redirs (post ++ rest) = some (!post.isEmpty, rest) :=
    redirs_complete hpost rest (allows_ne_io hal)
  have hchk : (!post.isEmpty && !c.closerAfterRedir && !followsOpen rest.head?) = false := by
    by_cases hc : (post.isEmpty || c.closerAfterRedir) = true
    · rw [Bool.or_eq_true] at hc
      rcases hc with hc | hc <;> simp [hc]
    · rw [if_neg hc] at hal
      rw [← openOK_sub_eq, openOK_sub hal, Bool.not_true, Bool.and_false]
  rw [pipeline, List.append_assoc, h1]
  simp only [h2, R.bind, h3, hchk, Bool.false_eq_true, if_false]
  rfl

theorem command_fn {c : Cfg} {q : Q} {neg : Bool} {f : Nat} {nm : Tok} {X : List Tok}
    (h : fnNameOK c neg nm = true) :
    command c q neg false (f+1) (nm :: X) = name c q false f nm X := by
  unfold command
  dsimp only
  rw [if_neg (by simp)]
  rcases fnNameOK_cases h with rfl | ⟨rfl | rfl, he⟩ | ⟨rfl, rfl, -⟩
  · rfl
  · exact if_pos he
  · exact if_pos he
  · rfl

theorem pipeline_fn {c : Cfg} {q : Q} {neg binCmd : Bool} {f : Nat} {nm : Tok} {k : Nat}
    {body rest : List Tok} (hn : fnNameOK c neg nm = true) (hr : rest.head? ≠ some io)
    (hbody : name c q false (f+1) nm (lparen :: rparen :: (nls k ++ (body ++ rest))) = .ok rest) :
    pipeline c q neg binCmd (f+3) (nm :: lparen :: rparen :: nls k ++ body ++ rest) =
      pipeTail c q binCmd (f+2) rest := by
  refine pipeline_of_command (pr := []) (body := nm :: lparen :: rparen :: nls k ++ body) .nil hr ?_
    fun h => fnName_ne_io hn (Option.some.inj h)
  simp only [List.cons_append, List.append_assoc]
  exact (command_fn hn).trans hbody

theorem name_fn_ok {c : Cfg} {q : Q} {neg : Bool} {f : Nat} {nm : Tok} {k : Nat} {t0 : Tok}
    {r0 : List Tok} (h : fnNameOK c neg nm = true) (ht0 : isStart0 t0 = true) :
    name c q false (f+1) nm (lparen :: rparen :: (nls k ++ t0 :: r0)) =
      match c.fnBody with
      | .andOr => (getStmt c q false false f (t0 :: r0)).bind fun x => .ok x.2
      | .command => pipeline c q false true f (t0 :: r0)
      | .compound => if isCompoundStart t0 then pipeline c q false true f (t0 :: r0) else .err := by
  have hpb : ¬ (c.posix && nm == bang) = true := by
    rcases fnNameOK_cases h with rfl | ⟨rfl | rfl, -⟩ | ⟨rfl, -, hp⟩ <;> simp [*]
  rw [name_fn, if_neg hpb, if_neg nofun, skipNL_nls_cons (start0_ne_nl ht0)]
  cases c.fnBody <;> rfl

theorem comp_f_andor {c : Cfg} {q neg nm k e body} (hfb : c.fnBody = .andOr)
    (hn : fnNameOK c neg nm = true) (hd : Derives c (.stmt q) e body)
    (ih : Comp c (.stmt q) e body) :
    Comp c (.command q neg) e.seal (nm :: lparen :: rparen :: nls k ++ body) := by
  intro f rest binCmd hal hfu
  obtain ⟨hal', hnc⟩ := allows_seal.mp hal
  simp only [List.length_append, List.length_cons, nls_length] at hfu
  obtain ⟨f, rfl, hfu⟩ := fuel_add 3 hfu
  refine pipeline_fn hn (allows_ne_io hal) ?_
  have hb := ih f rest false hal' hnc (by omega)
  obtain ⟨t0, r0, rfl, ht0⟩ := stmt_first hd
  rw [List.cons_append, name_fn_ok hn ht0, hfb, ← List.cons_append]
  dsimp only
  rw [hb, readEndRes_false]
  rfl

/-- Rules `f_command` and `f_compound`: the body is one command, read with `binCmd` set. -/
theorem comp_f_command {c : Cfg} {q neg nm k e body}
    (hfb : c.fnBody = .command ∨ (c.fnBody = .compound ∧ startsCompound body = true))
    (hn : fnNameOK c neg nm = true) (hd : Derives c (.command q false) e body)
    (ih : Comp c (.command q false) e body) :
    Comp c (.command q neg) e (nm :: lparen :: rparen :: nls k ++ body) := by
  intro f rest binCmd hal hfu
  simp only [List.length_append, List.length_cons, nls_length] at hfu
  obtain ⟨f, rfl⟩ : ∃ f', f = f' + 5 := ⟨f - 5, by omega⟩
  refine pipeline_fn hn (allows_ne_io hal) ?_
  have hb : pipeline c q false true (f+2) (body ++ rest) = .ok rest :=
    (ih (f+2) rest true hal (by omega)).trans (pipeTail_bin rest)
  obtain ⟨t0, r0, rfl, ht0, -⟩ := command_first hd
  rw [List.cons_append, name_fn_ok hn ht0, ← List.cons_append]
  rcases hfb with hfb | ⟨hfb, hsc⟩ <;> rw [hfb]
  · exact hb
  · exact (if_pos hsc).trans hb

theorem follow_close {c : Cfg} {q : Q} {stops : List Tok} {e : End} {l : List Tok} {x : Tok}
    {rest : List Tok} {f : Nat}
    (ihl : Comp c (.list q stops true) e l)
    (hal : allows q e (some x) = true) (hend : ListEnd q stops (x :: rest))
    (hf : 8 * l.length + 5 ≤ f) :
    (followStmts c q stops (f+1) (l ++ x :: rest)).bind (expect x) = .ok rest := by
  rw [followStmts, ihl f (x :: rest) true false hal hend hf nofun]
  exact expect_cons x rest

theorem listEnd_stop {q : Q} {stops : List Tok} {x : Tok} {rest : List Tok}
    (h : stops.contains x = true) (hx : x ≠ nl ∧ x ≠ semi ∧ x ≠ amp ∧ notCont (some x) = true) :
    ListEnd q stops (x :: rest) := .inr ⟨x, rest, rfl, hx, .inl h⟩

theorem comp_block {c : Cfg} {q e l} (ihl : Comp c (.list q [rbrace] true) e l)
    (hal : allows q e (some rbrace) = true) : Comp c (.compound q) .closed (lbrace :: l ++ [rbrace]) := by
  intro f rest neg hf
  simp only [List.length_append, List.length_cons, List.length_nil] at hf
  obtain ⟨f, rfl, hf⟩ := fuel_add 2 hf
  simp only [List.cons_append, List.append_assoc, List.nil_append]
  exact follow_close ihl hal (listEnd_stop rfl (by decide)) (by omega)

theorem comp_subshell {c : Cfg} {q e l} (ihl : Comp c (.list .sub [] true) e l)
    (hal : allows .sub e (some rparen) = true) :
    Comp c (.compound q) .closed (lparen :: l ++ [rparen]) := by
  intro f rest neg hf
  simp only [List.length_append, List.length_cons, List.length_nil] at hf
  obtain ⟨f, rfl, hf⟩ := fuel_add 2 hf
  simp only [List.cons_append, List.append_assoc, List.nil_append]
  exact follow_close ihl hal
    (.inr ⟨rparen, rest, rfl, by decide, .inr (.inl ⟨rfl, rfl⟩)⟩) (by omega)

theorem if_body {c : Cfg} {q e1 cond e2 thn e t} {f : Nat} {rest : List Tok}
    (ih1 : Comp c (.list q [kThen] true) e1 cond) (hal1 : allows q e1 (some kThen) = true)
    (ih2 : Comp c (.list q [kFi, kElif, kElse] true) e2 thn)
    (hdt : Derives c (.ifTail q e2) e t) (iht : Comp c (.ifTail q e2) e t)
    (hf : 8 * (cond.length + thn.length + t.length) + 7 ≤ f) :
    (((followStmts c q [kThen] (f+1) (cond ++ kThen :: (thn ++ (t ++ rest)))).bind (expect kThen)).bind
      fun r1 => (followStmts c q [kFi, kElif, kElse] (f+1) r1).bind (ifTail c q (f+1))) = .ok rest := by
  have h3 := iht (f+1) rest (by omega)
  obtain ⟨x, r, rfl, hx, halx⟩ := ifTail_first hdt
  have hend : ListEnd q [kFi, kElif, kElse] (x :: (r ++ rest)) := by
    rcases hx with rfl | rfl | rfl <;> exact listEnd_stop rfl (by decide)
  rw [follow_close ih1 hal1 (listEnd_stop rfl (by decide)) (by omega)]
  show (followStmts c q [kFi, kElif, kElse] (f+1) (thn ++ x :: (r ++ rest))).bind _ = _
  rw [followStmts, ih2 f (x :: (r ++ rest)) true false halx hend (by omega) nofun]
  exact h3

theorem comp_ifc {c : Cfg} {q e1 cond e2 thn e t}
    (ih1 : Comp c (.list q [kThen] true) e1 cond) (hal1 : allows q e1 (some kThen) = true)
    (ih2 : Comp c (.list q [kFi, kElif, kElse] true) e2 thn)
    (hdt : Derives c (.ifTail q e2) e t) (iht : Comp c (.ifTail q e2) e t) :
    Comp c (.compound q) .closed (kIf :: cond ++ kThen :: thn ++ t) := by
  intro f rest neg hf
  simp only [List.length_append, List.length_cons] at hf
  obtain ⟨f, rfl, hf⟩ := fuel_add 2 hf
  simp only [List.cons_append, List.append_assoc]
  exact if_body ih1 hal1 ih2 hdt iht (by omega)

theorem comp_i_fi {c : Cfg} {q e0} : Comp c (.ifTail q e0) .closed [kFi] := by
  intro f rest hf
  obtain ⟨f, rfl, hf⟩ := fuel_add 1 hf
  rfl

theorem comp_i_else {c : Cfg} {q e0 e l} (ihl : Comp c (.list q [kFi] true) e l)
    (hal : allows q e (some kFi) = true) : Comp c (.ifTail q e0) .closed (kElse :: l ++ [kFi]) := by
  intro f rest hf
  simp only [List.length_append, List.length_cons, List.length_nil] at hf
  obtain ⟨f, rfl, hf⟩ := fuel_add 2 hf
  simp only [List.cons_append, List.append_assoc, List.nil_append]
  exact follow_close ihl hal (listEnd_stop rfl (by decide)) (by omega)

theorem comp_i_elif {c : Cfg} {q e0 e1 cond e2 thn e t}
    (ih1 : Comp c (.list q [kThen] true) e1 cond) (hal1 : allows q e1 (some kThen) = true)
    (ih2 : Comp c (.list q [kFi, kElif, kElse] true) e2 thn)
    (hdt : Derives c (.ifTail q e2) e t) (iht : Comp c (.ifTail q e2) e t) :
    Comp c (.ifTail q e0) .closed (kElif :: cond ++ kThen :: thn ++ t) := by
  intro f rest hf
  simp only [List.length_append, List.length_cons] at hf
  obtain ⟨f, rfl⟩ : ∃ f', f = f' + 2 := ⟨f - 2, by omega⟩
  simp only [List.cons_append, List.append_assoc]
  exact if_body ih1 hal1 ih2 hdt iht (by omega)

theorem comp_loop {c : Cfg} {q kw e1 cond e2 body} (hkw : kw = kWhile ∨ kw = kUntil)
    (ih1 : Comp c (.list q [kDo] true) e1 cond) (hal1 : allows q e1 (some kDo) = true)
    (ih2 : Comp c (.list q [kDone] true) e2 body) (hal2 : allows q e2 (some kDone) = true) :
    Comp c (.compound q) .closed (kw :: cond ++ kDo :: body ++ [kDone]) := by
  intro f rest neg hf
  simp only [List.length_append, List.length_cons, List.length_nil] at hf
  obtain ⟨f, rfl, hf⟩ := fuel_add 2 hf
  have h1 := follow_close (rest := body ++ kDone :: rest) (f := f) ih1 hal1
    (listEnd_stop rfl (by decide)) (by omega)
  have h2 := follow_close (rest := rest) (f := f) ih2 hal2
    (listEnd_stop rfl (by decide)) (by omega)
  simp only [List.cons_append, List.append_assoc, List.nil_append]
  have : ((followStmts c q [kDo] (f+1) (cond ++ kDo :: (body ++ kDone :: rest))).bind (expect kDo)).bind
      (fun r1 => (followStmts c q [kDone] (f+1) r1).bind (expect kDone)) = .ok rest := by
    rw [h1]; exact h2
  rcases hkw with rfl | rfl <;> exact this

theorem comp_forc {c : Cfg} {q hd close e body} (hfh : ForHead c hd close)
    (ihl : Comp c (.list q [close] true) e body) (hal : allows q e (some close) = true) :
    Comp c (.compound q) .closed (kFor :: hd ++ body ++ [close]) := by
  intro f rest neg hf
  simp only [List.length_append, List.length_cons, List.length_nil] at hf
  obtain ⟨f, rfl, hf⟩ := fuel_add 2 hf
  have hend : ListEnd q [close] (close :: rest) := by
    rcases forHead_close hfh with rfl | rfl <;> exact listEnd_stop rfl (by decide)
  have h2 := follow_close (f := f) ihl hal hend (by omega)
  simp only [List.cons_append, List.append_assoc, List.nil_append]
  show (match forHead c (hd ++ (body ++ close :: rest)) with
    | some (close, r1) => (followStmts c q [close] (f+1) r1).bind (expect close)
    | none => .err) = _
  rw [forHead_complete hfh]
  exact h2

theorem comp_casec {c : Cfg} {q w k j e items} (hw : wordLike w = true)
    (hdi : Derives c .caseItems e items) (ihi : Comp c .caseItems e items) :
    Comp c (.compound q) .closed (kCase :: w :: nls k ++ kIn :: nls j ++ items) := by
  intro f rest neg hf
  simp only [List.length_append, List.length_cons, nls_length] at hf
  obtain ⟨f, rfl, hf⟩ := fuel_add 1 hf
  have h2 := ihi f rest (by omega)
  have h1 := caseHead_complete hw k j (items ++ rest) (by
    obtain ⟨t0, r0, rfl, ht0⟩ := caseItems_first hdi
    exact fun h => ht0 (Option.some.inj h))
  simp only [List.cons_append, List.append_assoc] at h1 ⊢
  show (match caseHead (w :: (nls k ++ kIn :: (nls j ++ (items ++ rest)))) with
    | some r1 => caseItems c f r1
    | none => .err) = _
  rw [h1]
  exact h2

theorem comp_ci_esac {c : Cfg} : Comp c .caseItems .closed [kEsac] := by
  intro f rest hf
  obtain ⟨f, rfl, hf⟩ := fuel_add 1 hf
  rfl

/-- The pattern part of a case item as `caseItems` reads it. -/
theorem case_pats {lp pat X : List Tok} (hlp : lp = [] ∨ lp = [lparen]) (hpat : Pats pat)
    (hes : lp = [] → pat.head? ≠ some kEsac) :
    ∃ t r, lp ++ (pat ++ X) = t :: r ∧ t ≠ kEsac ∧
      patterns (if t = lparen then r else t :: r) = some X := by
  have hp := patterns_complete hpat X
  obtain ⟨w, r, rfl, hw⟩ := pats_first hpat
  rcases hlp with rfl | rfl
  · have hnl : w ≠ lparen := by rintro rfl; cases hw
    exact ⟨w, r ++ X, rfl, fun h => hes rfl (congrArg some h), by rw [if_neg hnl]; exact hp⟩
  · exact ⟨lparen, (w :: r) ++ X, rfl, nofun, hp⟩

theorem comp_ci_last {c : Cfg} {lp pat a e l} (hlp : lp = [] ∨ lp = [lparen]) (hpat : Pats pat)
    (hes : lp = [] → pat.head? ≠ some kEsac)
    (ihl : Comp c (.list .case [kEsac] a) e l) (hal : allows .case e (some kEsac) = true) :
    Comp c .caseItems .closed (lp ++ pat ++ l ++ [kEsac]) := by
  intro f rest hf
  simp only [List.length_append, List.length_cons, List.length_nil] at hf
  obtain ⟨f, rfl, hf⟩ := fuel_add 1 hf
  have hs := ihl f (kEsac :: rest) true false hal
    (listEnd_stop rfl (by decide)) (by omega) nofun
  obtain ⟨t, r, htr, hte, hp⟩ := case_pats (X := l ++ kEsac :: rest) hlp hpat hes
  simp only [List.append_assoc, List.cons_append, List.nil_append]
  rw [htr, caseItems_cons r hte, hp]
  simp only [hs]
  exact expect_cons kEsac rest

theorem comp_ci_item {c : Cfg} {lp pat a e l k e' rest'} (hlp : lp = [] ∨ lp = [lparen])
    (hpat : Pats pat) (hes : lp = [] → pat.head? ≠ some kEsac)
    (ihl : Comp c (.list .case [kEsac] a) e l) (hal : allows .case e (some dsemi) = true)
    (hdr : Derives c .caseItems e' rest') (ihr : Comp c .caseItems e' rest') :
    Comp c .caseItems .closed (lp ++ pat ++ l ++ dsemi :: nls k ++ rest') := by
  intro f rest hf
  simp only [List.length_append, List.length_cons, nls_length] at hf
  obtain ⟨f, rfl, hf⟩ := fuel_add 1 hf
  have hr := ihr f rest (by omega)
  have hs := ihl f (dsemi :: (nls k ++ (rest' ++ rest))) true false hal
    (.inr ⟨dsemi, _, rfl, by decide, .inr (.inr ⟨rfl, rfl⟩)⟩) (by omega) nofun
  obtain ⟨t, r, htr, hte, hp⟩ := case_pats (X := l ++ dsemi :: (nls k ++ (rest' ++ rest))) hlp hpat hes
  have hsk : skipNL (nls k ++ (rest' ++ rest)) = rest' ++ rest := by
    obtain ⟨t0, r0, rfl, ht0⟩ := caseItems_first hdr
    exact skipNL_nls_cons ht0
  simp only [List.append_assoc, List.cons_append]
  rw [htr, caseItems_cons r hte, hp]
  simp only [hs, hsk]
  exact hr

theorem complete_all {c : Cfg} {nt e ts} (h : Derives c nt e ts) : Comp c nt e ts := by
  induction h with
  | program _ _ => trivial
  | l_nil => exact comp_l_nil
  | l_nl _ ih => exact comp_l_nl ih
  | l_last hd hs ih => exact comp_l_last hd hs ih
  | l_sep hd hs hsep hal _ ihs ihl => exact comp_l_sep hd hs hsep hal ihs ihl
  | l_newl hd hs hal _ ihs ihl => exact comp_l_newl hd hs hal ihs ihl
  | stmt _ _ ihp iht => exact comp_stmt ihp iht
  | t_nil => exact comp_t_nil
  | t_op hop hal hdp _ ihp iht => exact comp_t_op hop hal hdp ihp iht
  | b_plain hd ih => exact comp_b_plain hd ih
  | b_bang _ hd hnb ih => exact comp_b_bangs (k := 0) (.inr rfl) hd hnb ih
  | b_bangs hba hd hnb ih => exact comp_b_bangs (.inl hba) hd hnb ih
  | b_bare hba => exact comp_b_bare hba
  | pipeline _ _ ihc iht => exact comp_pipeline ihc iht
  | p_nil => exact comp_p_nil
  | p_pipe hal hdc _ ihc iht => exact comp_p_pipe hal hdc ihc iht
  | c_simple hpr hf hi => exact comp_c_simple hpr hf hi
  | c_redir hw hr => exact comp_c_redir hw hr
  | c_compound hdb hpost ihb => exact comp_c_compound hdb ihb hpost
  | f_andor hfb hn hd ih => exact comp_f_andor hfb hn hd ih
  | f_command hfb hn hd ih => exact comp_f_command (.inl hfb) hn hd ih
  | f_compound hfb hn hd hsc ih => exact comp_f_command (.inr ⟨hfb, hsc⟩) hn hd ih
  | block _ hal ihl => exact comp_block ihl hal
  | subshell _ hal ihl => exact comp_subshell ihl hal
  | ifc _ hal1 _ hdt ih1 ih2 iht => exact comp_ifc ih1 hal1 ih2 hdt iht
  | i_fi _ => exact comp_i_fi
  | i_else _ _ hal ihl => exact comp_i_else ihl hal
  | i_elif _ _ hal1 _ hdt ih1 ih2 iht => exact comp_i_elif ih1 hal1 ih2 hdt iht
  | loop hkw _ hal1 _ hal2 ih1 ih2 => exact comp_loop hkw ih1 hal1 ih2 hal2
  | forc hfh _ hal ihl => exact comp_forc hfh ihl hal
  | casec hw hdi ihi => exact comp_casec hw hdi ihi
  | ci_esac => exact comp_ci_esac
  | ci_last hlp hpat hes _ hal ihl => exact comp_ci_last hlp hpat hes ihl hal
  | ci_item hlp hpat hes _ hal hdr ihl ihr => exact comp_ci_item hlp hpat hes ihl hal hdr ihr

theorem parseWith_complete {c : Cfg} {ts : List Tok} {f : Nat} (hf : 8 * ts.length + 5 ≤ f)
    (h : Derives c .program .closed ts) : parseWith c f ts = true := by
  cases h with
  | @program a e _ hl =>
    have := complete_all hl f [] true false (by cases e <;> rfl) (.inl rfl) hf nofun
    rw [List.append_nil] at this
    rw [parseWith, this]

theorem parse_iff_derives {c : Cfg} {ts : List Tok} :
    parse c ts = true ↔ Derives c .program .closed ts :=
  ⟨parseWith_sound, parseWith_complete (Nat.add_le_add_left (by decide) _)⟩

end ShVerif.C12
