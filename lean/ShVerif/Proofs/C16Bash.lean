import ShVerif.Model.C16
import ShVerif.Proofs.C16SeqTerm
/-
  C16 — the bash side of `bash_equiv_partial`: on the text of a well-formed brace expression tree,
  bash's gobbler-based recursion (`brace_gobbler`, `expand_amble`, `expand_seqterm`) computes the
  denotation of the tree.  The text of a nested tree is balanced (`canon_balanced`): that is why the
  two scanners that track the nesting level, `gobbleClose` and `splitAmble`, pass over it, and why
  it holds no backslash.
  The step equations of a scanner carry its initials: `gc_` (`gobbleClose`), `go_` (`gobbleOpen`),
  `sa_` (`splitAmble`), `hc_` (`hasComma`).
-/
namespace ShVerif.C16

theorem passes_inner {α : Type} (g : Bytes → α) (act : Bytes → α → α)
    (act_nil : ∀ r, act [] (g r) = g r)
    (act_append : ∀ a b r, act a (act b (g r)) = act (a ++ b) (g r))
    (safe : ∀ c, safeByte c = true → ∀ r, g (c :: r) = act [c] (g r))
    (dot : ∀ d, d ≠ cDot → ∀ r, g (cDot :: d :: r) = act [cDot] (g (d :: r))) :
    ∀ (v : Bytes), innerOk v = true → ∀ r, g (v ++ r) = act v (g r)
  | [], _, r => (act_nil r).symm
  | [c], h, r => safe c h r
  | c :: d :: t, h, r => by
    simp only [innerOk, Bool.and_eq_true, Bool.or_eq_true, decide_eq_true_eq] at h
    have ih := passes_inner g act act_nil act_append safe dot (d :: t) h.2 r
    rcases h.1 with hc | ⟨rfl, hd⟩
    · rw [List.cons_append, safe c hc, ih, act_append]; rfl
    · rw [List.cons_append, List.cons_append, dot d hd, ← List.cons_append, ih, act_append]; rfl

theorem renderElems_eq_map (es : List (List Part)) : renderElems es = es.map render := by
  induction es with
  | nil => rfl
  | cons e es ih => rw [renderElems_cons, ih, List.map_cons]

theorem mem_renderElems (es : List (List Part)) (x : Bytes) (hx : x ∈ renderElems es) :
    ∃ e ∈ es, x = render e := by
  rw [renderElems_eq_map, List.mem_map] at hx
  obtain ⟨e, he, rfl⟩ := hx
  exact ⟨e, he, rfl⟩

/-- A set of strings closed under `[]` and `++` that holds the separator and the pieces holds the
    join. -/
theorem joinSep_closed (M : Bytes → Prop) (nil : M []) (app : ∀ a b, M a → M b → M (a ++ b))
    (sep : Bytes) (hs : M sep) : ∀ xs : List Bytes, (∀ x ∈ xs, M x) → M (joinSep sep xs)
  | [], _ => nil
  | [x], h => h x (by simp)
  | x :: y :: r, h =>
    app _ _ (app _ _ (h x (by simp)) hs)
      (joinSep_closed M nil app sep hs (y :: r) fun z hz => h z (by simp [hz]))

theorem forall_mem_joinSep (Q : UInt8 → Prop) (sep : Bytes) (hs : ∀ c ∈ sep, Q c) (xs : List Bytes)
    (hx : ∀ x ∈ xs, ∀ c ∈ x, Q c) : ∀ c ∈ joinSep sep xs, Q c :=
  joinSep_closed (fun x => ∀ c ∈ x, Q c) (fun _ h => nomatch h)
    (fun _ _ ha hb c hc => (List.mem_append.mp hc).elim (ha c) (hb c)) sep hs xs hx

/-- The text of a well-formed tree is balanced.  `M l m x`: the text `x` leads from nesting level `l`
    to level `m`; inside a group (level `l + 1`) commas and dots are ordinary. -/
theorem canon_balanced (M : Nat → Nat → Bytes → Prop) (nil : ∀ l, M l l [])
    (app : ∀ l m n a b, M l m a → M m n b → M l n (a ++ b))
    (inner : ∀ v, innerOk v = true → ∀ l, M l l v)
    (lb : ∀ l, M l (l + 1) [cLB]) (rb : ∀ l, M (l + 1) l [cRB])
    (comma : ∀ l, M (l + 1) (l + 1) [cComma]) (dot : ∀ l, M (l + 1) (l + 1) [cDot])
    (u : List Part) (hc : canon u = true) : ∀ l, M l l (render u) := by
  refine canon_induct (P := fun u => ∀ l, M l l (render u)) nil
    (fun v hv l => by simpa using inner v (innerLit_ok v hv) l) ?_
    (fun p ps h1 h2 l => by simpa using app l l l _ _ (h1 l) (h2 l)) u hc
  intro s elems _ hel l
  have sep : M (l + 1) (l + 1) (sepOf s) := by
    cases s with
    | false => exact comma l
    | true => exact app _ _ _ [cDot] [cDot] (dot l) (dot l)
  have body := joinSep_closed (M (l + 1) (l + 1)) (nil _) (app _ _ _) _ sep (renderElems elems)
    fun x hx => by
      obtain ⟨e, he, rfl⟩ := mem_renderElems elems x hx
      exact (hel e he).2 _
  simpa [renderPart_brace] using app l _ l [cLB] _ (lb l) (app _ _ _ _ [cRB] body (rb l))

def prep (p : Bytes) : Option (Bytes × Bytes) → Option (Bytes × Bytes)
  | none => none
  | some (a, q) => some (p ++ a, q)

@[simp] theorem prep_nil (o : Option (Bytes × Bytes)) : prep [] o = o := by
  cases o with
  | none => rfl
  | some x => cases x; simp [prep]

theorem prep_prep (p q : Bytes) (o : Option (Bytes × Bytes)) :
    prep p (prep q o) = prep (p ++ q) o := by
  cases o with
  | none => rfl
  | some x => cases x; simp [prep]

/-- The left side is the `cont` of both gobblers. -/
theorem prep_cont (c : UInt8) (o : Option (Bytes × Bytes)) :
    (match o with
      | none => none
      | some (a, p) => some (c :: a, p)) = prep [c] o := by
  cases o with
  | none => rfl
  | some x => cases x; rfl

theorem gc_safe (c : UInt8) (h : safeByte c = true) (l k : Nat) (r : Bytes) :
    gobbleClose l k (c :: r) = prep [c] (gobbleClose l k r) := by
  obtain ⟨h1, h2, h3, h4, h5, h6⟩ := safeByte_ne c h
  rw [gobbleClose.eq_def]
  simp only [h1, h2, h3, h4, h5, h6, false_and, if_false]
  exact prep_cont _ _

theorem gc_lb (l k : Nat) (r : Bytes) :
    gobbleClose l k (cLB :: r) = prep [cLB] (gobbleClose (l + 1) k r) := by
  rw [gobbleClose.eq_def]
  simp
  exact prep_cont _ _

theorem gc_rb_pos (l k : Nat) (r : Bytes) :
    gobbleClose (l + 1) k (cRB :: r) = prep [cRB] (gobbleClose l k r) := by
  rw [gobbleClose.eq_def]
  simp
  exact prep_cont _ _

theorem gc_rb_close (k : Nat) (hk : 0 < k) (r : Bytes) :
    gobbleClose 0 k (cRB :: r) = some ([], r) := by
  rw [gobbleClose.eq_def]
  simp [hk]

theorem gc_comma0 (k : Nat) (r : Bytes) :
    gobbleClose 0 k (cComma :: r) = prep [cComma] (gobbleClose 0 (k + 1) r) := by
  rw [gobbleClose.eq_def]
  simp
  exact prep_cont _ _

theorem gc_comma_pos (l k : Nat) (r : Bytes) :
    gobbleClose (l + 1) k (cComma :: r) = prep [cComma] (gobbleClose (l + 1) k r) := by
  rw [gobbleClose.eq_def]
  simp
  exact prep_cont _ _

theorem gc_dot_pos (l k : Nat) (r : Bytes) :
    gobbleClose (l + 1) k (cDot :: r) = prep [cDot] (gobbleClose (l + 1) k r) := by
  rw [gobbleClose.eq_def]
  simp
  exact prep_cont _ _

theorem gc_dot0_count (k : Nat) (c : UInt8) (r : Bytes) (hc : c ≠ cRB) :
    gobbleClose 0 k (cDot :: cDot :: c :: r) =
      prep [cDot] (gobbleClose 0 (k + 1) (cDot :: c :: r)) := by
  rw [gobbleClose.eq_def]
  simp [hc]
  exact prep_cont _ _

theorem gc_dot0_no (k : Nat) (c : UInt8) (r : Bytes) (hc : c ≠ cDot) :
    gobbleClose 0 k (cDot :: c :: r) = prep [cDot] (gobbleClose 0 k (c :: r)) := by
  rw [gobbleClose.eq_def]
  simp [hc]
  exact prep_cont _ _

theorem gc_inner (v : Bytes) (hv : innerOk v = true) (l k : Nat) (r : Bytes) :
    gobbleClose l k (v ++ r) = prep v (gobbleClose l k r) :=
  passes_inner (gobbleClose l k) prep (fun _ => prep_nil _) (fun a b _ => prep_prep a b _)
    (fun c hc r => gc_safe c hc l k r)
    (fun d hd r => by cases l; exact gc_dot0_no k d r hd; exact gc_dot_pos _ k _) v hv r

def GobSkips (u : List Part) : Prop :=
  ∀ (l k : Nat) (r : Bytes), gobbleClose l k (render u ++ r) = prep (render u) (gobbleClose l k r)

theorem gobSkips : ∀ (u : List Part), canon u = true → GobSkips u := fun u hc l k r =>
  canon_balanced (fun l m x => ∀ r, gobbleClose l k (x ++ r) = prep x (gobbleClose m k r))
    (fun _ _ => (prep_nil _).symm)
    (fun _ _ _ _ _ ha hb r => by rw [List.append_assoc, ha, hb, prep_prep])
    (fun v hv l r => gc_inner v hv l k r) (fun l r => gc_lb l k r) (fun l r => gc_rb_pos l k r)
    (fun l r => gc_comma_pos l k r) (fun l r => gc_dot_pos l k r) u hc l r

theorem gobSkipsPart : ∀ (p : Part), canonPart p = true → GobSkips [p] := fun p hp =>
  gobSkips [p] (canon_single p hp)

theorem safe_head_ne (b : Bytes) (hb : safeLit b = true) :
    ∃ c r, b = c :: r ∧ c ≠ cRB ∧ c ≠ cDot := by
  cases b with
  | nil => simp [safeLit] at hb
  | cons c r =>
    simp only [safeLit, List.isEmpty_cons, Bool.not_false, List.all_cons, Bool.true_and,
      Bool.and_eq_true] at hb
    obtain ⟨_, h2, _, h4, _, _⟩ := safeByte_ne c hb.1
    exact ⟨c, r, rfl, h2, h4⟩

/-- At level 0 a separator counts: a comma, or a `..` that neither `}` nor a third dot follows. -/
theorem gc_sep0 (s : Bool) (k : Nat) (x : Bytes)
    (hx : s = true → ∃ c t, x = c :: t ∧ c ≠ cRB ∧ c ≠ cDot) :
    gobbleClose 0 k (sepOf s ++ x) = prep (sepOf s) (gobbleClose 0 (k + 1) x) := by
  cases s with
  | false => exact gc_comma0 k x
  | true =>
    obtain ⟨c, t, rfl, h1, h2⟩ := hx rfl
    rw [sepOf, if_pos rfl, dots, List.cons_append, List.cons_append, List.nil_append,
      gc_dot0_count k c t h1, gc_dot0_no _ c t h2, prep_prep]
    rfl

/-- `hk`: the closing brace is accepted only once a separator has been counted. -/
theorem gc_group0 (s : Bool) (es : List (List Part))
    (hes : ∀ e ∈ es, GobSkips e ∧ (s = true → ∃ c t, render e = c :: t ∧ c ≠ cRB ∧ c ≠ cDot))
    (e : List Part) (he : GobSkips e) (k : Nat) (hk : 0 < k ∨ es ≠ []) (post : Bytes) :
    gobbleClose 0 k (joinSep (sepOf s) (render e :: renderElems es) ++ cRB :: post) =
      some (joinSep (sepOf s) (render e :: renderElems es), post) := by
  induction es generalizing e k with
  | nil =>
    rw [renderElems_nil, joinSep, he,
      gc_rb_close k (by rcases hk with h | h; exact h; exact absurd rfl h)]
    simp [prep]
  | cons e' es' ih =>
    have h' := hes e' (by simp)
    rw [renderElems_cons, joinSep, List.append_assoc, List.append_assoc, he,
      gc_sep0 s k _ (fun hs => by
        obtain ⟨c, t, hc, h⟩ := h'.2 hs
        cases es' with
        | nil => exact ⟨c, _, by rw [renderElems_nil, joinSep, hc]; rfl, h⟩
        | cons e'' es'' =>
          exact ⟨c, _, by rw [renderElems_cons, joinSep, hc]; rfl, h⟩),
      ih (fun x hx => hes x (by simp [hx])) e' h'.1 (k + 1) (Or.inl (by omega))]
    simp [prep]

theorem go_top (c : UInt8) (h : topByte c = true) (b : Bool) (r : Bytes) :
    gobbleOpen b 0 (c :: r) = prep [c] (gobbleOpen false 0 r) := by
  obtain ⟨h1, h2, h3⟩ := topByte_ne c h
  rw [gobbleOpen.eq_def]
  simp only [h1, h2, h3, false_and, if_false, Nat.lt_irrefl, and_false]
  exact prep_cont _ _

theorem go_lb (b : Bool) (r : Bytes) (h : ¬ (b = true ∧ (r = [] ∨ r.head? = some cRB))) :
    gobbleOpen b 0 (cLB :: r) = some ([], r) := by
  rw [gobbleOpen.eq_def]
  simp [h]

theorem go_tops_none (v : Bytes) (hv : v.all topByte = true) (b : Bool) :
    gobbleOpen b 0 v = none := by
  induction v generalizing b with
  | nil => rw [gobbleOpen.eq_def]
  | cons c v ih =>
    simp only [List.all_cons, Bool.and_eq_true] at hv
    rw [go_top c hv.1, ih hv.2]; rfl

theorem go_tops_lb (v : Bytes) (hv : v.all topByte = true) (b : Bool) (r : Bytes)
    (h : v = [] → ¬ (b = true ∧ (r = [] ∨ r.head? = some cRB))) :
    gobbleOpen b 0 (v ++ cLB :: r) = some (v, r) := by
  induction v generalizing b with
  | nil => simp only [List.nil_append]; exact go_lb b r (h rfl)
  | cons c v ih =>
    simp only [List.all_cons, Bool.and_eq_true] at hv
    rw [List.cons_append, go_top c hv.1, ih hv.2 false (by intro _; simp)]
    simp [prep]

theorem all_top_of_safe (v : Bytes) (hv : v.all safeByte = true) : v.all topByte = true :=
  List.all_eq_true.mpr fun c hc => safeByte_top c (List.all_eq_true.mp hv c hc)

theorem go_safes_lb (v : Bytes) (hv : v.all safeByte = true) (b : Bool) (r : Bytes)
    (h : v = [] → ¬ (b = true ∧ (r = [] ∨ r.head? = some cRB))) :
    gobbleOpen b 0 (v ++ cLB :: r) = some (v, r) :=
  go_tops_lb v (all_top_of_safe v hv) b r h

theorem findBrace_top (n : Nat) (b : Bool) (v : Bytes) (hv : v.all topByte = true) :
    findBrace n b v = none := by
  cases n with
  | zero => simp [findBrace]
  | succ n => simp only [findBrace, go_tops_none v hv b]

theorem findBrace_safe (n : Nat) (b : Bool) (v : Bytes) (hv : v.all safeByte = true) :
    findBrace n b v = none :=
  findBrace_top n b v (all_top_of_safe v hv)

theorem findBrace_hit (n : Nat) (b : Bool) (text pre after amble post : Bytes)
    (h1 : gobbleOpen b 0 text = some (pre, after))
    (h2 : gobbleClose 0 0 after = some (amble, post)) :
    findBrace (n + 1) b text = some (pre, amble, post) := by
  simp only [findBrace, h1, h2]

theorem hc_safe (c : UInt8) (h : c ≠ cBS) (h' : c ≠ cComma) (r : Bytes) :
    hasComma (c :: r) = hasComma r := by
  rw [hasComma.eq_def]; simp [h, h']

theorem hc_comma (r : Bytes) : hasComma (cComma :: r) = true := by
  rw [hasComma.eq_def]; simp

def noBS (v : Bytes) : Prop := ∀ c ∈ v, c ≠ cBS

theorem hc_prefix (x : Bytes) (hx : noBS x) (y : Bytes) : hasComma (x ++ cComma :: y) = true := by
  induction x with
  | nil => exact hc_comma y
  | cons c x ih =>
    rw [List.cons_append, hasComma.eq_def]
    have : c ≠ cBS := hx c (by simp)
    simp only [this, if_false]
    split
    · rfl
    · exact ih (fun d hd => hx d (by simp [hd]))

theorem hc_none (x : Bytes) (hx : ∀ c ∈ x, c ≠ cBS ∧ c ≠ cComma) : hasComma x = false := by
  induction x with
  | nil => rw [hasComma.eq_def]
  | cons c x ih =>
    rw [hc_safe c (hx c (by simp)).1 (hx c (by simp)).2]
    exact ih (fun d hd => hx d (by simp [hd]))

theorem noBSWord (u : List Part) (hc : canon u = true) : noBS (render u) :=
  canon_balanced (fun _ _ x => ∀ c ∈ x, c ≠ cBS) (fun _ _ h => nomatch h)
    (fun _ _ _ _ _ ha hb c hc => (List.mem_append.mp hc).elim (ha c) (hb c))
    (fun v hv _ c hc => by
      rcases innerOk_bytes v hv c hc with h1 | rfl
      · exact (safeByte_ne c h1).2.2.2.2.1
      · decide)
    (fun _ => by decide) (fun _ => by decide) (fun _ => by decide) (fun _ => by decide) u hc 0

theorem noBSPart : ∀ (p : Part), canonPart p = true → noBS (renderPart p) := fun p hp => by
  have := noBSWord [p] (canon_single p hp)
  rwa [render_cons, render_nil, List.append_nil] at this

theorem noBSElems : ∀ (es : List (List Part)), canonElems es = true →
    ∀ x ∈ renderElems es, noBS x := fun es h x hx => by
  obtain ⟨e, he, rfl⟩ := mem_renderElems es x hx
  exact noBSWord e (canonElems_mem es h e he)

def prepHead (p : Bytes) : List Bytes → List Bytes
  | [] => [p]
  | x :: xs => (p ++ x) :: xs

@[simp] theorem prepHead_nil_left (l : List Bytes) (h : l ≠ []) : prepHead [] l = l := by
  cases l with
  | nil => exact absurd rfl h
  | cons x xs => simp [prepHead]

/-- Every branch of `splitAmble` returns a non-empty list, directly or after a `match`. -/
theorem splitAmble_ne_nil (l : Nat) (r : Bytes) : splitAmble l r ≠ [] := by
  fun_cases splitAmble l r <;> (try dsimp +zetaDelta only) <;> (try split) <;>
    exact List.cons_ne_nil _ _

theorem prepHead_prepHead (p q : Bytes) (l : List Bytes) :
    prepHead p (prepHead q l) = prepHead (p ++ q) l := by
  cases l <;> simp [prepHead]

/-- The left side is the `cont` of `splitAmble`. -/
theorem prepHead_cont (c : UInt8) (l : List Bytes) :
    (match l with
      | [] => [[c]]
      | p :: ps => (c :: p) :: ps) = prepHead [c] l := by
  cases l <;> rfl

theorem sa_plain (c : UInt8) (h1 : c ≠ cBS) (h2 : c ≠ cDollar) (h3 : c ≠ cComma) (h4 : c ≠ cLB)
    (h5 : c ≠ cRB) (l : Nat) (r : Bytes) :
    splitAmble l (c :: r) = prepHead [c] (splitAmble l r) := by
  rw [splitAmble.eq_def]
  simp only [h1, h2, h3, h4, h5, false_and, if_false]
  exact prepHead_cont _ _

theorem sa_safe (c : UInt8) (h : safeByte c = true) (l : Nat) (r : Bytes) :
    splitAmble l (c :: r) = prepHead [c] (splitAmble l r) := by
  obtain ⟨h1, h2, h3, h4, h5, h6⟩ := safeByte_ne c h
  exact sa_plain c h5 h6 h3 h1 h2 l r

theorem sa_dot (l : Nat) (r : Bytes) :
    splitAmble l (cDot :: r) = prepHead [cDot] (splitAmble l r) :=
  sa_plain cDot (by decide) (by decide) (by decide) (by decide) (by decide) l r

theorem sa_lb (l : Nat) (r : Bytes) :
    splitAmble l (cLB :: r) = prepHead [cLB] (splitAmble (l + 1) r) := by
  rw [splitAmble.eq_def]
  simp
  exact prepHead_cont _ _

theorem sa_rb_pos (l : Nat) (r : Bytes) :
    splitAmble (l + 1) (cRB :: r) = prepHead [cRB] (splitAmble l r) := by
  rw [splitAmble.eq_def]
  simp
  exact prepHead_cont _ _

theorem sa_comma0 (r : Bytes) : splitAmble 0 (cComma :: r) = [] :: splitAmble 0 r := by
  rw [splitAmble.eq_def]
  simp

theorem sa_comma_pos (l : Nat) (r : Bytes) :
    splitAmble (l + 1) (cComma :: r) = prepHead [cComma] (splitAmble (l + 1) r) := by
  rw [splitAmble.eq_def]
  simp
  exact prepHead_cont _ _

theorem sa_inner (v : Bytes) (hv : innerOk v = true) (l : Nat) (r : Bytes) :
    splitAmble l (v ++ r) = prepHead v (splitAmble l r) :=
  passes_inner (splitAmble l) prepHead (fun _ => prepHead_nil_left _ (splitAmble_ne_nil _ _))
    (fun a b _ => prepHead_prepHead a b _) (fun c hc r => sa_safe c hc l r)
    (fun _ _ _ => sa_dot l _) v hv r

def AmbleSkips (u : List Part) : Prop :=
  ∀ (l : Nat) (r : Bytes), splitAmble l (render u ++ r) = prepHead (render u) (splitAmble l r)

theorem ambleSkips (u : List Part) (hc : canon u = true) : AmbleSkips u := fun l r =>
  canon_balanced (fun l m x => ∀ r, splitAmble l (x ++ r) = prepHead x (splitAmble m r))
    (fun _ _ => (prepHead_nil_left _ (splitAmble_ne_nil _ _)).symm)
    (fun _ _ _ _ _ ha hb r => by rw [List.append_assoc, ha, hb, prepHead_prepHead])
    (fun v hv l r => sa_inner v hv l r) sa_lb sa_rb_pos sa_comma_pos (fun l r => sa_dot (l + 1) r)
    u hc l r

theorem ambleSkipsPart : ∀ (p : Part), canonPart p = true → AmbleSkips [p] := fun p hp =>
  ambleSkips [p] (canon_single p hp)

theorem sa_list0 (es : List (List Part)) (hes : ∀ e ∈ es, AmbleSkips e) (e : List Part)
    (he : AmbleSkips e) :
    splitAmble 0 (joinSep [cComma] (render e :: renderElems es)) = render e :: renderElems es := by
  induction es generalizing e with
  | nil =>
    have := he 0 []
    simp only [List.append_nil] at this
    simp only [renderElems_nil, joinSep, this]
    rw [splitAmble.eq_def]
    simp [prepHead]
  | cons e' es' ih =>
    simp only [renderElems_cons, joinSep, List.append_assoc]
    rw [he, List.singleton_append, sa_comma0,
      ih (fun x hx => hes x (by simp [hx])) e' (hes e' (by simp))]
    simp [prepHead]

theorem bashRec_nil (fuel : Nat) : bashRec fuel [] = [[]] := by
  cases fuel with
  | zero => simp [bashRec]
  | succ n =>
    simp only [bashRec, List.length_nil, Nat.zero_add]
    have : findBrace 1 true [] = none := by
      simp only [findBrace]
      rw [gobbleOpen.eq_def]
    rw [this]

theorem bashRec_hit (fuel : Nat) (text pre amble post : Bytes)
    (h : findBrace (text.length + 1) true text = some (pre, amble, post)) :
    bashRec (fuel + 1) text =
      cross ((if hasComma amble then (splitAmble 0 amble).flatMap (bashRec fuel)
              else match seqTerm amble with
                | some s => s.list
                | none => [cLB :: (amble ++ [cRB])]).map fun t => pre ++ t)
        (if post = [] then [[]] else bashRec fuel post) := by
  simp only [bashRec, h]
  rfl

theorem canonTop_split (a : List Part) (s : Bool) (e : List Word) (b : List Part)
    (h : canonTop (a ++ .brace s e :: b) = true) :
    (∀ q ∈ a, canonTopPart q = true) ∧ canonPart (.brace s e) = true ∧ canonTop b = true := by
  induction a with
  | nil =>
    obtain ⟨h1, h2, _⟩ := canonTop_cons _ b h
    exact ⟨by simp, h1, h2⟩
  | cons x xs ih =>
    obtain ⟨h1, h2, _⟩ := canonTop_cons x (xs ++ .brace s e :: b) h
    obtain ⟨i1, i2, i3⟩ := ih h2
    exact ⟨List.forall_mem_cons.2 ⟨h1, i1⟩, i2, i3⟩

theorem joinSep_length_mem (sep : Bytes) (xs : List Bytes) (x : Bytes) (hx : x ∈ xs) :
    x.length ≤ (joinSep sep xs).length := by
  induction xs with
  | nil => cases hx
  | cons y ys ih =>
    cases ys with
    | nil =>
      simp only [List.mem_singleton] at hx
      subst hx; simp [joinSep]
    | cons z zs =>
      simp only [joinSep, List.length_append]
      simp only [List.mem_cons] at hx ih
      rcases hx with rfl | hx
      · omega
      · have := ih hx; omega

theorem canon_head_ne_rb (u : List Part) (hc : canon u = true) (c : UInt8) (r : Bytes)
    (h : render u = c :: r) : c ≠ cRB := by
  cases u with
  | nil => simp at h
  | cons p ps =>
    obtain ⟨hp, _, _⟩ := canon_cons p ps hc
    cases p with
    | lit v =>
      simp only [canonPart] at hp
      cases v with
      | nil => simp [innerLit] at hp
      | cons x y =>
        simp only [render_cons, renderPart_lit, List.cons_append, List.cons.injEq] at h
        rw [← h.1]
        rcases innerOk_bytes (x :: y) (innerLit_ok _ hp) x (by simp) with h1 | h1
        · exact (safeByte_ne x h1).2.1
        · rw [h1]; decide
    | brace s e =>
      simp only [render_cons, renderPart_brace, List.cons_append, List.cons.injEq] at h
      rw [← h.1]; decide

theorem seqAgree_list (elems : List Word) (h : seqAgree elems = true) :
    ∃ s, seqTerm (joinSep dots (renderElems elems)) = some s ∧ s.list = seqTexts elems := by
  unfold seqAgree at h
  cases hs : seqTerm (joinSep dots (renderElems elems)) with
  | none => simp [hs] at h
  | some s =>
    cases hp : seqParams elems with
    | none => simp [hs, hp] at h
    | some sp =>
      simp only [hs, hp, Bool.and_eq_true, beq_iff_eq] at h
      obtain ⟨⟨⟨⟨h1, h2⟩, h3⟩, h4⟩, h5⟩ := h
      refine ⟨s, rfl, ?_⟩
      simp only [SeqSpec.list, seqTexts, hp, h2, h3, h5]
      congr 1
      funext n
      simp [SeqSpec.fmt, fmtSeq, h1, h4]

theorem findBrace_group (s : Bool) (pre : Bytes) (e e' : Word) (es : List Word) (post : Bytes)
    (n : Nat) (hpre : pre.all topByte = true) (hcp : canonPart (.brace s (e :: e' :: es)) = true) :
    findBrace (n + 1) true
      (pre ++ cLB :: (joinSep (sepOf s) (render e :: renderElems (e' :: es)) ++ cRB :: post)) =
      some (pre, joinSep (sepOf s) (render e :: renderElems (e' :: es)), post) := by
  have hmem := canon_of_mem_group s _ hcp
  have hgs : ∀ x ∈ e :: e' :: es, GobSkips x := fun x hx => gobSkips x (hmem x hx)
  refine findBrace_hit n true _ _ _ _ _ (go_tops_lb _ hpre true _ fun _ hbad => ?_)
    (gc_group0 s (e' :: es) (fun x hx => ⟨hgs x (by simp [hx]), ?_⟩) e (hgs e (by simp)) 0
      (Or.inr (by simp)) post)
  · -- the group is neither `{}` nor a lone `{`: its text starts with that of `e` or with a separator
    rw [renderElems_cons, joinSep, List.append_assoc, List.append_assoc] at hbad
    cases hre : render e with
    | nil =>
      rw [hre] at hbad
      cases s <;> simp [sepOf, dots] at hbad
    | cons c r =>
      rw [hre] at hbad
      simp only [List.cons_append, List.head?_cons, Option.some.injEq, reduceCtorEq,
        false_or] at hbad
      exact canon_head_ne_rb e (hmem e (by simp)) c r hre hbad.2
  · rintro rfl
    simp only [canonPart, if_true, Bool.and_eq_true] at hcp
    obtain ⟨v, rfl, hv⟩ := seqShape_mem _ hcp.2 x (by simp [hx])
    obtain ⟨c, t, rfl, h⟩ := safe_head_ne v hv
    exact ⟨c, t, by simp, h⟩

theorem bash_canonTop : ∀ (fuel : Nat) (t : List Part), canonTop t = true →
    (render t).length < fuel → bashRec fuel (render t) = denot t := by
  intro fuel
  induction fuel with
  | zero => intro t _ h; omega
  | succ fuel ih =>
    intro t hc hlen
    cases hsp : splitAtBrace t with
    | mk left o =>
      cases o with
      | none =>
        obtain ⟨rfl, hall⟩ := splitAtBrace_none t left hsp
        simp only [bashRec, findBrace_top _ _ _ (render_lits_top left hall (canonTop_parts left hc))]
        rw [denot_allLit left hall]
      | some tr =>
        obtain ⟨s, elems, rest⟩ := tr
        obtain ⟨rfl, hleft⟩ := splitAtBrace_some t left s elems rest hsp
        obtain ⟨hcl, hcp, hcr⟩ := canonTop_split left s elems rest hc
        obtain ⟨e, e', es, rfl⟩ := canonPart_brace_two s elems hcp
        have hmem := canon_of_mem_group s _ hcp
        have htext : render (left ++ Part.brace s (e :: e' :: es) :: rest) =
            render left ++ cLB :: (joinSep (sepOf s) (render e :: renderElems (e' :: es)) ++
              cRB :: render rest) := by
          simp [render_append, renderPart_brace]
        rw [htext] at hlen ⊢
        have hfind := fun n => findBrace_group s (render left) e e' es (render rest) n
          (render_lits_top left hleft hcl) hcp
        have hpost : (if render rest = [] then [[]] else bashRec fuel (render rest)) = denot rest := by
          have := ih rest hcr (by simp only [List.length_append, List.length_cons] at hlen; omega)
          split
          · rename_i he
            rwa [he, bashRec_nil] at this
          · exact this
        rw [bashRec_hit fuel _ _ _ _ (hfind _), hpost, denot_split left hleft, cross_map_left]
        congr 2
        cases s with
        | false =>
          -- a list: the amble has a comma and splits into the texts of the alternatives
          have hcomma : hasComma (joinSep (sepOf false) (render e :: renderElems (e' :: es))) = true := by
            rw [renderElems_cons, joinSep, List.append_assoc]
            exact hc_prefix _ (noBSWord e (hmem e (by simp))) _
          rw [hcomma, if_pos rfl, sepOf, if_neg (by decide),
            sa_list0 (e' :: es) (fun x hx => ambleSkips x (hmem x (by simp [hx]))) e
              (ambleSkips e (hmem e (by simp))),
            ← renderElems_cons]
          -- every piece is shorter than the text: the recursive calls yield the denotations
          have key : ∀ (xs : List (List Part)), (∀ x ∈ xs, x ∈ e :: e' :: es) →
              (renderElems xs).flatMap (bashRec fuel) = denotElems xs := by
            intro xs
            induction xs with
            | nil => intro _; rfl
            | cons x xs ihx =>
              intro hx
              have hxm := hx x (by simp)
              have hl := joinSep_length_mem [cComma] _ _
                (renderElems_eq_map _ ▸ List.mem_map_of_mem (f := render) hxm)
              rw [renderElems_cons, List.flatMap_cons, denotElems_cons,
                ih x (canon_canonTop x (hmem x hxm)) (by
                  simp only [List.length_append, List.length_cons, sepOf, ← renderElems_cons] at hlen
                  simp only [Bool.false_eq_true, if_false] at hlen
                  omega),
                ihx (fun y hy => hx y (by simp [hy]))]
          rw [key _ (fun x hx => hx)]
          simp [denotPart]
        | true =>
          -- a sequence: no comma, and `expand_seqterm` reads what `bracesSeqRec` computes
          simp only [canonPart, if_true, Bool.and_eq_true] at hcp
          obtain ⟨sp, hst, hsl⟩ := seqAgree_list _ (seqAgree_of_valid _ hcp.1 hcp.2)
          have hnc : hasComma (joinSep (sepOf true) (render e :: renderElems (e' :: es))) = false := by
            refine hc_none _ (forall_mem_joinSep (fun c => c ≠ cBS ∧ c ≠ cComma) _ (by decide) _ ?_)
            intro x hx c hc
            obtain ⟨y, hy, rfl⟩ := mem_renderElems (e :: e' :: es) x hx
            obtain ⟨v, rfl, hv⟩ := seqShape_mem _ hcp.2 y hy
            have := safeByte_ne c (List.all_eq_true.mp (safeLit_all v hv) c (by simpa using hc))
            exact ⟨this.2.2.2.2.1, this.2.2.1⟩
          rw [hnc]
          simp only [Bool.false_eq_true, if_false, sepOf, if_true, ← renderElems_cons, hst, hsl,
            denotPart]

theorem seqSpec_list_length (s : SeqSpec) : s.list.length = s.count := by
  simp [SeqSpec.list, SeqSpec.count, idealSeq, arith_length]

theorem bashCountRec_eq : ∀ (fuel : Nat) (text : Bytes),
    bashCountRec fuel text = (bashRec fuel text).length := by
  intro fuel
  induction fuel with
  | zero => intro text; simp [bashCountRec, bashRec]
  | succ fuel ih =>
    intro text
    simp only [bashCountRec, bashRec]
    cases findBrace (text.length + 1) true text with
    | none => simp
    | some tr =>
      obtain ⟨pre, amble, post⟩ := tr
      simp only [cross_length, List.length_map]
      congr 1
      · split
        · rw [List.length_flatMap]
          congr 1
          apply List.map_congr_left
          intro x _
          exact ih x
        · split
          · exact (seqSpec_list_length _).symm
          · simp
      · split
        · simp
        · exact ih post

end ShVerif.C16
