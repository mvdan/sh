/-
  L4: the tree the model parser builds *is* its token stream.  `ftoks` flattens a tree back into
  positioned tokens (`!`, words, operators, `( ) { }`, `;` / `&`); `parse_flatten` says that for
  every input the token stream of the lexer without its newline tokens is the flattened tree
  followed by a tail that is empty or starts with `eof` — no token is lost, invented, reordered or
  moved, and every position in the tree is the position of the token it came from.  By induction
  over the rules of the grammar (L4Gram); what is used of the lexer: `lexAll_ok2`.
-/
import ShVerif.Proofs.L4LexLines
import ShVerif.Proofs.L4Gram
namespace ShVerif.L4

mutual
def Stmt.ftoks : Stmt → List TokPos
  | .mk pos semi neg bg cmd =>
    (if neg then [rsrvTok 33 pos] else []) ++ (cmd.ftoks ++ (if semi.valid then [((if bg then Tok.amp else Tok.semi), semi)] else []))
def Cmd.ftoks : Cmd → List TokPos
  | .call args => args.map (fun w => (Tok.word w (litWord? w.parts), (w.pos?).getD Pos.zero))
  | .subshell lp rp ss => (Tok.lparen, lp) :: (ss.ftoks ++ [(Tok.rparen, rp)])
  | .block lb rb ss => rsrvTok 123 lb :: (ss.ftoks ++ [rsrvTok 125 rb])
  | .binary opPos op x y => x.ftoks ++ ((op.tok, opPos) :: y.ftoks)
def Stmts.ftoks : Stmts → List TokPos
  | .nil => []
  | .cons s r => s.ftoks ++ r.ftoks
end

def dropNl (toks : List TokPos) : List TokPos := toks.filter (fun tp => tp.1 != .newl)

def AllOK2 (ps : PS) : Prop := ∀ tp ∈ ps.toks, tp.ok2

theorem AllOK2.of_toks {ps : PS} {tp : TokPos} {rest : List TokPos} (h : AllOK2 ps) (e : ps.toks = tp :: rest) :
    tp.ok2 ∧ AllOK2 ⟨rest⟩ :=
  ⟨h tp (by rw [e]; simp), fun x hx => h x (by rw [e]; exact List.mem_cons_of_mem _ hx)⟩

theorem AllOK2.next {ps : PS} (h : AllOK2 ps) : AllOK2 ps.next := fun tp htp => h tp (List.mem_of_mem_tail htp)

def wtok (w : Word) : TokPos := (Tok.word w (litWord? w.parts), (w.pos?).getD Pos.zero)
def sftoks (l : List Stmt) : List TokPos := l.flatMap Stmt.ftoks

theorem dropNl_cons (tp : TokPos) (rest : List TokPos) (h : tp.1 ≠ .newl) : dropNl (tp :: rest) = tp :: dropNl rest := by
  simp [dropNl, h]

theorem dropNl_gotNewl (ps : PS) : dropNl ps.gotNewl.2.toks = dropNl ps.toks ∧ (AllOK2 ps → AllOK2 ps.gotNewl.2) := by
  unfold PS.gotNewl
  split
  · rename_i h
    obtain ⟨p, rest, e1, _, e3⟩ := PS.tok_toks (by simpa using h : ps.tok = .newl) (by simp)
    rw [e3, e1]
    exact ⟨by simp [dropNl], fun hk => (hk.of_toks e1).2⟩
  · exact ⟨rfl, id⟩

theorem mkStmt_ftoks (pos : Pos) (neg : Bool) (c : Cmd) :
    (mkStmt pos neg c).ftoks = (if neg then [rsrvTok 33 pos] else []) ++ c.ftoks := by
  simp [mkStmt, Stmt.ftoks, Pos.zero, Pos.valid]

theorem ok2_rsrv {w : Word} {b : UInt8} {p : Pos} (h : TokPos.ok2 (Tok.word w (some [b]), p))
    (hb : b = 123 ∨ b = 125 ∨ b = 33) : (Tok.word w (some [b]), p) = rsrvTok b p := by
  rcases h.2 with hk | ⟨b', hb', e⟩
  · exfalso
    obtain ⟨h1, h2, h3⟩ := hk.2.2.2 [b] rfl
    rcases hb with rfl | rfl | rfl
    · exact h1 rfl
    · exact h2 rfl
    · exact h3 rfl
  · have e' := e
    simp only [rsrvTok, Prod.mk.injEq, Tok.word.injEq, Option.some.injEq, List.cons.injEq, and_true] at e'
    cases e'.2
    exact e

theorem ok2_word {w : Word} {lit : Option Bytes} {p : Pos} (h : TokPos.ok2 (Tok.word w lit, p)) (hv : plainLit lit) :
    (Tok.word w lit, p) = wtok w := by
  rcases h.2 with hk | ⟨b, hb, e⟩
  · simp only [wtok, hk.2.1, hk.2.2.1, Option.getD_some]
  · exfalso
    simp only [rsrvTok, Prod.mk.injEq, Tok.word.injEq, and_true] at e
    refine hv [b] e.2 ?_
    rcases hb with rfl | rfl | rfl <;> simp

theorem ofList_ftoks : ∀ l : List Stmt, (Stmts.ofList l).ftoks = sftoks l
  | [] => by simp [Stmts.ofList, Stmts.ftoks, sftoks]
  | s :: r => by simp [Stmts.ofList, Stmts.ftoks, sftoks, ofList_ftoks r]

theorem mkStmt_cmd (pos : Pos) (neg : Bool) (c : Cmd) : (mkStmt pos neg c).cmd = c := rfl
theorem mkStmt_pos (pos : Pos) (neg : Bool) (c : Cmd) : (mkStmt pos neg c).pos = pos := rfl
theorem mkStmt_negated (pos : Pos) (neg : Bool) (c : Cmd) : (mkStmt pos neg c).negated = neg := rfl

theorem setNeg_ftoks (s : Stmt) (h : s = mkStmt s.pos s.negated s.cmd) : (s.setNeg false).ftoks = s.cmd.ftoks := by
  rw [h]
  simp [mkStmt, Stmt.setNeg, Stmt.ftoks, Pos.zero, Pos.valid, Stmt.cmd]

theorem setEnd_ftoks (s : Stmt) (q : Pos) (bg : Bool) (hs : s.semi.valid = false) (hq : q.valid = true) :
    (s.setEnd q bg).ftoks = s.ftoks ++ [((if bg then Tok.amp else Tok.semi), q)] := by
  obtain ⟨p, sm, n, b, c⟩ := s
  simp only [Stmt.semi] at hs
  simp [Stmt.setEnd, Stmt.ftoks, hs, hq, List.append_assoc]

theorem mkStmt_semi (pos : Pos) (neg : Bool) (c : Cmd) : (mkStmt pos neg c).semi.valid = false := rfl

theorem sftoks_append (a b : List Stmt) : sftoks (a ++ b) = sftoks a ++ sftoks b := by
  simp [sftoks, List.flatMap_append]

theorem GArgs.flat {ps : PS} {ws : List Word} {ps' : PS} (h : GArgs ps ws ps') :
    AllOK2 ps → AllOK2 ps' ∧ dropNl ps.toks = ws.map wtok ++ dropNl ps'.toks := by
  induction h with
  | nil => exact fun hok => ⟨hok, rfl⟩
  | cons hp _ ih =>
    intro hok
    obtain ⟨htok, hrest⟩ := hok.of_toks rfl
    obtain ⟨r1, r2⟩ := ih hrest
    exact ⟨r1, by rw [dropNl_cons _ _ (by simp), ok2_word htok hp, r2]; rfl⟩

/-- By the recursor of the mutual rules, applied once with one statement per kind of derivation
    (`GFirst`, `GPipe`, `GNeg`, `GAndOr`, `GStmt`, `GStmts` in this order).  A `mutual theorem` block by
    structural recursion over the derivations is accepted as well but takes several times as long to
    check; the price of the recursor is that only the instance for `GStmts` comes out, which is the
    one the theorems about `parse` need. -/
theorem GStmts.flat {ps : PS} {ss : List Stmt} {ps' : PS} (h : GStmts ps ss ps') : AllOK2 ps →
    AllOK2 ps' ∧ dropNl ps.toks = sftoks ss ++ dropNl ps'.toks := by
  refine GStmts.rec
    (motive_1 := fun ps c ps' _ => AllOK2 ps → AllOK2 ps' ∧ dropNl ps.toks = c.ftoks ++ dropNl ps'.toks)
    (motive_2 := fun _ ps c ps' _ => AllOK2 ps → AllOK2 ps' ∧ dropNl ps.toks = c.ftoks ++ dropNl ps'.toks)
    (motive_3 := fun ps s ps' _ => AllOK2 ps →
      AllOK2 ps' ∧ dropNl ps.toks = s.ftoks ++ dropNl ps'.toks ∧ s.semi.valid = false)
    (motive_4 := fun ps s ps' _ => AllOK2 ps →
      AllOK2 ps' ∧ dropNl ps.toks = s.ftoks ++ dropNl ps'.toks ∧ s.semi.valid = false)
    (motive_5 := fun ps s ps' _ => AllOK2 ps → AllOK2 ps' ∧ dropNl ps.toks = s.ftoks ++ dropNl ps'.toks)
    (motive_6 := fun ps ss ps' _ => AllOK2 ps → AllOK2 ps' ∧ dropNl ps.toks = sftoks ss ++ dropNl ps'.toks)
    ?call ?subshell ?block ?first ?pipe ?neg ?one ?op ?bare ?term ?nil ?cons h
  case call =>
    intro ps w ws ps' ha hok
    exact ha.flat hok
  case subshell =>
    intro lp rest ss rp rest' _ _ ih hok
    obtain ⟨r1, r2⟩ := ih (hok.of_toks rfl).2
    refine ⟨(r1.of_toks rfl).2, ?_⟩
    rw [dropNl_cons _ _ (by simp), r2, dropNl_cons _ _ (by simp)]
    simp [Cmd.ftoks, ofList_ftoks]
  case block =>
    intro w lb rest ss w' rb rest' _ _ ih hok
    obtain ⟨htok, hrest⟩ := hok.of_toks rfl
    obtain ⟨r1, r2⟩ := ih hrest
    obtain ⟨hk2, hrest2⟩ := r1.of_toks rfl
    refine ⟨hrest2, ?_⟩
    rw [dropNl_cons _ _ (by simp), ok2_rsrv htok (.inl rfl), r2, dropNl_cons _ _ (by simp), ok2_rsrv hk2 (.inr (.inl rfl))]
    simp [Cmd.ftoks, ofList_ftoks]
  case first =>
    intro pos ps c ps' _ ih
    exact ih
  case pipe =>
    intro pos ps c q rest cy ps' _ _ ihx ihy hok
    obtain ⟨x1, x2⟩ := ihx hok
    obtain ⟨g1, g2⟩ := dropNl_gotNewl ⟨rest⟩
    obtain ⟨y1, y2⟩ := ihy (g2 (x1.of_toks rfl).2)
    refine ⟨y1, ?_⟩
    rw [x2, dropNl_cons _ _ (by simp), ← g1, y2]
    simp [Cmd.ftoks, mkStmt_ftoks, BinOp.tok]
  case neg =>
    intro ps c ps' _ ih hok
    obtain ⟨r1, r2⟩ := ih (by split; exact hok.next; exact hok)
    rw [mkStmt_ftoks]
    cases hneg : ps.tok.isLit [33] with
    | true =>
      obtain ⟨w, p, rest, e1, e2, e3⟩ := PS.isLit_toks hneg
      rw [hneg, if_pos rfl, e3] at r2
      refine ⟨r1, ?_, rfl⟩
      rw [e1, dropNl_cons _ _ (by simp), ok2_rsrv (hok.of_toks e1).1 (.inr (.inr rfl)), ← e2, r2]
      rfl
    | false =>
      rw [hneg, if_neg Bool.false_ne_true] at r2
      exact ⟨r1, r2, rfl⟩
  case one =>
    intro ps s ps' _ ih
    exact ih
  case op =>
    intro ps x op q rest y ps' hop _ _ ihx ihy hok
    obtain ⟨x1, x2, _⟩ := ihx hok
    obtain ⟨g1, g2⟩ := dropNl_gotNewl ⟨rest⟩
    obtain ⟨y1, y2, _⟩ := ihy (g2 (x1.of_toks rfl).2)
    refine ⟨y1, ?_, rfl⟩
    rw [x2, dropNl_cons _ _ (by cases op <;> simp [BinOp.tok]), ← g1, y2, mkStmt_ftoks]
    simp [Cmd.ftoks]
  case bare =>
    intro ps s ps' _ ih hok
    exact ⟨(ih hok).1, (ih hok).2.1⟩
  case term =>
    intro ps s bg q rest _ ih hok
    obtain ⟨r1, r2, r3⟩ := ih hok
    obtain ⟨hk, hrest⟩ := r1.of_toks rfl
    refine ⟨hrest, ?_⟩
    rw [r2, dropNl_cons _ _ (by cases bg <;> simp), setEnd_ftoks s q bg r3 hk.1]
    simp
  case nil =>
    intro ps ps' h hok
    obtain ⟨g1, g2⟩ := dropNl_gotNewl ps
    rcases h with rfl | rfl
    · exact ⟨hok, rfl⟩
    · exact ⟨g2 hok, g1.symm⟩
  case cons =>
    intro ps s ps2 ss ps' _ _ ihs ihr hok
    obtain ⟨g1, g2⟩ := dropNl_gotNewl ps
    obtain ⟨s1, s2⟩ := ihs (g2 hok)
    obtain ⟨r1, r2⟩ := ihr s1
    exact ⟨r1, by rw [← g1, s2, r2]; simp [sftoks]⟩

theorem parse_flatten (l : Lang) (src : Bytes) (f : File) (h : parse l src = .ok f) :
    ∃ tail, dropNl (lexAll src) = f.stmts.ftoks ++ tail ∧ ∀ tp, tail.head? = some tp → tp.1 = .eof := by
  obtain ⟨ss, ps', rfl, hg, heof⟩ := parse_gram h
  refine ⟨dropNl ps'.toks, by rw [ofList_ftoks]; exact (hg.flat (lexAll_ok2 src)).2, fun tp htp => ?_⟩
  obtain ⟨toks⟩ := ps'
  cases toks with
  | nil => simp [dropNl] at htp
  | cons x rest =>
    simp only [PS.tok] at heof
    rw [dropNl_cons _ _ (by rw [heof]; simp)] at htp
    cases htp
    exact heof

end ShVerif.L4
