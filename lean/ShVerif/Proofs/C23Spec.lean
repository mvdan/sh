import ShVerif.Proofs.C23
/-
  C23 — ReadFields meets the bash `read` specification on lines whose non-white-space IFS
  delimiters are isolated (`readfields_spec_of_isolated`).

  The Go loop over the raw characters is a simpler loop (`mcLoop`) over the marked characters
  `unescape raw line`; its result is a list of closed positions (`posOf`, `readFields_eq`);
  positions and slices equal the specification word by word (`word_step`), on a line that is IFS
  white space followed by a string in which a field starts (`FS`, `split_ws`).
-/
namespace ShVerif.C23

theorem mem_takeWhile {α} (p : α → Bool) (l : List α) : ∀ m ∈ l.takeWhile p, p m = true :=
  List.all_eq_true.mp List.all_takeWhile

theorem dropWhile_head {α} (p : α → Bool) : ∀ (l : List α) (x : α) (r : List α),
    l.dropWhile p = x :: r → p x = false
  | [], _, _, h => nomatch h
  | y :: l, x, r, h => by
    cases hy : p y with
    | true => rw [List.dropWhile_cons_of_pos hy] at h; exact dropWhile_head p l x r h
    | false =>
      rw [List.dropWhile_cons_of_neg (Bool.eq_false_iff.mp hy)] at h
      exact (List.cons.inj h).1 ▸ hy

theorem snoc_of_ne_nil {α} (w : List α) (hw : w ≠ []) : ∃ bs cl, w = bs ++ [cl] ∧ cl ∈ w :=
  ⟨w.dropLast, w.getLast hw, (List.dropLast_concat_getLast hw).symm, List.getLast_mem hw⟩

theorem length_rest_lt {α} {w : List α} (hw : w ≠ []) (d t' : List α) :
    t'.length < (w ++ (d ++ t')).length := by
  have := List.length_pos_iff.mpr hw
  simp only [List.length_append]
  omega

def mcStep (ifs : List Char) (ms : MSt) (m : MC) : MSt := (ms.toggle (isDelim ifs m)).add m.1

def mcLoop (ifs : List Char) : MSt → List MC → MSt
  | ms, [] => ms
  | ms, m :: s => mcLoop ifs (mcStep ifs ms m) s

theorem isDelim_plain (ifs : List Char) (c : Char) : isDelim ifs (c, false) = ifsRune ifs c := rfl

theorem isDelim_esc (ifs : List Char) (c : Char) : isDelim ifs (c, true) = false := rfl

theorem unescape_true (line : List Char) : unescape true line = line.map fun c => (c, false) := by
  cases line <;> rfl

theorem step_raw (ifs : List Char) (ms : MSt) (esc : Bool) (c : Char) :
    step ifs true (abs ms esc) c = .ok (abs (mcStep ifs ms (c, false)) (!esc && c == '\\')) := by
  rw [step_abs]; rfl

theorem loop_raw (ifs : List Char) : ∀ (line : List Char) (ms : MSt) (esc : Bool),
    ∃ esc', loop ifs true (abs ms esc) line =
      .ok (abs (mcLoop ifs ms (line.map fun c => (c, false))) esc')
  | [], ms, esc => ⟨esc, rfl⟩
  | c :: rest, ms, esc => by
    rw [loop, step_raw]
    exact loop_raw ifs rest (mcStep ifs ms (c, false)) _

theorem step_cooked (ifs : List Char) (ms : MSt) (c : Char) :
    step ifs false (abs ms false) c =
      .ok (if c == '\\' then abs (ms.toggle (ifsRune ifs '\\')) true
           else abs (mcStep ifs ms (c, false)) false) := by
  rw [step_abs]
  by_cases hc : c = '\\'
  · subst hc; rfl
  · rw [show (c == '\\') = false from beq_false_of_ne hc]; rfl

theorem step_esc (ifs : List Char) (ms : MSt) (d : Char) :
    step ifs false (abs ms true) d = .ok (abs (ms.add d) false) := by
  rw [step_abs]; rfl

theorem loop_cooked (ifs : List Char) : ∀ (line : List Char) (ms : MSt),
    ('\\' ∈ line → ifs.contains '\\' = false) → loneBackslash line = false →
      loop ifs false (abs ms false) line = .ok (abs (mcLoop ifs ms (unescape false line)) false)
  | [], ms, _, _ => rfl
  | [c], ms, _, h => by
    have hc : (c == '\\') = false := h
    rw [loop, step_cooked, unescape]
    simp only [hc, Bool.false_eq_true, if_false]
    rfl
  | c :: d :: rest, ms, hb, h => by
    rw [loop, step_cooked, unescape]
    rw [loneBackslash] at h
    cases hc : c == '\\'
    · simp only [hc, Bool.false_eq_true, if_false] at h ⊢
      exact loop_cooked ifs (d :: rest) _ (fun hm => hb (List.mem_cons_of_mem _ hm)) h
    · simp only [hc, if_true] at h ⊢
      obtain rfl : c = '\\' := eq_of_beq hc
      rw [loop, show ifsRune ifs '\\' = false from hb List.mem_cons_self, step_esc]
      exact loop_cooked ifs rest _
        (fun hm => hb (List.mem_cons_of_mem _ (List.mem_cons_of_mem _ hm))) h

/-- Closed positions produced from an open-field start, the current offset and the remaining
    marked characters, the last field being closed at the end of input. -/
def posOf (ifs : List Char) : Option Nat → Nat → List MC → List Pos
  | none, _, [] => []
  | some a, off, [] => [⟨a, (off : Int)⟩]
  | some a, off, m :: s =>
    if isDelim ifs m then ⟨a, (off : Int)⟩ :: posOf ifs none (off + 1) s
    else posOf ifs (some a) (off + 1) s
  | none, off, m :: s =>
    if isDelim ifs m then posOf ifs none (off + 1) s else posOf ifs (some off) (off + 1) s

theorem mcLoop_spec (ifs : List Char) : ∀ (s : List MC) (ms : MSt),
    (mcLoop ifs ms s).runes = ms.runes ++ chars s ∧
    closeAll (mcLoop ifs ms s) = ms.closed ++ posOf ifs ms.cur ms.runes.length s
  | [], ms => by
    obtain ⟨closed, cur, runes⟩ := ms
    cases cur <;> exact ⟨(List.append_nil _).symm, rfl⟩
  | m :: s, ms => by
    obtain ⟨closed, cur, runes⟩ := ms
    have ih := mcLoop_spec ifs s (mcStep ifs ⟨closed, cur, runes⟩ m)
    rw [mcLoop]
    cases cur <;> cases hd : isDelim ifs m <;>
      simp [mcStep, MSt.toggle, MSt.add, hd, posOf, chars] at ih ⊢ <;> exact ih

theorem readFields_eq (ifs line : List Char) (n : Int) (raw : Bool)
    (h1 : raw = true ∨ ('\\' ∈ line → ifs.contains '\\' = false))
    (h2 : raw = true ∨ loneBackslash line = false) :
    readFields ifs line n raw =
      finishM ifs n (posOf ifs none 0 (unescape raw line)) (chars (unescape raw line)) := by
  obtain ⟨esc, hl⟩ : ∃ esc, loop ifs raw (abs ⟨[], none, []⟩ false) line =
      .ok (abs (mcLoop ifs ⟨[], none, []⟩ (unescape raw line)) esc) := by
    cases raw with
    | true => rw [unescape_true]; exact loop_raw ifs line _ false
    | false =>
      exact ⟨false, loop_cooked ifs line _ (h1.resolve_left Bool.false_ne_true)
        (h2.resolve_left Bool.false_ne_true)⟩
  obtain ⟨hr, hp⟩ := mcLoop_spec ifs (unescape raw line) ⟨[], none, []⟩
  rw [readFields_of_loop hl, hr, hp]; rfl

/- A marked character is IFS white space (`isWs`), another delimiter (`isDelim`, not `isWs`) or a
   field character; `isolated` and `getWord` are followed through these three classes. -/

theorem isolated_cons (ifs : List Char) (st : Scan) (m : MC) (s : List MC) :
    isolated ifs st (m :: s) =
      if isWs ifs m then isolated ifs st s
      else if isDelim ifs m then
        match st with
        | .afterC => isolated ifs .afterD s
        | _ => false
      else isolated ifs .afterC s := by
  cases st <;> simp [isolated]

theorem isWs_isDelim {ifs : List Char} {m : MC} (h : isWs ifs m = true) : isDelim ifs m = true := by
  simp only [isWs, isDelim, Bool.and_eq_true] at h ⊢
  exact ⟨h.1.1, h.2⟩

theorem not_isDelim_not_isWs {ifs : List Char} {m : MC} (h : isDelim ifs m = false) :
    isWs ifs m = false :=
  Bool.eq_false_iff.mpr fun hw => Bool.false_ne_true (h.symm.trans (isWs_isDelim hw))

theorem isWs_ifsWhitespace {ifs : List Char} {m : MC} (h : isWs ifs m = true) :
    ifsWhitespace ifs m.1 = true := by
  simp only [isWs, ifsWhitespace, ifsRune, Bool.and_eq_true] at h ⊢
  exact ⟨h.1.2, h.2⟩

theorem isolated_ws {ifs : List Char} {m : MC} (st : Scan) (s : List MC) (h : isWs ifs m = true) :
    isolated ifs st (m :: s) = isolated ifs st s := by
  rw [isolated_cons, if_pos h]

theorem isolated_nd {ifs : List Char} {m : MC} (st : Scan) (s : List MC)
    (h : isDelim ifs m = false) : isolated ifs st (m :: s) = isolated ifs .afterC s := by
  rw [isolated_cons, if_neg (Bool.eq_false_iff.mp (not_isDelim_not_isWs h)),
    if_neg (Bool.eq_false_iff.mp h)]

theorem isolated_d_afterC {ifs : List Char} {m : MC} (s : List MC)
    (hw : isWs ifs m = false) (h : isDelim ifs m = true) :
    isolated ifs .afterC (m :: s) = isolated ifs .afterD s := by
  rw [isolated_cons, if_neg (Bool.eq_false_iff.mp hw), if_pos h]

theorem isolated_d_other {ifs : List Char} {m : MC} (st : Scan) (s : List MC) (hst : st ≠ .afterC)
    (hw : isWs ifs m = false) (h : isDelim ifs m = true) :
    isolated ifs st (m :: s) = false := by
  rw [isolated_cons, if_neg (Bool.eq_false_iff.mp hw), if_pos h]
  cases st
  · rfl
  · exact absurd rfl hst
  · rfl

theorem isolated_of_ws (ifs : List Char) (hws : ∀ c ∈ ifs, c = ' ' ∨ c = '\t' ∨ c = '\n') :
    ∀ (s : List MC) (st : Scan), st ≠ .afterD → isolated ifs st s = true
  | [], st, h => by cases st <;> first | rfl | exact absurd rfl h
  | m :: s, st, h => by
    cases hd : isDelim ifs m with
    | false => rw [isolated_nd st s hd]; exact isolated_of_ws ifs hws s .afterC Scan.noConfusion
    | true =>
      have hw : isWs ifs m = true := by
        simp only [isDelim, Bool.and_eq_true] at hd
        simp only [isWs, Bool.and_eq_true]
        refine ⟨⟨hd.1, ?_⟩, hd.2⟩
        simpa only [Bool.or_eq_true, beq_iff_eq, or_assoc] using hws m.1 (List.contains_iff_mem.mp hd.2)
      rw [isolated_ws st s hw]; exact isolated_of_ws ifs hws s st h

theorem skipWs_cons_ws {ifs : List Char} {m : MC} (s : List MC) (h : isWs ifs m = true) :
    skipWs ifs (m :: s) = skipWs ifs s := List.dropWhile_cons_of_pos h

theorem skipWs_cons_nws {ifs : List Char} {m : MC} (s : List MC) (h : isWs ifs m = false) :
    skipWs ifs (m :: s) = m :: s := List.dropWhile_cons_of_neg (Bool.eq_false_iff.mp h)

theorem isolated_skipWs (ifs : List Char) (st : Scan) : ∀ s : List MC,
    isolated ifs st (skipWs ifs s) = isolated ifs st s
  | [] => rfl
  | m :: s => by
    cases hw : isWs ifs m with
    | true => rw [skipWs_cons_ws s hw, isolated_ws st s hw]; exact isolated_skipWs ifs st s
    | false => rw [skipWs_cons_nws s hw]

theorem skipWs_head (ifs : List Char) (s : List MC) (m : MC) (r : List MC)
    (h : skipWs ifs s = m :: r) : isWs ifs m = false := dropWhile_head _ s m r h

theorem dropWhile_nd_head (ifs : List Char) (s : List MC) (d0 : MC) (r1 : List MC)
    (h : s.dropWhile (fun m => !isDelim ifs m) = d0 :: r1) : isDelim ifs d0 = true :=
  (Bool.not_eq_false' (b := isDelim ifs d0)).mp (dropWhile_head _ s d0 r1 h)

theorem dropD_cons_d {ifs : List Char} {m : MC} (s : List MC) (h : isDelim ifs m = true) :
    (m :: s).dropWhile (isDelim ifs) = s.dropWhile (isDelim ifs) := List.dropWhile_cons_of_pos h

theorem dropD_cons_nd {ifs : List Char} {m : MC} (s : List MC) (h : isDelim ifs m = false) :
    (m :: s).dropWhile (isDelim ifs) = m :: s := List.dropWhile_cons_of_neg (Bool.eq_false_iff.mp h)

theorem dropD_skipWs (ifs : List Char) : ∀ s : List MC,
    (skipWs ifs s).dropWhile (isDelim ifs) = s.dropWhile (isDelim ifs)
  | [] => rfl
  | m :: s => by
    cases hw : isWs ifs m with
    | true =>
      rw [skipWs_cons_ws s hw, dropD_cons_d s (isWs_isDelim hw)]; exact dropD_skipWs ifs s
    | false => rw [skipWs_cons_nws s hw]

/-- "Field start": empty, or begins with a field character and the rest keeps delimiters isolated. -/
def FS (ifs : List Char) : List MC → Prop
  | [] => True
  | c :: t0 => isDelim ifs c = false ∧ isolated ifs .afterC t0 = true

theorem afterD_skip {ifs : List Char} {r : List MC} (h : isolated ifs .afterD r = true) :
    ∃ m r4, skipWs ifs r = m :: r4 ∧ r.dropWhile (isDelim ifs) = m :: r4 ∧
      isDelim ifs m = false ∧ isolated ifs .afterC r4 = true := by
  rw [← isolated_skipWs] at h
  have hd := dropD_skipWs ifs r
  cases hs : skipWs ifs r with
  | nil => rw [hs] at h; exact nomatch h
  | cons m r4 =>
    rw [hs] at h hd
    have hw := skipWs_head ifs r m r4 hs
    cases hdm : isDelim ifs m with
    | true => rw [isolated_d_other .afterD r4 Scan.noConfusion hw hdm] at h; exact nomatch h
    | false =>
      rw [isolated_nd .afterD r4 hdm] at h
      rw [dropD_cons_nd r4 hdm] at hd
      exact ⟨m, r4, rfl, hd.symm, hdm, h⟩

/-- What `getWord` leaves, computed from the string that begins at the first delimiter: IFS white
    space, then at most one other delimiter and the IFS white space behind it, are dropped. -/
def gwRest (ifs : List Char) (u : List MC) : List MC :=
  match skipWs ifs u with
  | [] => []
  | x :: r => if isDelim ifs x then skipWs ifs r else x :: r

theorem getWord_eq (ifs : List Char) (s : List MC) :
    getWord ifs s = (s.takeWhile (fun m => !isDelim ifs m),
      gwRest ifs (s.dropWhile (fun m => !isDelim ifs m))) := by
  unfold getWord gwRest
  cases hu : s.dropWhile (fun m => !isDelim ifs m) with
  | nil => rfl
  | cons d r1 =>
    dsimp only
    cases hw : isWs ifs d with
    | false =>
      rw [skipWs_cons_nws r1 hw]; dsimp only
      rw [if_pos (dropWhile_nd_head ifs s d r1 hu)]; rfl
    | true =>
      rw [skipWs_cons_ws r1 hw, if_pos rfl]
      cases skipWs ifs r1 with
      | nil => rfl
      | cons d2 r3 => dsimp only; cases isDelim ifs d2 <;> rfl

/-- After a field character, what `getWord` drops is the whole run of delimiters, and a field
    starts behind it. -/
theorem delim_run {ifs : List Char} {u : List MC} (h : isolated ifs .afterC u = true) :
    gwRest ifs u = u.dropWhile (isDelim ifs) ∧ FS ifs (u.dropWhile (isDelim ifs)) := by
  rw [← isolated_skipWs] at h
  rw [← dropD_skipWs, gwRest]
  cases h2 : skipWs ifs u with
  | nil => exact ⟨rfl, trivial⟩
  | cons x r =>
    rw [h2] at h
    have hw := skipWs_head ifs u x r h2
    dsimp only
    cases hd : isDelim ifs x with
    | true =>
      rw [isolated_d_afterC r hw hd] at h
      obtain ⟨m, r4, e1, e2, e3, e4⟩ := afterD_skip h
      rw [dropD_cons_d r hd, e2]
      exact ⟨(if_pos rfl).trans e1, e3, e4⟩
    | false =>
      rw [isolated_nd _ r hd] at h
      rw [dropD_cons_nd r hd]
      exact ⟨if_neg Bool.false_ne_true, hd, h⟩

theorem iso_nd_prefix (ifs : List Char) (u : List MC) : ∀ w0 : List MC,
    (∀ m ∈ w0, isDelim ifs m = false) →
    isolated ifs .afterC (w0 ++ u) = isolated ifs .afterC u
  | [], _ => rfl
  | m :: w0, h => by
    rw [List.cons_append, isolated_nd _ _ (h m List.mem_cons_self)]
    exact iso_nd_prefix ifs u w0 (fun x hx => h x (List.mem_cons_of_mem _ hx))

theorem afterD_delims (ifs : List Char) : ∀ d : List MC, (∀ m ∈ d, isDelim ifs m = true) →
    isolated ifs .afterD d = false
  | [], _ => rfl
  | m :: d, h => by
    cases hw : isWs ifs m with
    | true =>
      rw [isolated_ws _ _ hw]
      exact afterD_delims ifs d (fun x hx => h x (List.mem_cons_of_mem _ hx))
    | false => exact isolated_d_other .afterD d Scan.noConfusion hw (h m List.mem_cons_self)

theorem iso_trailing (ifs : List Char) : ∀ d : List MC,
    (∀ m ∈ d, isDelim ifs m = true) → isolated ifs .afterC d = true → ∀ m ∈ d, isWs ifs m = true
  | [], _, _ => fun _ hm => nomatch hm
  | x :: d, h, hi => by
    have hd : ∀ m ∈ d, isDelim ifs m = true := fun y hy => h y (List.mem_cons_of_mem _ hy)
    cases hw : isWs ifs x with
    | true =>
      rw [isolated_ws _ _ hw] at hi
      exact List.forall_mem_cons.mpr ⟨hw, iso_trailing ifs d hd hi⟩
    | false =>
      rw [isolated_d_afterC d hw (h x List.mem_cons_self), afterD_delims ifs d hd] at hi
      exact nomatch hi

theorem mem_takeWhile_nd (ifs : List Char) (s : List MC) :
    ∀ m ∈ s.takeWhile (fun m => !isDelim ifs m), isDelim ifs m = false :=
  fun m hm => (Bool.not_eq_true' _).mp (mem_takeWhile _ s m hm)

theorem posOf_some_nd (ifs : List Char) (a : Nat) (r : List MC) : ∀ (w : List MC) (off : Nat),
    (∀ m ∈ w, isDelim ifs m = false) →
    posOf ifs (some a) off (w ++ r) = posOf ifs (some a) (off + w.length) r
  | [], off, _ => rfl
  | m :: w, off, h => by
    rw [List.cons_append, posOf, if_neg (Bool.eq_false_iff.mp (h m List.mem_cons_self)),
      posOf_some_nd ifs a r w (off + 1) (fun x hx => h x (List.mem_cons_of_mem _ hx)),
      List.length_cons, Nat.add_assoc, Nat.add_comm 1]

theorem posOf_none_d (ifs : List Char) (r : List MC) : ∀ (d : List MC) (off : Nat),
    (∀ m ∈ d, isDelim ifs m = true) →
    posOf ifs none off (d ++ r) = posOf ifs none (off + d.length) r
  | [], off, _ => rfl
  | m :: d, off, h => by
    rw [List.cons_append, posOf, if_pos (h m List.mem_cons_self),
      posOf_none_d ifs r d (off + 1) (fun x hx => h x (List.mem_cons_of_mem _ hx)),
      List.length_cons, Nat.add_assoc, Nat.add_comm 1]

theorem posOf_word (ifs : List Char) (c : MC) (w d t' : List MC) (off : Nat)
    (hc : isDelim ifs c = false)
    (hwa : ∀ m ∈ w, isDelim ifs m = false) (hda : ∀ m ∈ d, isDelim ifs m = true)
    (hdt : d = [] → t' = []) :
    posOf ifs none off (c :: w ++ (d ++ t')) =
      ⟨off, ((off + (c :: w).length : Nat) : Int)⟩ ::
        posOf ifs none (off + (c :: w).length + d.length) t' := by
  rw [List.cons_append, posOf, if_neg (Bool.eq_false_iff.mp hc), posOf_some_nd ifs off _ w (off + 1) hwa,
    List.length_cons, Nat.add_assoc off, Nat.add_comm 1]
  cases d with
  | nil => rw [hdt rfl]; rfl
  | cons d0 ds =>
    rw [List.cons_append, posOf, if_pos (hda d0 List.mem_cons_self),
      posOf_none_d ifs t' ds _ (fun x hx => hda x (List.mem_cons_of_mem _ hx)),
      List.length_cons, Nat.add_assoc _ 1, Nat.add_comm 1]

/-- A nonempty field-start string is `word ++ delimiters ++ rest`: `getWord` returns the word and
    the rest, the Go loop records the word's position, and the rest is again a field-start
    string. -/
theorem word_step {ifs : List Char} {t : List MC} (hne : t ≠ []) (h : FS ifs t) :
    ∃ w d t', t = w ++ (d ++ t') ∧ w ≠ [] ∧ (∀ m ∈ w, isDelim ifs m = false) ∧ FS ifs t' ∧
      getWord ifs t = (w, t') ∧ (t' = [] → ∀ m ∈ d, isWs ifs m = true) ∧
      ∀ off, posOf ifs none off t =
        ⟨off, ((off + w.length : Nat) : Int)⟩ :: posOf ifs none (off + w.length + d.length) t' := by
  cases t with
  | nil => exact absurd rfl hne
  | cons c t0 =>
    obtain ⟨hc, hiso⟩ := h
    have hw0 := mem_takeWhile_nd ifs t0
    have hsplit : t0.takeWhile (fun m => !isDelim ifs m) ++ t0.dropWhile (fun m => !isDelim ifs m)
        = t0 := List.takeWhile_append_dropWhile
    rw [← hsplit, iso_nd_prefix ifs _ _ hw0] at hiso
    generalize hu : t0.dropWhile (fun m => !isDelim ifs m) = u at hsplit hiso
    obtain ⟨e1, e2⟩ := delim_run hiso
    have hda := mem_takeWhile (isDelim ifs) u
    have hsp2 : u.takeWhile (isDelim ifs) ++ u.dropWhile (isDelim ifs) = u :=
      List.takeWhile_append_dropWhile
    have ht : c :: t0 = (c :: t0.takeWhile (fun m => !isDelim ifs m)) ++
        (u.takeWhile (isDelim ifs) ++ u.dropWhile (isDelim ifs)) := by
      rw [hsp2, List.cons_append, hsplit]
    refine ⟨_, _, _, ht, List.cons_ne_nil _ _, List.forall_mem_cons.mpr ⟨hc, hw0⟩, e2, ?_,
      fun he => ?_, fun off => ?_⟩
    · rw [getWord_eq, List.takeWhile_cons_of_pos (by simp only [hc]; rfl),
        List.dropWhile_cons_of_pos (by simp only [hc]; rfl), hu, e1]
    · rw [he, List.append_nil] at hsp2
      rw [← hsp2] at hiso
      exact iso_trailing ifs _ hda hiso
    · rw [ht]
      refine posOf_word ifs c _ _ _ off hc hw0 hda fun he => ?_
      cases u with
      | nil => rfl
      | cons d0 r1 =>
        rw [List.takeWhile_cons_of_pos (dropWhile_nd_head ifs t0 d0 r1 hu)] at he
        exact nomatch he

theorem chars_append (a b : List MC) : chars (a ++ b) = chars a ++ chars b := List.map_append

theorem chars_length (a : List MC) : (chars a).length = a.length := List.length_map _

theorem slice_mid (X W Y : List Char) :
    sliceRunes (X ++ (W ++ Y)) ⟨X.length, ((X.length + W.length : Nat) : Int)⟩ = .ok W := by
  rw [sliceRunes_ok _ _ _ (Nat.le_add_right _ _) (by simp only [List.length_append]; omega),
    List.drop_left, Nat.add_sub_cancel_left, List.take_left]

theorem slice_word (X : List Char) (w u : List MC) :
    sliceRunes (X ++ chars (w ++ u)) ⟨X.length, ((X.length + w.length : Nat) : Int)⟩ = .ok (chars w) := by
  rw [chars_append, ← chars_length w]; exact slice_mid X _ _

theorem sliceAll_cons_ok {R : List Char} {p : Pos} {ps : List Pos} {f : List Char}
    {fs : List (List Char)} (h1 : sliceRunes R p = .ok f) (h2 : sliceAll R ps = .ok fs) :
    sliceAll R (p :: ps) = .ok (f :: fs) := by
  rw [sliceAll, h1, h2]

theorem assign_succ_cons {α} (k : Nat) (f : List α) (fs : List (List α)) :
    assign (k + 1) (f :: fs) = f :: assign k fs := by
  simp [assign, List.range_succ_eq_map, List.map_map, Function.comp_def]

theorem assign_succ_nil {α} (k : Nat) :
    assign (k + 1) ([] : List (List α)) = [] :: assign k [] := by
  simp [assign, List.range_succ_eq_map, List.map_map, Function.comp_def]

theorem assign_nil_spec (ifs : List Char) : ∀ k : Nat, assign k [] = specVars ifs k []
  | 0 => rfl
  | 1 => rfl
  | k + 2 => by rw [assign_succ_nil, assign_nil_spec ifs (k + 1)]; rfl

theorem strip_eq (ifs : List Char) (bs : List MC) (cl : MC) (B : List MC)
    (hB : ∀ m ∈ B, isWs ifs m = true) (hcl : isWs ifs cl = false) :
    stripTrailingWs ifs (bs ++ cl :: B) = bs ++ [cl] := by
  unfold stripTrailingWs
  have e : (bs ++ cl :: B).reverse = B.reverse ++ (cl :: bs.reverse) := by simp
  rw [e, List.dropWhile_append_of_pos (by simpa using hB)]
  simp [hcl]

/-- The first field of a nonempty field-start string starts at its beginning, and its last field
    ends where the trailing IFS white space begins. -/
theorem last_stop (ifs : List Char) : ∀ (n : Nat) (t : List MC), t.length ≤ n → t ≠ [] → FS ifs t →
    ∀ off : Nat, ∃ bs cl B e0 rest, t = bs ++ cl :: B ∧ isDelim ifs cl = false ∧
      (∀ m ∈ B, isWs ifs m = true) ∧ posOf ifs none off t = ⟨off, e0⟩ :: rest ∧
      lastStop (⟨off, e0⟩ :: rest) = ((off + (bs.length + 1) : Nat) : Int)
  | 0, t, hl, hne, _ => absurd (List.length_eq_zero_iff.mp (Nat.le_zero.mp hl)) hne
  | n + 1, t, hl, hne, hfs => by
    intro off
    obtain ⟨w, d, t', rfl, hw, hwa, hfs', _, hws, hpos⟩ := word_step hne hfs
    rw [hpos]
    by_cases ht' : t' = []
    · subst ht'
      obtain ⟨bs, cl, rfl, hcl⟩ := snoc_of_ne_nil w hw
      refine ⟨bs, cl, d, _, _, ?_, hwa cl hcl, hws rfl, rfl, ?_⟩
      · rw [List.append_nil, List.append_assoc]; rfl
      · rw [List.length_append]; rfl
    · obtain ⟨bs, cl, B, e0, rest, rfl, hcl, hB, hp, hlast⟩ := last_stop ifs n t'
        (Nat.le_of_lt_succ (Nat.lt_of_lt_of_le (length_rest_lt hw d t') hl)) ht' hfs'
        (off + w.length + d.length)
      refine ⟨w ++ (d ++ bs), cl, B, _, _, ?_, hcl, hB, rfl, ?_⟩
      · simp only [List.append_assoc]
      · rw [hp, lastStop_cons, hlast]
        simp only [List.length_append, Nat.add_assoc]

theorem specAll_ok (ifs : List Char) : ∀ (fuel : Nat) (t : List MC) (X : List Char), FS ifs t →
    t.length < fuel →
    sliceAll (X ++ chars t) (posOf ifs none X.length t) = .ok (specAll ifs fuel t)
  | 0, _, _, _, hl => absurd hl (Nat.not_lt_zero _)
  | fuel + 1, t, X, hfs, hl => by
    by_cases hne : t = []
    · subst hne; rfl
    · obtain ⟨w, d, t', rfl, hw, _, hfs', hgw, _, hpos⟩ := word_step hne hfs
      have hspec : specAll ifs (fuel + 1) (w ++ (d ++ t')) = chars w :: specAll ifs fuel t' := by
        rw [specAll, if_neg (by simpa using hne), hgw]
      have ih := specAll_ok ifs fuel t' (X ++ (chars w ++ chars d)) hfs'
        (Nat.lt_of_lt_of_le (length_rest_lt hw d t') (Nat.le_of_lt_succ hl))
      rw [hpos, hspec]
      refine sliceAll_cons_ok (slice_word X w _) ?_
      simpa only [chars_append, List.append_assoc, List.length_append, chars_length, Nat.add_assoc]
        using ih

theorem specVars_one (ifs : List Char) {t : List MC} (hne : t ≠ []) (hfs : FS ifs t) :
    specVars ifs 1 t = [chars (stripTrailingWs ifs t)] := by
  obtain ⟨w, d, t', rfl, hw, hwa, _, hgw, hws, _⟩ := word_step hne hfs
  rw [specVars, if_neg (by simpa using hne), hgw]
  by_cases ht' : t' = []
  · subst ht'
    obtain ⟨bs, cl, rfl, hcl⟩ := snoc_of_ne_nil w hw
    have := strip_eq ifs bs cl d (hws rfl) (not_isDelim_not_isWs (hwa cl hcl))
    simp only [List.append_nil, List.append_assoc, List.singleton_append] at this ⊢
    rw [this]; rfl
  · simp only [List.isEmpty_iff, ht', if_false]

theorem specVars_ok (ifs : List Char) : ∀ (k : Nat) (t : List MC) (X : List Char), FS ifs t →
    ∃ fs, sliceAll (X ++ chars t) (cut (k + 1) (posOf ifs none X.length t)) = .ok fs ∧
      assign (k + 1) fs = specVars ifs (k + 1) t
  | k, [], X, _ => ⟨[], rfl, assign_nil_spec ifs (k + 1)⟩
  | 0, c :: t0, X, hfs => by
    obtain ⟨bs, cl, B, e0, rest, e, hcl, hB, hp, hlast⟩ :=
      last_stop ifs _ _ (Nat.le_refl _) (List.cons_ne_nil c t0) hfs X.length
    rw [hp, cut_one, hlast, specVars_one ifs (List.cons_ne_nil c t0) hfs, e,
      strip_eq ifs bs cl B hB (not_isDelim_not_isWs hcl)]
    refine ⟨[chars (bs ++ [cl])], sliceAll_cons_ok ?_ rfl, rfl⟩
    have := slice_word X (bs ++ [cl]) B
    rwa [List.length_append, List.append_assoc] at this
  | k + 1, c :: t0, X, hfs => by
    obtain ⟨w, d, t', e, hw, _, hfs', hgw, _, hpos⟩ := word_step (List.cons_ne_nil c t0) hfs
    obtain ⟨fs, ih1, ih2⟩ := specVars_ok ifs k t' (X ++ (chars w ++ chars d)) hfs'
    refine ⟨chars w :: fs, ?_, ?_⟩
    · rw [hpos, cut_succ, e]
      refine sliceAll_cons_ok (slice_word X w _) ?_
      simpa only [chars_append, List.append_assoc, List.length_append, chars_length, Nat.add_assoc]
        using ih1
    · rw [assign_succ_cons, ih2, specVars, if_neg (by simp), hgw]

theorem loLoop_prefix (ifs : List Char) (A Y : List Char) (hA : ∀ r ∈ A, ifsWhitespace ifs r = true) :
    loLoop ifs (A ++ Y) A.length A.length 0 = .ok A.length := by
  obtain ⟨lo, h1, h2, h3⟩ := loLoop_spec ifs (A ++ Y) A.length (by simp) A.length 0
    (Nat.zero_le _) (Nat.le_refl _)
  rcases Nat.lt_or_eq_of_le h2 with hlt | rfl
  · obtain ⟨r, hr, hw⟩ := h3 hlt
    rw [List.getElem?_append_left hlt] at hr
    exact absurd (hA r (List.mem_of_getElem? hr)) (hw ▸ Bool.false_ne_true)
  · exact h1

theorem hiLoop_suffix (ifs : List Char) (L B : List Char) (hB : ∀ r ∈ B, ifsWhitespace ifs r = true) :
    hiLoop ifs (L ++ B) (L.length : Int) (L ++ B).length = .ok L.length := by
  obtain ⟨hi, h1, h2, h3, h4⟩ := hiLoop_spec ifs (L ++ B) L.length (L ++ B).length (Nat.le_refl _)
    (by simp)
  rcases Nat.lt_or_eq_of_le h2 with hlt | rfl
  · obtain ⟨r, hr, hw⟩ := h4 hlt
    rw [List.getElem?_append_right (by omega)] at hr
    exact absurd (hB r (List.mem_of_getElem? hr)) (hw ▸ Bool.false_ne_true)
  · exact h1

theorem start_FS (ifs : List Char) (s : List MC) (h : isolated ifs .start s = true) :
    FS ifs (skipWs ifs s) := by
  rw [← isolated_skipWs] at h
  cases hs : skipWs ifs s with
  | nil => trivial
  | cons m r =>
    rw [hs] at h
    have hw := skipWs_head ifs s m r hs
    cases hd : isDelim ifs m with
    | true => rw [isolated_d_other .start r Scan.noConfusion hw hd] at h; exact nomatch h
    | false => exact ⟨hd, isolated_nd _ r hd ▸ h⟩

theorem chars_ws (ifs : List Char) (A : List MC) (hA : ∀ m ∈ A, isWs ifs m = true) :
    ∀ r ∈ chars A, ifsWhitespace ifs r = true := by
  intro r hr
  obtain ⟨m, hm, rfl⟩ := List.mem_map.mp hr
  exact isWs_ifsWhitespace (hA m hm)

theorem split_ws (ifs : List Char) (s : List MC) (h : isolated ifs .start s = true) :
    ∃ A, FS ifs (skipWs ifs s) ∧ (∀ r ∈ chars A, ifsWhitespace ifs r = true) ∧
      posOf ifs none 0 s = posOf ifs none (chars A).length (skipWs ifs s) ∧
      chars s = chars A ++ chars (skipWs ifs s) := by
  have hsplit : s.takeWhile (isWs ifs) ++ skipWs ifs s = s := List.takeWhile_append_dropWhile
  have hAws := mem_takeWhile (isWs ifs) s
  refine ⟨s.takeWhile (isWs ifs), start_FS ifs s h, chars_ws ifs _ hAws, ?_, ?_⟩
  · have := posOf_none_d ifs (skipWs ifs s) (s.takeWhile (isWs ifs)) 0
      (fun m hm => isWs_isDelim (hAws m hm))
    rwa [hsplit, Nat.zero_add, ← chars_length] at this
  · rw [← chars_append, hsplit]

/-- `read -a`. -/
theorem finishM_spec_none (ifs : List Char) (s : List MC) (h : isolated ifs .start s = true) :
    finishM ifs (-1) (posOf ifs none 0 s) (chars s) =
      .ok (specAll ifs ((skipWs ifs s).length + 1) (skipWs ifs s)) := by
  obtain ⟨A, hfs, _, hP, hR⟩ := split_ws ifs s h
  rw [hP, hR, finishM_neg]
  exact specAll_ok ifs _ _ (chars A) hfs (Nat.lt_succ_self _)

/-- `k ≥ 1` names: also for one name, where ReadFields trims IFS white space instead, the value
    runs from the start of the first field to the end of the last. -/
theorem finishM_spec_some (ifs : List Char) (s : List MC) (k : Nat)
    (h : isolated ifs .start s = true) :
    ∃ fs, finishM ifs ((k + 1 : Nat) : Int) (posOf ifs none 0 s) (chars s) = .ok fs ∧
      assign (k + 1) fs = specVars ifs (k + 1) (skipWs ifs s) := by
  obtain ⟨A, hfs, hAws, hP, hR⟩ := split_ws ifs s h
  rw [hP, hR]
  suffices hcut : finishM ifs ((k + 1 : Nat) : Int) (posOf ifs none (chars A).length (skipWs ifs s))
      (chars A ++ chars (skipWs ifs s)) = sliceAll (chars A ++ chars (skipWs ifs s))
        (cut (k + 1) (posOf ifs none (chars A).length (skipWs ifs s))) from
    hcut ▸ specVars_ok ifs k _ (chars A) hfs
  cases k with
  | succ k => exact finishM_cut ifs k _ _
  | zero =>
    generalize skipWs ifs s = t at hfs
    by_cases hne : t = []
    · subst hne; rfl
    · obtain ⟨bs, cl, B, e0, rest, rfl, hcl, hB, hp, hlast⟩ :=
        last_stop ifs _ t (Nat.le_refl _) hne hfs (chars A).length
      rw [hp, cut_one, hlast]
      have hR : chars A ++ chars (bs ++ cl :: B) = (chars A ++ chars (bs ++ [cl])) ++ chars B := by
        simp [chars]
      have hL : (chars A ++ chars (bs ++ [cl])).length = (chars A).length + (bs.length + 1) := by
        simp [chars]
      refine finishM_one ifs _ rest _ hlast (loLoop_prefix ifs _ _ hAws) ?_
      rw [hR, ← hL]
      exact hiLoop_suffix ifs _ _ (chars_ws ifs B hB)

theorem head_ne_backslash {c : Char} {l : List Char} (h : '\\' ∉ c :: l) : ¬ (c == '\\') = true :=
  fun hc => h (List.mem_cons.mpr (Or.inl (eq_of_beq hc).symm))

theorem unescape_no_backslash : ∀ (line : List Char), '\\' ∉ line →
    unescape false line = unescape true line
  | [], _ => rfl
  | [c], h => by
    rw [unescape_true, unescape, if_neg (head_ne_backslash h)]; rfl
  | c :: d :: rest, h => by
    rw [unescape_true, unescape, if_neg (head_ne_backslash h),
      unescape_no_backslash (d :: rest) (fun hm => h (List.mem_cons_of_mem _ hm)), unescape_true]
    rfl

theorem loneBackslash_no_backslash : ∀ (line : List Char), '\\' ∉ line → loneBackslash line = false
  | [], _ => rfl
  | [c], h => Bool.eq_false_iff.mpr (head_ne_backslash h)
  | c :: d :: rest, h => by
    rw [loneBackslash, if_neg (head_ne_backslash h)]
    exact loneBackslash_no_backslash (d :: rest) (fun hm => h (List.mem_cons_of_mem _ hm))

/-- The `n` the builtin passes to ReadFields: the number of names, or -1 for `read -a`. -/
def nOf : Option Nat → Int
  | some k => (k : Int)
  | none => -1

/-- What the builtin assigns from the fields ReadFields returned. -/
def valuesOf (names : Option Nat) (fs : List (List Char)) : List (List Char) :=
  match names with
  | some k => assign k fs
  | none => fs

/-- ReadFields against the specification under the three conditions of `Clean`, the first of which
    only matters for a line that does contain a backslash. -/
theorem readfields_spec_of_isolated (ifs line : List Char) (names : Option Nat) (raw : Bool)
    (hk : ∀ k, names = some k → 1 ≤ k)
    (h1 : raw = true ∨ ('\\' ∈ line → ifs.contains '\\' = false))
    (h2 : raw = true ∨ loneBackslash line = false)
    (h3 : isolated ifs .start (unescape raw line) = true) :
    ∃ fs, readFields ifs line (nOf names) raw = .ok fs ∧
      valuesOf names fs = specRead ifs line names raw := by
  rw [readFields_eq ifs line _ raw h1 h2]
  cases names with
  | none => exact ⟨_, finishM_spec_none ifs _ h3, rfl⟩
  | some k =>
    obtain ⟨j, rfl⟩ : ∃ j, k = j + 1 := ⟨k - 1, (Nat.sub_add_cancel (hk k rfl)).symm⟩
    exact finishM_spec_some ifs _ j h3

end ShVerif.C23
