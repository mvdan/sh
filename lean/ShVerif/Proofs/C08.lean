import ShVerif.Model.C08
/-
  The glue (`wrappedReader.Read` + `InteractiveSeq`): `Moves` says what one event can do to the
  control part of the state (callbacks, stopped, w.stopped, done, panic); `step_moves` proves it of
  `step` once, from the three cases of a call of the consumer.  `Phase` names the control states a
  run can reach, and `Moves.phase` is the state diagram: what is said about stopping consumers and
  about panics is read off `runFrom_phase`; `runFrom_cbs` says where the callbacks come from.
  For a consumer that never stops (`Live`, the only phase for `none`), `live_read`/`live_stmt` say
  what an event does to what is pending and to what has been run.
-/
namespace ShVerif.C08

theorem ite_cases {α} {P : α → Prop} {c : Prop} [Decidable c] {a b : α} (h1 : c → P a) (h2 : ¬c → P b) :
    P (if c then a else b) := by
  split
  · exact h1 ‹_›
  · exact h2 ‹_›

theorem not_both {b : Bool} {p : Prop} (h1 : b = false) (h2 : b = true) : p := by
  rw [h1] at h2; cases h2

theorem getElem?_append_length {α} (l : List α) (a : α) : (l ++ [a])[l.length]? = some a := by
  simp

theorem getElem?_append_lt {α} (l : List α) (a : α) (k : Nat) (x : α) (h : l[k]? = some x) :
    (l ++ [a])[k]? = some x := by
  have hk : k < l.length := by
    rcases Nat.lt_or_ge k l.length with h' | h'
    · exact h'
    · simp [List.getElem?_eq_none h'] at h
  rw [List.getElem?_append_left hk]; exact h

theorem runFrom_nil (st : Option Nat) (g : G) : runFrom st g [] = g := rfl

theorem runFrom_cons (st : Option Nat) (g : G) (e : Ev) (tr : List Ev) :
    runFrom st g (e :: tr) = runFrom st (step st g e) tr := rfl

theorem runFrom_append (st : Option Nat) (g : G) (a b : List Ev) :
    runFrom st g (a ++ b) = runFrom st (runFrom st g a) b := by
  simp [runFrom, List.foldl_append]

/- The three cases of a call of the consumer: it has stopped before (Go runtime panic), it goes on,
   it stops now. -/

theorem yielded_of_stopped {g : G} (st : Option Nat) (cb : Cb) (h : g.stopped = true) :
    g.yielded st cb = { g with panic := true } ∧ g.yieldOk st = false := by
  simp [G.yielded, G.yieldOk, h]

theorem yielded_of_ok {g : G} {st : Option Nat} (cb : Cb) (h : g.stopped = false)
    (hk : st ≠ some g.cbs.length) :
    g.yielded st cb = { g with cbs := g.cbs ++ [cb] } ∧ g.yieldOk st = true := by
  simp [G.yielded, G.yieldOk, h, hk]

theorem yielded_of_stop {g : G} {st : Option Nat} (cb : Cb) (h : g.stopped = false)
    (hk : st = some g.cbs.length) :
    g.yielded st cb = { g with cbs := g.cbs ++ [cb], stopped := true } ∧ g.yieldOk st = false := by
  simp [G.yielded, G.yieldOk, h, hk]

theorem yieldOk_none (g : G) (h : g.stopped = false) : g.yieldOk none = true := by
  simp [G.yieldOk, h]

theorem yielded_none (g : G) (cb : Cb) (h : g.stopped = false) :
    g.yielded none cb = { g with cbs := g.cbs ++ [cb] } :=
  (yielded_of_ok (st := none) cb h nofun).1

/-- what a step may add to the callback list -/
def cbOfEvent (e : Ev) (cb : Cb) : Prop :=
  match e with
  | .read nl _ o l _ ins => nl = true ∧ cb.fromRead = true ∧ cb.inStmt = ins ∧ (cb.inc = true → incomplete o l = true)
  | .stmt _ _ _ _ o l => cb.fromRead = false ∧ cb.inc = incomplete o l

/-- What one event does to the control part of the glue state (`lastLine` and `acc` are left open):
    nothing; the loop is left because `w.stopped` is set; the consumer is called although it has
    stopped; it is called and goes on; it is called and stops (Read then returns EOF, the loop
    breaks). -/
inductive Moves (st : Option Nat) (e : Ev) (g : G) : G → Prop
  | idle (ll ac) : Moves st e g { g with lastLine := ll, acc := ac }
  | brk (ll ac) : g.panic = false → g.wstopped = true →
      Moves st e g { g with lastLine := ll, acc := ac, done := true }
  | again (ll ac w) : g.stopped = true → g.done = false → (e.isRead = false → g.wstopped = false) →
      (g.wstopped = true → w = true) →
      Moves st e g { g with lastLine := ll, acc := ac, panic := true, wstopped := w }
  | call (ll ac cb) : g.stopped = false → g.done = false → g.panic = false → st ≠ some g.cbs.length →
      cbOfEvent e cb → Moves st e g { g with lastLine := ll, acc := ac, cbs := g.cbs ++ [cb] }
  | stop (ll ac cb d) : g.stopped = false → g.done = false → g.panic = false → st = some g.cbs.length →
      cbOfEvent e cb → d = !e.isRead →
      Moves st e g { g with lastLine := ll, acc := ac, cbs := g.cbs ++ [cb], stopped := true,
                            wstopped := true, done := d }

/-- a call made by `wrappedReader.Read` -/
theorem readCall_moves (st : Option Nat) (g : G) (e : Ev) (line : Nat) (cb : Cb) (he : e.isRead = true)
    (hd : g.done = false) (hp : g.panic = false) (hcb : cbOfEvent e cb) :
    Moves st e g (if g.yieldOk st then { g.yielded st cb with lastLine := line }
                  else { g.yielded st cb with wstopped := true }) := by
  cases hs : g.stopped with
  | true =>
    obtain ⟨h1, h2⟩ := yielded_of_stopped st cb hs
    rw [h1, h2]
    exact .again _ _ _ hs hd (fun h => by rw [he] at h; cases h) (fun _ => rfl)
  | false =>
    by_cases hk : st = some g.cbs.length
    · obtain ⟨h1, h2⟩ := yielded_of_stop cb hs hk
      rw [h1, h2]
      exact .stop _ _ cb _ hs hd hp hk hcb (by rw [he, hd]; rfl)
    · obtain ⟨h1, h2⟩ := yielded_of_ok cb hs hk
      rw [h1, h2]
      exact .call _ _ cb hs hd hp hk hcb

/-- a call made by the `InteractiveSeq` loop (after the append that made `acc` be `a`), in the shapes
    it has after an error and after a newline token -/
theorem loopCall_moves (st : Option Nat) (g : G) (e : Ev) (a : List (Option Nat)) (line : Nat) (cb : Cb)
    (he : e.isRead = false) (hd : g.done = false) (hp : g.panic = false) (hw : g.wstopped = false)
    (hcb : cbOfEvent e cb) :
    let ga := { g with acc := a }
    let g' := ga.yielded st cb
    Moves st e g (if g'.panic || ga.yieldOk st then g' else { g' with done := true, wstopped := true }) ∧
    Moves st e g (if g'.panic then g'
                  else if ga.yieldOk st then { g' with acc := [], lastLine := line + 1 }
                  else { g' with done := true, wstopped := true }) := by
  obtain ⟨ll, ac, cbs, stopped, wst, done, panic⟩ := g
  simp only at hd hp hw
  subst hd hp hw
  intro ga g'
  cases stopped with
  | true =>
    obtain ⟨h1, h2⟩ := yielded_of_stopped (g := ga) st cb rfl
    simp only [g', h1, h2, Bool.true_or, if_true]
    exact ⟨.again _ _ _ rfl rfl (fun _ => rfl) nofun, .again _ _ _ rfl rfl (fun _ => rfl) nofun⟩
  | false =>
    by_cases hk : st = some cbs.length
    · obtain ⟨h1, h2⟩ := yielded_of_stop (g := ga) cb rfl hk
      simp only [g', h1, h2, Bool.false_eq_true, if_false]
      exact ⟨.stop _ _ cb _ rfl rfl rfl hk hcb (by rw [he]; rfl), .stop _ _ cb _ rfl rfl rfl hk hcb (by rw [he]; rfl)⟩
    · obtain ⟨h1, h2⟩ := yielded_of_ok (g := ga) cb rfl hk
      simp only [g', h1, h2, Bool.or_true, if_true]
      exact ⟨.call _ _ cb rfl rfl rfl hk hcb, .call _ _ cb rfl rfl rfl hk hcb⟩

theorem readTail_moves (st : Option Nat) (g : G) (nl : Bool) (line o l : Nat) (err ins : Bool)
    (hd : g.done = false) (hp : g.panic = false) :
    Moves st (.read nl line o l err ins) g (readTail st g nl line o l err ins) := by
  unfold readTail
  refine ite_cases (fun hc => ?_) (fun _ => .idle _ _)
  have hnl : nl = true := by cases nl <;> simp at hc ⊢
  refine ite_cases (fun hi => ?_) (fun _ => ite_cases (fun _ => ?_) (fun _ => .idle _ _))
  · exact readCall_moves st g (.read nl line o l err ins) line _ rfl hd hp ⟨hnl, rfl, rfl, fun _ => hi⟩
  · exact readCall_moves st g (.read nl line o l err ins) line _ rfl hd hp ⟨hnl, rfl, rfl, fun h => by cases h⟩

theorem stmtTail_moves (st : Option Nat) (g : G) (id : Option Nat) (err tn : Bool) (line o l : Nat)
    (hd : g.done = false) (hp : g.panic = false) (hw : g.wstopped = false) :
    Moves st (.stmt id err tn line o l) g (stmtTail st { g with acc := g.acc ++ [id] } err tn line o l) := by
  have h := loopCall_moves st g (.stmt id err tn line o l) (g.acc ++ [id]) line
  unfold stmtTail
  exact ite_cases (fun _ => (h _ rfl hd hp hw ⟨rfl, rfl⟩).1)
    (fun _ => ite_cases (fun _ => (h _ rfl hd hp hw ⟨rfl, rfl⟩).2) (fun _ => .idle _ _))

theorem step_moves (st : Option Nat) (g : G) (e : Ev) : Moves st e g (step st g e) := by
  by_cases hdp : (g.done || g.panic) = true
  · have : step st g e = g := by cases e <;> simp only [step, hdp, if_true]
    rw [this]; exact .idle _ _
  · have hd : g.done = false := by cases h : g.done <;> simp [h] at hdp ⊢
    have hp : g.panic = false := by cases h : g.panic <;> simp [h] at hdp ⊢
    cases e with
    | read nl line o l err ins =>
      simp only [step, if_neg hdp]
      exact readTail_moves st g nl line o l err ins hd hp
    | stmt id err tn line o l =>
      simp only [step, if_neg hdp]
      split
      · rename_i hw; exact .brk _ _ hp hw
      · rename_i hw
        exact stmtTail_moves st g id err tn line o l hd hp (by simpa using hw)

def Live (g : G) : Prop := g.stopped = false ∧ g.done = false ∧ g.panic = false ∧ g.wstopped = false

theorem live_init : Live ({} : G) := ⟨rfl, rfl, rfl, rfl⟩

/-- The reachable control states, for a consumer that stops at its `st`-th call (`none`: never).
    `live`: it has not stopped.  `eof`: it stopped inside `wrappedReader.Read`, which returned EOF;
    the loop has not noticed yet, and a further Read would call it again (`panic`).  `over`: the
    loop has been left. -/
inductive Phase (st : Option Nat) (g : G) : Prop
  | live : Live g → Phase st g
  | eof (k : Nat) (cb : Cb) : st = some k → g.cbs[k]? = some cb → cb.fromRead = true →
      g.stopped = true → g.wstopped = true → g.done = false → Phase st g
  | over (k : Nat) : st = some k → g.stopped = true → g.wstopped = true → g.done = true →
      g.panic = false → Phase st g

theorem phase_init (st : Option Nat) : Phase st ({} : G) := .live live_init

theorem Phase.of_none {g : G} (h : Phase none g) : Live g := by
  cases h with
  | live h => exact h
  | eof _ _ hk | over _ hk => cases hk

theorem Phase.wstopped {st : Option Nat} {g : G} (h : Phase st g) (hs : g.stopped = true) :
    g.wstopped = true := by
  cases h with
  | live h => exact not_both h.1 hs
  | eof _ _ _ _ _ _ hw | over _ _ _ hw => exact hw

theorem Moves.phase {st : Option Nat} {g g' : G} {e : Ev} (hm : Moves st e g g') (h : Phase st g) :
    Phase st g' := by
  cases h with
  | live hl =>
    cases hm with
    | idle | call => exact .live hl
    | brk _ _ _ hw => exact not_both hl.2.2.2 hw
    | again _ _ _ hs => exact not_both hl.1 hs
    | stop _ _ cb d _ _ _ hk hcb hd =>
      -- inside Read the loop goes on until it sees `w.stopped`; in the loop it breaks at once
      cases e with
      | read => exact .eof _ cb hk (getElem?_append_length _ _) hcb.2.1 rfl rfl hd
      | stmt => exact .over _ hk rfl rfl hd hl.2.2.1
  | eof k cb hk hcb hfr h1 h2 h3 =>
    cases hm with
    | idle => exact .eof k cb hk hcb hfr h1 h2 h3
    | brk _ _ hp => exact .over k hk h1 h2 rfl hp
    | again _ _ _ _ _ _ hw => exact .eof k cb hk hcb hfr h1 (hw h2) h3
    | call _ _ _ hs | stop _ _ _ _ hs => exact not_both hs h1
  | over k hk h1 h2 h3 h4 =>
    cases hm with
    | idle => exact .over k hk h1 h2 h3 h4
    | brk => exact .over k hk h1 h2 rfl h4
    | again _ _ _ _ hd | call _ _ _ _ hd | stop _ _ _ _ _ hd => exact not_both hd h3

theorem runFrom_phase (st : Option Nat) (tr : List Ev) (g : G) (h : Phase st g) :
    Phase st (runFrom st g tr) :=
  List.foldlRecOn tr (step st) h fun g hg e _ => (step_moves st g e).phase hg

theorem step_live (g : G) (hl : Live g) (e : Ev) : Live (step none g e) :=
  ((step_moves none g e).phase (.live hl)).of_none

theorem runFrom_live (g : G) (hl : Live g) (tr : List Ev) : Live (runFrom none g tr) :=
  (runFrom_phase none tr g (.live hl)).of_none

theorem step_read_live (g : G) (hl : Live g) (nl : Bool) (line o l : Nat) (err ins : Bool) :
    step none g (.read nl line o l err ins) =
      if nl && decide (line > g.lastLine) then
        if incomplete o l then
          { g with cbs := g.cbs ++ [{ stmts := g.acc, inc := true, err := err, fromRead := true, inStmt := ins }], lastLine := line }
        else if g.acc.isEmpty then
          { g with cbs := g.cbs ++ [{ stmts := [], inc := false, err := err, fromRead := true, inStmt := ins }], lastLine := line }
        else { g with lastLine := line }
      else g := by
  obtain ⟨h1, h2, h3, _⟩ := hl
  simp [step, readTail, G.yieldOk, G.yielded, h1, h2, h3]

theorem step_stmt_live (g : G) (hl : Live g) (id : Option Nat) (err tn : Bool) (line o l : Nat) :
    step none g (.stmt id err tn line o l) =
      if err then
        { g with acc := g.acc ++ [id],
                 cbs := g.cbs ++ [{ stmts := g.acc ++ [id], inc := incomplete o l, err := true, fromRead := false, inStmt := false }] }
      else if tn then
        { g with acc := [], lastLine := line + 1,
                 cbs := g.cbs ++ [{ stmts := g.acc ++ [id], inc := incomplete o l, err := false, fromRead := false, inStmt := false }] }
      else { g with acc := g.acc ++ [id] } := by
  obtain ⟨h1, h2, h3, h4⟩ := hl
  simp [step, stmtTail, G.yieldOk, G.yielded, h1, h2, h3, h4]

def accIds (g : G) : List Nat := g.acc.filterMap id

theorem ranOf_append_single (cbs : List Cb) (cb : Cb) :
    ranOf (cbs ++ [cb]) = ranOf cbs ++ (if !cb.inc && !cb.err then cb.stmts.filterMap id else []) := by
  simp only [ranOf, List.filter_append, List.flatMap_append]
  congr 1
  by_cases h : (!cb.inc && !cb.err) = true
  · simp [List.filter, h]
  · simp [List.filter, h]

theorem allStmts_append (a b : List Ev) : allStmts (a ++ b) = allStmts a ++ allStmts b := by
  induction a with
  | nil => rfl
  | cons e a ih =>
    cases e with
    | read nl line o l err ins => simpa [allStmts] using ih
    | stmt id err tn line o l =>
      cases id with
      | none => simpa [allStmts] using ih
      | some n => simp [allStmts, ih]

theorem noErr_cons (e : Ev) (tr : List Ev) : NoErr (e :: tr) ↔ e.noErr = true ∧ NoErr tr := by
  simp only [NoErr, checkNoErr, List.all_cons, Bool.and_eq_true]

theorem a0_cons_read (nl : Bool) (line o l : Nat) (err ins : Bool) (tr : List Ev) :
    A0 (.read nl line o l err ins :: tr) ↔ A0 tr := by
  simp only [A0, checkA0, List.all_cons, Bool.true_and]

theorem a0_cons_stmt (id : Option Nat) (err tn : Bool) (line o l : Nat) (tr : List Ev) :
    A0 (.stmt id err tn line o l :: tr) ↔ (o = 0 ∧ l = 0) ∧ A0 tr := by
  simp only [A0, checkA0, List.all_cons, Bool.and_eq_true, beq_iff_eq]

theorem incomplete_zero : incomplete 0 0 = false := rfl

/-- a blocked read changes neither what is pending nor what has been run: the callback it may make
    is incomplete or empty -/
theorem live_read (g : G) (hl : Live g) (nl : Bool) (line o l : Nat) (err ins : Bool) :
    (step none g (.read nl line o l err ins)).acc = g.acc ∧
    ran (step none g (.read nl line o l err ins)) = ran g := by
  rw [step_read_live g hl]
  refine ite_cases (P := fun x : G => x.acc = g.acc ∧ ran x = ran g) (fun _ => ?_) (fun _ => ⟨rfl, rfl⟩)
  refine ite_cases (P := fun x : G => x.acc = g.acc ∧ ran x = ran g) (fun _ => ⟨rfl, ?_⟩) (fun _ => ?_)
  · simp [ran, ranOf_append_single]
  · refine ite_cases (P := fun x : G => x.acc = g.acc ∧ ran x = ran g) (fun _ => ⟨rfl, ?_⟩) (fun _ => ⟨rfl, rfl⟩)
    simp [ran, ranOf_append_single]

/-- a statement without error is appended to what is pending; at a newline token all of it is
    handed over (complete, by A0) -/
theorem live_stmt (g : G) (hl : Live g) (id : Option Nat) (tn : Bool) (line : Nat) :
    (step none g (.stmt id false tn line 0 0)).acc = (if tn then [] else g.acc ++ [id]) ∧
    ran (step none g (.stmt id false tn line 0 0)) =
      ran g ++ (if tn then (g.acc ++ [id]).filterMap _root_.id else []) := by
  rw [step_stmt_live g hl]
  cases tn with
  | true => simp [ran, ranOf_append_single, incomplete_zero]
  | false => simp [ran]

/-- Nothing is lost, duplicated or reordered: what was run followed by what is pending is the
    statement list so far. -/
theorem ran_pending (tr : List Ev) (g : G) (hl : Live g) (hn : NoErr tr) (h0 : A0 tr) :
    ran (runFrom none g tr) ++ accIds (runFrom none g tr) = ran g ++ accIds g ++ allStmts tr := by
  induction tr generalizing g with
  | nil => simp [runFrom_nil, allStmts]
  | cons e tr ih =>
    obtain ⟨he, hn'⟩ := (noErr_cons e tr).1 hn
    rw [runFrom_cons]
    cases e with
    | read nl line o l err ins =>
      obtain ⟨ha, hr⟩ := live_read g hl nl line o l err ins
      rw [ih _ (step_live g hl _) hn' ((a0_cons_read ..).1 h0), accIds, ha, hr]
      rfl
    | stmt id err tn line o l =>
      obtain ⟨⟨rfl, rfl⟩, h0'⟩ := (a0_cons_stmt ..).1 h0
      simp only [Ev.noErr, Bool.and_eq_true, Bool.not_eq_true'] at he
      obtain ⟨rfl, hid⟩ := he
      obtain ⟨n, rfl⟩ := Option.isSome_iff_exists.1 hid
      obtain ⟨ha, hr⟩ := live_stmt g hl (some n) tn line
      rw [ih _ (step_live g hl _) hn' h0', accIds, ha, hr]
      cases tn <;> simp [accIds, allStmts, List.filterMap_append]

theorem acc_of_last (tr : List Ev) (g : G) (hl : Live g) (hn : NoErr tr) (last : Option Bool)
    (hg : (g.acc = [] ↔ last ≠ some false) ∧ ∀ x ∈ g.acc, x.isSome = true) :
    ((runFrom none g tr).acc = [] ↔ lastTokNewl last tr ≠ some false) ∧
    ∀ x ∈ (runFrom none g tr).acc, x.isSome = true := by
  induction tr generalizing g last with
  | nil => exact hg
  | cons e tr ih =>
    obtain ⟨he, hn'⟩ := (noErr_cons e tr).1 hn
    rw [runFrom_cons]
    cases e with
    | read nl line o l err ins =>
      refine ih _ (step_live g hl _) hn' last ?_
      rw [(live_read g hl nl line o l err ins).1]
      exact hg
    | stmt id err tn line o l =>
      simp only [Ev.noErr, Bool.and_eq_true, Bool.not_eq_true'] at he
      obtain ⟨rfl, hid⟩ := he
      refine ih _ (step_live g hl _) hn' (some tn) ?_
      rw [step_stmt_live g hl]
      cases tn with
      | true => simp
      | false =>
        refine ⟨by simp, fun x hx => ?_⟩
        rcases List.mem_append.1 hx with hx | hx
        · exact hg.2 x hx
        · rw [List.mem_singleton.1 hx]; exact hid

theorem accIds_eq_nil_iff (g : G) (h : ∀ x ∈ g.acc, x.isSome = true) : accIds g = [] ↔ g.acc = [] := by
  rw [accIds, List.filterMap_eq_nil_iff, List.eq_nil_iff_forall_not_mem]
  refine ⟨fun hn a ha => ?_, fun hn a ha => absurd ha (hn a)⟩
  have := h a ha
  rw [show a = none from hn a ha] at this
  cases this

theorem finish_live (g : G) (hl : Live g) (o l : Nat) :
    ran (finish none g false o l) = ran g ++ (if incomplete o l then [] else accIds g) := by
  obtain ⟨h1, h2, h3, h4⟩ := hl
  unfold finish
  by_cases ha : g.acc.isEmpty = true
  · have : g.acc = [] := by simpa using ha
    simp [h3, h4, this, ran, accIds]
  · simp only [h3, h4, ha, Bool.false_eq_true, if_false, Bool.not_false, Bool.and_self, if_true]
    simp only [ran, G.yielded, h1, Bool.false_eq_true, if_false, ranOf_append_single, accIds]
    cases incomplete o l <;> simp

theorem checkA1_append (last : Option Bool) (a b : List Ev) :
    checkA1 last (a ++ b) = (checkA1 last a && checkA1 (lastTokNewl last a) b) := by
  induction a generalizing last with
  | nil => simp [checkA1, lastTokNewl]
  | cons e a ih =>
    cases e with
    | read nl line o l err ins =>
      cases nl <;> cases ins <;> simp [checkA1, lastTokNewl, ih, Bool.and_assoc]
    | stmt id err tn line o l => simp [checkA1, lastTokNewl, ih]

theorem Moves.cbs {st : Option Nat} {g g' : G} {e : Ev} (hm : Moves st e g g') :
    ∀ cb ∈ g'.cbs, cb ∈ g.cbs ∨ cbOfEvent e cb := by
  have new : ∀ c, cbOfEvent e c → ∀ cb ∈ g.cbs ++ [c], cb ∈ g.cbs ∨ cbOfEvent e cb := fun c hc cb h =>
    (List.mem_append.1 h).imp_right fun h => by rw [List.mem_singleton.1 h]; exact hc
  cases hm with
  | idle | brk | again => exact fun _ => Or.inl
  | call _ _ c _ _ _ _ hc => exact new c hc
  | stop _ _ c _ _ _ _ _ hc => exact new c hc

/-- every callback was made at an event of the trace, and looks as `cbOfEvent` says -/
theorem runFrom_cbs (st : Option Nat) (tr : List Ev) (g : G) :
    ∀ cb ∈ (runFrom st g tr).cbs, cb ∈ g.cbs ∨ ∃ e ∈ tr, cbOfEvent e cb :=
  List.foldlRecOn (motive := fun g' : G => ∀ cb ∈ g'.cbs, cb ∈ g.cbs ∨ ∃ e ∈ tr, cbOfEvent e cb)
    tr (step st) (fun _ => Or.inl) fun g' hg e he cb hcb =>
      ((step_moves st g' e).cbs cb hcb).elim (hg cb) fun h => Or.inr ⟨e, he, h⟩

/-- the consumer is called again after it has stopped only by a Read after the EOF -/
theorem Moves.panic {st : Option Nat} {g g' : G} {e : Ev} (hm : Moves st e g g') (h : Phase st g)
    (hp : g'.panic = true) : g.panic = true ∨ (g.wstopped && !g.done && e.isRead) = true := by
  cases hm with
  | idle | brk | call | stop => exact Or.inl hp
  | again _ _ _ hs hd hw =>
    refine Or.inr ?_
    rw [h.wstopped hs, hd]
    cases hr : e.isRead
    · exact not_both (hw hr) (h.wstopped hs)
    · rfl

/-- … which A3 excludes -/
theorem runFrom_noPanic (st : Option Nat) (tr : List Ev) (g : G) (h : Phase st g) (hp : g.panic = false)
    (hr : noReadAfterStop st g tr = true) : (runFrom st g tr).panic = false := by
  induction tr generalizing g with
  | nil => exact hp
  | cons e tr ih =>
    simp only [noReadAfterStop, Bool.and_eq_true, Bool.not_eq_true'] at hr
    refine ih _ ((step_moves st g e).phase h) ?_ hr.2
    cases hq : (step st g e).panic
    · rfl
    · rcases (step_moves st g e).panic h hq with h' | h'
      · exact not_both hp h'
      · exact not_both hr.1 h'

theorem finish_noPanic (st : Option Nat) (g : G) (err : Bool) (o l : Nat) (h : Phase st g)
    (hp : g.panic = false) : (finish st g err o l).panic = false := by
  unfold finish
  rw [if_neg (by simp [hp])]
  refine ite_cases (P := fun x : G => x.panic = false) (fun hc => ?_) (fun _ => hp)
  -- the final hand-over is made only if `w.stopped` is not set, hence to a consumer that has not stopped
  have hst : g.stopped = false := by
    cases hh : g.stopped
    · rfl
    · rw [h.wstopped hh] at hc; simp at hc
  simp [G.yielded, hst, hp]

theorem loop_true_not_stopped (steps : List Step) (k : Nat) :
    (stmtsLoop (fun _ => true) steps k).stopped = false := by
  fun_induction stmtsLoop (fun _ => true) steps k with
  | case1 | case2 | case4 => rfl
  | case3 _ _ _ _ _ _ h => cases h
  | case5 _ _ _ _ _ _ _ _ _ ih => exact ih

theorem loop_err_of_yield (cont : Nat → Bool) (steps : List Step) (k : Nat) :
    (stmtsLoop cont steps k).yields.any (·.err) = true → (stmtsLoop cont steps k).err = true := by
  fun_induction stmtsLoop cont steps k with
  | case1 | case2 => exact not_both rfl
  | case3 => exact fun h => (Bool.or_false _).symm.trans h
  | case4 => exact fun _ => rfl
  | case5 s _ _ _ _ _ _ herr _ ih =>
    intro h
    rcases Bool.or_eq_true_iff.1 h with h | h
    · exact absurd h herr
    · exact ih h

/-- a consumer that stops at its j-th call from here sees at most j+1 yields, and fewer if the loop
    ends before -/
theorem loop_stop_bound (cont : Nat → Bool) (steps : List Step) (k j : Nat) (hc : cont (k + j) = false) :
    ((stmtsLoop cont steps k).stopped = true → (stmtsLoop cont steps k).yields.length ≤ j + 1) ∧
    ((stmtsLoop cont steps k).stopped = false → (stmtsLoop cont steps k).yields.length ≤ j) := by
  fun_induction stmtsLoop cont steps k generalizing j with
  | case1 | case2 => exact ⟨not_both rfl, fun _ => Nat.zero_le _⟩
  | case3 => exact ⟨fun _ => Nat.succ_le_succ (Nat.zero_le _), fun h => not_both h rfl⟩
  | case4 s rest k id _ _ hck =>
    refine ⟨not_both rfl, fun _ => ?_⟩
    cases j with
    | zero => rw [Nat.add_zero] at hc; rw [hc] at hck; exact absurd rfl hck
    | succ j => exact Nat.succ_le_succ (Nat.zero_le _)
  | case5 s rest k id _ _ hck _ _ ih =>
    cases j with
    | zero => rw [Nat.add_zero] at hc; rw [hc] at hck; exact absurd rfl hck
    | succ j =>
      obtain ⟨h1, h2⟩ := ih j (by rw [← hc, Nat.add_assoc, Nat.add_comm 1 j])
      exact ⟨fun h => Nat.succ_le_succ (h1 h), fun h => Nat.succ_le_succ (h2 h)⟩

theorem loop_prefix (cont : Nat → Bool) (steps : List Step) (k : Nat) :
    (stmtsLoop cont steps k).yields <+: (stmtsLoop (fun _ => true) steps k).yields ∧
    ((stmtsLoop cont steps k).stopped = false →
      stmtsLoop cont steps k = stmtsLoop (fun _ => true) steps k) := by
  induction steps generalizing k with
  | nil => exact ⟨List.prefix_refl _, fun _ => rfl⟩
  | cons s rest ih =>
    obtain ⟨_ | id, err⟩ := s
    · exact ⟨List.prefix_refl _, fun _ => rfl⟩
    · cases hc : cont k <;> cases err <;>
        simp only [stmtsLoop, hc, Bool.not_true, Bool.not_false, Bool.false_eq_true, if_false, if_true]
      · exact ⟨List.cons_prefix_cons.2 ⟨rfl, List.nil_prefix⟩, fun h => nomatch h⟩
      · exact ⟨List.prefix_refl _, fun h => nomatch h⟩
      · exact ⟨List.cons_prefix_cons.2 ⟨rfl, (ih _).1⟩, fun h => by rw [(ih _).2 h]⟩
      · exact ⟨List.prefix_refl _, fun _ => trivial⟩

theorem rhsValue_congr (consts : List (String × String)) (s1 s2 : String → Option String) (f rhs : String)
    (h : ∀ g, negatedField rhs = some g → s1 g = s2 g) :
    rhsValue consts s1 f rhs = rhsValue consts s2 f rhs := by
  unfold rhsValue
  split
  · rfl
  · split
    · rfl
    · cases hn : negatedField rhs with
      | none => rfl
      | some g => simp only [h g hn]

end ShVerif.C08
