import ShVerif.Model.C26
/-
  C26 — `BashSem` (`L5.Bash.sem`) by itself: its equations construct by construct, in the same form
  as those of the model in C26Run (a sequence is a `bind`; `Res.next` goes on after a normal
  completion only).  Core Lean only.
-/
namespace ShVerif.C26
open ShVerif.L5 ShVerif.L5.Bash

abbrev semS (n : Nat) (k : Ctx) : Stmt → Env → Res := fun st => sem n k (.stmt st)

/-- A shell process in `BashSem` (`sub` in the definition of `sem`). -/
abbrev semSub (n : Nat) (k : Ctx) (p : Prog) (e : Env) : Res :=
  subRun (semS n k) (fun a e' => sem n { k with exitTrap := true } (.trap a) e') p e

def Res.next (k : Env → Res) : Flow × Env → Res
  | (.norm, e) => k e
  | r => some r

def _root_.ShVerif.L5.Bash.Flow.stops : Flow → Bool
  | .ret | .exit => true
  | _ => false

theorem Flow.ne_norm_of_stops {fl : Flow} (h : fl.stops = true) : fl ≠ .norm := by
  intro h'; subst h'; cases h

theorem Res.next_stops (k : Env → Res) {fl : Flow} (h : fl.stops = true) (e : Env) :
    Res.next k (fl, e) = some (fl, e) := by
  cases fl <;> first | rfl | cases h

theorem seqList_cons (f : Stmt → Env → Res) (st : Stmt) (rest : Prog) (e : Env) :
    seqList f (.cons st rest) e = (f st e).bind (Res.next (seqList f rest)) := by
  show (match f st e with | none => none | some (.norm, e1) => _ | some r => some r) = _
  cases f st e with
  | none => rfl
  | some r => obtain ⟨fl, e1⟩ := r; cases fl <;> rfl

theorem seqList_single (f : Stmt → Env → Res) (st : Stmt) (e : Env) :
    seqList f (.cons st .nil) e = f st e := by
  rw [seqList_cons]
  cases f st e with
  | none => rfl
  | some r => obtain ⟨fl, e1⟩ := r; cases fl <;> rfl

def loopEnd (again : Env → Res) : Flow × Env → Res
  | (fl, e) =>
    match afterBody fl with
    | (true, fl') => some (fl', e)
    | (false, _) => again e

theorem loopEnd_go (again : Env → Res) {fl : Flow} (h : (afterBody fl).1 = false) (e : Env) :
    loopEnd again (fl, e) = again e := by
  show (match afterBody fl with | (true, fl') => some (fl', e) | (false, _) => again e) = _
  rcases hab : afterBody fl with ⟨a, b⟩
  rw [hab] at h
  subst h; rfl

theorem loopEnd_leave (again : Env → Res) {fl : Flow} (h : (afterBody fl).1 = true) (e : Env) :
    loopEnd again (fl, e) = some ((afterBody fl).2, e) := by
  show (match afterBody fl with | (true, fl') => some (fl', e) | (false, _) => again e) = _
  rcases hab : afterBody fl with ⟨a, b⟩
  rw [hab] at h
  subst h; rfl

theorem forItems_cons (f : Stmt → Env → Res) (x : Str) (b : Prog) (it : Str) (rest : List Str)
    (e : Env) :
    forItems f x b (it :: rest) e =
      (seqList f b { e with vars := (x, it) :: e.vars }).bind (loopEnd (forItems f x b rest)) := by
  show (match seqList f b { e with vars := (x, it) :: e.vars } with
    | none => none | some (fl, e1) => _) = _
  cases seqList f b { e with vars := (x, it) :: e.vars } <;> rfl

theorem caseItems_cons (f : Stmt → Env → Res) (str : Str) (force ne : Bool) (pats : List Pat)
    (body : Prog) (op : CaseOp) (rest : Items) (e : Env) :
    caseItems f str force ne (.cons pats body op rest) e =
      if force || pats.any (patMatches str) then
        (seqList f body e).bind (Res.next fun e1 =>
          match op with
          | .brk => some (.norm, caseDone (!body.isNil) e1)
          | .fall => caseItems f str true (!body.isNil) rest e1
          | .resume => caseItems f str false (!body.isNil) rest e1)
      else caseItems f str false ne rest e := by
  show (if _ then (match seqList f body e with
    | none => none | some (.norm, e1) => _ | some r => some r) else _) = _
  cases seqList f body e with
  | none => rfl
  | some r => obtain ⟨fl, e1⟩ := r; cases fl <;> rfl

theorem subRun_eq (f : Stmt → Env → Res) (tr : Prog → Env → Res) (p : Prog) (e : Env) :
    subRun f tr p e =
      (seqList f p e).bind fun r => (tr r.2.trapExit r.2).bind fun r2 => some (.norm, r2.2) := by
  show (match seqList f p e with | none => none | some (_, e1) => _) = _
  cases seqList f p e with
  | none => rfl
  | some r =>
    show (match tr r.2.trapExit r.2 with | none => none | some (_, e2) => _) = Option.bind (tr _ _) _
    cases tr r.2.trapExit r.2 <;> rfl

theorem semFile_eq (fuel : Nat) (p : Prog) :
    semFile fuel p = (semSub fuel {} p {}).bind fun r => some (r.2.out, r.2.status) := by
  show (match semSub fuel {} p {} with | none => none | some (_, e) => _) = _
  cases semSub fuel {} p {} <;> rfl

section equations
variable {n : Nat} {k : Ctx} {e : Env}

theorem sem_zero (k : Ctx) (t : Bash.Task) (e : Env) : sem 0 k t e = none := rfl

/-- Is the errexit/ERR test made after command `c` completed with `fl`?  One test for the three
    branches `.norm`, `.brk`, `.cont` of `sem` on a statement. -/
def errTested (c : Cmd) : Flow → Bool
  | .norm => isChecked c
  | .brk _ | .cont _ => isBrkCont c
  | _ => false

/-- The counterpart of `stmtEnd` in `BashSem`. -/
def semEnd (n : Nat) (k : Ctx) (c : Cmd) (e0 : Env) (r : Flow × Env) : Res :=
  if errTested c r.1 && r.2.status != 0 && !k.ign then
    match sem n k (.trap (errAction e0 r.2)) r.2 with
    | none => none
    | some (.exit, e2) => some (.exit, e2)
    | some (_, e2) => if e2.errexit then some (.exit, e2) else some (r.1, e2)
  else some r

theorem sem_stmt_pos (c : Cmd) :
    sem (n+1) k (.stmt (.mk false c)) e = (sem n k (.cmd c) e).bind (semEnd n k c e) := by
  show (match sem n k (.cmd c) e with
    | none => none | some (.norm, e1) => _ | some (.brk m, e1) => _ | some (.cont m, e1) => _
    | some r => some r) = _
  cases sem n k (.cmd c) e with
  | none => rfl
  | some r => obtain ⟨fl, e1⟩ := r; cases fl <;> rfl

def negFlow (r : Flow × Env) : Res :=
  match r.1 with
  | .ret | .exit => some r
  | _ => some (r.1, { r.2 with status := if r.2.status = 0 then 1 else 0 })

theorem sem_stmt_neg (c : Cmd) :
    sem (n+1) k (.stmt (.mk true c)) e = (sem n { k with ign := true } (.cmd c) e).bind negFlow := by
  show (match sem n { k with ign := true } (.cmd c) e with
    | none => none | some (.norm, e1) => _ | some (.brk m, e1) => _ | some (.cont m, e1) => _
    | some r => some r) = _
  cases sem n { k with ign := true } (.cmd c) e with
  | none => rfl
  | some r => obtain ⟨fl, e1⟩ := r; cases fl <;> rfl

def trapEnd (status : Nat) : Flow × Env → Res
  | (.exit, e1) => some (.exit, e1)
  | (_, e1) => some (.norm, { e1 with status := status })

theorem sem_trap (a : Prog) :
    sem (n+1) k (.trap a) e =
      if a.isNil || k.inTrap then some (.norm, e)
      else (seqList (semS n (actionCtx k e.status)) a e).bind (trapEnd e.status) := by
  show (if _ then _ else match seqList (semS n (actionCtx k e.status)) a e with
    | none => none | some (.exit, e1) => _ | some (_, e1) => _) = _
  cases seqList (semS n (actionCtx k e.status)) a e with
  | none => rfl
  | some r => obtain ⟨fl, e1⟩ := r; cases fl <;> rfl

theorem sem_loop (u : Bool) (c b : Prog) (acc : Nat) :
    sem (n+1) k (.loop u c b acc) e =
      (seqList (semS n { k with ign := true, depth := k.depth + 1 }) c e).bind fun r =>
        match r with
        | (.norm, e1) =>
          if (e1.status == 0) == u then some (.norm, { e1 with status := acc })
          else (seqList (semS n { k with depth := k.depth + 1 }) b e1).bind
            (loopEnd fun e2 => sem n k (.loop u c b e2.status) e2)
        | r => loopEnd (fun e1 => sem n k (.loop u c b e1.status) e1) r := by
  show (match seqList (semS n { k with ign := true, depth := k.depth + 1 }) c e with
    | none => none | some (.norm, e1) => _ | some (fl, e1) => _) = _
  cases seqList (semS n { k with ign := true, depth := k.depth + 1 }) c e with
  | none => rfl
  | some r =>
    obtain ⟨fl, e1⟩ := r
    cases fl <;> try rfl
    show (if _ then _ else match seqList (semS n { k with depth := k.depth + 1 }) b e1 with
      | none => none | some (fl, e2) => _) = (if _ then _ else Option.bind _ _)
    cases seqList (semS n { k with depth := k.depth + 1 }) b e1 <;> rfl

theorem sem_tru : sem (n+1) k (.cmd .tru) e = some (.norm, { e with status := 0 }) := rfl

theorem sem_fls : sem (n+1) k (.cmd .fls) e = some (.norm, { e with status := 1 }) := rfl

theorem sem_echo (w : Word) :
    sem (n+1) k (.cmd (.echo w)) e =
      some (.norm, { e with status := 0, out := e.out ++ (expandWord e.vars e.status w ++ [10]) }) :=
  rfl

theorem sem_test (x : Str) (neg : Bool) (v : Str) :
    sem (n+1) k (.cmd (.test x neg v)) e =
      some (.norm, { e with status := if (lookupVar e.vars x == v) != neg then 0 else 1 }) := rfl

theorem sem_assign (x : Str) (w : Word) :
    sem (n+1) k (.cmd (.assign x w)) e =
      some (.norm, { e with status := 0, vars := (x, expandWord e.vars e.status w) :: e.vars }) := rfl

theorem sem_assignSub (x : Str) (p : Prog) :
    sem (n+1) k (.cmd (.assignSub x p)) e =
      (semSub n k p (subEnv e [])).bind fun r =>
        some (.norm, { e with status := r.2.status, vars := (x, stripNl r.2.out) :: e.vars }) := by
  show (match semSub n k p (subEnv e []) with | none => none | some (_, e1) => _) = _
  cases semSub n k p (subEnv e []) <;> rfl

theorem sem_echoSub (w1 : Word) (p : Prog) (w2 : Word) :
    sem (n+1) k (.cmd (.echoSub w1 p w2)) e =
      (semSub n k p (subEnv e [])).bind fun r =>
        some (.norm, { e with status := 0,
                              out := e.out ++ (expandWord e.vars e.status w1 ++ (stripNl r.2.out ++
                                (expandWord e.vars r.2.status w2 ++ [10]))) }) := by
  show (match semSub n k p (subEnv e []) with | none => none | some (_, e1) => _) = _
  cases semSub n k p (subEnv e []) <;> rfl

theorem sem_exit_none :
    sem (n+1) k (.cmd (.exit none)) e =
      some (.exit, if k.inTrap || k.inExit then { e with status := k.trapSt } else e) := rfl

theorem sem_exit_some (m : Nat) :
    sem (n+1) k (.cmd (.exit (some m))) e = some (.exit, { e with status := status256 m }) := rfl

theorem sem_ret (m : Option Nat) :
    sem (n+1) k (.cmd (.ret m)) e =
      if k.inFunc then
        match m with
        | none => some (.ret, e)
        | some v => some (.ret, { e with status := status256 v })
      else some (.norm, { e with status := 2 }) := rfl

theorem sem_brk (m : Option Int) :
    sem (n+1) k (.cmd (.brk m)) e =
      if k.depth = 0 then some (.norm, { e with status := 0 })
      else if optInt m < 1 then some (.brk k.depth, { e with status := 1 })
      else some (.brk (min (optInt m).toNat k.depth), { e with status := 0 }) := rfl

theorem sem_cont (m : Option Int) :
    sem (n+1) k (.cmd (.cont m)) e =
      if k.depth = 0 then some (.norm, { e with status := 0 })
      else if optInt m < 1 then some (.brk k.depth, { e with status := 1 })
      else some (.cont (min (optInt m).toNat k.depth), { e with status := 0 }) := rfl

theorem sem_setE (on : Bool) :
    sem (n+1) k (.cmd (.setE on)) e = some (.norm, { e with status := 0, errexit := on }) := rfl

theorem sem_setPF (on : Bool) :
    sem (n+1) k (.cmd (.setPF on)) e = some (.norm, { e with status := 0, pipefail := on }) := rfl

theorem sem_trapExit (a : Prog) :
    sem (n+1) k (.cmd (.trapExit a)) e = some (.norm, { e with status := 0, trapExit := a }) := rfl

theorem sem_trapErr (a : Prog) :
    sem (n+1) k (.cmd (.trapErr a)) e = some (.norm, { e with status := 0, trapErr := a }) := rfl

theorem sem_fn (f : Str) (body : Stmt) :
    sem (n+1) k (.cmd (.fn f body)) e =
      some (.norm, { e with status := 0, funcs := (f, body) :: e.funcs }) := rfl

def callEnd (e : Env) : Flow × Env → Res
  | (fl, e1) =>
    let e2 := if e.trapErr.isNil then e1 else { e1 with trapErr := e.trapErr }
    match fl with
    | .exit => some (.exit, e2)
    | _ => some (.norm, e2)

theorem sem_call (f : Str) :
    sem (n+1) k (.cmd (.call f)) e =
      match lookupFn e.funcs f with
      | none => some (.norm, { e with status := 127 })
      | some body =>
        (sem n { k with inFunc := true, depth := 0 } (.stmt body) { e with trapErr := .nil }).bind
          (callEnd e) := by
  show (match lookupFn e.funcs f with | none => _ | some body => _) = _
  cases lookupFn e.funcs f with
  | none => rfl
  | some body =>
    show (match sem n { k with inFunc := true, depth := 0 } (.stmt body) { e with trapErr := .nil } with
      | none => none | some (fl, e1) => _) = Option.bind _ _
    cases sem n { k with inFunc := true, depth := 0 } (.stmt body) { e with trapErr := .nil } <;> rfl

theorem sem_block (p : Prog) : sem (n+1) k (.cmd (.block p)) e = seqList (semS n k) p e := rfl

theorem sem_subsh (p : Prog) :
    sem (n+1) k (.cmd (.subsh p)) e =
      (semSub n { k with depth := 0 } p (subEnv e e.out)).bind fun r =>
        some (.norm, { e with status := r.2.status, out := r.2.out }) := by
  show (match semSub n { k with depth := 0 } p (subEnv e e.out) with
    | none => none | some (_, e1) => _) = _
  cases semSub n { k with depth := 0 } p (subEnv e e.out) <;> rfl

theorem sem_and (x y : Stmt) :
    sem (n+1) k (.cmd (.and x y)) e =
      (sem n { k with ign := true } (.stmt x) e).bind (Res.next fun e1 =>
        if e1.status = 0 then sem n k (.stmt y) e1 else some (.norm, e1)) := by
  show (match sem n { k with ign := true } (.stmt x) e with
    | none => none | some (.norm, e1) => _ | some r => some r) = _
  cases sem n { k with ign := true } (.stmt x) e with
  | none => rfl
  | some r => obtain ⟨fl, e1⟩ := r; cases fl <;> rfl

theorem sem_or (x y : Stmt) :
    sem (n+1) k (.cmd (.or x y)) e =
      (sem n { k with ign := true } (.stmt x) e).bind (Res.next fun e1 =>
        if e1.status ≠ 0 then sem n k (.stmt y) e1 else some (.norm, e1)) := by
  show (match sem n { k with ign := true } (.stmt x) e with
    | none => none | some (.norm, e1) => _ | some r => some r) = _
  cases sem n { k with ign := true } (.stmt x) e with
  | none => rfl
  | some r => obtain ⟨fl, e1⟩ := r; cases fl <;> rfl

theorem sem_pipe (x y : Stmt) :
    sem (n+1) k (.cmd (.pipe x y)) e =
      (semSub n { k with depth := 0 } (.cons x .nil) (subEnv e [])).bind fun r1 =>
        (semSub n { k with depth := 0 } (.cons y .nil) (subEnv e e.out)).bind fun r2 =>
          some (.norm, { e with
            status := if e.pipefail && r2.2.status = 0 then r1.2.status else r2.2.status,
            out := r2.2.out }) := by
  show (match semSub n { k with depth := 0 } (.cons x .nil) (subEnv e []) with
    | none => none | some (_, e1) => _) = _
  cases semSub n { k with depth := 0 } (.cons x .nil) (subEnv e []) with
  | none => rfl
  | some r1 =>
    show (match semSub n { k with depth := 0 } (.cons y .nil) (subEnv e e.out) with
      | none => none | some (_, e2) => _) = Option.bind _ _
    cases semSub n { k with depth := 0 } (.cons y .nil) (subEnv e e.out) <;> rfl

theorem sem_ifc (c t : Prog) (el : Else) :
    sem (n+1) k (.cmd (.ifc c t el)) e =
      (seqList (semS n { k with ign := true }) c e).bind (Res.next fun e1 =>
        if e1.status = 0 then seqList (semS n k) t e1
        else
          match el with
          | .none => some (.norm, { e1 with status := 0 })
          | .els p => sem n k (.cmd (.block p)) e1
          | .elif c2 t2 e2 => sem n k (.cmd (.ifc c2 t2 e2)) e1) := by
  show (match seqList (semS n { k with ign := true }) c e with
    | none => none | some (.norm, e1) => _ | some r => some r) = _
  cases seqList (semS n { k with ign := true }) c e with
  | none => rfl
  | some r => obtain ⟨fl, e1⟩ := r; cases fl <;> rfl

theorem sem_whl (u : Bool) (c b : Prog) :
    sem (n+1) k (.cmd (.whl u c b)) e = sem n k (.loop u c b 0) e := rfl

theorem sem_forc (x : Str) (items : List Str) (b : Prog) :
    sem (n+1) k (.cmd (.forc x items b)) e =
      if items.isEmpty then some (.norm, { e with status := 0 })
      else forItems (semS n { k with depth := k.depth + 1 }) x b items e := rfl

theorem sem_case (w : Word) (is : Items) :
    sem (n+1) k (.cmd (.case w is)) e =
      caseItems (semS n k) (expandWord e.vars e.status w) false false is e := rfl

end equations

theorem sem_pos {n : Nat} {k : Ctx} {t : Bash.Task} {e : Env} {r : Flow × Env}
    (h : sem n k t e = some r) : 1 ≤ n :=
  match n, h with
  | _ + 1, _ => Nat.succ_pos _

theorem sem_stmt_ge2 {n : Nat} {k : Ctx} {st : Stmt} {e : Env} {r : Flow × Env}
    (h : sem n k (.stmt st) e = some r) : 2 ≤ n := by
  cases n with
  | zero => cases h
  | succ m =>
    cases m with
    | zero => obtain ⟨neg, c⟩ := st; cases neg <;> cases h
    | succ k => omega

end ShVerif.C26
