import ShVerif.Model.C31
/-
  The skeleton model: `Run` is the big-step relation that `exec` computes (`exec_run`), with one
  rule for all the stop checks that fire; what holds of every finished run is proved by induction
  over `Run`, what needs fuel (`exec_terminates`) over `exec`.  A run is a path of model steps
  (`Run.quiet`); `Run.of_cancelled` and `Run.after_cancelled` say what happens on one entered after
  the cancellation, and `Run.after_bound` places the cancellation on the path.
-/
namespace ShVerif.C31

def le (a b : St) : Prop := a.now ≤ b.now ∧ a.log.length ≤ b.log.length

theorem le_refl (a : St) : le a a := ⟨Nat.le_refl _, Nat.le_refl _⟩
theorem le_trans {a b c : St} (h1 : le a b) (h2 : le b c) : le a c :=
  ⟨Nat.le_trans h1.1 h2.1, Nat.le_trans h1.2 h2.2⟩

theorem cancelled_mono (e : Env) {a b : St} (h : le a b) (hc : cancelled e a = true) : cancelled e b = true := by
  simp only [cancelled, Bool.or_eq_true, decide_eq_true_eq] at hc ⊢
  exact hc.imp (Nat.le_trans · h.1) (Nat.le_trans · h.2)

theorem not_cancelled_mono (e : Env) {a b : St} (h : le a b) (hc : cancelled e b = false) : cancelled e a = false :=
  Bool.eq_false_iff.2 fun ha => Bool.eq_false_iff.1 hc (cancelled_mono e h ha)

@[simp] theorem tick_now (e : Env) (s : St) : (tick e s).now = s.now + 1 := rfl
@[simp] theorem tick_log (e : Env) (s : St) : (tick e s).log = s.log := rfl
@[simp] theorem tick_ok (e : Env) (s : St) : (tick e s).ok = s.ok := rfl
@[simp] theorem tick_fatal (e : Env) (s : St) : (tick e s).fatal = s.fatal := rfl

/-- also for `t := { s with ok := … }` and the like -/
theorem le_tick (e : Env) {s t : St} (hn : s.now = t.now := by rfl) (hl : s.log = t.log := by rfl) :
    le s (tick e t) := ⟨hn ▸ Nat.le_succ _, hl ▸ Nat.le_refl _⟩

theorem tick_after_le (e : Env) (s : St) : (tick e s).after ≤ s.after + 1 := by
  simp only [tick]; split <;> omega

theorem tick_after_of_not (e : Env) (s : St) (h : cancelled e s = false) : (tick e s).after = s.after := by
  simp [tick, h]

theorem le_halt (e : Env) (s : St) : le s (halt e s) := le_tick e
theorem halt_after_le (e : Env) (s : St) : (halt e s).after ≤ s.after + 1 :=
  tick_after_le e { s with ok := false, fatal := true }
@[simp] theorem halt_log (e : Env) (s : St) : (halt e s).log = s.log := rfl
@[simp] theorem halt_ok (e : Env) (s : St) : (halt e s).ok = false := rfl
@[simp] theorem halt_fatal (e : Env) (s : St) : (halt e s).fatal = true := rfl

theorem le_clear (s : St) : le s (clear s) := by
  unfold clear; split <;> exact le_refl _
theorem clear_le (s : St) : le (clear s) s := by
  unfold clear; split <;> exact le_refl _
@[simp] theorem clear_after (s : St) : (clear s).after = s.after := by
  unfold clear; split <;> rfl
@[simp] theorem clear_log (s : St) : (clear s).log = s.log := by
  unfold clear; split <;> rfl
@[simp] theorem clear_now (s : St) : (clear s).now = s.now := by
  unfold clear; split <;> rfl

theorem runAtom_after_le (e : Env) (id : Nat) (s : St) : (runAtom e id s).after ≤ s.after + 1 :=
  tick_after_le e { s with log := id :: s.log, ok := e.oracle s.log.length }

/-- the state is dead: stop() has recorded the fatal error -/
def dead (s : St) : Prop := s.ok = false ∧ s.fatal = true

theorem dead_tick (e : Env) {s : St} (h : dead s) : dead (tick e s) := h
theorem dead_clear {s : St} (h : dead s) : dead (clear s) := by
  unfold clear; rw [if_pos h.2]; exact h
theorem dead_halt (e : Env) (s : St) : dead (halt e s) := ⟨rfl, rfl⟩

/-- the constructs that begin with `if r.stop(ctx) { return }` -/
def stops : Sk → Bool
  | .seq _ _ | .forItems 0 _ | .forCIter _ _ _ => false
  | _ => true

/-- `Run e sk st st'`: running `sk` from `st` ends in `st'`.  The rules are the branches of `exec`
    that return a state; `stop` is the stop check of any construct that has one, seeing the
    cancellation. -/
inductive Run (e : Env) : Sk → St → St → Prop
  | stop {sk st} : stops sk = true → cancelled e st = true → Run e sk st (halt e st)
  | atom {id st} : cancelled e st = false → Run e (.atom id) st (runAtom e id st)
  | seq {a b st st1 st'} : Run e a st st1 → Run e b st1 st' → Run e (.seq a b) st st'
  | ifT {c t el st st1 st'} : cancelled e st = false → Run e c (tick e st) st1 → st1.ok = true →
      Run e t st1 st' → Run e (.ifc c t el) st st'
  | ifF {c t el st st1 st'} : cancelled e st = false → Run e c (tick e st) st1 → st1.ok = false →
      Run e el (clear st1) st' → Run e (.ifc c t el) st st'
  | whileL {u c b st st'} : cancelled e st = false → Run e (.whileIter u c b) (tick e st) st' →
      Run e (.whileL u c b) st st'
  | whileExit {u c b st st1} : cancelled e st = false → Run e c (tick e st) st1 →
      (st1.ok == u) = true → Run e (.whileIter u c b) st (clear st1)
  | whileLoop {u c b st st1 st2 st'} : cancelled e st = false → Run e c (tick e st) st1 →
      (st1.ok == u) = false → Run e b (clear st1) st2 → Run e (.whileIter u c b) st2 st' →
      Run e (.whileIter u c b) st st'
  | forW {n b st st'} : cancelled e st = false →
      Run e (.forItems n b) (tick e { st with ok := true }) st' → Run e (.forW n b) st st'
  | forNil {b st} : Run e (.forItems 0 b) st st
  | forCons {k b st st1 st'} : cancelled e st = false →
      Run e b (tick e { st with items := st.items + 1 }) st1 → Run e (.forItems k b) st1 st' →
      Run e (.forItems (k + 1) b) st st'
  | forC {n b st st'} : cancelled e st = false →
      Run e (.forCIter 0 n b) (tick e { st with ok := true }) st' → Run e (.forC n b) st st'
  | forCEnd {i n b st} : (i < n → st.ok = false) → Run e (.forCIter i n b) st (tick e st)
  | forCStep {i n b st st2 st'} : i < n → st.ok = true → Run e b (tick e st) st2 →
      Run e (.forCIter (i + 1) n b) (tick e st2) st' → Run e (.forCIter i n b) st st'
  | sub {b st st'} : cancelled e st = false → Run e b (tick e st) st' → Run e (.sub b) st st'

theorem exec_run {e : Env} {f : Nat} {sk : Sk} {st st' : St} (h : exec e f sk st = some st') :
    Run e sk st st' := by
  fun_induction exec e f sk st generalizing st' with
  -- out of fuel
  | case1 | case4 | case7 | case13 | case15 | case21 | case26 => cases h
  -- a stop check fires
  | case2 | case6 | case10 | case12 | case17 | case20 | case23 | case29 =>
    cases h; exact .stop rfl ‹_›
  | case3 _ _ _ hn => cases h; exact .atom (eq_false_of_ne_true hn)
  | case5 _ _ _ _ _ h1 iha ihb => exact .seq (iha h1) (ihb h)
  | case8 _ _ _ _ _ hn _ h1 hok ihc iht => exact .ifT (eq_false_of_ne_true hn) (ihc h1) hok (iht h)
  | case9 _ _ _ _ _ hn _ h1 hok ihc ihe =>
    exact .ifF (eq_false_of_ne_true hn) (ihc h1) (eq_false_of_ne_true hok) (ihe h)
  | case11 _ _ _ _ _ hn ih => exact .whileL (eq_false_of_ne_true hn) (ih h)
  | case14 _ _ _ _ _ hn _ h1 hu ihc => cases h; exact .whileExit (eq_false_of_ne_true hn) (ihc h1) hu
  | case16 _ _ _ _ _ hn _ h1 hu _ h2 ihc ihb ihr =>
    exact .whileLoop (eq_false_of_ne_true hn) (ihc h1) (eq_false_of_ne_true hu) (ihb h2) (ihr h)
  | case18 _ _ _ _ hn ih => exact .forW (eq_false_of_ne_true hn) (ih h)
  | case19 => cases h; exact .forNil
  | case22 _ _ _ _ hn _ h1 ihb ihr => exact .forCons (eq_false_of_ne_true hn) (ihb h1) (ihr h)
  | case24 _ _ _ _ hn ih => exact .forC (eq_false_of_ne_true hn) (ih h)
  | case25 => rename_i hok; cases h; exact .forCEnd fun _ => (Bool.not_eq_true' _).mp hok
  | case27 =>
    rename_i hin hok _ h2 ihb ihr
    exact .forCStep hin ((Bool.not_eq_false' _).mp (eq_false_of_ne_true hok)) (ihb h2) (ihr h)
  | case28 => rename_i hin; cases h; exact .forCEnd fun h => absurd h hin
  | case30 _ _ _ hn ih => exact .sub (eq_false_of_ne_true hn) (ih h)

variable {e : Env} {sk : Sk} {st st' : St}

theorem Run.forCIter_of_not_ok {i n : Nat} {b : Sk}
    (h : Run e (.forCIter i n b) st st') (hok : st.ok = false) : st' = tick e st := by
  cases h with
  | stop hs => cases hs
  | forCEnd => rfl
  | forCStep _ h1 => rw [hok] at h1; cases h1

/-- `b` is reached from `a`, and if the context is still not cancelled at `b`, no step in between
    counted as taken after the cancellation -/
def quiet (e : Env) (a b : St) : Prop := le a b ∧ (cancelled e b = false → b.after = a.after)

theorem quiet_refl (a : St) : quiet e a a := ⟨le_refl a, fun _ => rfl⟩

theorem quiet_trans {a b c : St} (h1 : quiet e a b) (h2 : quiet e b c) : quiet e a c :=
  ⟨le_trans h1.1 h2.1, fun hn => (h2.2 hn).trans (h1.2 (not_cancelled_mono e h2.1 hn))⟩

/-- one model step, possibly after an update of the fields that `cancelled` does not read -/
theorem quiet_tick {s t : St} (h : le s t := by exact le_refl _) (ha : t.after = s.after := by rfl) :
    quiet e s (tick e t) :=
  ⟨le_trans h (le_tick e), fun hn =>
    (tick_after_of_not e t (not_cancelled_mono e (le_tick e) hn)).trans ha⟩

theorem quiet_clear (s : St) : quiet e s (clear s) := ⟨le_clear s, fun _ => clear_after s⟩

theorem Run.quiet (h : Run e sk st st') : quiet e st st' := by
  induction h with
  | stop | forCEnd => exact quiet_tick
  | atom => exact quiet_tick ⟨Nat.le_refl _, Nat.le_succ _⟩
  | seq _ _ ia ib => exact quiet_trans ia ib
  | ifT _ _ _ _ ic it => exact quiet_trans (quiet_trans quiet_tick ic) it
  | ifF _ _ _ _ ic ie => exact quiet_trans (quiet_trans (quiet_trans quiet_tick ic) (quiet_clear _)) ie
  | whileExit _ _ _ ic => exact quiet_trans (quiet_trans quiet_tick ic) (quiet_clear _)
  | whileLoop _ _ _ _ _ ic ib ir =>
    exact quiet_trans (quiet_trans (quiet_trans (quiet_trans quiet_tick ic) (quiet_clear _)) ib) ir
  | forNil => exact quiet_refl _
  | forCons _ _ _ ib ir => exact quiet_trans (quiet_trans quiet_tick ib) ir
  | forCStep _ _ _ _ ib ir => exact quiet_trans (quiet_trans (quiet_trans quiet_tick ib) quiet_tick) ir
  | whileL _ _ ir | forW _ _ ir | forC _ _ ir | sub _ _ ir => exact quiet_trans quiet_tick ir

theorem Run.mono (h : Run e sk st st') : le st st' := h.quiet.1

theorem Run.after_of_not (h : Run e sk st st') (hn : cancelled e st' = false) : st'.after = st.after :=
  h.quiet.2 hn

theorem Run.of_cancelled (h : Run e sk st st') (hc : cancelled e st = true) :
    cancelled e st' = true ∧ st'.log = st.log ∧ ((lead sk = true ∨ dead st) → dead st') := by
  induction h with
  | stop => exact ⟨cancelled_mono e (le_halt e _) hc, rfl, fun _ => dead_halt e _⟩
  | seq _ _ ia ib =>
    obtain ⟨c1, l1, d1⟩ := ia hc
    obtain ⟨c2, l2, d2⟩ := ib c1
    exact ⟨c2, l2.trans l1, fun hd => d2 (.inr (d1 hd))⟩
  | forNil => exact ⟨hc, rfl, fun hd => hd.resolve_left Bool.false_ne_true⟩
  | forCEnd => exact ⟨cancelled_mono e (le_tick e) hc, rfl, fun hd => hd.resolve_left Bool.false_ne_true⟩
  | forCStep _ _ _ _ ib ir =>
    obtain ⟨c2, l2, d2⟩ := ib (cancelled_mono e (le_tick e) hc)
    obtain ⟨c4, l4, d4⟩ := ir (cancelled_mono e (le_tick e) c2)
    exact ⟨c4, l4.trans l2, fun hd => d4 (.inr (d2 (.inr (hd.resolve_left Bool.false_ne_true))))⟩
  | _ => simp_all

/-- steps still taken by a program entered after the cancellation: one per stop check reached; a
    C-style loop makes one more pass over its body, whose first stop check makes `r.exit.ok()`
    false -/
def cunwind : Sk → Nat
  | .seq a b => cunwind a + cunwind b
  | .forItems 0 _ => 0
  | .forCIter _ _ b => cunwind b + 3
  | _ => 1

theorem cunwind_of_stops {sk : Sk} (h : stops sk = true) : cunwind sk = 1 := by
  unfold cunwind; split <;> simp_all [stops]

theorem cunwind_le_unwind (sk : Sk) : cunwind sk ≤ unwind sk := by
  induction sk with
  | forItems k => cases k <;> simp only [cunwind, unwind] <;> omega
  | _ => simp only [cunwind, unwind] <;> omega

theorem Run.after_cancelled (h : Run e sk st st')
    (hc : cancelled e st = true) (hw : wf sk = true) : st'.after ≤ st.after + cunwind sk := by
  induction h with
  | stop hs => rw [cunwind_of_stops hs]; exact halt_after_le e _
  | seq ha _ ia ib =>
    simp only [wf, Bool.and_eq_true] at hw
    have := ia hc hw.1
    have := ib (ha.of_cancelled hc).1 hw.2
    simp only [cunwind]; omega
  | forNil => exact Nat.le_refl _
  | @forCEnd _ _ _ st => have := tick_after_le e st; simp only [cunwind]; omega
  | @forCStep _ _ _ st st2 _ _ _ hb hr ib _ =>
    simp only [wf, Bool.and_eq_true] at hw
    have c1 := cancelled_mono e (le_tick e) hc
    have := ib c1 hw.1
    rw [hr.forCIter_of_not_ok ((hb.of_cancelled c1).2.2 (.inl hw.2)).1]
    have := tick_after_le e st
    have := tick_after_le e st2
    have := tick_after_le e (tick e st2)
    simp only [cunwind]; omega
  | _ => simp_all

/-- Whenever the cancellation strikes.  Up to it nothing counts (`after_of_not`); what is entered
    after it is bounded by `after_cancelled`; so each case only has to place the cancellation. -/
theorem Run.after_bound (h : Run e sk st st') (hw : wf sk = true) :
    st'.after ≤ st.after + unwind sk := by
  induction h with
  | @stop sk _ hs hc => have := Run.after_cancelled (.stop hs hc) hc hw; have := cunwind_le_unwind sk; omega
  | atom => exact runAtom_after_le e _ _
  | seq _ _ ia ib =>
    simp only [wf, Bool.and_eq_true] at hw
    have := ia hw.1
    have := ib hw.2
    simp only [unwind]; omega
  | @ifT _ _ _ st _ _ _ _ _ _ ic it =>
    simp only [wf, Bool.and_eq_true] at hw
    have := tick_after_le e st
    have := ic hw.1.1
    have := it hw.1.2
    simp only [unwind]; omega
  | @ifF _ _ _ st _ _ _ _ _ _ ic ie =>
    simp only [wf, Bool.and_eq_true] at hw
    have := tick_after_le e st
    have := ic hw.1.1
    have := ie hw.2
    simp only [clear_after] at this
    simp only [unwind]; omega
  | whileL hc _ ir | sub hc _ ir =>
    have := tick_after_of_not e _ hc
    have := ir hw
    simp only [unwind] at this ⊢; omega
  | @whileExit _ _ _ st _ _ _ _ ic =>
    simp only [wf, Bool.and_eq_true] at hw
    have := tick_after_le e st
    have := ic hw.1
    simp only [clear_after, unwind]; omega
  | @whileLoop _ _ _ st st1 st2 st' hc hcnd _ hb hr ic ib ir =>
    have b3 := ir hw
    simp only [wf, Bool.and_eq_true] at hw
    have := tick_after_of_not e st hc
    have := ic hw.1
    have b2 := ib hw.2
    simp only [clear_after] at b2
    cases hc2 : cancelled e st2 with
    | true =>
      have : st'.after ≤ st2.after + 1 := hr.after_cancelled hc2 (by simp [wf, hw])
      simp only [unwind]; omega
    | false =>
      have e2 := hb.after_of_not hc2
      have := hcnd.after_of_not (not_cancelled_mono e (le_clear _) (not_cancelled_mono e hb.mono hc2))
      simp only [clear_after] at e2
      simp only [unwind] at b3 ⊢; omega
  | @forW _ _ st _ _ _ ir | @forC _ _ st _ _ _ ir =>
    have : (tick e { st with ok := true }).after ≤ st.after + 1 := tick_after_le e _
    have := ir hw
    simp only [unwind] at this ⊢; omega
  | forNil => omega
  | @forCons k _ st st1 st' hc hb hr ib ir =>
    have : (tick e { st with items := st.items + 1 }).after = st.after := tick_after_of_not e _ hc
    have := ib hw
    cases hc1 : cancelled e st1 with
    | true =>
      have := hr.after_cancelled hc1 hw
      cases k <;> simp only [cunwind] at this <;> simp only [unwind] <;> omega
    | false =>
      have := hb.after_of_not hc1
      have b2 := ir hw
      simp only [unwind] at b2 ⊢; omega
  | @forCEnd _ _ _ st => have := tick_after_le e st; simp only [unwind]; omega
  | @forCStep _ _ b st st2 st' _ _ hb hr ib ir =>
    have b3 := ir hw
    have hw' := hw
    simp only [wf, Bool.and_eq_true] at hw
    have := tick_after_le e st
    have := ib hw.1
    have := tick_after_le e st2
    cases hc3 : cancelled e (tick e st2) with
    | true =>
      have : st'.after ≤ (tick e st2).after + (cunwind b + 3) := hr.after_cancelled hc3 hw'
      have := cunwind_le_unwind b
      simp only [unwind]; omega
    | false =>
      have n2 := not_cancelled_mono e (le_tick e) hc3
      have := tick_after_of_not e st2 n2
      have := hb.after_of_not n2
      have := tick_after_of_not e st (not_cancelled_mono e (le_tick e) (not_cancelled_mono e hb.mono n2))
      simp only [unwind] at b3 ⊢; omega

theorem exec_terminates (e : Env) : ∀ (f : Nat) (sk : Sk) (st : St),
    wf sk = true → cancelled e st = true → depth sk ≤ f → ∃ st', exec e f sk st = some st' := by
  intro f
  induction f with
  | zero =>
    intro sk st _ _ hd
    cases sk <;> simp [depth] at hd <;> omega
  | succ f ih =>
    intro sk st hw hc hd
    cases sk with
    | seq a b =>
      simp only [wf, Bool.and_eq_true] at hw
      simp only [depth] at hd
      obtain ⟨st1, h1⟩ := ih a st hw.1 hc (by omega)
      have c1 := ((exec_run h1).of_cancelled hc).1
      obtain ⟨st2, h2⟩ := ih b st1 hw.2 c1 (by omega)
      exact ⟨st2, by simp only [exec, h1, h2]⟩
    | forItems k b =>
      cases k with
      | zero => exact ⟨st, by simp only [exec]⟩
      | succ k => exact ⟨halt e st, by simp only [exec, hc, if_true]⟩
    | forCIter i n b =>
      simp only [wf, Bool.and_eq_true] at hw
      simp only [depth] at hd
      have c1 : cancelled e (tick e st) = true := cancelled_mono e (le_tick e) hc
      by_cases hin : i < n
      · cases hok : (tick e st).ok with
        | false =>
          refine ⟨tick e st, ?_⟩
          simp only [exec, hin, if_true, hok]; rfl
        | true =>
          obtain ⟨st2, h2⟩ := ih b _ hw.1 c1 (by omega)
          have hd2 : dead st2 := ((exec_run h2).of_cancelled c1).2.2 (.inl hw.2)
          cases f with
          | zero => omega
          | succ f =>
            have hok2 : (tick e (tick e st2)).ok = false := hd2.1
            refine ⟨tick e (tick e st2), ?_⟩
            simp only [exec, hin, if_true, hok, h2]
            by_cases hin2 : i + 1 < n
            · simp only [hin2, if_true, hok2]; rfl
            · simp only [hin2, if_false]
              rfl
      · refine ⟨tick e st, ?_⟩
        simp only [exec, hin, if_false]
    -- every other construct begins with a stop check
    | _ => exact ⟨halt e st, by simp only [exec, hc, if_true]⟩

theorem userLevel_wf (sk : Sk) (h : userLevel sk = true) : wf sk = true ∧ lead sk = true := by
  induction sk <;> simp [userLevel] at h <;> simp [wf, lead, *]

theorem stuckStep_nil (ex : List Expected) (ps : List Peer) : stuckStep ex ps [] = [] := by
  simp only [stuckStep]
  rw [List.filter_eq_nil_iff.mpr, List.filter_eq_nil_iff.mpr]
  · rfl
  · intro p _; simp
  · intro x _; cases x.rel <;> simp

/-- Only unreleased operations seed the closure: without one it starts empty and stays so, whatever
    the other entries and the peers are. -/
theorem stuck_eq_nil {ex : List Expected} (ps : List Peer)
    (h : ex.filter (fun x => x.rel = .unreleased) = []) : stuck ex ps = [] := by
  rw [stuck, h]
  generalize ex.length + ps.length + 1 = n
  induction n with
  | zero => rfl
  | succ n ih => rw [stuckFix]; exact (stuckStep_nil ex ps).symm ▸ ih

end ShVerif.C31
