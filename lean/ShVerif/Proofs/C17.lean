import ShVerif.Proofs.L3Glob
import ShVerif.Proofs.L3Eqns
/-
  C17 — bracket expressions: the loop of `regexpNext` (pattern.go) simulates the reference scanner
  `scanItems` on every bracket expression that `brSupported` admits, and the class it writes denotes,
  as Go's regexp reads it, the set the reference assigns to the bracket.
-/
namespace ShVerif.L3

theorem ofName_name (k : ClassName) : ClassName.ofName k.name = some k := by
  cases k <;> decide

/-- One reference element and the items pattern.go writes for it. -/
inductive Blk : List CItem → BItem → Prop
  | cls (k : ClassName) : Blk [.named k] (.cls k)
  | single (x : CItem) : x.isNamed = false → x ≠ .raw cDash → Blk [x] (.ch x.char)
  | range (x : CItem) (hi : Rune) : x.isNamed = false → x ≠ .raw cDash →
      Blk [x, .raw cDash, .raw hi] (.range x.char hi)

inductive Blks : List CItem → List BItem → Prop
  | nil : Blks [] []
  | snoc {A B blk it} : Blks A B → Blk blk it → Blks (A ++ blk) (B ++ [it])

/-- Relation between the variables of pattern.go's bracket loop and the reference scan state, at
    an element boundary. -/
structure Sim (stG : BrSt) (stS : BSt) : Prop where
  noSlashG : stG.hasSlash = false
  noSlashS : stS.slash = false
  deferred : stG.deferred = stS.rangeErr
  classErr : stG.classErr = stS.classErr
  clsImp : stS.rangeErr = none → stS.classErr = none
  items : stS.rangeErr = none →
    Blks stG.items stS.items ∧ ∀ lo hi, BItem.range lo hi ∈ stS.items → lo ≤ hi

/-- The same at the closing bracket, where the last element may be a literal dash. -/
structure SimFinal (stG : BrSt) (stS : BSt) : Prop where
  noSlashG : stG.hasSlash = false
  noSlashS : stS.slash = false
  deferred : stG.deferred = stS.rangeErr
  items : stS.rangeErr = none →
    ∃ A B T Tb, stG.items = A ++ T ∧ stS.items = B ++ Tb ∧ Blks A B ∧
      (∀ lo hi, BItem.range lo hi ∈ B → lo ≤ hi) ∧
      ((T = [] ∧ Tb = []) ∨ (T = [.raw cDash] ∧ Tb = [.ch cDash]))

theorem ite_classErr (c : Prop) [Decidable c] (a b : BrSt) (h : a.classErr = b.classErr) :
    (if c then a else b).classErr = b.classErr := by
  split
  · exact h
  · rfl

def st0G : BrSt := { items := [], hasSlash := false, deferred := none, classErr := none }

theorem sim0 : Sim st0G st0S :=
  ⟨rfl, rfl, rfl, rfl, fun _ => rfl, fun _ => ⟨Blks.nil, fun _ _ h => nomatch h⟩⟩

/-- Once the reference has recorded an error, only the error fields and the slash flags matter. -/
theorem Sim.of_err {stG : BrSt} {stS : BSt} (hG : stG.hasSlash = false) (hS : stS.slash = false)
    (hd : stG.deferred = stS.rangeErr) (hc : stG.classErr = stS.classErr) (he : stS.rangeErr ≠ none) :
    Sim stG stS :=
  ⟨hG, hS, hd, hc, fun h => absurd h he, fun h => absurd h he⟩

/-- One more element on both sides; the new states are described by their fields. -/
theorem Sim.step {stG stG' : BrSt} {stS stS' : BSt} (h : Sim stG stS) {blk : List CItem} {it : BItem}
    (hb : Blk blk it) (hv : ∀ lo hi, it = .range lo hi → lo ≤ hi)
    (hiG : stG'.items = stG.items ++ blk) (hiS : stS'.items = stS.items ++ [it])
    (hsG : stG'.hasSlash = false) (hsS : stS'.slash = false)
    (hdG : stG'.deferred = stG.deferred) (hcG : stG'.classErr = stG.classErr)
    (hrS : stS'.rangeErr = stS.rangeErr) (hcS : stS'.classErr = stS.classErr) : Sim stG' stS' := by
  refine ⟨hsG, hsS, by rw [hdG, hrS, h.deferred], by rw [hcG, hcS, h.classErr],
    by rw [hrS, hcS]; exact h.clsImp, fun hr => ?_⟩
  obtain ⟨hbk, hvs⟩ := h.items (hrS ▸ hr)
  rw [hiG, hiS]
  refine ⟨Blks.snoc hbk hb, fun lo hi hm => ?_⟩
  rcases List.mem_append.mp hm with hm | hm
  · exact hvs lo hi hm
  · exact hv lo hi (List.mem_singleton.mp hm).symm

theorem Sim.final {stG : BrSt} {stS : BSt} (h : Sim stG stS) : SimFinal stG stS := by
  refine ⟨h.noSlashG, h.noSlashS, h.deferred, fun hr => ?_⟩
  obtain ⟨hb, hv⟩ := h.items hr
  exact ⟨stG.items, stS.items, [], [], by simp, by simp, hb, hv, .inl ⟨rfl, rfl⟩⟩

theorem orElse_some_ne_none {α : Type} (a : Option α) (b : α) : (a <|> some b) ≠ none := by
  cases a <;> simp

/-- The items do not start with a dash that Go's regexp could read as a range operator. -/
def DashSafe (T : List CItem) : Prop := ∀ b rest, T ≠ .raw cDash :: b :: rest

def convItem : BItem → CRange
  | .ch c => .range c c
  | .range lo hi => .range lo hi
  | .cls k => .named k

theorem convItem_mem (i : BItem) (y : Rune) : (convItem i).mem y = i.mem y := by
  cases i with
  | ch c =>
    simp only [convItem, CRange.mem, BItem.mem]
    by_cases h : y = c
    · subst h; simp
    · have : (y == c) = false := beq_false_of_ne h
      rw [this]
      have : ¬ (c ≤ y ∧ y ≤ c) := fun ⟨h1, h2⟩ => h (Nat.le_antisymm h2 h1)
      simpa using this
  | range lo hi => rfl
  | cls k => rfl

theorem parseItems_nil : parseItems [] = some [] := by rw [parseItems.eq_def]

theorem parseItems_named (k : ClassName) (T : List CItem) :
    parseItems (.named k :: T) = (parseItems T).map (CRange.named k :: ·) := by
  conv => lhs; rw [parseItems.eq_def]

theorem parseItems_single (x : CItem) (T : List CItem) (hx : x.isNamed = false) (hT : DashSafe T) :
    parseItems (x :: T) = (parseItems T).map (CRange.range x.char x.char :: ·) := by
  cases x with
  | named k => simp [CItem.isNamed] at hx
  | raw c | esc c =>
    cases T with
    | nil => conv => lhs; rw [parseItems.eq_def]
    | cons d T' =>
      cases T' with
      | nil => conv => lhs; rw [parseItems.eq_def]
      | cons b T'' =>
        have hd : d ≠ .raw cDash := fun h => hT b T'' (by rw [h])
        conv => lhs; rw [parseItems.eq_def]
        simp [hd]

theorem parseItems_range (x : CItem) (hi : Rune) (T : List CItem) (hx : x.isNamed = false)
    (hv : x.char ≤ hi) :
    parseItems (x :: .raw cDash :: .raw hi :: T) = (parseItems T).map (CRange.range x.char hi :: ·) := by
  cases x with
  | named k => simp [CItem.isNamed] at hx
  | raw c | esc c =>
    conv => lhs; rw [parseItems.eq_def]
    simp only [CItem.char] at hv
    simp [CItem.isNamed, CItem.char, hv]

theorem parseItems_blk {blk : List CItem} {it : BItem} {T : List CItem} (hb : Blk blk it)
    (hT : DashSafe T) (hv : ∀ lo hi, it = .range lo hi → lo ≤ hi) :
    parseItems (blk ++ T) = (parseItems T).map (convItem it :: ·) := by
  cases hb with
  | cls k => exact parseItems_named k T
  | single x hx _ => exact parseItems_single x T hx hT
  | range x hi hx _ => exact parseItems_range x hi T hx (hv _ _ rfl)

theorem Blk_dashSafe {blk : List CItem} {it : BItem} (hb : Blk blk it) (T : List CItem) :
    DashSafe (blk ++ T) := by
  intro b rest h
  cases hb with
  | cls k => simp at h
  | single x _ hd => simp at h; exact hd h.1
  | range x hi _ hd => simp at h; exact hd h.1

theorem parseItems_blks {A : List CItem} {B : List BItem} (h : Blks A B)
    (hv : ∀ lo hi, BItem.range lo hi ∈ B → lo ≤ hi) :
    ∀ T, DashSafe T → parseItems (A ++ T) = (parseItems T).map (B.map convItem ++ ·) := by
  induction h with
  | nil => intro T _; simp
  | @snoc A B blk it hAB hb ih =>
    intro T hT
    have hvB : ∀ lo hi, BItem.range lo hi ∈ B → lo ≤ hi :=
      fun lo hi hm => hv lo hi (List.mem_append_left _ hm)
    have hvi : ∀ lo hi, it = .range lo hi → lo ≤ hi :=
      fun lo hi he => hv lo hi (by simp [he])
    rw [List.append_assoc, ih hvB _ (Blk_dashSafe hb T), parseItems_blk hb hT hvi]
    cases parseItems T with
    | none => rfl
    | some rs => simp

def Out (neg : Bool) (res : BSt × Option Str) (g : BrRes) : Prop :=
  match res.2 with
  | some rest' => ∃ stG', g = .closed neg stG' rest' ∧ SimFinal stG' res.1
  | none => g = (match res.1.classErr with
                 | some e => .err e
                 | none => .literal)

theorem Out.stop {fn neg : Bool} {f : Nat} {stG : BrSt} {stS : BSt} {prev : Rune}
    (h : stG.classErr = stS.classErr) : Out neg (stS, none) (brLoop fn neg (f + 1) stG prev []) := by
  rw [brLoop_nil, h]
  rfl

def SimLoop (fn : Bool) (fS : Nat) : Prop :=
  ∀ (fG fB : Nat) (first : Bool) (stG : BrSt) (stS : BSt) (prev : Rune) (r : Str) (neg : Bool),
    r.length < fG → r.length < fS → (first = true → r.head? ≠ some cRB) →
    brSupported fn fB first r = true → Sim stG stS →
    Out neg (scanItems fn fS first stS r) (brLoop fn neg fG stG prev r)

/-- After the first character of an element (`x` is what pattern.go has just written for it): a
    range `x-hi` with a plain end point, or the single character. -/
theorem sim_afterLo (fn : Bool) (fS : Nat) (ih : SimLoop fn fS) (fG fB : Nat) (stG : BrSt) (stS : BSt)
    (x : CItem) (r1 : Str) (neg : Bool) (hx : x.isNamed = false) (hd : x ≠ .raw cDash)
    (hG : r1.length < fG) (hS : r1.length < fS) (hsl : (fn && x.char == cSlash) = false)
    (hsup : suppAfterLo fn fB r1 = true) (hsim : Sim stG stS) :
    Out neg (afterLo fn fS stS x.char r1) (brLoop fn neg fG (pushItem stG x false) x.char r1) := by
  obtain _ | f := fG
  · exact absurd hG (Nat.not_lt_zero _)
  cases r1 with
  | nil => exact Out.stop hsim.classErr
  | cons d r2 =>
    by_cases hr : d = cDash ∧ r2.head? ≠ some cRB
    · obtain ⟨rfl, hr2⟩ := hr
      simp only [afterLo, suppAfterLo, hr2, ne_eq, not_false_eq_true, and_self, if_true] at hsup ⊢
      rw [brLoop_dash]
      obtain _ | f := f
      · exact absurd (Nat.lt_of_succ_lt_succ hG) (Nat.not_lt_zero _)
      cases r2 with
      | nil => exact Out.stop hsim.classErr
      | cons hi r3 =>
        simp only [Bool.and_eq_true, bne_iff_ne, ne_eq, Bool.not_eq_true'] at hsup
        obtain ⟨⟨⟨⟨h1, h2⟩, h3⟩, hsh⟩, hb⟩ := hsup
        have h4 : hi ≠ cRB := fun h => hr2 (by rw [h]; rfl)
        rw [brLoop_raw _ _ _ _ _ _ h1 h3 h4 h2]
        simp only [elemChar_cons_ne r3 h1, List.headD_cons]
        refine ih f fB false _ _ hi r3 neg (Nat.lt_of_succ_lt_succ (Nat.lt_of_succ_lt_succ hG))
          (Nat.lt_of_succ_lt (Nat.lt_of_succ_lt hS))
          (fun h => nomatch h) hb ?_
        by_cases hlt : hi < x.char
        · rw [if_pos hlt]
          refine Sim.of_err (show (_ || false || false || _) = false by rw [hsim.noSlashG, hsh]; rfl)
            (show (_ || _ || _) = false by rw [hsim.noSlashS, hsl, hsh]; rfl) ?_ hsim.classErr
            (orElse_some_ne_none _ _)
          show (if hi ≠ cRB ∧ x.char > hi ∧ stG.deferred.isNone = true
            then some (Err.badRange x.char hi) else stG.deferred) = (stS.rangeErr <|> some (.badRange x.char hi))
          rw [hsim.deferred]
          cases stS.rangeErr <;> simp [h4, hlt]
        · rw [if_neg hlt]
          exact hsim.step (Blk.range x hi hx hd) (fun _ _ e => by cases e; exact Nat.le_of_not_lt hlt)
            ((List.append_assoc ..).trans (List.append_assoc ..)) rfl
            (show (_ || false || false || _) = false by rw [hsim.noSlashG, hsh]; rfl)
            (show (_ || _ || _) = false by rw [hsim.noSlashS, hsl, hsh]; rfl) (if_neg fun h => hlt h.2.1) rfl rfl rfl
    · simp only [afterLo, suppAfterLo, if_neg hr] at hsup ⊢
      exact ih (f + 1) fB false _ _ x.char (d :: r2) neg hG hS (fun h => nomatch h) hsup
        (hsim.step (Blk.single x hx hd) (fun _ _ e => nomatch e) rfl rfl
          (show (_ || false) = false by rw [hsim.noSlashG]; rfl)
          (show (_ || _) = false by rw [hsim.noSlashS, hsl]; rfl) rfl rfl rfl rfl)

theorem of_ite_false {b x : Bool} (h : (if b = true then false else x) = true) : b = false ∧ x = true := by
  cases b
  · exact ⟨rfl, h⟩
  · cases h

theorem and_and_false {a c : Bool} (b : Bool) (h : (a && c) = false) : (a && b && c) = false := by
  cases a <;> cases b <;> simp_all

theorem sim_loop (fn : Bool) : ∀ fS, SimLoop fn fS := by
  intro fS
  induction fS with
  | zero => intro fG fB first stG stS prev r neg _ hS; exact absurd hS (Nat.not_lt_zero _)
  | succ fS ih =>
    intro fG fB first stG stS prev r neg hG hS hfirst hsup hsim
    obtain _ | f := fG
    · exact absurd hG (Nat.not_lt_zero _)
    obtain _ | fB := fB
    · rw [brSupported.eq_def] at hsup; cases hsup
    cases r with
    | nil => rw [scanItems_nil]; exact Out.stop hsim.classErr
    | cons c rest =>
      have hG' : rest.length < f := Nat.lt_of_succ_lt_succ hG
      have hS' : rest.length < fS := Nat.lt_of_succ_lt_succ hS
      by_cases hrb : c = cRB
      · subst hrb
        cases first with
        | true => exact absurd rfl (hfirst rfl)
        | false => rw [scanItems_close, brLoop_rb]; exact ⟨stG, rfl, hsim.final⟩
      by_cases hlb : c = cLB
      · subst hlb
        rw [scanItems_lb]
        rw [brSupported_lb] at hsup
        have hcc := charClass_scanClass rest
        cases hsc : scanClass rest with
        | none =>
          rw [hsc] at hcc hsup
          simp only at hcc hsup ⊢
          rw [brLoop_lb_plain _ _ _ _ _ hcc]
          exact sim_afterLo fn fS ih f fB stG stS (.raw cLB) rest neg rfl (by decide) hG' hS'
            (by simp [CItem.char, show (cLB == cSlash) = false by decide]) hsup hsim
        | some p =>
          obtain ⟨n, res⟩ := p
          rw [hsc] at hcc hsup
          simp only [Bool.and_eq_true, Bool.not_eq_true'] at hsup
          obtain ⟨hk, hsup⟩ := hsup
          have hlen : (rest.drop n).length ≤ rest.length := (List.drop_suffix n rest).length_le
          cases res with
          | ok k =>
            obtain ⟨hc1, hc2, hc3⟩ := hcc
            rw [brLoop_lb _ _ _ _ _ hc1]
            refine ih f fB false _ _ _ _ neg (Nat.lt_of_le_of_lt hlen hG') (Nat.lt_of_le_of_lt hlen hS')
              (fun h => nomatch h) hsup ?_
            exact hsim.step (Blk.cls k) (fun _ _ e => nomatch e)
              (show _ ++ (if n > 0 then _ else _) = _ by rw [if_pos hc2, hc3]) rfl
              (show (_ || _) = false by rw [hsim.noSlashG, and_and_false _ hk]; rfl)
              (show (_ || _) = false by rw [hsim.noSlashS, hk]; rfl) rfl rfl rfl rfl
          | error e =>
            simp only at hcc
            rw [brLoop_lb _ _ _ _ _ hcc]
            refine ih f fB false _ _ _ _ neg (Nat.lt_of_le_of_lt hlen hG') (Nat.lt_of_le_of_lt hlen hS')
              (fun h => nomatch h) hsup ?_
            refine Sim.of_err (show (_ || _) = false by rw [hsim.noSlashG, and_and_false _ hk]; rfl)
              (show (_ || _) = false by rw [hk]; exact (Bool.or_false _).trans hsim.noSlashS) ?_ ?_
              (orElse_some_ne_none _ _)
            · show (stG.deferred <|> (stG.classErr <|> some (Err.cls e))) = (stS.rangeErr <|> some (Err.cls e))
              rw [hsim.deferred, hsim.classErr]
              cases hr : stS.rangeErr with
              | none => rw [hsim.clsImp hr]; rfl
              | some e0 => rfl
            · show (stG.classErr <|> some (Err.cls e)) = (stS.classErr <|> some (Err.cls e))
              rw [hsim.classErr]
      by_cases hbs : c = cBS
      · subst hbs
        cases rest with
        | nil =>
          rw [scanItems_bs_nil, brLoop_bs_nil]
          obtain _ | f := f
          · exact absurd hG' (Nat.not_lt_zero _)
          exact Out.stop hsim.classErr
        | cons d rest' =>
          rw [scanItems_bs, brLoop_bs]
          rw [brSupported_bs] at hsup
          obtain ⟨hsl, hsup⟩ := of_ite_false hsup
          rw [hsl]
          exact sim_afterLo fn fS ih f fB stG stS (.esc d) rest' neg rfl (fun h => nomatch h)
            (Nat.lt_of_succ_lt hG') (Nat.lt_of_succ_lt hS') hsl hsup hsim
      have hnc : ¬ (c = cRB ∧ first = false) := fun h => hrb h.1
      rw [scanItems_char _ _ _ _ _ hbs hlb hnc]
      by_cases hdash : c = cDash
      · -- a literal dash: only just before the closing bracket
        subst hdash
        rw [brSupported_dash] at hsup
        simp only [Bool.and_eq_true, beq_iff_eq] at hsup
        cases rest with
        | nil => simp at hsup
        | cons d rest' =>
          obtain ⟨hh, _⟩ := hsup
          simp only [List.head?_cons, Option.some.injEq] at hh
          subst hh
          obtain _ | fS := fS
          · exact absurd hS' (Nat.not_lt_zero _)
          obtain _ | f := f
          · exact absurd hG' (Nat.not_lt_zero _)
          have e0 : ¬ (cRB = cDash ∧ rest'.head? ≠ some cRB) := fun h => absurd h.1 (by decide)
          simp only [afterLo, e0, if_false]
          rw [scanItems_close, brLoop_dash, brLoop_rb]
          refine ⟨_, rfl, by simp [pushItem, hsim.noSlashG],
            by simp [hsim.noSlashS, show (cDash == cSlash) = false by decide],
            by simp [hsim.deferred], fun hr => ?_⟩
          obtain ⟨hb, hv⟩ := hsim.items hr
          exact ⟨stG.items, stS.items, [.raw cDash], [.ch cDash], by simp [pushItem], by simp,
            hb, hv, .inr ⟨rfl, rfl⟩⟩
      · rw [brSupported_char _ _ _ _ hbs hlb hdash hnc] at hsup
        obtain ⟨hsl, hsup⟩ := of_ite_false hsup
        rw [brLoop_raw _ _ _ _ _ _ hbs hdash hrb hlb, hsl]
        exact sim_afterLo fn fS ih f fB stG stS (.raw c) rest neg rfl (by simpa using hdash) hG' hS' hsl hsup hsim

theorem any_conv (B : List BItem) (y : Rune) :
    (B.map convItem).any (·.mem y) = B.any (·.mem y) := by
  induction B with
  | nil => rfl
  | cons i B ih => simp only [List.map_cons, List.any_cons, convItem_mem, ih]

theorem any_or_split {α : Type} (l : List α) (f g : α → Bool) :
    l.any (fun y => f y || g y) = (l.any f || l.any g) := by
  induction l with
  | nil => rfl
  | cons a l ih =>
    simp only [List.any_cons, ih]
    cases f a <;> cases g a <;> cases l.any f <;> cases l.any g <;> rfl

/-- Folding the subject character against the whole item list is the reference's item-wise
    folding, as long as no POSIX class is folded. -/
theorem fold_any_eq (nc : Bool) (items : List BItem) (x : Rune)
    (h : nc = false ∨ ∀ i ∈ items, i.isCls = false) :
    (variants nc x).any (fun y => items.any (·.mem y)) = items.any (·.memFold nc x) := by
  induction items with
  | nil => simp
  | cons i rest ih =>
    have h' : nc = false ∨ ∀ j ∈ rest, j.isCls = false := by
      rcases h with h | h
      · exact .inl h
      · exact .inr (fun j hj => h j (List.mem_cons_of_mem _ hj))
    have hi : (variants nc x).any (fun y => i.mem y) = i.memFold nc x := by
      rcases h with h | h
      · subst h
        cases i <;> simp [variants, BItem.memFold, BItem.mem]
      · have := h i (List.mem_cons_self ..)
        cases i with
        | cls k => simp [BItem.isCls] at this
        | ch c => rfl
        | range lo hi => rfl
    simp only [List.any_cons]
    rw [any_or_split, ih h', hi]

theorem SimFinal.parse {stG : BrSt} {stS : BSt} (h : SimFinal stG stS) (hr : stS.rangeErr = none) :
    ∃ rs, parseItems stG.items = some rs ∧ ∀ y, rs.any (·.mem y) = stS.items.any (·.mem y) := by
  obtain ⟨A, B, T, Tb, hA, hB, hbk, hv, hT⟩ := h.items hr
  rw [hA, hB]
  rcases hT with ⟨rfl, rfl⟩ | ⟨rfl, rfl⟩
  · rw [parseItems_blks hbk hv [] (fun _ _ h => nomatch h), parseItems_nil]
    exact ⟨_, rfl, fun y => by simp only [List.append_nil, any_conv]⟩
  · rw [parseItems_blks hbk hv [.raw cDash] (fun _ _ h => nomatch h),
      parseItems_single (.raw cDash) [] rfl (fun _ _ h => nomatch h), parseItems_nil]
    refine ⟨_, rfl, fun y => ?_⟩
    simp only [List.any_append, any_conv, List.any_cons, List.any_nil, Bool.or_false]
    exact congrArg _ (convItem_mem (.ch cDash) y)

theorem SimFinal.setMem_eq {stG : BrSt} {stS : BSt} (h : SimFinal stG stS) (hr : stS.rangeErr = none)
    (nc neg : Bool) (x : Rune) (hc : nc = false ∨ ∀ i ∈ stS.items, i.isCls = false) :
    setMem nc neg stG.items x = bracketMem nc neg stS.items x := by
  obtain ⟨rs, hp, hm⟩ := h.parse hr
  unfold setMem bracketMem
  rw [← fold_any_eq nc stS.items x hc, hp]
  simp only [hm]

/-- A class Go's regexp can read (in the sense of `parseItems`) compiles: `classCompiles` makes the
    same case distinction and accepts wherever `parseItems` returns a list. -/
theorem classCompiles_of_parse (items : List CItem) :
    (parseItems items).isSome = true → classCompiles items = true := by
  fun_induction parseItems items <;> simp_all [classCompiles]

/-- What the reference verdict `sc` and pattern.go's verdict `g` on a bracket must have in common. -/
def AgreeP (sc : BScan) (g : BrRes) : Prop :=
  match sc with
  | .ok neg items rest' =>
    ∃ st, g = .closed neg st rest' ∧ st.hasSlash = false ∧ st.deferred = none ∧
      classCompiles st.items = true ∧
      ∀ nc x, (nc = false ∨ ∀ i ∈ items, i.isCls = false) →
        setMem nc neg st.items x = bracketMem nc neg items x
  | .malformed e =>
    g = .err e ∨ ∃ neg st rest', g = .closed neg st rest' ∧ st.hasSlash = false ∧ st.deferred = some e
  | .notBracket => g = .literal

theorem agree_of_out {neg : Bool} {res : BSt × Option Str} {g : BrRes} (h : Out neg res g) :
    AgreeP (sbOfRes neg res) g := by
  obtain ⟨stS, o⟩ := res
  cases o with
  | none =>
    have h : g = match stS.classErr with
      | some e => .err e
      | none => .literal := h
    simp only [sbOfRes]
    cases hc : stS.classErr with
    | none => rw [hc] at h; exact h
    | some e => rw [hc] at h; exact Or.inl h
  | some rest' =>
    obtain ⟨stG', hg, hf⟩ := h
    have hs : stS.slash = false := hf.noSlashS
    have hd : stG'.deferred = stS.rangeErr := hf.deferred
    simp only [sbOfRes, hs, Bool.false_eq_true, if_false]
    cases hr : stS.rangeErr with
    | some e => exact Or.inr ⟨neg, stG', rest', hg, hf.noSlashG, hd.trans hr⟩
    | none =>
      obtain ⟨rs, hp, _⟩ := hf.parse hr
      exact ⟨stG', hg, hf.noSlashG, hd.trans hr, classCompiles_of_parse _ (by rw [hp]; rfl),
        fun nc x hc => hf.setMem_eq hr nc neg x hc⟩

theorem scanItems_suffix (fn : Bool) (f : Nat) (first : Bool) (st : BSt) (r rest' : Str) :
    (scanItems fn f first st r).2 = some rest' → cRB :: rest' <:+ r := by
  fun_induction scanItems fn f first st r <;> intro h
  case case3 hc => cases h; exact hc.1 ▸ List.suffix_refl _
  case case4 ih => exact ((ih h).trans (List.drop_suffix _ _)).trans (List.suffix_cons _ _)
  case case5 ih => exact ((ih h).trans (List.drop_suffix _ _)).trans (List.suffix_cons _ _)
  case case8 he2 _ he ih =>
    exact (((ih h).trans (elemChar_suffix he2)).trans (List.suffix_cons _ _)).trans (elemChar_suffix he)
  case case9 he ih => exact (ih h).trans (elemChar_suffix he)
  all_goals cases h

theorem scanBracket_suffix {fn : Bool} {s : Str} {neg : Bool} {items : List BItem} {rest' : Str}
    (h : scanBracket fn s = .ok neg items rest') : cRB :: rest' <:+ s := by
  rw [scanBracket_eq] at h
  have hb : bodyOf s <:+ s := by unfold bodyOf; split; exact List.tail_suffix s; exact List.suffix_refl s
  exact (scanItems_suffix fn _ true st0S _ rest' (sbOfRes_ok h)).trans hb

/-- `bracket` after the optional `!`/`^`. -/
def brBody (fn neg : Bool) (prev1 : Rune) (body : Str) : BrRes :=
  match body with
  | [] => .literal
  | c1 :: r2 =>
    if c1 = cRB then
      match r2 with
      | [] => .literal
      | _ => brLoop fn neg (r2.length + 1) (pushItem st0G (.raw cRB) false) cRB r2
    else brLoop fn neg (body.length + 1) st0G prev1 body

theorem bracket_eq (fn : Bool) (s : Str) : ∃ prev1,
    bracket fn s = brBody fn (decide (s.head? = some cBang ∨ s.head? = some cCaret)) prev1 (bodyOf s) := by
  cases s with
  | nil => exact ⟨0, rfl⟩
  | cons c r1 =>
    by_cases h : c = cBang ∨ c = cCaret
    · refine ⟨c, ?_⟩
      simp only [bracket, bodyOf, List.head?_cons, Option.some.injEq, h, if_true, List.tail_cons, decide_true]
      cases r1 <;> rfl
    · refine ⟨cLB, ?_⟩
      simp only [bracket, bodyOf, List.head?_cons, Option.some.injEq, h, if_false, decide_false]
      rfl

theorem body_agree (fn neg : Bool) (prev1 : Rune) (body : Str)
    (hsup : brSupported fn (body.length + 1) true body = true) :
    AgreeP (sbOfRes neg (scanItems fn (body.length + 1) true st0S body)) (brBody fn neg prev1 body) := by
  cases body with
  | nil => rw [scanItems_nil]; rfl
  | cons c1 r2 =>
    by_cases hc : c1 = cRB
    · -- `]` first is an ordinary character: Go has pushed it before entering the loop
      subst hc
      rw [scanItems_char fn _ true st0S (c := cRB) r2 (by decide) (by decide) (fun h => Bool.noConfusion h.2)]
      cases r2 with
      | nil => rfl
      | cons d r3 =>
        rw [brSupported_char fn _ true (c := cRB) _ (by decide) (by decide) (by decide) (fun h => Bool.noConfusion h.2)] at hsup
        obtain ⟨hsl, hsup⟩ := of_ite_false hsup
        exact agree_of_out (sim_afterLo fn _ (sim_loop fn _) _ _ st0G st0S (.raw cRB) (d :: r3) neg rfl
          (by decide) (Nat.lt_succ_self _) (Nat.lt_succ_self _) hsl hsup sim0)
    · have hbr : brBody fn neg prev1 (c1 :: r2) = brLoop fn neg ((c1 :: r2).length + 1) st0G prev1 (c1 :: r2) := by
        simp only [brBody, hc, if_false]
      rw [hbr]
      exact agree_of_out (sim_loop fn _ _ _ true st0G st0S prev1 (c1 :: r2) neg (Nat.lt_succ_self _)
        (Nat.lt_succ_self _) (fun _ h => hc (by simpa using h)) hsup sim0)

/-- With or without the Filenames flag: `brSupported` lets no slash into the bracket. -/
theorem bracket_agree (fn : Bool) (s : Str) (hs : bracketSupported fn s = true) :
    AgreeP (scanBracket fn s) (bracket fn s) := by
  obtain ⟨prev1, hb⟩ := bracket_eq fn s
  rw [scanBracket_eq, hb]
  exact body_agree fn _ prev1 (bodyOf s) hs

end ShVerif.L3
