import ShVerif.Proofs.C26Stmt
/-
  C26 — simulation: `{ }`, conditions (`noErrExit` against "`-e` is ignored") with `&&`, `||` and
  `if`/`elif`/`else`, subshell-like commands (`( )`, `x=$( )`, `echo "$( )"`), function calls,
  pipelines.
-/
namespace ShVerif.C26
open ShVerif.L5 ShVerif.L5.Bash

theorem St.noErrExit_roundtrip (s : St) :
    ({ { s with noErrExit := true } with noErrExit := s.noErrExit } : St) = s := by
  cases s; rfl

section
variable {n : Nat} {K : SCtx} {k : Ctx} {sub : Bool} {s : St} {q : Prop}

theorem sim_block (hS : SimS n) (p : Prog) (hst : Stat K k sub) (hs : supCmd K (.block p) = true)
    (hd : Dyn K k sub s) (hl : LastOk s) (hp : NoPending s) (hx : s.exit = {}) :
    Rel (Post K k sub False q s) (run (n+1) (.cmd (.block p)) s)
      (sem (n+1) k (.cmd (.block p)) (absEnv s)) := by
  have hs : (!p.isNil && supProg K true p) = true := hs
  simp only [Bool.and_eq_true, Bool.not_eq_eq_eq_not, Bool.not_true] at hs
  rw [run_block p (stop_false_of_exit hx), sem_block]
  exact (sim_list n hS p K true k sub s hs.1 hst hs.2 hd hl (noFlags_of_exit hx) hp).mono
    fun _ _ _ h => h.weaken fun _ => rfl

/-- A condition `a`/`r` followed by `f`/`g`.  After `return`/`exit` in the condition the runner,
    being stopped, must skip `f` and only restore `noErrExit` (`hskip`). -/
theorem Rel.cond {k' : Ctx} {q0 : Prop} {a : Option St} {r : Res} {f : St → Option St}
    {g : Flow × Env → Res}
    (h : Rel (Post (condK K) k' sub True q0 { s with noErrExit := true }) a r) (hd : Dyn K k sub s)
    (hg : ∀ fl e, fl.stops = true → g (fl, e) = some (fl, e))
    (hskip : ∀ s1, a = some s1 → stop s1 = true → NoPending s1 → s1.exit.clear = s1.exit →
      f s1 = some { s1 with noErrExit := s.noErrExit })
    (hnorm : ∀ s1, a = some s1 → Dyn (condK K) k' sub s1 → Frame { s with noErrExit := true } s1 →
      s1.lastExit = s1.exit → NoFlags s1 → NoPending s1 →
      Rel (Post K k sub False q s) (f s1) (g (.norm, absEnvC s1))) :
    Rel (Post K k sub False q s) (a.bind f) (r.bind g) := by
  refine Rel.bind h fun s1 fl e1 hr hp => ?_
  by_cases hfl : fl = .norm
  · subst hfl
    obtain ⟨l, h4, h5, _⟩ := hp
    obtain rfl := l.env
    exact hnorm s1 hr l.dyn l.frame (l.last trivial) h4 h5
  · obtain ⟨hpost, hstops, hcl⟩ := hp.uncond hd hfl
    obtain ⟨hs1, hnp1⟩ := hp.stopped hstops
    rw [hg fl e1 hstops, hskip s1 hr hs1 hnp1 hcl]
    exact hpost

/-- `x && y`, `x || y`: `tR`/`tS` is the test, on the two sides, that lets the second operand run. -/
theorem sim_andor (hS : SimS n) (tR : St → Prop) [DecidablePred tR] (tS : Env → Prop)
    [DecidablePred tS] (hts : ∀ s1, tR s1 ↔ tS (absEnvC s1)) (x y : Stmt)
    (hq : q → tailOkS y = true ∧ ∀ s1, ¬ tR s1 → s1.exit.code = 0) (hst : Stat K k sub)
    (hs : (supStmt (condK K) x && supStmt K y) = true)
    (hd : Dyn K k sub s) (hl : LastOk s) (hp : NoPending s) (hx : s.exit = {}) :
    Rel (Post K k sub False q s)
      ((run n (.stmt x) { s with noErrExit := true }).bind fun s1 =>
        if tR s1 then run n (.stmt y) { s1 with noErrExit := s.noErrExit }
        else some { s1 with noErrExit := s.noErrExit })
      ((sem n { k with ign := true } (.stmt x) (absEnv s)).bind (Res.next fun e1 =>
        if tS e1 then sem n k (.stmt y) e1 else some (.norm, e1))) := by
  rw [Bool.and_eq_true] at hs
  refine Rel.cond (hS (condK K) { k with ign := true } sub x { s with noErrExit := true }
    (hst.cond _ (Nat.le_refl _)) hs.1 (hd.cond _) hl (noFlags_of_exit hx) hp) hd
    (fun _ _ h => Res.next_stops _ h _) (fun s1 hr hs1 _ _ => ?_) (fun s1 _ hd1 hf1 hle h4 h5 => ?_)
  · show (if tR s1 then _ else _) = _
    split
    · exact run_stmt_stopped (run_pos hr) y _ hs1
    · rfl
  · show Rel _ (if tR s1 then _ else _) (if tS (absEnvC s1) then _ else _)
    by_cases ht : tR s1
    · rw [if_pos ht, if_pos ((hts s1).1 ht), absEnvC_eq_absEnv hle]
      exact (hS K k sub y { s1 with noErrExit := s.noErrExit } hst hs.2 (hd.uncond hd1 s1.exit)
        (LastOk_of_le hle h4) h4 h5).mono fun _ _ _ h =>
          (h.frame_trans (hf1.uncond s1.exit)).weaken fun hq' => (hq hq').1
    · rw [if_neg ht, if_neg (mt (hts s1).2 ht)]
      exact ⟨⟨rfl, hd.uncond hd1 s1.exit, hf1.uncond s1.exit, False.elim⟩, h4, h5,
        fun hq' => quiet_of_zero ((hq hq').2 s1 ht)⟩

/-- `else p` is run as an `IfClause` with an empty condition: the same as `{ p; }`. -/
theorem run_else {n : Nat} (p : Prog) {s : St} (hx : s.exit = {}) :
    run n (.cmd (.ifc .nil p .none)) s = run n (.cmd (.block p)) s := by
  cases n with
  | zero => rfl
  | succ n =>
    rw [run_ifc .nil p .none (stop_false_of_exit hx), run_block p (stop_false_of_exit hx)]
    show (if s.exit.ok = true then
      foldStmts (runS n) p { { s with noErrExit := true } with noErrExit := s.noErrExit } else _) = _
    rw [St.noErrExit_roundtrip, if_pos (by rw [hx]; rfl)]

theorem sim_ifc (hS : SimS n) (hC : SimC n) (c t : Prog) (e : Else)
    (hst : Stat K k sub) (hs : supCmd K (.ifc c t e) = true) (hd : Dyn K k sub s) (hl : LastOk s)
    (hp : NoPending s) (hx : s.exit = {}) :
    Rel (Post K k sub False True s) (run (n+1) (.cmd (.ifc c t e)) s)
      (sem (n+1) k (.cmd (.ifc c t e)) (absEnv s)) := by
  have hs : (!c.isNil && supProg (condK K) false c && !t.isNil && supProg K true t &&
      supElse K e) = true := hs
  simp only [Bool.and_eq_true, Bool.not_eq_eq_eq_not, Bool.not_true] at hs
  obtain ⟨⟨⟨⟨hc0, hsc⟩, ht0⟩, hsT⟩, hse⟩ := hs
  rw [run_ifc c t e (stop_false_of_exit hx), sem_ifc]
  refine Rel.cond (sim_list n hS c (condK K) false { k with ign := true } sub
    { s with noErrExit := true } hc0 (hst.cond _ (Nat.le_refl _)) hsc (hd.cond _) hl
    (noFlags_of_exit hx) hp) hd (fun _ _ h => Res.next_stops _ h _)
    (fun s1 hr hs1 _ hcl => ?_) (fun s1 _ hd1 hf1 hle h4 h5 => ?_)
  · have hn1 := foldStmts_pos hc0 hr
    show (if s1.exit.ok = true then _ else _) = _
    split
    · exact foldStmts_stopped hn1 t _ hs1
    · rw [hcl]
      cases e with
      | none => rfl
      | els p => exact run_cmd_stopped hn1 _ _ hs1
      | elif c2 t2 e2 => exact run_cmd_stopped hn1 _ _ hs1
  · show Rel _ (if s1.exit.ok = true then _ else _) (if (absEnvC s1).status = 0 then _ else _)
    have hst0 : (absEnvC s1).status = 0 ↔ s1.exit.ok = true := beq_iff_eq.symm
    by_cases hok : s1.exit.ok = true
    · rw [if_pos hok, if_pos (hst0.2 hok), absEnvC_eq_absEnv hle]
      exact (sim_list n hS t K true k sub { s1 with noErrExit := s.noErrExit } ht0 hst hsT
        (hd.uncond hd1 s1.exit) (LastOk_of_le hle h4) h4 h5).mono fun _ _ _ h =>
          (h.frame_trans (hf1.uncond s1.exit)).weaken fun _ => rfl
    · rw [if_neg hok, if_neg (mt hst0.1 hok), clear_of_noFlags h4.1 h4.2]
      have hd3 := hd.uncond hd1 {}
      have hf3 := hf1.uncond {}
      have hl1 : LastOk s1 := LastOk_of_le hle h4
      have hl3 : LastOk { s1 with noErrExit := s.noErrExit, exit := {} } := hl1
      -- the next branch is a command of its own (`{ p; }` for `else p`), neither a call nor a pipeline
      have next : ∀ c', supCmd K c' = true → isChecked c' = false ∧ tailOkC c' = true →
          softCmd c' = false →
          Rel (Post K k sub False True s)
            (run n (.cmd c') { s1 with noErrExit := s.noErrExit, exit := {} })
            (sem n k (.cmd c') (absEnvC s1)) := fun c' hc' h1 h2 => by
        rw [absEnvC_eq_absEnv hle]
        exact (hC K k sub c' _ hst hc' hd3 hl3 h5 rfl).mono fun _ _ _ h =>
          h.elim (fun h => (h.frame_trans hf3).mono_q fun _ => h1) fun h => nomatch h2.symm.trans h.2.1
      cases e with
      | none => exact Post.zero hd3 hf3 rfl h5
      | els p =>
        show Rel _ (run n (.cmd (.ifc .nil p .none)) _) _
        rw [run_else p rfl]; exact next (.block p) hse ⟨rfl, rfl⟩ rfl
      | elif c2 t2 e2 => exact next (.ifc c2 t2 e2) hse ⟨rfl, rfl⟩ rfl

theorem absEnv_subshellOf (s : St) (out : Str) :
    absEnv (subshellOf s out) = subEnv (absEnv s) out := rfl

def SubPost (r2 : St) (fl : Flow) (e1 : Env) : Prop :=
  fl = .norm ∧ e1.status = r2.exit.code ∧ e1.out = r2.out ∧ r2.exit.returning = false

theorem sim_subrun (hS : SimS n) (p : Prog) (out0 : Str) (d : Nat) (hst : Stat K k sub)
    (hne : (!(K.e && (K.ign || K.unk))) = true) (hp0 : (!p.isNil) = true)
    (hsup : supProg (subK K.e) false p = true) (hd : Dyn K k sub s) (hl : LastOk s)
    (hx : s.exit = {}) :
    Rel SubPost (foldStmts (runS n) p (subshellOf s out0))
      (semSub n { k with depth := d } p (subEnv (absEnv s) out0)) := by
  have hne : K.e = true → K.ign = false ∧ K.unk = false := fun he => by simpa [he] using hne
  have hp0 : p.isNil = false := by simpa using hp0
  have h0 := sim_list n hS p (subK K.e) false { k with depth := d } true (subshellOf s out0) hp0
    (hst.subsh hne d) hsup (hd.subsh hst hne out0 d) hl (noFlags_of_exit hx) ⟨rfl, rfl⟩
  rw [absEnv_subshellOf] at h0
  rw [semSub, subRun_eq]
  refine Rel.bind_right h0 fun r2 fl e1 hr hp => ?_
  -- the subshell has no EXIT trap: its process ends with the list
  have hn1 := foldStmts_pos hp0 hr
  rcases hp.flows_nil rfl with rfl | hfl
  · obtain ⟨l, h4, _⟩ := hp
    obtain rfl := l.env
    have htn : (absEnvC r2).trapExit = .nil := l.dyn.csub.1 rfl
    show Rel _ _ (Option.bind (sem n _ (.trap (absEnvC r2).trapExit) _) _)
    rw [htn, sem_trap_nil hn1]
    exact ⟨rfl, rfl, rfl, h4.1⟩
  · cases fl with
    | exit =>
      have htn : e1.trapExit = .nil := hp.trap.trans (hp.csub.1 rfl)
      show Rel _ _ (Option.bind (sem n _ (.trap e1.trapExit) _) _)
      rw [htn, sem_trap_nil hn1]
      exact ⟨rfl, hp.status, hp.out, hp.returning⟩
    | ret => exact nomatch hp.2.2.2.1
    | _ => cases hfl

theorem expandWord_nostatus (v : List (Str × Str)) (a b : Nat) :
    ∀ w : Word, w.all partNoStatus = true → expandWord v a w = expandWord v b w
  | [], _ => rfl
  | p :: r, h => by
    simp only [List.all_cons, Bool.and_eq_true] at h
    rw [expandWord, expandWord, expandWord_nostatus v a b r h.2]
    cases p with
    | status => cases h.1
    | _ => rfl

section subst
variable (hS : SimS n) (p : Prog) (hst : Stat K k sub) (hd : Dyn K k sub s) (hl : LastOk s)
  (hp : NoPending s) (hx : s.exit = {})
include hS hst hd hl hp hx

theorem sim_subsh (hs : supCmd K (.subsh p) = true) (hq : ¬ q) :
    Rel (Post K k sub False q s) (run (n+1) (.cmd (.subsh p)) s)
      (sem (n+1) k (.cmd (.subsh p)) (absEnv s)) := by
  have hs : (!p.isNil && !(K.e && (K.ign || K.unk)) && supProg (subK K.e) false p) = true := hs
  simp only [Bool.and_eq_true] at hs
  rw [run_subsh p (stop_false_of_exit hx), sem_subsh]
  refine Rel.bind (sim_subrun hS p s.out 0 hst hs.1.2 hs.1.1 hs.2 hd hl hx)
    fun r2 fl e1 _ ⟨_, h1, h2, h3⟩ => ?_
  show Post _ _ _ _ _ _ _ .norm { absEnv s with status := e1.status, out := e1.out }
  rw [h1, h2]
  exact Post.simple hd hp ⟨h3, rfl⟩ (absurd · hq)

theorem sim_assignSub (x : Str) (hs : supCmd K (.assignSub x p) = true) (hq : ¬ q) :
    Rel (Post K k sub False q s) (run (n+1) (.cmd (.assignSub x p)) s)
      (sem (n+1) k (.cmd (.assignSub x p)) (absEnv s)) := by
  have hs : (!p.isNil && !(K.e && (K.ign || K.unk)) && supProg (subK K.e) false p) = true := hs
  simp only [Bool.and_eq_true] at hs
  rw [run_assignSub x p (stop_false_of_exit hx), sem_assignSub]
  refine Rel.bind (sim_subrun hS p [] k.depth hst hs.1.2 hs.1.1 hs.2 hd hl hx)
    fun r2 fl e1 _ ⟨_, h1, h2, h3⟩ => ?_
  show Post _ _ _ _ _ _ _ .norm
    { absEnv s with status := e1.status, vars := (x, stripNl e1.out) :: (absEnv s).vars }
  rw [h1, h2]
  exact Post.simple hd hp ⟨h3, rfl⟩ (absurd · hq)

theorem sim_echoSub (w1 w2 : Word) (hs : supCmd K (.echoSub w1 p w2) = true) :
    Rel (Post K k sub False q s) (run (n+1) (.cmd (.echoSub w1 p w2)) s)
      (sem (n+1) k (.cmd (.echoSub w1 p w2)) (absEnv s)) := by
  have hs : (!p.isNil && !(K.e && (K.ign || K.unk)) && supProg (subK K.e) false p &&
    w2.all partNoStatus) = true := hs
  simp only [Bool.and_eq_true] at hs
  rw [run_echoSub w1 p w2 (stop_false_of_exit hx), sem_echoSub]
  refine Rel.bind (sim_subrun hS p [] k.depth hst hs.1.1.2 hs.1.1.1 hs.1.2 hd hl hx) fun r2 fl e1 _ ⟨_, _, h2, _⟩ => ?_
  -- `w2` does not read `$?`, which alone differs after the substitution
  show Post _ _ _ _ _ _ _ .norm
    { absEnv s with
      status := 0
      out := s.out ++ (expandWord s.vars s.lastExit.code w1 ++ (stripNl e1.out ++
        (expandWord s.vars e1.status w2 ++ [10]))) }
  rw [h2, expandWord_nostatus s.vars e1.status s.lastExit.code w2 hs.2]
  exact Post.simple hd hp ⟨rfl, rfl⟩ fun _ => rfl

end subst

theorem sim_call (hS : SimS n) (f : Str) (body : Stmt) (hf : lookupFn s.funcs f = some body)
    (hst : Stat K k sub) (hd : Dyn K k sub s) (hl : LastOk s) (hp : NoPending s) (hx : s.exit = {}) :
    Rel (PostC K k sub (.call f) s) (run (n+1) (.cmd (.call f)) s)
      (sem (n+1) k (.cmd (.call f)) (absEnv s)) := by
  have hf' : lookupFn (absEnv s).funcs f = some body := hf
  rw [run_call f (stop_false_of_exit hx), sem_call, hf, hf']
  have hstf : Stat (fnK K.e) { k with inFunc := true, depth := 0 } sub :=
    ⟨hst.kt, fun h => (nomatch h), fun _ _ h => (nomatch h), fun _ => rfl, Nat.zero_le _,
      fun h => (nomatch h)⟩
  have hdf : Dyn (fnK K.e) { k with inFunc := true, depth := 0 } sub
      { s with lastExpandExit := {}, inFunc := true } :=
    ⟨hd.cerr, hd.csub, hd.fok, hd.ht, hd.eign, hd.noe, fun _ => rfl, fun h => absurd rfl h⟩
  refine Rel.bind (hS (fnK K.e) _ sub body _ hstf (hd.fok f body hf) hdf hl (noFlags_of_exit hx) hp)
    fun s1 fl e1 _ hpo => ?_
  have back : ∀ {le : Prop}, Live (fnK K.e) { k with inFunc := true, depth := 0 } sub le
        { s with lastExpandExit := {}, inFunc := true } s1 e1 →
      Live K k sub False s
        { s1 with inFunc := s.inFunc, exit := { s1.exit with returning := false } } e1 :=
    fun l => ⟨l.env, ⟨l.dyn.cerr, l.dyn.csub, l.dyn.fok, l.dyn.ht, l.dyn.eign, l.dyn.noe, hd.sfn,
      fun hne => l.frame.il.trans (hd.inl hne)⟩, ⟨l.frame.ne, l.frame.il, rfl⟩, False.elim⟩
  rcases hpo.flows_nil rfl with rfl | hfl
  · obtain ⟨l, h4, h5, _⟩ := hpo
    exact .inl ⟨back l, ⟨rfl, h4.2⟩, h5, fun h => nomatch h.1⟩
  · cases fl with
    | ret =>
      obtain ⟨l, h5, _, _, hex⟩ := hpo
      -- `return n` with `n ≠ 0` under errexit: the runner is already exiting
      by_cases hxx : s1.exit.exiting = true
      · obtain ⟨a, b, c⟩ := hex hxx
        exact .inr ⟨rfl, rfl, back l, h5, rfl, hxx, a, b, c⟩
      · exact .inl ⟨back l, ⟨rfl, by simpa using hxx⟩, h5, fun h => nomatch h.1⟩
    | exit =>
      exact .inl ⟨hpo.exiting, rfl, hpo.status, hpo.out, hpo.trap, hpo.csub, hpo.ht, hpo.cerr, hpo.np,
        hpo.vars⟩
    | _ => cases hfl

/- Pipelines: the left side runs in a subshell on both sides.  The last stage — a simple command
   without effect on the shell — runs in the runner itself but in a subshell in `BashSem`. -/

/-- Status of a last-stage command and what it appends to the output. -/
def pureEff (vars : List (Str × Str)) (last : Nat) : Cmd → Nat × (Str → Str)
  | .fls => (1, id)
  | .echo w => (0, (· ++ (expandWord vars last w ++ [10])))
  | .test x neg v => (if (lookupVar vars x == v) != neg then 0 else 1, id)
  | _ => (0, id)

def lastStage (c : Cmd) (s : St) : St :=
  { s with lastExpandExit := {}, exit := { code := (pureEff s.vars s.lastExit.code c).1 },
           out := (pureEff s.vars s.lastExit.code c).2 s.out }

theorem run_lastStage (m : Nat) (c : Cmd) (hc : pipeRCmd c = true) (s : St) (hs : NoFlags s)
    (hce : s.callbackErr = .nil) :
    run (m+2) (.stmt (.mk false c)) s = some (tested (fires c (lastStage c s)) (lastStage c s)) := by
  have h1 : run (m+1) (.cmd c) { s with exit := {} } = some (lastStage c s) := by
    cases c with
    | tru => exact run_tru (stop_false_of_exit rfl)
    | fls => exact run_fls (stop_false_of_exit rfl)
    | echo w => exact run_echo w (stop_false_of_exit rfl)
    | test x neg v => exact run_test x neg v (stop_false_of_exit rfl)
    | _ => cases hc
  rw [run_stmt_pos c (not_stop hs), h1]
  exact stmtEnd_eq (Nat.succ_pos m) c hce

def lastEnv (c : Cmd) (e : Env) : Env :=
  { e with status := (pureEff e.vars e.status c).1, out := (pureEff e.vars e.status c).2 e.out }

theorem sem_lastStage (m : Nat) (k : Ctx) (c : Cmd) (hc : pipeRCmd c = true) (e : Env)
    (hte : e.trapErr = .nil) (htx : e.trapExit = .nil) :
    semSub (m+2) k (.cons (.mk false c) .nil) e = some (.norm, lastEnv c e) := by
  have h1 : sem (m+1) k (.cmd c) e = some (.norm, lastEnv c e) := by
    cases c with
    | tru => exact sem_tru
    | fls => exact sem_fls
    | echo w => exact sem_echo w
    | test x neg v => exact sem_test x neg v
    | _ => cases hc
  have hte1 : (lastEnv c e).trapErr = .nil := hte
  have htx1 : (lastEnv c e).trapExit = .nil := htx
  rw [semSub, subRun_eq, seqList_single]
  show Option.bind (sem (m+2) k (.stmt (.mk false c)) e) _ = _
  rw [sem_stmt_pos, h1, Option.bind_some, semEnd_norm (Nat.succ_pos m) k c e hte1, Option.bind_some]
  show Option.bind (sem (m+2) _ (.trap (lastEnv c e).trapExit) _) _ = _
  rw [htx1, sem_trap_nil (Nat.le_add_left 1 _)]
  rfl

theorem sim_pipe (hS : SimS n) (x y : Stmt) (hst : Stat K k sub)
    (hs : supCmd K (.pipe x y) = true) (hd : Dyn K k sub s) (hl : LastOk s) (hp : NoPending s)
    (hx : s.exit = {}) :
    Rel (PostC K k sub (.pipe x y) s) (run (n+1) (.cmd (.pipe x y)) s)
      (sem (n+1) k (.cmd (.pipe x y)) (absEnv s)) := by
  have hs : (!(K.e && (K.ign || K.unk)) && supPipeL K x && supPipeR y) = true := hs
  simp only [Bool.and_eq_true] at hs
  obtain ⟨⟨hne, hsx⟩, hsy⟩ := hs
  obtain ⟨nx, cx⟩ := x
  obtain ⟨ny, cy⟩ := y
  cases nx with
  | true => cases hsx
  | false =>
  cases ny with
  | true => cases hsy
  | false =>
  have hcy : pipeRCmd cy = true := hsy
  have hsupx : supProg (subK K.e) false (.cons (.mk false cx) .nil) = true := by
    have hsx : supCmd (subK K.e) cx = true := hsx
    show (supCmd (subK K.e) cx && _) = true
    rw [hsx]; rfl
  have h0 := sim_subrun hS (.cons (.mk false cx) .nil) [] 0 hst hne rfl hsupx hd hl hx
  rw [foldStmts_single] at h0
  rw [run_pipe _ _ (stop_false_of_exit hx), sem_pipe]
  refine Rel.bind h0 fun r2 fl e1 hr ⟨_, h1, _, h3⟩ => ?_
  obtain ⟨m, rfl⟩ : ∃ m, n = m + 2 :=
    ⟨n - 2, by have := run_stmt_ge2 hr (stop_false_of_exit (s := subshellOf s []) hx); omega⟩
  show Rel _ (Option.bind (run (m+2) (.stmt (.mk false cy)) s) _)
    (Option.bind (semSub (m+2) _ _ (subEnv (absEnv s) (absEnv s).out)) _)
  rw [run_lastStage m cy hcy s (noFlags_of_exit hx) hd.cerr,
    sem_lastStage m _ cy hcy _ rfl rfl]
  show Rel _
    (if ((lastStage cy s).pipefail && r2.exit.code != 0 && ((lastStage cy s).exit.code == 0)) = true then
      some { tested (fires cy (lastStage cy s)) (lastStage cy s) with
        exit := { r2.exit with exiting := false } }
     else some (tested (fires cy (lastStage cy s)) (lastStage cy s)))
    (some (.norm, { absEnvC (lastStage cy s) with
      status := if ((lastStage cy s).pipefail && decide ((lastStage cy s).exit.code = 0)) = true
        then e1.status else (lastStage cy s).exit.code }))
  have hk : Keeps s (lastStage cy s) := ⟨⟨rfl, rfl, rfl⟩, rfl, rfl, rfl, rfl, rfl⟩
  have hnfl : NoFlags (lastStage cy s) := ⟨rfl, rfl⟩
  have hnpl : NoPending (lastStage cy s) := hp
  generalize lastStage cy s = ls at *
  have hkt := fun b => hk.trans (keeps_tested b ls)
  by_cases hc1 : (ls.pipefail && r2.exit.code != 0 && (ls.exit.code == 0)) = true
  · -- `pipefail`: the status of the left side
    rw [if_pos hc1]
    simp only [Bool.and_eq_true, bne_iff_ne, ne_eq, beq_iff_eq] at hc1
    have hkt : Keeps s { tested (fires cy ls) ls with exit := { r2.exit with exiting := false } } :=
      (hkt (fires cy ls)).trans ⟨⟨rfl, rfl, rfl⟩, rfl, rfl, rfl, rfl, rfl⟩
    refine .inl ⟨⟨?_, hd.keeps hkt, hkt.toFrame, False.elim⟩, ⟨h3, rfl⟩, hnpl, fun h => nomatch h.1⟩
    rw [hc1.1.1, hc1.2, h1]
    rfl
  · rw [if_neg hc1]
    have hstat : (if (ls.pipefail && decide (ls.exit.code = 0)) = true then e1.status
        else ls.exit.code) = ls.exit.code := by
      split
      next h =>
        -- `pipefail`, the last stage succeeded, and yet `hc1` fails: the left side succeeded too
        simp only [Bool.and_eq_true, decide_eq_true_eq] at h
        simp only [h.1, h.2, beq_self_eq_true, Bool.and_true, Bool.true_and, bne_iff_ne, ne_eq,
          Decidable.not_not] at hc1
        rw [h1, hc1, h.2]
      next => rfl
    rw [hstat]
    cases hf : fires cy ls with
    | false =>
      exact .inl ⟨⟨rfl, hd.keeps (hkt _), (hkt _).toFrame, False.elim⟩, hnfl, hnpl, fun h => nomatch h.1⟩
    | true =>
      -- the last stage failed under errexit, in the runner itself
      obtain ⟨a, b, c⟩ := fires_true hf
      exact .inr ⟨rfl, rfl, ⟨rfl, hd.keeps (hkt _), (hkt _).toFrame, False.elim⟩, hnpl, hnfl.1, rfl, a, b, c⟩

end
end ShVerif.C26
