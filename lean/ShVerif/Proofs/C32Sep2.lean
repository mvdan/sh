import ShVerif.Proofs.C32Sep
/-
  C32, Part B: interleavings.  All that is used of an operation is `StepOK` (`step_ok`): the only
  array or map that exists and is written is the mover's `dirStack` array, and what the mover
  reaches anew did not exist.  So the two sides stay `Apart` (what either reaches exists, and neither
  reaches the other's `dirStack` array), from which `Separated`; `subshell(true)` leaves them apart
  (`fork_inv`).
-/
namespace ShVerif.C32
open ShVerif ShVerif.L1

/-- everything a side reaches exists -/
structure InB (h : Heap) (s : Side) : Prop where
  strs : ∀ id ∈ (reach s).strs, id < h.strs.length
  ints : ∀ id ∈ (reach s).ints, id < h.ints.length
  maps : ∀ id ∈ (reach s).maps, id < h.maps.length

/-- The two sides are apart: what either reaches exists, and neither reaches the other's
    `dirStack` array — the only array that exists and is still written (`StepOK.ds`).  `WFp` for two
    sides. -/
structure Apart (h : Heap) (m o : Side) : Prop where
  mIn : InB h m
  oIn : InB h o
  md : ∀ id ∈ sliceArr m.dirStack, id ∉ (reach o).strs
  od : ∀ id ∈ sliceArr o.dirStack, id ∉ (reach m).strs

theorem Apart.symm {h : Heap} {m o : Side} (a : Apart h m o) : Apart h o m := ⟨a.oIn, a.mIn, a.od, a.md⟩

theorem mem_sliceArr_self {s : Slice} (hs : ¬ NoStore s) : s.arr ∈ sliceArr s := by
  rw [sliceArr_of hs]; exact List.mem_singleton_self _

/-- a step of `m` changes nothing that `o` reaches -/
theorem Apart.unchanged {h h' : Heap} {m m' o : Side} (a : Apart h m o) (st : StepOK h m h' m') :
    UnchangedFor h h' (reach o) :=
  ⟨fun id hid => st.ds.old id (a.oIn.strs id hid) ((Decidable.em (NoStore m.dirStack)).imp_right fun hs e =>
      a.md _ (mem_sliceArr_self hs) (e ▸ hid)),
    fun id hid => st.ints.1.getElem? (a.oIn.ints id hid), fun id hid => st.maps.1.getElem? (a.oIn.maps id hid)⟩

/-- … and the sides stay apart: what `m` reaches anew did not exist, so `o` does not reach it -/
theorem Apart.step {h h' : Heap} {m m' o : Side} (a : Apart h m o) (st : StepOK h m h' m') : Apart h' m' o := by
  have ls := st.ds.len
  refine ⟨⟨fun id hid => ?_, fun id hid => ?_, fun id hid => ?_⟩,
    ⟨fun id hid => Nat.lt_of_lt_of_le (a.oIn.strs id hid) ls, fun id hid => Nat.lt_of_lt_of_le (a.oIn.ints id hid) st.ints.2,
      fun id hid => Nat.lt_of_lt_of_le (a.oIn.maps id hid) st.maps.2⟩, fun id hid ho => ?_, fun id hid hm => ?_⟩
  · exact (st.rstrs id hid).elim (fun x => Nat.lt_of_lt_of_le (a.mIn.strs id x) ls) And.right
  · exact (st.rints id hid).elim (fun x => Nat.lt_of_lt_of_le (a.mIn.ints id x) st.ints.2) And.right
  · exact (st.rmaps id hid).elim (fun x => Nat.lt_of_lt_of_le (a.mIn.maps id x) st.maps.2) And.right
  · rcases st.ds.arr id hid with x | x
    · exact a.md id x ho
    · exact Nat.lt_irrefl _ (Nat.lt_of_lt_of_le (a.oIn.strs id ho) x.1)
  · rcases st.rstrs id hm with x | x
    · exact a.od id hid x
    · exact Nat.lt_irrefl _ (Nat.lt_of_lt_of_le (a.oIn.strs id (List.mem_append_right _ hid)) x.1)

theorem separated_of_inv (g : Grows) : ∀ (sched : Sched) (t : Two) (pops cops : List Op),
    Apart t.h t.parent t.child → Separated g t pops cops sched := by
  intro sched
  induction sched with
  | nil => intro t pops cops _; trivial
  | cons side rest ih =>
    intro t pops cops a
    cases side with
    | false =>
      cases pops with
      | nil => exact ih t [] cops a
      | cons op pops' =>
        simp only [Separated]
        cases hs : step g t.h t.parent op with
        | none => trivial
        | some r => exact ⟨a.unchanged (step_ok g op hs), ih _ pops' cops (a.step (step_ok g op hs))⟩
    | true =>
      cases cops with
      | nil => exact ih t pops [] a
      | cons op cops' =>
        simp only [Separated]
        cases hs : step g t.h t.child op with
        | none => trivial
        | some r => exact ⟨a.symm.unchanged (step_ok g op hs), ih _ pops cops' (a.symm.step (step_ok g op hs)).symm⟩

/-- the child's `dirStack`: a new array, resliced to length 0, then one `append` -/
theorem fork_step (g : Grows) (h : Heap) (p : Side) :
    SliceStep h.strs Slice.nil (fork g h p).1.strs (fork g h p).2.dirStack :=
  (sliceMake_step h.strs [] 1).trans
    ((sliceToZero_step _ _).trans (sliceAppendMany_step g.strs _ _ _))

/-- at the fork the child reaches what the parent's variables and `Params` reach, and a new
    `dirStack` array -/
theorem fork_inv (g : Grows) (h : Heap) (p : Side) (wf : WFp h p) : Apart (fork g h p).1 p (fork g h p).2 := by
  have ap := (fork_step g h p).ext (Nat.le_refl _) (Fresh.nil _ _)
  have pin : InB (fork g h p).1 p :=
    ⟨fun id hid => Nat.lt_of_lt_of_le (wf.strs id hid) ap.1.2, wf.ints, wf.maps⟩
  have new : ∀ id ∈ sliceArr (fork g h p).2.dirStack, ∀ x ∈ (reach p).strs, id ≠ x := fun id hid x hx e =>
    Nat.lt_irrefl _ (Nat.lt_of_lt_of_le (e ▸ wf.strs x hx) (ap.2.arr id hid).1)
  refine ⟨pin, ⟨fun id hid => ?_, wf.ints, wf.maps⟩, fun id hid hc => ?_, fun id hid hp => new id hid id hp rfl⟩
  · rcases List.mem_append.mp hid with hv | hd
    · exact pin.strs id (List.mem_append_left _ hv)
    · exact (ap.2.arr id hd).2
  · rcases List.mem_append.mp hc with hv | hd
    · exact wf.dirPrivate id hv hid
    · exact new id hd id (List.mem_append_right _ hid) rfl

end ShVerif.C32
