import ShVerif.Model.C35
/-
  Two frame facts hold of a single call in any state: an inode no descriptor refers to is never
  modified (`step_kept`), and of the calls in the alphabet `allowedOnTarget` only a rename onto the
  target changes what its name refers to (`step_target`).  They give the statements about *every*
  intermediate state (`states_kept`, `states_spared`).  The statements about the state a script ends
  in come from following it phase by phase: the probes start and end `Idle` (nothing open, no stray
  name; `probe_idle`), writing the temporary file leads from `Idle` to `Ready` (`pending_ready`).
-/
namespace ShVerif.C35

@[simp] theorem upd_same {α β : Type} [DecidableEq α] (f : α → β) (a : α) (b : β) : upd f a b a = b := by
  simp [upd]

@[simp] theorem upd_other {α β : Type} [DecidableEq α] (f : α → β) (a x : α) (b : β) (h : x ≠ a) :
    upd f a b x = f x := by
  simp [upd, h]

theorem upd_ne {α β : Type} [DecidableEq α] {f : α → β} {a x : α} {b v : β} (hb : b ≠ v) (hf : f x ≠ v) :
    upd f a b x ≠ v := by
  unfold upd; split <;> assumption

/-- The states after every prefix of the script (the empty prefix first); `none` once a call failed. -/
def states : List Op → FS → List (Option FS)
  | [], fs => [some fs]
  | o :: os, fs =>
    some fs :: (match step fs o with
      | some fs' => states os fs'
      | none => [none])

theorem run_take_mem_states (l : List Op) (fs : FS) (k : Nat) :
    run (l.take k) fs ∈ states l fs := by
  induction l generalizing fs k with
  | nil => simp [run, states]
  | cons o os ih =>
    cases k with
    | zero => simp [run, states]
    | succ k =>
      simp only [List.take_succ_cons, run, states]
      cases h : step fs o with
      | none => simp
      | some fs' =>
        simp only [Option.bind_some]
        exact List.mem_cons_of_mem _ (ih fs' k)

theorem run_mem_states (l : List Op) (fs : FS) : run l fs ∈ states l fs := by
  have := run_take_mem_states l fs l.length
  simpa using this

theorem run_append (a b : List Op) (fs : FS) : run (a ++ b) fs = (run a fs).bind (run b) := by
  induction a generalizing fs with
  | nil => rfl
  | cons o os ih =>
    simp only [List.cons_append, run]
    cases step fs o with
    | none => rfl
    | some fs' => exact ih fs'

theorem mem_states_concat {l : List Op} {op : Op} {fs : FS} {s : Option FS}
    (h : s ∈ states (l ++ [op]) fs) : s ∈ states l fs ∨ s = run (l ++ [op]) fs := by
  induction l generalizing fs with
  | nil =>
    simp only [List.nil_append, states, run] at h ⊢
    cases hs : step fs op <;> simp_all
  | cons o os ih =>
    simp only [List.cons_append, states, run, List.mem_cons] at h ⊢
    cases hs : step fs o with
    | none => simp_all
    | some fs' =>
      simp only [hs, Option.bind_some] at h ⊢
      rcases h with h | h
      · exact .inl (.inl h)
      · exact (ih h).imp .inr id

theorem states_inv {P : FS → Prop} {ok : Op → Prop}
    (hstep : ∀ fs op fs', P fs → ok op → step fs op = some fs' → P fs') :
    ∀ (l : List Op) (fs : FS), P fs → (∀ op ∈ l, ok op) → (run l fs).isSome = true →
      ∀ s ∈ states l fs, ∃ fs', s = some fs' ∧ P fs' := by
  intro l
  induction l with
  | nil => intro fs h _ _ s hs; exact ⟨fs, by simpa [states] using hs, h⟩
  | cons o os ih =>
    intro fs h hok hr s hs
    simp only [run] at hr
    cases ho : step fs o with
    | none => simp [ho] at hr
    | some fs' =>
      simp only [states, ho, List.mem_cons] at hs
      rcases hs with rfl | hs
      · exact ⟨fs, rfl, h⟩
      · exact ih fs' (hstep _ _ _ h (hok o List.mem_cons_self) ho)
          (fun op hop => hok op (List.mem_cons_of_mem _ hop)) (by simpa [ho] using hr) s hs

variable {fs fs' : FS} {ino : Inode} {um : Nat}

/-- What no call changes: the umask, and an inode that no descriptor refers to (here inode 0; new
    inodes are numbered from `nextIno` on). -/
structure Kept (fs : FS) (ino : Inode) (um : Nat) : Prop where
  inode : fs.inodes 0 = some ino
  closed : ∀ fd, fs.fds fd ≠ some 0
  fresh : fs.nextIno ≠ 0
  umask : fs.umask = um

theorem step_kept (op : Op) (h : Kept fs ino um) (hs : step fs op = some fs') : Kept fs' ino um := by
  obtain ⟨h1, h2, h3, h4⟩ := h
  cases op <;> simp only [step, Option.map_eq_some_iff] at hs
  case lstat => cases hs; exact ⟨h1, h2, h3, h4⟩
  case openExcl =>
    split at hs <;> cases hs
    exact ⟨(upd_other _ _ _ _ h3.symm).trans h1, fun fd => upd_ne (by simpa using h3) (h2 fd),
      Nat.succ_ne_zero _, h4⟩
  case fchmod | write =>
    split at hs
    · cases hs
    rename_i i hi
    split at hs <;> cases hs
    -- the inode behind a descriptor is not inode 0
    exact ⟨(upd_other _ _ _ _ fun z => h2 _ (z ▸ hi)).trans h1, h2, h3, h4⟩
  case close =>
    obtain ⟨_, _, rfl⟩ := hs
    exact ⟨h1, fun fd => upd_ne nofun (h2 fd), h3, h4⟩
  case rename => split at hs <;> cases hs; exact ⟨h1, h2, h3, h4⟩
  all_goals obtain ⟨_, _, rfl⟩ := hs; exact ⟨h1, h2, h3, h4⟩

theorem states_kept (l : List Op) (h : Kept fs ino um) (hr : (run l fs).isSome = true) :
    ∀ s ∈ states l fs, ∃ fs', s = some fs' ∧ Kept fs' ino um :=
  states_inv (ok := fun _ => True) (fun _ op _ h _ => step_kept op h) l fs h (fun _ _ => trivial) hr

theorem run_kept {l : List Op} (h : Kept fs ino um) (hr : run l fs = some fs') : Kept fs' ino um := by
  obtain ⟨_, e, h'⟩ := states_kept l h (by rw [hr]; rfl) _ (run_mem_states l fs)
  rw [hr] at e; cases e; exact h'

/-- The calls after which the target's name refers to what it did before: all the allowed ones but
    the rename of the pending file onto it. -/
def spares : Op → Bool
  | .rename a b => a != .target && b != .target
  | op => allowedOnTarget op

theorem allowed_of_spares {op : Op} (h : spares op = true) : allowedOnTarget op = true := by
  cases op <;> first | exact h | simp_all [spares, allowedOnTarget]

theorem step_target {op : Op} (hop : spares op = true) (hs : step fs op = some fs') :
    fs'.names .target = fs.names .target := by
  cases op <;> simp only [step, Option.map_eq_some_iff] at hs
  case openExcl p _ =>
    split at hs <;> cases hs
    exact upd_other _ _ _ _ (by cases p <;> simp_all [spares, allowedOnTarget])
  case rename a b =>
    split at hs <;> cases hs
    have : a ≠ .target ∧ b ≠ .target := by simpa [spares] using hop
    simp only [upd_other _ _ _ _ this.1.symm, upd_other _ _ _ _ this.2.symm]
  case unlink p =>
    obtain ⟨_, _, rfl⟩ := hs
    exact upd_other _ _ _ _ (by cases p <;> simp_all [spares, allowedOnTarget])
  case fchmod | write => (repeat' split at hs) <;> cases hs <;> rfl
  case lstat => cases hs; rfl
  all_goals obtain ⟨_, _, rfl⟩ := hs; rfl

theorem states_spared {l : List Op} (hk : Kept fs ino um)
    (hl : ∀ op ∈ l, spares op = true) (hr : (run l fs).isSome = true) :
    ∀ s ∈ states l fs, ∃ fs', s = some fs' ∧ fs'.names .target = fs.names .target ∧ Kept fs' ino um :=
  states_inv (P := fun fs' => fs'.names .target = fs.names .target ∧ Kept fs' ino um)
    (fun _ op _ h hop hs => ⟨(step_target hop hs).trans h.1, step_kept op h.2 hs⟩) l fs ⟨rfl, hk⟩ hl hr

structure Idle (fs : FS) (nf : Nat) : Prop where
  target : fs.names .target = some 0
  others : ∀ p, p ≠ .target → fs.names p = none
  closed : ∀ fd, fs.fds fd = none
  nextFd : fs.nextFd = nf

theorem idle_init (old : Bytes) (perm umask : Nat) (kind : FKind) :
    Idle (init old perm umask kind) 0 :=
  ⟨rfl, fun _ h => if_neg h, fun _ => rfl, rfl⟩

theorem Idle.listing {nf : Nat} (h : Idle fs nf) : listing fs = [.target] := by
  simp [C35.listing, allPaths, h.target, h.others]

theorem closed_again {f : Nat → Option Nat} (h : ∀ fd, f fd = none) (a : Nat) (b : Option Nat) (fd : Nat) :
    upd (upd f a b) a none fd = none := by
  by_cases e : fd = a <;> simp [upd, e, h]

theorem probe_idle (c : TmpCfg) (h : Idle fs 0) :
    ∃ fs', run (probe c) fs = some fs' ∧ Idle fs' (tempFd c) := by
  obtain ⟨h1, h2, h3, h4⟩ := h
  have a := h2 .probeTmp (by decide)
  have b := h2 .probeDir (by decide)
  cases c
  case noTmp => exact ⟨fs, rfl, h1, h2, h3, h4⟩
  all_goals
    simp only [probe, run, step, a, b, h4, upd_same, upd_other, ne_eq, reduceCtorEq, not_false_eq_true,
      Option.bind_some, Option.map_some, Nat.zero_add, Nat.reduceAdd]
    refine ⟨_, rfl, by simp [h1], fun p hp => ?_, closed_again (closed_again h3 0 _) 1 _, rfl⟩
    cases p <;> simp_all

def pending (fd perm umask : Nat) (new : Bytes) : List Op :=
  .openExcl .temp perm :: .fstat fd ::
    ((if maskMode perm umask ≠ perm then [.fchmod fd perm] else []) ++
      [.write fd new, .fsync fd, .close fd, .lstat .target])

structure Ready (fs : FS) (i : Nat) (ino : Inode) : Prop where
  temp : fs.names .temp = some i
  inode : fs.inodes i = some ino
  own : i ≠ 0
  probes : fs.names .probeTmp = none ∧ fs.names .probeDir = none
  closed : ∀ fd, fs.fds fd = none

theorem pending_ready {fd umask : Nat} (perm : Nat) (new : Bytes)
    (h : Idle fs fd) (hk : Kept fs ino umask) :
    ∃ fs' i, run (pending fd perm umask new) fs = some fs' ∧ Ready fs' i ⟨new, perm, .reg⟩ := by
  obtain ⟨_, h2, h3, h4⟩ := h
  have a := h2 .temp (by decide)
  by_cases hm : maskMode perm umask = perm
  all_goals
    simp only [pending, hm, ne_eq, not_true_eq_false, not_false_eq_true, ↓reduceIte, List.cons_append,
      List.nil_append, run, step, a, hk.umask, h4, Option.bind_some, upd_same, Option.map_some]
    refine ⟨_, fs.nextIno, rfl, ?_, ?_, hk.fresh, ⟨?_, ?_⟩, closed_again h3 _ _⟩ <;> simp [h2]

/-- The failing run that got as far as the `$TMPDIR` probe file removes it again. -/
theorem probeTmp_idle (mode : Nat) (h : Idle fs 0) :
    ∃ fs', run [.openExcl .probeTmp mode, .close 0, .unlink .probeTmp] fs = some fs' ∧ Idle fs' 1 := by
  obtain ⟨h1, h2, h3, h4⟩ := h
  simp only [run, step, h2 .probeTmp (by decide), h4, upd_same, Option.bind_some, Option.map_some]
  refine ⟨_, rfl, by simp [h1], fun p hp => ?_, closed_again h3 0 _, rfl⟩
  cases p <;> simp_all

def prepare (c : TmpCfg) (perm umask : Nat) (new : Bytes) : List Op :=
  .lstat .target :: .lstat .target :: .lstat .target :: (probe c ++ pending (tempFd c) perm umask new)

theorem writeScript_eq (c : TmpCfg) (perm umask : Nat) (new : Bytes) :
    writeScript c perm umask new = prepare c perm umask new ++ [.rename .temp .target] := by
  simp [writeScript, prepare, pending]

theorem kept_init (old : Bytes) (perm umask : Nat) (kind : FKind) :
    Kept (init old perm umask kind) ⟨old, perm, kind⟩ umask :=
  ⟨rfl, fun _ => nofun, nofun, rfl⟩

theorem run_writeScript (c : TmpCfg) (perm umask : Nat) (old new : Bytes) :
    ∃ fs i, Ready fs i ⟨new, perm, .reg⟩ ∧ Kept fs ⟨old, perm, .reg⟩ umask ∧
      run (prepare c perm umask new) (init old perm umask) = some fs ∧
      run (writeScript c perm umask new) (init old perm umask) =
        some { fs with names := upd (upd fs.names .target (some i)) .temp none } := by
  have k := kept_init old perm umask .reg
  obtain ⟨fs1, r1, i1⟩ := probe_idle c (idle_init old perm umask .reg)
  obtain ⟨fs2, i, r2, h2⟩ := pending_ready perm new i1 (run_kept k r1)
  have r : run (prepare c perm umask new) (init old perm umask) = some fs2 := by
    show run (probe c ++ _) _ = _
    rw [run_append, r1]; exact r2
  refine ⟨fs2, i, h2, run_kept k r, r, ?_⟩
  rw [writeScript_eq, run_append, r]
  simp only [Option.bind_some, run, step, h2.temp]

theorem failScript_idle (c : TmpCfg) (at_ : FailAt) (old : Bytes) (perm umask : Nat) :
    ∃ fs nf, run (failScript c at_) (init old perm umask) = some fs ∧ Idle fs nf := by
  have h := idle_init old perm umask .reg
  unfold failScript
  split
  · exact ⟨_, _, rfl, h⟩
  · exact ⟨_, _, rfl, h⟩
  · exact (probeTmp_idle _ h).imp fun _ => Exists.intro _
  · exact (probe_idle _ h).imp fun _ => Exists.intro _

theorem probe_spares (c : TmpCfg) : ∀ op ∈ probe c, spares op = true := by cases c <;> decide

theorem failScript_spares (c : TmpCfg) (at_ : FailAt) : ∀ op ∈ failScript c at_, spares op = true := by
  cases c <;> cases at_ <;> decide

theorem prepare_spares (c : TmpCfg) (perm umask : Nat) (new : Bytes) :
    ∀ op ∈ prepare c perm umask new, spares op = true := by
  unfold prepare pending
  split <;>
    simp only [List.forall_mem_cons, List.forall_mem_append, List.not_mem_nil, false_imp_iff, implies_true,
      and_true, true_and]
  all_goals exact ⟨rfl, rfl, rfl, probe_spares c, by simp [spares, allowedOnTarget]⟩

end ShVerif.C35
