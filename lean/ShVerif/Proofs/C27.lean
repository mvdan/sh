import ShVerif.Model.C27
import ShVerif.Proofs.L1Heap
/-
  C27.  The child writes only heap objects allocated after the subshell was
  created (`HeapFr n`, `n` = the heap sizes at that moment), hence nothing the parent can reach.
-/
namespace ShVerif.C27
open ShVerif ShVerif.L1

def Sizes.le (n : Sizes) (h : Heap) : Prop :=
  n.strs ≤ h.strs.length ∧ n.ints ≤ h.ints.length ∧ n.maps ≤ h.maps.length ∧
  n.scopes ≤ h.scopes.length ∧ n.fmaps ≤ h.fmaps.length ∧ n.amaps ≤ h.amaps.length

theorem Heap.sizes_le (h : Heap) : h.sizes.le h := by
  simp [Sizes.le, Heap.sizes]

/-- Overlays allocated since the subshell forward `Set` only to overlays allocated since. -/
def ScopeInv (n : Nat) (scopes : List Scope) : Prop :=
  ∀ id o, n ≤ id → scopes[id]? = some o → o.funcScope = true → ∃ p, o.parent = .ov p ∧ n ≤ p

structure HeapFr (n : Sizes) (h h' : Heap) : Prop where
  strs : ListFr n.strs h.strs h'.strs
  ints : ListFr n.ints h.ints h'.ints
  maps : ListFr n.maps h.maps h'.maps
  scopes : ListFr n.scopes h.scopes h'.scopes
  fmaps : ListFr n.fmaps h.fmaps h'.fmaps
  amaps : ListFr n.amaps h.amaps h'.amaps
  sc : ScopeInv n.scopes h.scopes → ScopeInv n.scopes h'.scopes

theorem HeapFr.le {n : Sizes} {h h' : Heap} (fr : HeapFr n h h') : n.le h' :=
  ⟨fr.strs.1, fr.ints.1, fr.maps.1, fr.scopes.1, fr.fmaps.1, fr.amaps.1⟩

theorem HeapFr.refl {n : Sizes} {h : Heap} (hn : n.le h) : HeapFr n h h :=
  ⟨.refl hn.1, .refl hn.2.1, .refl hn.2.2.1, .refl hn.2.2.2.1, .refl hn.2.2.2.2.1, .refl hn.2.2.2.2.2, id⟩

theorem HeapFr.trans {n : Sizes} {a b c : Heap} (h1 : HeapFr n a b) (h2 : HeapFr n b c) : HeapFr n a c :=
  ⟨h1.strs.trans h2.strs, h1.ints.trans h2.ints, h1.maps.trans h2.maps, h1.scopes.trans h2.scopes,
   h1.fmaps.trans h2.fmaps, h1.amaps.trans h2.amaps, fun s => h2.sc (h1.sc s)⟩

theorem HeapFr.of_strs {n : Sizes} {h : Heap} {s : ArrHeap Bytes} (hn : n.le h) (fr : ListFr n.strs h.strs s) :
    HeapFr n h { h with strs := s } := { HeapFr.refl hn with strs := fr }

theorem HeapFr.of_maps {n : Sizes} {h : Heap} {s : MapHeap Bytes Bytes} (hn : n.le h) (fr : ListFr n.maps h.maps s) :
    HeapFr n h { h with maps := s } := { HeapFr.refl hn with maps := fr }

theorem HeapFr.of_fmaps {n : Sizes} {h : Heap} {s : MapHeap Bytes Bytes} (hn : n.le h) (fr : ListFr n.fmaps h.fmaps s) :
    HeapFr n h { h with fmaps := s } := { HeapFr.refl hn with fmaps := fr }

theorem HeapFr.of_amaps {n : Sizes} {h : Heap} {s : MapHeap Bytes (Bytes × Bool)} (hn : n.le h)
    (fr : ListFr n.amaps h.amaps s) : HeapFr n h { h with amaps := s } := { HeapFr.refl hn with amaps := fr }

/-- Since `h0` only storage allocated at or after `n` has been written, and the two slices of an
    indexed array (`Variable.List`, `Variable.Indexes`) lie in such storage. -/
structure Own (n : Sizes) (h0 h : Heap) (list indexes : Slice) : Prop where
  fr : HeapFr n h0 h
  list : Owned n.strs list
  idx : Owned n.ints indexes

theorem Own.nil {n : Sizes} {h0 h : Heap} (f : HeapFr n h0 h) : Own n h0 h Slice.nil Slice.nil :=
  ⟨f, Owned.nil _, Owned.nil _⟩

theorem Own.nilIdx {n : Sizes} {h0 h : Heap} {l i : Slice} (b : Own n h0 h l i) : Own n h0 h l Slice.nil :=
  ⟨b.fr, b.list, Owned.nil _⟩

/-- one slice operation on the list and one on the indexes -/
theorem Own.steps {n : Sizes} {h0 h : Heap} {l i l' i' : Slice} {s : ArrHeap Bytes} {is : ArrHeap Nat}
    (b : Own n h0 h l i) (x : SliceStep h.strs l s l') (y : SliceStep h.ints i is i') :
    Own n h0 { h with strs := s, ints := is } l' i' :=
  have fs := x.fr b.fr.le.1 b.list
  have fi := y.fr b.fr.le.2.1 b.idx
  ⟨b.fr.trans { HeapFr.refl b.fr.le with strs := fs.1, ints := fi.1 }, fs.2, fi.2⟩

theorem Own.canonical {n : Sizes} {h0 h : Heap} {l ix : Slice} (b : Own n h0 h l ix) :
    Own n h0 h l (canonicalIndexes h ix) := by
  unfold canonicalIndexes; split
  · exact b.nilIdx
  · exact b

theorem setIndexedSparse_fr {n : Sizes} {g : Grows} {h0 h h' : Heap} {list indexes l' ix' : Slice} {k : Nat}
    {val : Bytes} (b : Own n h0 h list indexes)
    (e : setIndexedSparse g h list indexes k val = some (h', l', ix')) : Own n h0 h' l' ix' := by
  unfold setIndexedSparse at e
  rcases of_ite_eq e with ⟨_, e⟩ | ⟨_, e⟩
  · split at e
    · cases e
    · next s hs =>
      cases e
      exact b.steps (sliceSet_step hs) (.refl _ _)
  · split at e
    · cases e
    · next x hx =>
      split at e
      · cases e
      · next y hy =>
        cases e
        exact (b.steps (sliceInsert_step hx) (sliceInsert_step hy)).canonical

theorem setIndexedElem_fr {n : Sizes} {g : Grows} {h0 h h' : Heap} {list indexes l' ix' : Slice} {k : Nat}
    {val : Bytes} (b : Own n h0 h list indexes)
    (e : setIndexedElem g h list indexes k val = some (h', l', ix')) : Own n h0 h' l' ix' := by
  unfold setIndexedElem at e
  rcases of_ite_eq e with ⟨_, e⟩ | ⟨_, e⟩
  · rcases of_ite_eq e with ⟨_, e⟩ | ⟨_, e⟩
    · split at e
      · cases e
      · next s hs =>
        cases e
        exact b.nilIdx.steps (sliceSet_step hs) (.refl _ _)
    rcases of_ite_eq e with ⟨_, e⟩ | ⟨_, e⟩
    · cases e
      exact b.nilIdx.steps (sliceAppend_step g.strs h.strs list val) (.refl _ _)
    · -- the identity index list is made first
      exact setIndexedSparse_fr (b.nilIdx.steps (.refl _ _) (sliceMake_step h.ints (List.range list.len) (list.len + 1))) e
  · exact setIndexedSparse_fr b e

theorem deleteIndexedSparse_fr {n : Sizes} {h0 h h' : Heap} {list indexes l' ix' : Slice} {k : Nat}
    (b : Own n h0 h list indexes) (e : deleteIndexedSparse h list indexes k = some (h', l', ix')) :
    Own n h0 h' l' ix' := by
  unfold deleteIndexedSparse at e
  rcases of_ite_eq e with ⟨_, e⟩ | ⟨_, e⟩
  · cases e; exact b
  · split at e
    · cases e
    · next x hx =>
      split at e
      · cases e
      · next y hy =>
        cases e
        exact (b.steps (sliceDelete_step hx) (sliceDelete_step hy)).canonical

theorem deleteIndexedElem_fr {n : Sizes} {h0 h h' : Heap} {list indexes l' ix' : Slice} {k : Nat}
    (b : Own n h0 h list indexes) (e : deleteIndexedElem h list indexes k = some (h', l', ix')) :
    Own n h0 h' l' ix' := by
  unfold deleteIndexedElem at e
  rcases of_ite_eq e with ⟨_, e⟩ | ⟨_, e⟩
  · rcases of_ite_eq e with ⟨_, e⟩ | ⟨_, e⟩
    · cases e; exact b.nilIdx
    rcases of_ite_eq e with ⟨_, e⟩ | ⟨_, e⟩
    · split at e
      · cases e
      · next l hl => cases e; exact b.nilIdx.steps (sliceTo_step h.strs hl) (.refl _ _)
    · exact deleteIndexedSparse_fr (b.nilIdx.steps (.refl _ _) (sliceMake_step h.ints (List.range list.len) list.len)) e
  · exact deleteIndexedSparse_fr b e

theorem cloneBoth_fr {n : Sizes} {h : Heap} (g : Grows) (list indexes : Slice) (hn : n.le h) :
    Own n h (cloneBoth g h list indexes).1 (cloneBoth g h list indexes).2.1 (cloneBoth g h list indexes).2.2 :=
  (Own.nil (.refl hn)).steps (sliceClone_step g.strs h.strs list) (sliceClone_step g.ints h.ints indexes)

theorem assignElems_fr {n : Sizes} {g : Grows} {h0 : Heap} (elems : List (Option Int × Bytes)) :
    ∀ {h h' : Heap} {list indexes l' ix' : Slice} {index : Int}, Own n h0 h list indexes →
      assignElems g h list indexes index elems = some (h', l', ix') → Own n h0 h' l' ix' := by
  induction elems with
  | nil =>
    intro h h' list indexes l' ix' index b e
    simp only [assignElems] at e
    cases e; exact b
  | cons el rest ih =>
    intro h h' list indexes l' ix' index b e
    rw [assignElems] at e
    rcases of_ite_eq e with ⟨_, e⟩ | ⟨_, e⟩
    · exact ih b e
    · split at e
      · cases e
      · next r hr => exact ih (setIndexedElem_fr b hr) e

/-- The part of an overlay that `Set` never changes. -/
def skel (o : Scope) : PRef × Bool := (o.parent, o.funcScope)

def SameSkel (a b : List Scope) : Prop :=
  b.length = a.length ∧ ∀ i : Nat, (b[i]?).map skel = (a[i]?).map skel

theorem SameSkel.refl (a : List Scope) : SameSkel a a := ⟨rfl, fun _ => rfl⟩

theorem SameSkel.trans {a b c : List Scope} (h1 : SameSkel a b) (h2 : SameSkel b c) : SameSkel a c :=
  ⟨h2.1.trans h1.1, fun i => (h2.2 i).trans (h1.2 i)⟩

theorem SameSkel.scopeInv {n : Nat} {a b : List Scope} (h : SameSkel a b) (inv : ScopeInv n a) : ScopeInv n b := by
  intro id o hid ho hf
  have := h.2 id
  rw [ho] at this
  cases ha : a[id]? with
  | none => rw [ha] at this; cases this
  | some oa =>
    rw [ha] at this
    simp only [Option.map_some, Option.some.injEq, skel, Prod.mk.injEq] at this
    obtain ⟨p, hp, hnp⟩ := inv id oa hid ha (by rw [← this.2]; exact hf)
    exact ⟨p, by rw [this.1]; exact hp, hnp⟩

theorem sameSkel_set {scopes : List Scope} {id : Nat} {o : Scope} (ho : scopes[id]? = some o)
    (vals : Option (List (Bytes × Var))) : SameSkel scopes (scopes.set id { o with values := vals }) := by
  refine ⟨List.length_set, fun i => ?_⟩
  rw [List.getElem?_set]
  split
  · next h =>
    subst h
    rw [if_pos (List.getElem?_eq_some_iff.mp ho).1, ho]; rfl
  · rfl

theorem envSet_spec {n : Nat} (base : List (Bytes × Bytes)) :
    ∀ (fuel : Nat) {scopes sc' : List Scope} {id : Nat} {name : Bytes} {vr : Var},
      n ≤ scopes.length → ScopeInv n scopes → n ≤ id →
      envSet base fuel scopes id name vr = some sc' → ListFr n scopes sc' ∧ ScopeInv n sc' := by
  intro fuel
  induction fuel with
  | zero => intro scopes sc' id name vr _ _ _ e; cases e
  | succ fuel ih =>
    intro scopes sc' id name vr hn inv hid e
    rw [envSet] at e
    split at e
    · cases e
    · next o ho =>
      rcases of_ite_eq e with ⟨hf, e⟩ | ⟨_, e⟩
      · split at e
        · next p hp =>
          have hfs : o.funcScope = true := by
            simp only [Bool.and_eq_true] at hf; exact hf.1.1
          obtain ⟨p', hp', hnp⟩ := inv id o hid ho hfs
          rw [hp] at hp'; cases hp'
          exact ih hn inv hnp e
        · cases e
      · cases e
        exact ⟨listFr_set _ _ hn hid, (sameSkel_set ho _).scopeInv inv⟩

/-- What the child runner owns: its overlay, its saved frames, its function and alias maps and
    its directory stack were all allocated after the subshell was created (`n`). -/
structure Inv (n : Sizes) (r : Runner) (h : Heap) : Prop where
  le : n.le h
  env : n.scopes ≤ r.env
  sc : ScopeInv n.scopes h.scopes
  frames : ∀ f ∈ r.frames, n.scopes ≤ f.env
  funcs : ∀ id, r.funcs = some id → n.fmaps ≤ id
  alias : ∀ id, r.alias = some id → n.amaps ≤ id
  ds : Owned n.strs r.dirStack

theorem Inv.step {n : Sizes} {r : Runner} {h h' : Heap} (inv : Inv n r h) (fr : HeapFr n h h') : Inv n r h' :=
  ⟨fr.le, inv.env, fr.sc inv.sc, inv.frames, inv.funcs, inv.alias, inv.ds⟩

theorem Inv.keep {n : Sizes} {r : Runner} {h h' : Heap} (inv : Inv n r h) (fr : HeapFr n h h') :
    HeapFr n h h' ∧ Inv n r h' := ⟨fr, inv.step fr⟩

theorem Inv.runner {n : Sizes} {r r' : Runner} {h : Heap} (inv : Inv n r h) (h1 : r'.env = r.env)
    (h2 : r'.frames = r.frames) (h3 : r'.funcs = r.funcs) (h4 : r'.alias = r.alias)
    (h5 : r'.dirStack = r.dirStack) : Inv n r' h :=
  ⟨inv.le, h1 ▸ inv.env, inv.sc, h2 ▸ inv.frames, h3 ▸ inv.funcs, h4 ▸ inv.alias, h5 ▸ inv.ds⟩

/-- `r.writeEnv.Set(name, vr)`, which is what `setVar` and `delVar` are -/
theorem writeEnv_fr {n : Sizes} {r : Runner} {h h' : Heap} {name : Bytes} {vr : Var} (inv : Inv n r h)
    (e : (match envSet r.base (fuelOf h.scopes) h.scopes r.env name vr with
          | none => none
          | some sc => some { h with scopes := sc }) = some h') : HeapFr n h h' := by
  split at e
  · cases e
  · next sc hsc =>
    cases e
    have s := envSet_spec r.base _ inv.le.2.2.2.1 inv.sc inv.env hsc
    exact { HeapFr.refl inv.le with scopes := s.1, sc := fun _ => s.2 }

theorem setVar_fr {n : Sizes} {r : Runner} {h h' : Heap} {name : Bytes} {vr : Var} (inv : Inv n r h)
    (e : setVar r h name vr = some h') : HeapFr n h h' := writeEnv_fr inv e

theorem HeapFr.thenSetVar {n : Sizes} {r : Runner} {h h1 h' : Heap} {name : Bytes} {vr : Var} (f : HeapFr n h h1)
    (inv : Inv n r h) (e : setVar r h1 name vr = some h') : HeapFr n h h' :=
  f.trans (setVar_fr (inv.step f) e)

theorem delVar_fr {n : Sizes} {r : Runner} {h h' : Heap} {name : Bytes} (inv : Inv n r h)
    (e : delVar r h name = some h') : HeapFr n h h' := writeEnv_fr inv e

theorem appendBase_fr {n : Sizes} {g : Grows} {h : Heap} {prev : Var} {append : Bool} {b : Heap × Slice × Slice}
    (hn : n.le h) (e : appendBase g h prev append = some (some b)) : Own n h b.1 b.2.1 b.2.2 := by
  have nil : Own n h h Slice.nil Slice.nil := .nil (.refl hn)
  unfold appendBase at e
  split at e
  · split at e
    · cases e; exact nil
    · cases e; exact nil.steps (sliceMake_step h.strs [prev.str] 1) (.refl _ _)
    · cases e; exact cloneBoth_fr g _ _ hn
    · cases e
    · cases e
  · cases e; exact nil

theorem assignArr_fr {n : Sizes} {g : Grows} {h h' : Heap} {prev v : Var} {append : Bool}
    {elems : List (Option Int × Bytes)} (hn : n.le h) (e : assignArr g h prev append elems = some (h', v)) :
    HeapFr n h h' := by
  unfold assignArr at e
  split at e
  · cases e
  · cases e; exact HeapFr.refl hn
  · next b hb =>
    split at e
    · cases e
    · next r hr => cases e; exact (assignElems_fr elems (appendBase_fr hn hb) hr).fr

theorem assignMap_fr {n : Sizes} {h h' : Heap} {prev v : Var} {append : Bool} {amap : List (Bytes × Bytes)}
    (hn : n.le h) (e : assignMap h prev append amap = (h', v)) : HeapFr n h h' := by
  cases e; exact HeapFr.of_maps hn (mapAlloc_fr h.maps amap hn.2.2.1).1

theorem appendIndexed_fr {n : Sizes} {g : Grows} {h0 h h' : Heap} {prev v : Var} {s : Bytes}
    (b : Own n h0 h prev.list prev.indexes) (e : appendIndexed g h prev s = some (h', v)) : HeapFr n h0 h' := by
  unfold appendIndexed at e
  rcases of_ite_eq e with ⟨_, e⟩ | ⟨_, e⟩
  · split at e
    · cases e
    · split at e
      · cases e
      · next st hst => cases e; exact (b.steps (sliceSet_step hst) (.refl _ _)).fr
  · split at e
    · cases e
    · next r hr => cases e; exact (setIndexedElem_fr b hr).fr

/-- `assignVal` writes only fresh storage — in the current variant always, in the pinned variant
    provided a `+=word` onto an indexed array finds storage the child owns. -/
theorem assignVal_fr {n : Sizes} {fx : Bool} {g : Grows} {h h' : Heap} {prev v : Var} {append : Bool}
    {rhs : Rhs} {vt : ValType} {hasIdx : Bool} (hn : n.le h)
    (safe : fx = true ∨ (append = true → (∃ s, rhs = .str s) → prev.kind = .indexed →
      Owned n.strs prev.list ∧ Owned n.ints prev.indexes))
    (e : assignVal fx g h prev append rhs vt hasIdx = some (h', v)) : HeapFr n h h' := by
  cases rhs with
  | none => cases e; exact HeapFr.refl hn
  | str s =>
    rw [assignVal] at e
    rcases of_ite_eq e with ⟨_, e⟩ | ⟨happ, e⟩
    · cases e; exact HeapFr.refl hn
    rcases of_ite_eq e with ⟨_, e⟩ | ⟨_, e⟩
    · cases e; exact HeapFr.refl hn
    split at e
    · cases e; exact HeapFr.refl hn
    · cases e; exact HeapFr.refl hn
    · next hk =>
      rcases of_ite_eq e with ⟨_, e⟩ | ⟨hfx, e⟩
      · exact appendIndexed_fr (cloneBoth_fr g prev.list prev.indexes hn) e
      · have := safe.resolve_left hfx (by simpa using happ) ⟨s, rfl⟩ hk
        exact appendIndexed_fr (prev := { prev with set := true }) ⟨.refl hn, this.1, this.2⟩ e
    · cases e; exact HeapFr.refl hn
  | amap elems =>
    rw [assignVal] at e
    rcases of_ite_eq e with ⟨_, e⟩ | ⟨_, e⟩
    · exact assignMap_fr hn (Option.some.inj e)
    rcases of_ite_eq e with ⟨_, e⟩ | ⟨_, e⟩
    · exact assignArr_fr hn e
    · cases e
  | arr elems =>
    rw [assignVal] at e
    rcases of_ite_eq e with ⟨_, e⟩ | ⟨_, e⟩
    · rcases of_ite_eq e with ⟨_, e⟩ | ⟨_, e⟩
      · cases e
      · exact assignMap_fr hn (Option.some.inj e)
    · exact assignArr_fr hn e

theorem setIndexedVar_fr {n : Sizes} {g : Grows} {r : Runner} {h0 h h' : Heap} {prev : Var} {name val : Bytes}
    {k : Int} {list indexes : Slice} {ae : Bool} (inv : Inv n r h0) (b : Own n h0 h list indexes)
    (e : setIndexedVar g r h prev name k val list indexes ae = some h') : HeapFr n h0 h' := by
  unfold setIndexedVar at e
  rcases of_ite_eq e with ⟨_, e⟩ | ⟨_, e⟩
  · cases e; exact b.fr
  · split at e
    · cases e
    · next x hx => exact (setIndexedElem_fr b hx).fr.thenSetVar inv e

theorem cloneOrMake_fr {n : Nat} (ms : MapHeap Bytes Bytes) (m : Option Nat) (hn : n ≤ ms.length) :
    ListFr n ms (cloneOrMake ms m).1 ∧ n ≤ (cloneOrMake ms m).2 := by
  have h1 := mapClone_fr ms m hn
  unfold cloneOrMake
  split
  · next id hid => exact ⟨h1.1, h1.2 id hid⟩
  · have h2 := mapAlloc_fr (mapClone ms m).1 ([] : List (Bytes × Bytes)) h1.1.1
    exact ⟨h1.1.trans h2.1, h2.2⟩

/-- `m = maps.Clone(m)` (made when nil), `m[k] = v`, then the variable is stored -/
theorem setKey_fr {n : Sizes} {r : Runner} {h h' : Heap} {name : Bytes} {vr : Var} (inv : Inv n r h) (m : Option Nat)
    (f : List (Bytes × Bytes) → List (Bytes × Bytes))
    (e : setVar r { h with maps := updMap (cloneOrMake h.maps m).1 (cloneOrMake h.maps m).2 f } name vr = some h') :
    HeapFr n h h' := by
  have h1 := cloneOrMake_fr h.maps m inv.le.2.2.1
  have key := HeapFr.of_maps inv.le (h1.1.updMap f h1.2)
  exact key.thenSetVar inv e

theorem setVarWithIndex_fr {n : Sizes} {g : Grows} {r : Runner} {h h' : Heap} {prev vr : Var} {name : Bytes}
    {idx : Idx} {ae : Bool} (inv : Inv n r h) (e : setVarWithIndex g r h prev name idx vr ae = some h') :
    HeapFr n h h' := by
  have nil : Own n h h Slice.nil Slice.nil := .nil (.refl inv.le)
  unfold setVarWithIndex at e
  split at e
  · exact setVar_fr inv e
  · split at e
    · exact setIndexedVar_fr inv (nil.steps (sliceAppend_step g.strs h.strs Slice.nil prev.str) (.refl _ _)) e
    · exact setIndexedVar_fr inv (cloneBoth_fr g _ _ inv.le) e
    · rcases of_ite_eq e with ⟨_, e⟩ | ⟨_, e⟩
      · cases e; exact HeapFr.refl inv.le
      · exact setKey_fr inv _ _ e
    · exact setIndexedVar_fr inv nil e

theorem unsetElem_fr {n : Sizes} {g : Grows} {r : Runner} {h h' : Heap} {name : Bytes} {sub : Sub}
    (inv : Inv n r h) (e : unsetElem g r h name sub = some h') : HeapFr n h h' := by
  unfold unsetElem at e
  split at e
  · split at e
    · exact delVar_fr inv e
    · split at e
      · cases e; exact HeapFr.refl inv.le
      · split at e
        · cases e
        · next x hx => exact (deleteIndexedElem_fr (cloneBoth_fr g _ _ inv.le) hx).fr.thenSetVar inv e
  · split at e
    · exact delVar_fr inv e
    · have h1 := mapClone_fr h.maps (lookupVar r h name).map inv.le.2.2.1
      refine (HeapFr.of_maps inv.le ?_).thenSetVar inv e
      split
      · next id hid => exact h1.1.updMap _ (h1.2 id hid)
      · exact h1.1
  · split at e
    · exact delVar_fr inv e
    · cases e; exact HeapFr.refl inv.le
  · cases e; exact HeapFr.refl inv.le

theorem elemBase_fr {n : Sizes} (g : Grows) (h : Heap) (vr : Var) (hn : n.le h) :
    Own n h (elemBase g h vr).1 (elemBase g h vr).2.1 (elemBase g h vr).2.2 := by
  have c := cloneBoth_fr g vr.list vr.indexes hn
  unfold elemBase
  split
  · exact (Own.nil c.fr).steps (sliceMake_step _ [vr.str] 1) (.refl _ _)
  · exact c

theorem assignElem_fr {n : Sizes} {g : Grows} {r : Runner} {h h' : Heap} {name val : Bytes} {vr : Var}
    {idx : Option Int} (inv : Inv n r h) (e : assignElem g r h name vr idx val = some h') : HeapFr n h h' := by
  unfold assignElem at e
  rcases of_ite_eq e with ⟨_, e⟩ | ⟨_, e⟩
  · exact setVar_fr inv e
  rcases of_ite_eq e with ⟨_, e⟩ | ⟨_, e⟩
  · rcases of_ite_eq e with ⟨_, e⟩ | ⟨_, e⟩
    · cases e; exact HeapFr.refl inv.le
    · exact setKey_fr inv _ _ e
  rcases of_ite_eq e with ⟨_, e⟩ | ⟨_, e⟩
  · cases e; exact HeapFr.refl inv.le
  · split at e
    · cases e
    · next x hx => exact (setIndexedElem_fr (elemBase_fr g h vr inv.le) hx).fr.thenSetVar inv e

theorem changeDir_inv {n : Sizes} {r : Runner} {h : Heap} {dir : Bytes} {x : Heap × Runner} (inv : Inv n r h)
    (e : changeDir r h dir = some x) : HeapFr n h x.1 ∧ Inv n x.2 x.1 := by
  unfold changeDir at e
  have inv' : Inv n { r with dir := dir } h := inv.runner rfl rfl rfl rfl rfl
  split at e
  · cases e
  · next h1 e1 =>
    have f1 := setVar_fr inv' e1
    split at e
    · cases e
    · next h2 e2 =>
      cases e
      exact inv'.keep (f1.thenSetVar inv' e2)

theorem swapTop_fr {n : Sizes} {h h' : Heap} {ds : Slice} (hn : n.le h) (o : Owned n.strs ds)
    (e : swapTop h ds = some h') : HeapFr n h h' := by
  unfold swapTop at e
  split at e
  · split at e
    · cases e
    · next s1 e1 =>
      split at e
      · cases e
      · next s2 e2 =>
        cases e
        exact HeapFr.of_strs hn (((sliceSet_step e1).trans (sliceSet_step e2)).fr hn.1 o).1
  · cases e

theorem mapOrMake_fr {ν : Type} {n : Nat} (ms : MapHeap Bytes ν) (m : Option Nat) (hn : n ≤ ms.length)
    (hm : ∀ id, m = some id → n ≤ id) : ListFr n ms (mapOrMake ms m).1 ∧ n ≤ (mapOrMake ms m).2 := by
  cases m with
  | none => exact mapAlloc_fr ms [] hn
  | some id => exact ⟨ListFr.refl hn, hm id rfl⟩

theorem scopeInv_append {n : Nat} {scopes : List Scope} {o : Scope} (inv : ScopeInv n scopes)
    (ho : o.funcScope = true → ∃ p, o.parent = .ov p ∧ n ≤ p) : ScopeInv n (scopes ++ [o]) := by
  intro id o' hid ho' hf
  rw [List.getElem?_append, List.getElem?_singleton] at ho'
  split at ho'
  · exact inv id o' hid ho' hf
  · split at ho'
    · cases ho'; exact ho hf
    · cases ho'

theorem HeapFr.push_scope {n : Sizes} {h : Heap} {s : ArrHeap Bytes} {o : Scope} {p : Nat} (hn : n.le h)
    (fs : ListFr n.strs h.strs s) (hp : o.parent = .ov p) (hnp : n.scopes ≤ p) :
    HeapFr n h { h with strs := s, scopes := h.scopes ++ [o] } :=
  { HeapFr.refl hn with
    strs := fs, scopes := listFr_append _ _ hn.2.2.2.1, sc := fun inv => scopeInv_append inv fun _ => ⟨p, hp, hnp⟩ }

/-- the hypothesis of `assignVal_fr` from `AppendSafe`, for an operation whose `+=word` target is `v` -/
theorem assignVal_safe {n : Sizes} {fx : Bool} {r : Runner} {h : Heap} {op : Op} {v : Var} {append : Bool} {rhs : Rhs}
    (safe : fx = true ∨ AppendSafe n r h op)
    (ht : append = true → ∀ s, rhs = .str s → appendTarget r h op = some v) :
    fx = true ∨ (append = true → (∃ s, rhs = .str s) → v.kind = .indexed →
      Owned n.strs v.list ∧ Owned n.ints v.indexes) :=
  safe.imp_right fun hs happ ⟨s, hstr⟩ hk => hs v (ht happ s hstr) hk

/-- the shape of most cases of `step`: a helper returns the new heap (or panics), the runner stays -/
theorem Inv.of_heap {n : Sizes} {r : Runner} {h : Heap} {x : Heap × Runner} (inv : Inv n r h) {o : Option Heap}
    (e : (match o with | none => none | some h' => some (h', r)) = some x)
    (fr : ∀ h', o = some h' → HeapFr n h h') : HeapFr n h x.1 ∧ Inv n x.2 x.1 := by
  split at e
  · cases e
  · next h' => cases e; exact inv.keep (fr h' rfl)

theorem step_inv {n : Sizes} {fx : Bool} {g : Grows} {h : Heap} {r : Runner} {op : Op} {x : Heap × Runner}
    (inv : Inv n r h) (safe : fx = true ∨ AppendSafe n r h op) (e : step fx g h r op = some x) :
    HeapFr n h x.1 ∧ Inv n x.2 x.1 := by
  have same : HeapFr n h h ∧ Inv n r h := inv.keep (HeapFr.refl inv.le)
  cases op with
  | assign name idx append rhs =>
    dsimp only [step] at e
    split at e
    · cases e
    · next a ha =>
      have f1 : HeapFr n h a.1 := assignVal_fr (prev := { lookupVar r h name with isLocal := false }) inv.le
        (assignVal_safe (v := lookupVar r h name) safe fun happ s hs => by rw [happ, hs]; rfl) ha
      exact inv.of_heap e fun _ hh => f1.trans (setVarWithIndex_fr (inv.step f1) hh)
  | decl v xx ro gl vt name naked append rhs =>
    rcases of_ite_eq e with ⟨_, e⟩ | ⟨hloc, e⟩
    · cases e; exact same
    split at e
    · cases e
    · next a ha =>
      have f1 : HeapFr n h a.1 := by
        rcases of_ite_eq ha with ⟨_, ha⟩ | ⟨hnk, ha⟩
        · cases ha; exact HeapFr.refl inv.le
        · refine assignVal_fr inv.le (assignVal_safe safe fun happ s hs => ?_) ha
          rw [happ, hs, Bool.eq_false_iff.mpr hnk]
          exact if_neg hloc
      exact inv.of_heap e fun _ hh => f1.thenSetVar inv hh
  | inline name append rhs =>
    dsimp only [step] at e
    split at e
    · cases e
    · next a ha =>
      split at e
      · cases e
      · next h1 hh1 =>
        have f1 : HeapFr n h a.1 := assignVal_fr inv.le
          (assignVal_safe safe fun happ s hs => by rw [happ, hs]; rfl) ha
        have f2 := f1.thenSetVar inv hh1
        exact inv.of_heap e fun _ hh2 => f2.thenSetVar inv hh2
  | paramAssign name idx colon val =>
    dsimp only [step] at e
    split at e
    · cases e; exact same
    · rcases of_ite_eq e with ⟨_, e⟩ | ⟨_, e⟩
      · exact inv.of_heap e fun _ hh => assignElem_fr inv hh
      · cases e; exact same
  | nop => cases e; exact same
  | unset mode name sub =>
    dsimp only [step] at e
    split at e
    · rcases of_ite_eq e with ⟨_, e⟩ | ⟨_, e⟩
      · exact inv.of_heap e fun _ hh => unsetElem_fr inv hh
      · cases e; exact same
    · rcases of_ite_eq e with ⟨_, e⟩ | ⟨_, e⟩
      · exact inv.of_heap e fun _ hh => delVar_fr inv hh
      · split at e
        · next id hid =>
          rcases of_ite_eq e with ⟨_, e⟩ | ⟨_, e⟩
          · cases e
            exact inv.keep (HeapFr.of_fmaps inv.le
              ((ListFr.refl inv.le.2.2.2.2.1).updMap (fun m => aerase m name) (inv.funcs id hid)))
          · cases e; exact same
        · cases e; exact same
  | readArr name vals =>
    refine inv.of_heap e fun _ hh => (HeapFr.of_strs inv.le ?_).thenSetVar inv hh
    split
    · exact ListFr.refl inv.le.1
    · exact sliceMake_fr h.strs vals vals.length inv.le.1
  | setStr name val => exact inv.of_heap e fun _ hh => setVar_fr inv hh
  | mapfile name vals =>
    have f1 := HeapFr.of_strs inv.le ((sliceAppendList_step g.strs vals h.strs Slice.empty).fr inv.le.1 (Owned.empty _)).1
    exact inv.of_heap e fun _ hh => f1.thenSetVar inv hh
  | shift k =>
    rcases of_ite_eq e with ⟨_, e⟩ | ⟨_, e⟩
    · cases e; exact ⟨same.1, inv.runner rfl rfl rfl rfl rfl⟩
    rcases of_ite_eq e with ⟨_, e⟩ | ⟨_, e⟩
    · cases e
    · split at e
      · cases e
      · cases e; exact ⟨same.1, inv.runner rfl rfl rfl rfl rfl⟩
  | setParams args =>
    cases e
    have f := HeapFr.of_strs inv.le (sliceMake_fr h.strs args args.length inv.le.1)
    exact ⟨f, (inv.step f).runner rfl rfl rfl rfl rfl⟩
  | cd dir => exact changeDir_inv inv e
  | pushd dir =>
    dsimp only [step] at e
    split at e
    · cases e
    · next y hy =>
      cases e
      have ⟨f1, inv1⟩ := changeDir_inv inv hy
      have a := (sliceAppend_step g.strs y.1.strs y.2.dirStack y.2.dir).fr inv1.le.1 inv1.ds
      have f2 := HeapFr.of_strs inv1.le a.1
      exact ⟨f1.trans f2, { inv1.step f2 with ds := a.2 }⟩
  | pushdSwap =>
    rcases of_ite_eq e with ⟨_, e⟩ | ⟨_, e⟩
    · cases e; exact same
    split at e
    · cases e
    · split at e
      · cases e
      · next h1 hs =>
        have f1 := swapTop_fr inv.le inv.ds hs
        have c := changeDir_inv (inv.step f1) e
        exact ⟨f1.trans c.1, c.2⟩
  | popd =>
    rcases of_ite_eq e with ⟨_, e⟩ | ⟨_, e⟩
    · cases e; exact same
    split at e
    · cases e
    · next ds hds =>
      split at e
      · cases e
      · have inv1 : Inv n { r with dirStack := ds } h :=
          { inv with ds := ((sliceTo_step h.strs hds).fr inv.le.1 inv.ds).2 }
        exact changeDir_inv inv1 e
  | setOpt i v => cases e; exact ⟨same.1, inv.runner rfl rfl rfl rfl rfl⟩
  | alias name words blank =>
    cases e
    have m := mapOrMake_fr h.amaps r.alias inv.le.2.2.2.2.2 inv.alias
    have f := HeapFr.of_amaps inv.le (m.1.updMap (fun mm => aset mm name (words, blank)) m.2)
    exact ⟨f, { inv.step f with alias := fun id hid => by cases hid; exact m.2 }⟩
  | unalias name =>
    dsimp only [step] at e
    split at e
    · next id hid =>
      cases e
      exact inv.keep (HeapFr.of_amaps inv.le
        ((ListFr.refl inv.le.2.2.2.2.2).updMap (fun m => aerase m name) (inv.alias id hid)))
    · cases e; exact same
  | funcDef name body =>
    cases e
    have m := mapOrMake_fr h.fmaps r.funcs inv.le.2.2.2.2.1 inv.funcs
    have f := HeapFr.of_fmaps inv.le (m.1.updMap (fun mm => aset mm name body) m.2)
    exact ⟨f, { inv.step f with funcs := fun id hid => by cases hid; exact m.2 }⟩
  | pushFunc params =>
    cases e
    have f := HeapFr.push_scope (o := { parent := .ov r.env, funcScope := true }) inv.le
      (sliceMake_fr h.strs params params.length inv.le.1) rfl inv.env
    refine ⟨f, { inv.step f with env := inv.le.2.2.2.1, frames := fun fr hfr => ?_ }⟩
    rcases List.mem_cons.mp hfr with rfl | hm
    · exact inv.env
    · exact inv.frames fr hm
  | popFunc =>
    dsimp only [step] at e
    split at e
    · cases e; exact same
    · next f rest hfr =>
      cases e
      refine ⟨same.1, { inv with env := inv.frames f ?_, frames := fun f' hf' => inv.frames f' ?_ }⟩
      · rw [hfr]; exact List.mem_cons_self
      · rw [hfr]; exact List.mem_cons_of_mem _ hf'

theorem run_inv {n : Sizes} {fx : Bool} {g : Grows} (ops : List Op) :
    ∀ {h : Heap} {r : Runner} {x : Heap × Runner}, Inv n r h →
      (fx = true ∨ SafeRun n g h r ops) → run fx g h r ops = some x →
      HeapFr n h x.1 ∧ Inv n x.2 x.1 := by
  induction ops with
  | nil =>
    intro h r x inv _ e
    cases e; exact inv.keep (HeapFr.refl inv.le)
  | cons op ops ih =>
    intro h r x inv safe e
    rw [run] at e
    split at e
    · cases e
    · next y hy =>
      have h1 := step_inv inv (safe.imp_right And.left) hy
      -- `SafeRun` follows the steps of the old variant (`fx = false`)
      have s2 : fx = true ∨ SafeRun n g y.1 y.2 ops := by
        cases fx with
        | true => exact Or.inl rfl
        | false =>
          have hs2 := (safe.resolve_left (by decide)).2
          rw [hy] at hs2
          exact Or.inr hs2
      have h2 := ih h1.2 s2 e
      exact ⟨h1.1.trans h2.1, h2.2⟩

theorem scopeInv_of_length {scopes : List Scope} : ScopeInv scopes.length scopes := by
  intro id o hid ho _
  rw [List.getElem?_eq_none hid] at ho
  cases ho

theorem foldSet_spec {n : Nat} (base : List (Bytes × Bytes)) (id : Nat) (hid : n ≤ id)
    (all : List (Bytes × Var)) {sc0 sc' : List Scope} (hn : n ≤ sc0.length) (inv : ScopeInv n sc0)
    (e : all.foldl (fun acc nv => acc.bind fun sc => envSet base (fuelOf sc) sc id nv.1 nv.2) (some sc0) = some sc') :
    ListFr n sc0 sc' ∧ ScopeInv n sc' := by
  -- a panic (`none`) ends the copy; until then each `Set` keeps the frame and the shape of the chains
  refine foldl_inv (P := fun acc => ∀ sc, acc = some sc → ListFr n sc0 sc ∧ ScopeInv n sc) (fun acc nv p sc e1 => ?_)
    all (some sc0) (fun sc e1 => by cases e1; exact ⟨ListFr.refl hn, inv⟩) sc' e
  obtain ⟨sc1, rfl, e1⟩ := Option.bind_eq_some_iff.mp e1
  have p1 := p sc1 rfl
  have s1 := envSet_spec base _ p1.1.1 p1.2 hid e1
  exact ⟨p1.1.trans s1.1, s1.2⟩

theorem newOverlay_spec {base : List (Bytes × Bytes)} {scopes : List Scope} {parent : Nat} {bg : Bool}
    {e : List Scope × Nat} (h : newOverlay base scopes parent bg = some e) :
    ListFr scopes.length scopes e.1 ∧ ScopeInv scopes.length e.1 ∧ scopes.length ≤ e.2 := by
  unfold newOverlay at h
  simp only at h
  split at h
  · cases h
    exact ⟨listFr_append _ _ (Nat.le_refl _), scopeInv_append scopeInv_of_length (fun hf => by cases hf), Nat.le_refl _⟩
  · obtain ⟨sc', hf, rfl⟩ := Option.map_eq_some_iff.mp h
    have l0 : ListFr scopes.length scopes (scopes ++ [({ parent := .nil } : Scope)]) :=
      listFr_append _ _ (Nat.le_refl _)
    have s := foldSet_spec base scopes.length (Nat.le_refl _) _ l0.1
      (scopeInv_append scopeInv_of_length (fun hf => by cases hf)) hf
    exact ⟨l0.trans s.1, s.2, Nat.le_refl _⟩

/-- the child's `dirStack`: a new array, resliced to length 0, then one `append` -/
theorem copyDirStack_fr {n : Nat} (g : Grows) (strs : ArrHeap Bytes) (ds : Slice) (hn : n ≤ strs.length) :
    ListFr n strs (copyDirStack g strs ds).1 ∧ Owned n (copyDirStack g strs ds).2 :=
  ((sliceMake_step strs [] 1).trans ((sliceToZero_step _ _).trans (sliceAppendMany_step g.strs _ _ _))).fr hn
    (Owned.nil n)

theorem subshell_inv {g : Grows} {h : Heap} {p : Runner} {bg : Bool} {c : Heap × Runner}
    (e : subshell g h p bg = some c) : HeapFr h.sizes h c.1 ∧ Inv h.sizes c.2 c.1 := by
  unfold subshell at e
  split at e
  · cases e
  · next ov hov =>
    cases e
    have o := newOverlay_spec hov
    have d := copyDirStack_fr g h.strs p.dirStack (Nat.le_refl _)
    have fm := mapClone_fr h.fmaps p.funcs (Nat.le_refl _)
    have am := mapClone_fr h.amaps p.alias (Nat.le_refl _)
    have fr : HeapFr h.sizes h ⟨(copyDirStack g h.strs p.dirStack).1, h.ints, h.maps, ov.1,
        (mapClone h.fmaps p.funcs).1, (mapClone h.amaps p.alias).1⟩ :=
      ⟨d.1, ListFr.refl (Nat.le_refl _), ListFr.refl (Nat.le_refl _), o.1, fm.1, am.1, fun _ => o.2.1⟩
    exact ⟨fr, ⟨fr.le, o.2.2, o.2.1, (by intro f hf; cases hf), fm.2, am.2, d.2⟩⟩

theorem obsVar_congr {h h' : Heap} (fr : HeapFr h.sizes h h') (nv : Bytes × Var) (vin : VarIn h nv.2) :
    obsVar h' nv = obsVar h nv := by
  unfold obsVar
  rw [cells_fr nv.2.list fr.strs vin.1, cells_fr nv.2.indexes fr.ints vin.2.1, map_mapOf_fr fr.maps vin.2.2]

theorem obsChain_congr {h h' : Heap} (fr : HeapFr h.sizes h h') (wf : ∀ o ∈ h.scopes, ScopeIn h o) :
    ∀ (fuel : Nat) (ref : PRef), (∀ id, ref = .ov id → id < h.scopes.length) →
      obsChain h' fuel ref = obsChain h fuel ref := by
  intro fuel
  induction fuel with
  | zero => intro ref _; rfl
  | succ fuel ih =>
    intro ref href
    cases ref with
    | nil => rfl
    | base => rfl
    | ov id =>
      have hid := href id rfl
      simp only [obsChain]
      rw [fr.scopes.getElem? hid]
      cases ho : h.scopes[id]? with
      | none => rfl
      | some o =>
        have sin := wf o (List.mem_of_getElem? ho)
        simp only
        rw [ih o.parent sin.2, List.map_congr_left fun nv hnv => obsVar_congr fr nv (sin.1 nv hnv)]

theorem observe_congr {p : Runner} {h h' : Heap} (wf : WF p h) (fr : HeapFr h.sizes h h') :
    observe p h' = observe p h := by
  obtain ⟨wsc, wenv, wpar, wds, wfn, wal⟩ := wf
  unfold observe
  rw [obsChain_congr fr wsc (p.env + 2) (.ov p.env) (by intro id hid; cases hid; exact wenv)]
  rw [cells_fr p.params fr.strs wpar, cells_fr p.dirStack fr.strs wds, map_mapOf_fr fr.fmaps wfn,
    map_mapOf_fr fr.amaps wal]

theorem childRun_fr {fx : Bool} {g : Grows} {h : Heap} {p : Runner} {bg : Bool} {ops : List Op} {x : Heap × Runner}
    (safe : fx = true ∨ ∀ c, subshell g h p bg = some c → SafeRun h.sizes g c.1 c.2 ops)
    (e : childRun fx g h p bg ops = some x) : HeapFr h.sizes h x.1 := by
  unfold childRun at e
  split at e
  · cases e
  · next c hs =>
    have s := subshell_inv hs
    exact s.1.trans (run_inv ops s.2 (safe.imp_right (· c hs)) e).1

end ShVerif.C27
