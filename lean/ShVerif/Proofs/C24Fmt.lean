import ShVerif.Proofs.C24Num
/-
  C24 — one directive through `fmt.Fprintf`.

  A conversion specification as formatInto accepts it is an `MDir`.  The call
  `fmt.Fprintf(sb, string(fmts), farg)` formatInto makes for it is `printArg` with the directive's
  flags and width, unless `fmt` gives up on the width (`WidthOK` is its criterion), and `printArg`
  renders as C does (`Spec.fmtSigned`, `Spec.fmtUnsigned`, `Spec.padTo`).  The two together: what a
  directive writes (`MDir.out`) against the specification.
-/
namespace ShVerif.C24

theorem isNumVerb_iff (c : UInt8) :
    isNumVerb c = true ↔ c = 100 ∨ c = 105 ∨ c = 117 ∨ c = 111 ∨ c = 120 := by
  simp [isNumVerb, or_assoc]

/-- The argument handed to Fprintf for a conversion character. -/
def fargOf (v : UInt8) (a : Bytes) : FArg :=
  if v = 115 then .str a
  else if v = 105 ∨ v = 100 then .int (parseInt a).1
  else .uint (toU64 (parseInt a).1)

/-- `%i` and `%u` are printed with Go's `%d`. -/
def goVerb (v : UInt8) : UInt8 := if v = 105 ∨ v = 117 then 100 else v

theorem conv_fprintf (c : UInt8) (a : Bytes) (h : c = 115 ∨ isNumVerb c = true) :
    (goVerb c = 100 ∨ goVerb c = 111 ∨ goVerb c = 120 ∨ goVerb c = 115) ∧
    ∀ fl w, (printArg fl w (fargOf c a) (goVerb c)).isSome = true := by
  rw [isNumVerb_iff] at h
  rcases h with h | h | h | h | h | h <;> subst h <;> exact ⟨by decide, fun _ _ => rfl⟩

theorem isDec_iff (c : UInt8) : isDec c = true ↔ 48 ≤ c ∧ c ≤ 57 := by
  simp [isDec]

theorem ne_of_dec {c k : UInt8} (hc : 48 ≤ c ∧ c ≤ 57) (hk : ¬ (48 ≤ k ∧ k ≤ 57)) : c ≠ k :=
  fun h => hk (h ▸ hc)

/-- A conversion specification as formatInto accepts it: `%`, at most one flag character, zeros,
    width digits, conversion character. -/
structure MDir where
  flag : Bytes
  zeros : Nat
  width : Bytes
  verb : UInt8
  deriving DecidableEq, Repr

def MDir.digits (d : MDir) : Bytes := List.replicate d.zeros 48 ++ d.width

def MDir.fmts (d : MDir) : Bytes := 37 :: (d.flag ++ d.digits)

def MDir.render (d : MDir) : Bytes := d.fmts ++ [d.verb]

structure MDir.WF (d : MDir) : Prop where
  flag : d.flag = [] ∨ d.flag = [43] ∨ d.flag = [45] ∨ d.flag = [32]
  width : ∀ x ∈ d.width, isDec x = true
  nz : ∀ c r, d.width = c :: r → c ≠ 48
  verb : d.verb = 99 ∨ d.verb = 115 ∨ d.verb = 98 ∨ isNumVerb d.verb = true

def decv : Bytes → Nat → Nat
  | [], n => n
  | c :: r, n => decv r (n * 10 + (c.toNat - 48))

def MDir.flags (d : MDir) : Flags :=
  { plus := d.flag = [43], minus := d.flag = [45], space := d.flag = [32], zero := d.zeros > 0 }

def MDir.wid (d : MDir) : Option Nat := if d.width = [] then none else some (decv d.width 0)

theorem parseFlags_zeros (r : Bytes) : ∀ (z : Nat) (fl : Flags),
    parseFlags fl (List.replicate z 48 ++ r) = parseFlags { fl with zero := fl.zero || decide (z > 0) } r
  | 0, fl => by simp
  | z + 1, fl => by
    rw [List.replicate_succ, List.cons_append, parseFlags]
    simp only [if_true]
    rw [parseFlags_zeros r z]
    simp

theorem parseFlags_stop (fl : Flags) (c : UInt8) (r : Bytes)
    (hc : c ≠ 48 ∧ c ≠ 43 ∧ c ≠ 45 ∧ c ≠ 32) : parseFlags fl (c :: r) = (fl, c :: r) := by
  simp [parseFlags, hc.1, hc.2.1, hc.2.2.1, hc.2.2.2]

theorem parseFlags_dir (d : MDir) (h : d.WF) (v : UInt8) (hv : v ≠ 48 ∧ v ≠ 43 ∧ v ≠ 45 ∧ v ≠ 32) :
    parseFlags {} (d.flag ++ (List.replicate d.zeros 48 ++ (d.width ++ [v]))) =
      (d.flags, d.width ++ [v]) := by
  have hstop : ∀ fl : Flags, parseFlags fl (d.width ++ [v]) = (fl, d.width ++ [v]) := by
    intro fl
    cases hwd : d.width with
    | nil => exact parseFlags_stop fl v [] hv
    | cons c r =>
      have hc : 48 ≤ c ∧ c ≤ 57 := (isDec_iff c).1 (h.width c (by rw [hwd]; exact List.mem_cons_self ..))
      exact parseFlags_stop fl c _ ⟨h.nz c r hwd, ne_of_dec hc (by decide), ne_of_dec hc (by decide),
        ne_of_dec hc (by decide)⟩
  rcases h.flag with hfl | hfl | hfl | hfl <;> rw [hfl] <;>
    simp [parseFlags, parseFlags_zeros, hstop, MDir.flags, hfl]

/-- Go's `parsenum` accepts a digit string iff no proper prefix has a value above 10^6 (the
    `tooLarge` test is made before each digit is added). -/
def PrefixOK : Bytes → Nat → Prop
  | [], _ => True
  | c :: r, n => n ≤ 1000000 ∧ PrefixOK r (n * 10 + (c.toNat - 48))

/-- The width digits are accepted by `fmt` (every width of at most 7 digits is; the largest is
    10000009). -/
def WidthOK (ws : Bytes) : Prop := PrefixOK ws 0

theorem parsenum_digits (v : UInt8) (hv : ¬ (48 ≤ v ∧ v ≤ 57)) :
    ∀ (ws : Bytes) (n : Nat) (b : Bool), (∀ d ∈ ws, isDec d = true) →
      (PrefixOK ws n → parsenum (ws ++ [v]) n b = some (decv ws n, b || !ws.isEmpty, [v])) ∧
      (¬ PrefixOK ws n → parsenum (ws ++ [v]) n b = none)
  | [], n, b, _ => ⟨fun _ => by simp [parsenum, hv, decv], fun h => absurd trivial h⟩
  | d :: ws, n, b, hds => by
    have hd : 48 ≤ d ∧ d ≤ 57 := (isDec_iff d).1 (hds d (List.mem_cons_self ..))
    obtain ⟨ih1, ih2⟩ := parsenum_digits v hv ws (n * 10 + (d.toNat - 48)) true
      (fun x hx => hds x (List.mem_cons_of_mem _ hx))
    rw [List.cons_append, parsenum, if_pos hd]
    by_cases hbig : n > 1000000
    · rw [if_pos hbig]
      exact ⟨fun hok => absurd hok.1 (Nat.not_le.2 hbig), fun _ => rfl⟩
    · rw [if_neg hbig]
      exact ⟨fun hok => by rw [ih1 hok.2]; simp [decv], fun hno => ih2 fun h => hno ⟨Nat.not_lt.1 hbig, h⟩⟩

theorem prefixOK_of_length : ∀ (ws : Bytes) (n k : Nat), (∀ d ∈ ws, isDec d = true) → n < 10 ^ k →
    ws.length + k ≤ 7 → PrefixOK ws n
  | [], _, _, _, _, _ => trivial
  | d :: ws, n, k, hds, hn, hk => by
    have hd : d.toNat ≤ 57 := ((isDec_iff d).1 (hds d (List.mem_cons_self ..))).2
    rw [List.length_cons] at hk
    have hpow : 10 ^ k ≤ 10 ^ 6 := Nat.pow_le_pow_right (by decide) (by omega)
    exact ⟨by omega, prefixOK_of_length ws _ (k + 1) (fun x hx => hds x (List.mem_cons_of_mem _ hx))
      (by rw [Nat.pow_succ]; omega) (by omega)⟩

theorem parsenum_run (v : UInt8) (hv : ¬ (48 ≤ v ∧ v ≤ 57)) :
    ∀ (ws : Bytes) (n : Nat) (b : Bool) (k : Nat), (∀ d ∈ ws, isDec d = true) → n < 10 ^ k →
      ws.length + k ≤ 6 →
      parsenum (ws ++ [v]) n b = some (decv ws n, b || !ws.isEmpty, [v]) :=
  fun ws n b k hds hn hk =>
    (parsenum_digits v hv ws n b hds).1 (prefixOK_of_length ws n k hds hn (Nat.le_succ_of_le hk))

theorem verb_fmt_facts (v : UInt8) (hv : v = 100 ∨ v = 111 ∨ v = 120 ∨ v = 115) :
    (v ≠ 48 ∧ v ≠ 43 ∧ v ≠ 45 ∧ v ≠ 32) ∧ (97 ≤ v ∧ v ≤ 122) ∧ ¬ (48 ≤ v ∧ v ≤ 57) ∧
    ¬ (v = 46 ∨ v = 42 ∨ v = 91 ∨ v = 37 ∨ v ≥ 128) := by
  rcases hv with h | h | h | h <;> subst h <;> decide

theorem noVerbExtra_isSome (arg : FArg) : (noVerbExtra arg).isSome = true := by
  cases arg <;> rfl

theorem goFprintf_dir (d : MDir) (h : d.WF) (v : UInt8)
    (hv : v = 100 ∨ v = 111 ∨ v = 120 ∨ v = 115) (farg : FArg) :
    (WidthOK d.width → goFprintf (d.fmts ++ [v]) farg = printArg d.flags d.wid farg v) ∧
    (¬ WidthOK d.width → goFprintf (d.fmts ++ [v]) farg = noVerbExtra farg) := by
  obtain ⟨hvf, hvl, hvd, hvok⟩ := verb_fmt_facts v hv
  have hshape : d.fmts ++ [v] = 37 :: (d.flag ++ (List.replicate d.zeros 48 ++ (d.width ++ [v]))) := by
    simp [MDir.fmts, MDir.digits]
  rw [hshape]
  unfold goFprintf
  simp only [ne_eq, not_true_eq_false, if_false, parseFlags_dir d h v hvf]
  cases hwd : d.width with
  | nil =>
    simp only [List.nil_append, hvl, and_self, if_true, MDir.wid, hwd]
    exact ⟨fun _ => trivial, fun hno => absurd trivial hno⟩
  | cons c r =>
    have hc : 48 ≤ c ∧ c ≤ 57 := (isDec_iff c).1 (h.width c (by rw [hwd]; exact List.mem_cons_self ..))
    have hcl : ¬ (97 ≤ c ∧ c ≤ 122) := fun hl => absurd (Nat.le_trans hl.1 hc.2) (by decide)
    simp only [List.cons_append, hcl, if_false]
    obtain ⟨p1, p2⟩ := parsenum_digits v hvd (c :: r) 0 false (by rw [← hwd]; exact h.width)
    simp only [List.cons_append] at p1 p2
    constructor
    · intro hw
      rw [p1 hw]
      simp only [not_true_eq_false, or_false, hvok, if_false, MDir.wid, hwd]
      simp
    · intro hw
      rw [p2 hw]

/-- fmtInteger after the sign and the digits have been determined. -/
def fmtCore (fl : Flags) (wid : Option Nat) (sign ds : Bytes) : Bytes :=
  let prec : Nat := match wid with
    | some w => if fl.zero ∧ ¬ fl.minus then w - sign.length else 0
    | none => 0
  let body := sign ++ (List.replicate (prec - ds.length) 48 ++ ds)
  pad { fl with zero := false } wid body.length body

theorem fmtInteger_core (fl : Flags) (wid : Option Nat) (u base : Nat) (isSigned : Bool) :
    fmtInteger fl wid u base isSigned =
      fmtCore fl wid
        (if (isSigned && decide (u ≥ two63)) = true then [45] else if fl.plus then [43]
          else if fl.space then [32] else [])
        (natDigits base (if (isSigned && decide (u ≥ two63)) = true then two64 - u else u)) := by
  obtain ⟨plus, minus, space, zero⟩ := fl
  unfold fmtInteger fmtCore
  cases (isSigned && decide (u ≥ two63))
  · cases plus
    · cases space <;> rfl
    · rfl
  · rfl

structure FlagsMatch (fl : Flags) (wid : Option Nat) (sd : Spec.Dir) : Prop where
  minus : sd.minus = fl.minus
  plus : sd.plus = fl.plus
  space : sd.space = fl.space
  zero : sd.zero = fl.zero
  width : sd.width = wid.getD 0

theorem pad_spaces (fl : Flags) (wid : Option Nat) (b : Bytes) :
    pad { fl with zero := false } wid b.length b = Spec.padTo fl.minus (wid.getD 0) b := by
  unfold pad Spec.padTo Spec.spaces
  cases wid with
  | none => cases fl.minus <;> simp
  | some w =>
    by_cases hw : w = 0 <;> cases fl.minus <;> simp [hw]

theorem fmtCore_spec (fl : Flags) (wid : Option Nat) (sd : Spec.Dir) (hm : FlagsMatch fl wid sd)
    (sign ds : Bytes) : fmtCore fl wid sign ds = Spec.fmtNum sd sign ds := by
  unfold fmtCore Spec.fmtNum
  rw [hm.zero, hm.minus, hm.width]
  by_cases hz : fl.zero = true ∧ ¬ fl.minus = true
  · -- zero padding up to the width: nothing is left for `pad` to add
    rw [if_pos hz]
    cases wid with
    | none => simp [pad, Spec.zeros]
    | some w =>
      simp only [hz, Option.getD_some, pad, Spec.zeros, List.length_append, List.length_replicate]
      have : w - (sign.length + (w - sign.length - ds.length + ds.length)) = 0 := by omega
      simp [this]
  · rw [if_neg hz]
    cases wid <;> simp only [if_neg hz, Nat.zero_sub, List.replicate_zero, List.nil_append] <;>
      exact pad_spaces fl _ (sign ++ ds)

theorem fmtInteger_signed (fl : Flags) (wid : Option Nat) (sd : Spec.Dir) (hm : FlagsMatch fl wid sd)
    (v : Int) (hlo : -9223372036854775808 ≤ v) (hhi : v ≤ 9223372036854775807) :
    fmtInteger fl wid (toU64 v) 10 true = Spec.fmtSigned sd v := by
  obtain ⟨h1, h2, h3⟩ := toU64_neg_iff v hlo hhi
  rw [fmtInteger_core, fmtCore_spec fl wid sd hm]
  unfold Spec.fmtSigned
  simp only [Bool.true_and, decide_eq_true_eq, h1, hm.plus, hm.space]
  by_cases hv : v < 0
  · simp only [hv, h2 hv, if_true]
  · simp only [hv, h3 hv, if_false]

theorem fmtInteger_unsigned (fl : Flags) (wid : Option Nat) (sd : Spec.Dir) (hm : FlagsMatch fl wid sd)
    (hp : fl.plus = false) (hs : fl.space = false) (base u : Nat) :
    fmtInteger fl wid u base false = Spec.fmtUnsigned sd base u := by
  rw [fmtInteger_core, fmtCore_spec fl wid sd hm]
  unfold Spec.fmtUnsigned
  simp only [Bool.false_and, Bool.false_eq_true, if_false, hp, hs]

theorem runeCountFuel_ascii : ∀ (fuel : Nat) (s : Bytes), (∀ b ∈ s, b < 128) → s.length ≤ fuel →
    runeCountFuel fuel s = s.length
  | 0, s, _, h => by
    have : s = [] := List.eq_nil_of_length_eq_zero (by omega)
    subst this; rfl
  | fuel + 1, [], _, _ => rfl
  | fuel + 1, b :: r, ha, h => by
    have hb : b < 128 := ha b (List.mem_cons_self ..)
    have hw : runeWidth (b :: r) = 1 := by simp [runeWidth, hb]
    rw [runeCountFuel, hw]
    · simp only [List.drop_succ_cons, List.drop_zero, List.length_cons]
      rw [runeCountFuel_ascii fuel r (fun x hx => ha x (List.mem_cons_of_mem _ hx)) (by simp at h; omega)]
      omega
    · intro hh; cases hh

theorem runeCount_ascii (s : Bytes) (h : ∀ b ∈ s, b < 128) : runeCount s = s.length :=
  runeCountFuel_ascii s.length s h (Nat.le_refl _)

/-- What a directive writes for the argument `a` (`[]` when the arguments ran out). -/
def MDir.out (f : Bytes → Res) (d : MDir) (a : Bytes) : Bytes :=
  if d.verb = 99 then [a.headD 0]
  else if d.verb = 98 then (match f a with | .ok o _ => o | _ => [])
  else (goFprintf (d.fmts ++ [goVerb d.verb]) (fargOf d.verb a)).getD []

def MDir.spec (d : MDir) : Spec.Dir :=
  { minus := d.flag = [45], plus := d.flag = [43], space := d.flag = [32], zero := d.zeros > 0,
    width := decv d.width 0, verb := d.verb }

theorem MDir.flagsMatch (d : MDir) : FlagsMatch d.flags d.wid d.spec where
  minus := rfl
  plus := rfl
  space := rfl
  zero := rfl
  width := by
    unfold MDir.wid MDir.spec
    cases d.width <;> rfl

theorem MDir.out_fmt (f : Bytes → Res) (d : MDir) (h : d.WF) (hw : WidthOK d.width)
    (hc : d.verb = 115 ∨ isNumVerb d.verb = true) (a : Bytes) :
    d.out f a = (printArg d.flags d.wid (fargOf d.verb a) (goVerb d.verb)).getD [] := by
  have hne : d.verb ≠ 99 ∧ d.verb ≠ 98 := by
    rw [isNumVerb_iff] at hc
    rcases hc with h | h | h | h | h | h <;> rw [h] <;> decide
  unfold MDir.out
  rw [if_neg hne.1, if_neg hne.2, (goFprintf_dir d h _ (conv_fprintf d.verb a hc).1 _).1 hw]

theorem dir_out_signed (f : Bytes → Res) (d : MDir) (h : d.WF) (hw : WidthOK d.width)
    (hv : d.verb = 100 ∨ d.verb = 105) (a : Bytes) :
    d.out f a = Spec.fmtSigned d.spec (parseInt a).1 := by
  obtain ⟨hlo, hhi⟩ := parseInt_range a
  have key := fmtInteger_signed _ _ _ d.flagsMatch _ hlo hhi
  rcases hv with hv | hv
  · rw [d.out_fmt f h hw (Or.inr (by rw [hv]; rfl)), hv]; exact key
  · rw [d.out_fmt f h hw (Or.inr (by rw [hv]; rfl)), hv]; exact key

theorem dir_out_unsigned (f : Bytes → Res) (d : MDir) (h : d.WF) (hw : WidthOK d.width)
    (hv : d.verb = 117 ∨ d.verb = 111 ∨ d.verb = 120) (hfl : d.flag = [] ∨ d.flag = [45]) (a : Bytes) :
    d.out f a = Spec.fmtUnsigned d.spec (if d.verb = 111 then 8 else if d.verb = 120 then 16 else 10)
      (toU64 (parseInt a).1) := by
  have hp : d.flags.plus = false := by rcases hfl with h | h <;> simp [MDir.flags, h]
  have hs : d.flags.space = false := by rcases hfl with h | h <;> simp [MDir.flags, h]
  have key := fun base => fmtInteger_unsigned _ _ _ d.flagsMatch hp hs base (toU64 (parseInt a).1)
  rcases hv with hv | hv | hv
  · rw [d.out_fmt f h hw (Or.inr (by rw [hv]; rfl)), hv]; exact key 10
  · rw [d.out_fmt f h hw (Or.inr (by rw [hv]; rfl)), hv]; exact key 8
  · rw [d.out_fmt f h hw (Or.inr (by rw [hv]; rfl)), hv]; exact key 16

-- `ha`: Go pads to a number of runes, bash to a number of bytes (`finding_width_counts_runes`).
theorem dir_out_string (f : Bytes → Res) (d : MDir) (h : d.WF) (hw : WidthOK d.width)
    (hv : d.verb = 115) (hz : d.zeros = 0) (a : Bytes) (ha : d.width = [] ∨ ∀ b ∈ a, b < 128) :
    d.out f a = Spec.padTo d.spec.minus d.spec.width a := by
  rw [d.out_fmt f h hw (Or.inl hv), hv]
  show pad d.flags d.wid (runeCount a) a = _
  have hfl : d.flags = { d.flags with zero := false } := by simp [MDir.flags, hz]
  rw [d.flagsMatch.minus, d.flagsMatch.width, hfl]
  rcases ha with ha | ha
  · -- no width: nothing is padded, however the runes are counted
    have hwid : d.wid = none := by simp [MDir.wid, ha]
    rw [hwid, ← pad_spaces]
    rfl
  · rw [runeCount_ascii a ha]
    exact pad_spaces _ _ _

end ShVerif.C24
