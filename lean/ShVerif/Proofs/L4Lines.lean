/-
  L4: where a printer run stands and what it has written, segment by segment.

  `P.cur` is the current output line (one more than the newlines written), `P.tl` the kinds (`;`,
  `&`, other) and lines of the tokens written so far; both are read off `out`, which the printer
  only ever extends.  For each segment of the model printer, side by side: the line after it
  (`cur_X`) and the tokens it appends (`tl_X`), each stated over the state before the segment.
  `Proofs/L4Fix.lean` tells the second run these lines; `Proofs/L4WalkN.lean` compares these
  tokens with the ones the lexer finds in the printed text.
-/
import ShVerif.Proofs.L4Single
import ShVerif.Proofs.L4Lex
import ShVerif.Model.L4Transcript
namespace ShVerif.L4

theorem P.cur_eq (p : P) : p.cur = 1 + nls (outB p) := rfl

theorem outB_cons (p : P) (x : Piece) (p' : P) (h : p'.out = x :: p.out) : outB p' = outB p ++ x.bytes := by
  simp [outB, h, render_snoc]

theorem cur_pos (p : P) : 1 ≤ p.cur := by rw [P.cur_eq]; omega

theorem nls_replicate (n : Nat) (c : UInt8) (hc : c ≠ 10) : nls (List.replicate n c) = 0 := by
  simp [nls, List.count_replicate, hc]

/-- what the walk needs to know of a token: is it `;` or `&`, and its line -/
inductive TK
  | semi | amp | other
deriving DecidableEq, Repr

def tkOfOp (b : Bytes) : TK := if b = [59] then .semi else if b = [38] then .amp else .other

/-- kinds and lines of the word and operator pieces, the first piece starting on line `L` -/
def pinfo (L : Nat) : List Piece → List (TK × Nat)
  | [] => []
  | .word parts :: r => (.other, L) :: pinfo (L + nls (wordBytes parts)) r
  | .op b :: r => (tkOfOp b, L) :: pinfo (L + nls b) r
  | .gap b :: r => pinfo (L + nls b) r

theorem pinfo_append (A B : List Piece) : ∀ L, pinfo L (A ++ B) = pinfo L A ++ pinfo (L + nls (render A)) B := by
  induction A with
  | nil => intro L; simp [pinfo, render, nls]
  | cons x r ih =>
    intro L
    cases x with
    | word parts => simp [pinfo, ih, render, nls_app, Piece.bytes, Nat.add_assoc]
    | op b => simp [pinfo, ih, render, nls_app, Piece.bytes, Nat.add_assoc]
    | gap b => simp [pinfo, ih, render, nls_app, Piece.bytes, Nat.add_assoc]

def P.tl (p : P) : List (TK × Nat) := pinfo 1 p.out.reverse

theorem tl_push (p p' : P) (x : Piece) (h : p'.out = x :: p.out) : p'.tl = p.tl ++ pinfo p.cur [x] := by
  unfold P.tl
  rw [h, List.reverse_cons, pinfo_append]
  rfl

/-- a step that writes nothing writes no token -/
theorem Flds.tl {p q : P} (h : Flds p q) : q.tl = p.tl := by unfold P.tl; rw [h.out]

/-! ### the primitives -/

theorem cur_gapw (p : P) (b : Bytes) : (p.gapw b).cur = p.cur + nls b := by
  rw [P.cur_eq, P.cur_eq]
  rw [outB_cons p (.gap b) (p.gapw b) rfl, nls_app]
  simp [Piece.bytes]; omega
theorem tl_gapw (p : P) (b : Bytes) : (p.gapw b).tl = p.tl := by
  rw [tl_push p (p.gapw b) (.gap b) rfl]; simp [pinfo]

theorem cur_tok (p : P) (b : Bytes) : (p.tok b).cur = p.cur + nls b := by
  rw [P.cur_eq, P.cur_eq]
  rw [outB_cons p (.op b) (p.tok b) rfl, nls_app]
  simp [Piece.bytes]; omega
theorem tl_tok (p : P) (b : Bytes) : (p.tok b).tl = p.tl ++ [(tkOfOp b, p.cur)] := by
  rw [tl_push p (p.tok b) (.op b) rfl]; simp [pinfo]

theorem cur_space (p : P) : p.space.cur = p.cur := by
  show (p.gapw [32]).cur = p.cur
  rw [cur_gapw]; rfl
theorem tl_space (p : P) : p.space.tl = p.tl := tl_gapw p [32]

theorem cur_spacePad (p : P) : p.spacePad.cur = p.cur := by
  unfold P.spacePad
  split
  · show (p.gapw [32]).cur = p.cur
    rw [cur_gapw]; rfl
  · rfl
theorem tl_spacePad (p : P) : p.spacePad.tl = p.tl := by
  unfold P.spacePad
  split
  · exact tl_gapw p [32]
  · rfl

theorem cur_indent (p : P) : p.indent.cur = p.cur := by
  unfold P.indent
  split
  · rfl
  · simp only
    split
    · rfl
    · split
      · show (P.gapw _ _).cur = _
        rw [cur_gapw, nls_replicate _ _ (by decide)]; rfl
      · show (P.gapw _ _).cur = _
        rw [cur_gapw, nls_replicate _ _ (by decide)]; rfl
theorem tl_indent (p : P) : p.indent.tl = p.tl := by
  unfold P.indent
  split
  · rfl
  · simp only
    split
    · rfl
    · split
      · exact tl_gapw _ _
      · exact tl_gapw _ _

theorem cur_bslashNewl (p : P) : p.bslashNewl.cur = p.cur + 1 := by
  unfold P.bslashNewl
  simp only
  rw [cur_indent]
  show (P.gapw _ [92, 10]).cur = _
  rw [cur_gapw]
  split
  · rw [cur_space]; rfl
  · rfl
theorem tl_bslashNewl (p : P) : p.bslashNewl.tl = p.tl := by
  unfold P.bslashNewl
  simp only
  rw [tl_indent]
  show (P.gapw _ [92, 10]).tl = _
  rw [tl_gapw]
  split
  · exact tl_space p
  · rfl

theorem cur_nl (p : P) : p.nl.cur = p.cur + 1 := by
  show (p.gapw [10]).cur = _
  rw [cur_gapw]; rfl
theorem tl_nl (p : P) : p.nl.tl = p.tl := tl_gapw p [10]

theorem cur_newline (p : P) (l : Nat) : (p.newline l).cur = p.cur + 1 := by
  show (p.gapw [10]).cur = _
  rw [cur_gapw]; rfl
theorem tl_newline (p : P) (l : Nat) : (p.newline l).tl = p.tl := tl_gapw p [10]

theorem cur_incLevel (p : P) : p.incLevel.cur = p.cur := (Flds.incLevel p).cur
theorem tl_incLevel (p : P) : p.incLevel.tl = p.tl := (Flds.incLevel p).tl
theorem cur_decLevel (p : P) : p.decLevel.cur = p.cur := (Flds.decLevel' p).cur
theorem tl_decLevel (p : P) : p.decLevel.tl = p.tl := (Flds.decLevel' p).tl
theorem cur_advanceLine (p : P) (l : Nat) : (p.advanceLine l).cur = p.cur := rfl
theorem tl_advanceLine (p : P) (l : Nat) : (p.advanceLine l).tl = p.tl := rfl

theorem tl_spacedString (p : P) (s : Bytes) : (p.spacedString s).tl = p.tl ++ [(tkOfOp s, p.cur)] := by
  show (p.spacePad.tok s).tl = _
  rw [tl_tok, tl_spacePad, cur_spacePad]

theorem cur_spacedToken (p : P) (s : Bytes) (hs : nls s = 0) : (p.spacedToken s).cur = p.cur := by
  unfold P.spacedToken
  split
  · show (p.tok s).cur = _
    rw [cur_tok, hs]; rfl
  · show (p.spacePad.tok s).cur = _
    rw [cur_tok, cur_spacePad, hs]; rfl
theorem tl_spacedToken (p : P) (s : Bytes) : (p.spacedToken s).tl = p.tl ++ [(tkOfOp s, p.cur)] := by
  unfold P.spacedToken
  split
  · show (p.tok s).tl = _
    rw [tl_tok]
  · show (p.spacePad.tok s).tl = _
    rw [tl_tok, tl_spacePad, cur_spacePad]

/-! ### words and calls -/

theorem preWord_of_pos (p : P) {w : Word} {pos : Pos} (hp : w.pos? = some pos) :
    p.preWord w = if (!p.o.singleLine && decide (pos.line > p.line)) = true then p.bslashNewl else p := by
  unfold P.preWord
  cases hw : w.parts with
  | nil => simp [Word.pos?, hw] at hp
  | cons wp r =>
    have : wp.pos = pos := by simpa [Word.pos?, hw] using hp
    rw [← this]

theorem cur_preWord_ge (p : P) (w : Word) : p.cur ≤ (p.preWord w).cur := by
  rcases preWord_cases p w with e | e <;> rw [e]
  · rw [cur_bslashNewl]; omega
  · exact Nat.le_refl _
theorem tl_preWord (p : P) (w : Word) : (p.preWord w).tl = p.tl := by
  unfold P.preWord
  split
  · rfl
  · split
    · exact tl_bslashNewl p
    · rfl

theorem cur_word (p : P) (w : Word) (hne : w.parts ≠ []) :
    (p.word w).cur = (p.preWord w).cur + nls (wordBytes w.parts) := by
  rw [word_eq p w hne, P.cur_eq, P.cur_eq, outB_cons (p.preWord w) (.word w.parts) _ rfl, nls_app]
  exact (Nat.add_assoc _ _ _).symm
theorem tl_word (p : P) (w : Word) (hne : w.parts ≠ []) : (p.word w).tl = p.tl ++ [(.other, (p.preWord w).cur)] := by
  rw [word_eq p w hne, tl_push (p.preWord w) _ (.word w.parts) rfl, tl_preWord]
  simp [pinfo]

theorem tl_joinStep (p : P) (any : Bool) (pos : Pos) : (p.joinStep any pos).1.tl = p.tl := by
  unfold P.joinStep
  split
  · show (P.bslashNewl _).tl = _
    rw [tl_bslashNewl]
    split
    · exact tl_incLevel p
    · rfl
  · rfl

def argsD (p : P) (any : Bool) : List Word → List (TK × Nat)
  | [] => []
  | w :: rest =>
    match w.pos? with
    | none => []
    | some pos =>
      (.other, ((p.joinStep any pos).1.spacePad.preWord w).cur) ::
        argsD ((p.joinStep any pos).1.spacePad.word w) (p.joinStep any pos).2 rest

def wordsOK (ws : List Word) : Prop := ∀ w ∈ ws, w.parts ≠ []

theorem tl_wordJoinLoop : ∀ (ws : List Word) (p : P) (any : Bool), wordsOK ws →
    (p.wordJoinLoop any ws).1.tl = p.tl ++ argsD p any ws
  | [] => fun p any _ => by simp [P.wordJoinLoop, argsD]
  | w :: rest => fun p any h => by
    have hw := h w (by simp)
    obtain ⟨pos, hp⟩ := pos_of_parts hw
    rw [wordJoinLoop_cons p any w rest pos hp, tl_wordJoinLoop rest _ _ (fun x hx => h x (by simp [hx]))]
    rw [tl_word _ _ hw, tl_spacePad, tl_joinStep]
    simp [argsD, hp]

theorem cur_wordJoin (ws : List Word) (p : P) : (p.wordJoin ws).cur = (p.wordJoinLoop false ws).1.cur := by
  unfold P.wordJoin
  simp only
  split
  · exact cur_decLevel _
  · rfl
theorem tl_wordJoin (ws : List Word) (p : P) (h : wordsOK ws) : (p.wordJoin ws).tl = p.tl ++ argsD p false ws := by
  unfold P.wordJoin
  simp only
  split
  · rw [tl_decLevel]; exact tl_wordJoinLoop ws p false h
  · exact tl_wordJoinLoop ws p false h

/-- the first word of a call is never moved to a continuation line: the printer has just advanced
    its line counter to the word's line -/
theorem call_first (p : P) (w : Word) (pos : Pos) (hp : w.pos? = some pos) :
    ((p.advanceLine pos.line).spacePad.incLevel.decLevel).joinStep false pos =
      ((p.advanceLine pos.line).spacePad.incLevel.decLevel, false) ∧
    (((p.advanceLine pos.line).spacePad.incLevel.decLevel).spacePad.preWord w).cur = p.cur := by
  have hline : ((p.advanceLine pos.line).spacePad.incLevel.decLevel).line = max p.line pos.line := by
    rw [decLevel_line, incLevel_line, spacePad_line]; rfl
  have hcur : ((p.advanceLine pos.line).spacePad.incLevel.decLevel).cur = p.cur := by
    rw [cur_decLevel, cur_incLevel, cur_spacePad]; rfl
  have hle : ¬ pos.line > max p.line pos.line := by omega
  constructor
  · unfold P.joinStep
    rw [hline]
    simp [hle]
  · rw [preWord_of_pos _ hp]
    simp only [spacePad_line, hline, hle, decide_false, Bool.and_false, Bool.false_eq_true, ↓reduceIte,
      cur_spacePad, hcur]

theorem first_word (p : P) (w : Word) (pos : Pos) (hp : w.pos? = some pos) :
    argsD ((p.advanceLine pos.line).spacePad.incLevel.decLevel) false [w] = [(.other, p.cur)] := by
  obtain ⟨hj, hpw⟩ := call_first p w pos hp
  simp only [argsD, hp, hj, hpw]

def callD (p : P) : List Word → List (TK × Nat)
  | [] => []
  | w :: rest =>
    match w.pos? with
    | none => []
    | some pos =>
      argsD ((p.advanceLine pos.line).spacePad.incLevel.decLevel) false [w] ++
        argsD (((p.advanceLine pos.line).spacePad.incLevel.decLevel).wordJoin [w]) false rest

theorem tl_call (p : P) (args : List Word) (h : wordsOK args) (hne : args ≠ []) :
    (p.command (.call args)).tl = p.tl ++ callD p args := by
  cases args with
  | nil => exact absurd rfl hne
  | cons w rest =>
    obtain ⟨pos, hp⟩ := pos_of_parts (h w (by simp))
    rw [command_call p w rest pos hp]
    rw [tl_wordJoin rest _ (fun x hx => h x (by simp [hx])), tl_wordJoin [w] _ (fun x hx => h x (by simp only [List.mem_singleton] at hx; simp [hx]))]
    rw [tl_decLevel, tl_incLevel, tl_spacePad, tl_advanceLine]
    simp [callD, hp, List.append_assoc]

/-! ### statements -/

theorem cur_stmtPre (p : P) (neg : Bool) : (p.stmtPre neg).cur = p.cur := by
  unfold P.stmtPre
  cases neg
  · rfl
  · show (P.tok _ [33]).cur = _
    rw [cur_tok, cur_spacePad]; rfl
theorem tl_stmtPre (p : P) (neg : Bool) : (p.stmtPre neg).tl = p.tl ++ (if neg then [(TK.other, p.cur)] else []) := by
  unfold P.stmtPre
  cases neg
  · simp; rfl
  · simp only [↓reduceIte]
    rw [tl_spacedString]
    rfl

def semiD (p : P) (semi : Pos) (bg : Bool) : List (TK × Nat) :=
  if (semi.valid && decide (semi.line > p.line)) = true then [((if bg then TK.amp else TK.semi), p.cur + 1)]
  else if bg = true then [(TK.amp, p.cur)] else []

theorem sep_false {semi : Pos} {l : Nat} (hn : ¬ (semi.valid = true ∧ semi.line > l)) :
    (semi.valid && decide (semi.line > l)) = false := by
  cases h : semi.valid
  · rfl
  · simp only [Bool.true_and, decide_eq_false_iff_not]
    exact fun hh => hn ⟨h, hh⟩

/-- the terminator a run writes: one `;`/`&` on a continuation line, or `&` in place, or nothing -/
theorem semiD_cases (p : P) (semi : Pos) (bg : Bool) :
    (semi.valid = true ∧ semi.line > p.line ∧ semiD p semi bg = [((if bg then TK.amp else TK.semi), p.cur + 1)]) ∨
    (¬ (semi.valid = true ∧ semi.line > p.line) ∧ semiD p semi bg = if bg then [(TK.amp, p.cur)] else []) := by
  unfold semiD
  by_cases c : (semi.valid && decide (semi.line > p.line)) = true
  · rw [if_pos c]
    simp only [Bool.and_eq_true, decide_eq_true_eq] at c
    exact Or.inl ⟨c.1, c.2, rfl⟩
  · rw [if_neg c]
    refine Or.inr ⟨fun hh => c (by simp [hh.1, hh.2]), ?_⟩
    cases bg <;> rfl

theorem cur_term (q : P) (sep bg : Bool) : (q.term sep bg).cur = q.cur + (if sep then 1 else 0) := by
  cases sep with
  | true =>
    rw [term_sep]
    show (q.bslashNewl.tok _).cur = _
    rw [cur_tok, cur_bslashNewl]
    cases bg <;> rfl
  | false =>
    cases bg with
    | false => rfl
    | true =>
      rw [term_bg]
      show (P.tok _ [38]).cur = _
      rw [cur_tok]
      split
      · rw [cur_space]; rfl
      · rfl
theorem tl_term (q : P) (sep bg : Bool) : (q.term sep bg).tl =
    q.tl ++ (if sep then [((if bg then TK.amp else TK.semi), q.cur + 1)] else if bg then [(TK.amp, q.cur)] else []) := by
  cases sep with
  | true =>
    rw [term_sep]
    show (q.bslashNewl.tok _).tl = _
    rw [tl_tok, tl_bslashNewl, cur_bslashNewl]
    cases bg <;> rfl
  | false =>
    cases bg with
    | false => simp; rfl
    | true =>
      rw [term_bg]
      show (P.tok _ [38]).tl = _
      rw [tl_tok]
      split
      · rw [tl_space, cur_space]; rfl
      · rfl

theorem cur_stmtEnd (p : P) (semi : Pos) (bg : Bool) (hsl : p.o.singleLine = false) :
    (p.stmtEnd semi bg).cur = p.cur + (if (semi.valid && decide (semi.line > p.line)) = true then 1 else 0) := by
  rw [stmtEnd_eq, cur_decLevel, cur_term, cur_incLevel, hsl]
  simp only [Bool.not_false, Bool.and_true]
theorem tl_stmtEnd (p : P) (semi : Pos) (bg : Bool) (hsl : p.o.singleLine = false) :
    (p.stmtEnd semi bg).tl = p.tl ++ semiD p semi bg := by
  rw [stmtEnd_eq, tl_decLevel, tl_term, tl_incLevel, cur_incLevel, hsl]
  unfold semiD
  simp only [Bool.not_false, Bool.and_true]

/-! ### binary commands -/

theorem nls_opstr (op : BinOp) : nls op.str = 0 := by cases op <;> rfl
theorem tkOfOp_opstr (op : BinOp) : tkOfOp op.str = .other := by cases op <;> decide

/-- the line on which the operator of a binary command is written -/
def opLine (p : P) (yLine : Nat) : Nat :=
  if (p.o.minify || p.o.singleLine || decide (yLine ≤ p.line)) = true then p.cur
  else if p.o.binNextLine then p.cur + 1 else p.cur

theorem cur_opMulti (p : P) (opPos : Pos) (s : Bytes) (yLine : Nat) (hs : nls s = 0) :
    (p.opMulti opPos s yLine).cur = p.cur + 1 := by
  unfold P.opMulti
  rw [cur_advanceLine]
  split
  · rw [cur_spacedToken _ _ hs, cur_bslashNewl]
  · rw [cur_indent, cur_newline, cur_advanceLine, cur_spacedToken _ _ hs]
theorem tl_opMulti (p : P) (opPos : Pos) (s : Bytes) (yLine : Nat) :
    (p.opMulti opPos s yLine).tl = p.tl ++ [(tkOfOp s, if p.o.binNextLine then p.cur + 1 else p.cur)] := by
  unfold P.opMulti
  rw [tl_advanceLine]
  split
  · rw [tl_spacedToken, tl_bslashNewl, cur_bslashNewl]
  · rw [tl_indent, tl_newline, tl_advanceLine, tl_spacedToken]

theorem tl_binaryOp (p : P) (opPos : Pos) (op : BinOp) (yLine : Nat) (yb : Bool) :
    (p.binaryOp opPos op yLine yb).1.tl = p.tl ++ [(.other, opLine p yLine)] := by
  rw [binaryOp_eq]
  unfold opLine
  split
  · show ((p.spacedToken op.str).advanceLine yLine).tl = _
    rw [tl_advanceLine, tl_spacedToken, tkOfOp_opstr]
  · show (P.opMulti _ opPos op.str yLine).tl = _
    rw [tl_opMulti, tkOfOp_opstr]
    cases p.nestedBinary
    · simp only [Bool.not_false, ↓reduceIte, tl_incLevel, cur_incLevel, incLevel_o]
    · simp only [Bool.not_true, Bool.false_eq_true, ↓reduceIte]

theorem cur_binaryEnd (p : P) (i m : Bool) : (p.binaryEnd i m).cur = p.cur := (Flds.binaryEnd p i m).cur
theorem tl_binaryEnd (p : P) (i m : Bool) : (p.binaryEnd i m).tl = p.tl := (Flds.binaryEnd p i m).tl

/-! ### newlines and separators -/

/-- the number of newlines `newlines` writes past the first line: none, one, or two (a blank line) -/
def P.nlCount (p : P) (l : Nat) : Nat :=
  if !(p.mustNewline || (p.wantNewline || decide (l > p.line))) then 0
  else if decide (l > p.line + 1) && !p.o.minify then 2 else 1

/-- `newlines` past the first line, once it has decided to write `n` newlines -/
def P.nlN (p : P) (n l : Nat) : P :=
  match n with
  | 0 => p
  | 1 => (p.nl.advanceLine l).indent
  | _ => ((p.nl.gapw [10]).advanceLine l).indent

theorem newlines_count (p : P) (l : Nat) (hsl : p.o.singleLine = false) :
    p.newlines l = if p.firstLine then { p with firstLine := false } else p.nlN (p.nlCount l) l := by
  rw [newlines_eq, wantsNewline_eq p l hsl]
  unfold P.nlCount
  cases (p.mustNewline || (p.wantNewline || decide (l > p.line))) <;>
    cases (decide (l > p.line + 1) && !p.o.minify) <;> rfl

theorem wantsNewline_count (p : P) (l : Nat) (hsl : p.o.singleLine = false) :
    p.wantsNewline l false = decide (p.nlCount l > 0) := by
  rw [wantsNewline_eq p l hsl]
  unfold P.nlCount
  cases (p.mustNewline || (p.wantNewline || decide (l > p.line))) <;>
    cases (decide (l > p.line + 1) && !p.o.minify) <;> rfl

/-- the outcomes of the count, with what each says about the flags -/
theorem nlCount_cases (p : P) (l : Nat) :
    (p.nlCount l = 0 ∧ p.mustNewline = false ∧ p.wantNewline = false) ∨ p.nlCount l = 1 ∨
      (p.nlCount l = 2 ∧ p.o.minify = false) := by
  unfold P.nlCount
  split
  · rename_i c
    simp only [Bool.not_eq_true', Bool.or_eq_false_iff] at c
    exact Or.inl ⟨rfl, c.1, c.2.1⟩
  · split
    · rename_i c
      simp only [Bool.and_eq_true, Bool.not_eq_true'] at c
      exact Or.inr (Or.inr ⟨rfl, c.2⟩)
    · exact Or.inr (Or.inl rfl)

theorem nlCount_le (p : P) (l : Nat) : p.nlCount l ≤ 2 := by
  rcases nlCount_cases p l with h | h | h
  · rw [h.1]; omega
  · rw [h]; omega
  · rw [h.1]; omega

theorem cur_nlN (p : P) (n l : Nat) (hn : n ≤ 2) : (p.nlN n l).cur = p.cur + n := by
  match n, hn with
  | 0, _ => rfl
  | 1, _ => show ((p.nl.advanceLine l).indent).cur = _; rw [cur_indent, cur_advanceLine, cur_nl]
  | 2, _ => show (((p.nl.gapw [10]).advanceLine l).indent).cur = _; rw [cur_indent, cur_advanceLine, cur_gapw, cur_nl]; rfl

theorem cur_newlines (p : P) (l : Nat) (hsl : p.o.singleLine = false) :
    (p.newlines l).cur = p.cur + (if p.firstLine then 0 else p.nlCount l) := by
  rw [newlines_count p l hsl]
  split
  · rfl
  · exact cur_nlN p _ l (nlCount_le p l)
theorem tl_newlines (p : P) (l : Nat) : (p.newlines l).tl = p.tl := by
  rw [newlines_eq]
  split
  · rfl
  · split
    · rfl
    · rw [tl_indent, tl_advanceLine]
      split
      · rw [tl_gapw, tl_nl]
      · exact tl_nl p

theorem tl_stmtSep (p : P) (first : Bool) (l : Nat) (hsl : p.o.singleLine = false) : (p.stmtSep first l).tl = p.tl := by
  rw [stmtSep_eq, sepSemi_multi p first hsl, tl_advanceLine]
  split
  · exact tl_newlines p l
  · rfl

/-! ### subshells and blocks -/

theorem tl_subshellOpen (p : P) (lp : Pos) (ss : Stmts) : (p.subshellOpen lp ss).tl = p.tl ++ [(TK.other, p.cur)] := by
  rw [subshellOpen_eq, tl_spacePad]
  exact tl_tok p [40]

theorem cur_nestPre (p : P) (ss : Stmts) (c : Pos) : (p.nestPre ss c).cur = p.cur := (nestPre_flds p ss c).1.cur
theorem tl_nestPre (p : P) (ss : Stmts) (c : Pos) : (p.nestPre ss c).tl = p.tl := (nestPre_flds p ss c).1.tl

theorem cur_nested (p : P) (ss : Stmts) (c : Pos) (loop : P → P) :
    (p.nestedStmtsWith ss c loop).cur = (loop (p.nestPre ss c)).cur := (nested_flds p ss c loop).cur
theorem tl_nested (p : P) (ss : Stmts) (c : Pos) (loop : P → P) :
    (p.nestedStmtsWith ss c loop).tl = (loop (p.nestPre ss c)).tl := (nested_flds p ss c loop).tl

theorem cur_closingParenSpace (p : P) (ss : Stmts) (a b : Nat) : (p.closingParenSpace ss a b).cur = p.cur := by
  rw [closingParenSpace_eq2, cur_spacePad]
  split <;> rfl
theorem tl_closingParenSpace (p : P) (ss : Stmts) (a b : Nat) : (p.closingParenSpace ss a b).tl = p.tl := by
  rw [closingParenSpace_eq2, tl_spacePad]
  split <;> rfl

theorem tl_rparenPre (p : P) (l : Nat) : (p.rparenPre l).tl = p.tl := by
  unfold P.rparenPre
  split
  · rfl
  · exact tl_newlines p l

theorem cur_rightParen (p : P) (l : Nat) : (p.rightParen l).cur = (p.rparenPre l).cur := by
  rw [rightParen_eq]
  show ((p.rparenPre l).tok [41]).cur = _
  rw [cur_tok]; rfl
theorem tl_rightParen (p : P) (l : Nat) : (p.rightParen l).tl = p.tl ++ [(TK.other, (p.rparenPre l).cur)] := by
  rw [rightParen_eq]
  show ((p.rparenPre l).tok [41]).tl = _
  rw [tl_tok, tl_rparenPre]
  rfl

theorem cur_blkOpen (p : P) (lb : Pos) : (p.blkOpen lb).cur = p.cur := by
  unfold P.blkOpen
  simp only
  show (((p.advanceLine lb.line).spacePad).tok [123]).cur = _
  rw [cur_tok, cur_spacePad]
  rfl
theorem tl_blkOpen (p : P) (lb : Pos) : (p.blkOpen lb).tl = p.tl ++ [(TK.other, p.cur)] := by
  unfold P.blkOpen
  simp only
  show (((p.advanceLine lb.line).spacePad).tok [123]).tl = _
  rw [tl_tok, tl_spacePad, cur_spacePad]
  rfl

/-- the `;` that `semiRsrv` may write before the reserved word -/
def semiPreD (p : P) (l : Nat) : List (TK × Nat) :=
  if p.wantsNewline l false then [] else if !p.wroteSemi then [(TK.semi, p.cur)] else []

theorem semiPreD_cases (p : P) (l : Nat) : semiPreD p l = [] ∨ semiPreD p l = [(TK.semi, p.cur)] := by
  unfold semiPreD
  split
  · exact Or.inl rfl
  · split
    · exact Or.inr rfl
    · exact Or.inl rfl

theorem cur_semiPre (p : P) (l : Nat) (hsl : p.o.singleLine = false) (hf : p.firstLine = false) :
    (p.semiPre l).cur = p.cur + p.nlCount l := by
  unfold P.semiPre
  rw [wantsNewline_count p l hsl]
  split
  · rw [cur_newlines p l hsl, hf]; rfl
  · -- no newline: the `;` and the blank stay on the line
    rename_i c
    have e : ∀ x : P, (if (!x.o.minify) = true then x.spacePad else x).cur = x.cur := by
      intro x; split
      · exact cur_spacePad x
      · rfl
    rw [e, Nat.eq_zero_of_not_pos (of_decide_eq_false (Bool.eq_false_iff.mpr c))]
    split
    · rw [cur_tok]; rfl
    · rfl
theorem tl_semiPre (p : P) (l : Nat) : (p.semiPre l).tl = p.tl ++ semiPreD p l := by
  unfold P.semiPre semiPreD
  split
  · rw [tl_newlines]; simp
  · simp only
    have e : ∀ x : P, (if (!x.o.minify) = true then x.spacePad else x).tl = x.tl := by
      intro x
      split
      · exact tl_spacePad x
      · rfl
    rw [e]
    split
    · exact tl_tok p [59]
    · simp

theorem blkBody_cur (p : P) (lb rb : Pos) (ss : Stmts) :
    (p.blkBody lb rb ss).cur = (((p.blkOpen lb).nestPre ss rb).stmtListLoop true ss).cur := by
  unfold P.blkBody
  split
  · rw [cur_space, cur_nested]
  · rw [cur_nested]
theorem blkBody_tl (p : P) (lb rb : Pos) (ss : Stmts) :
    (p.blkBody lb rb ss).tl = ((p.blkOpen lb).nestedStmtsWith ss rb (fun q => q.stmtListLoop true ss)).tl := by
  unfold P.blkBody
  split
  · exact tl_space _
  · rfl

end ShVerif.L4
