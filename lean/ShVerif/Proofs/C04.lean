import ShVerif.Model.C04
/-
  C04 — the typed fragments: each rewrite of `Simplify` preserves the fragment's semantics
  (double-quoted literals, `[[ ]]`, arithmetic under the interpreter and under bash, subshells).
-/
namespace ShVerif.C04

theorem dqValue_cons_ne (b : UInt8) (bs : Bytes) (h : b ≠ 92) :
    dqValue (b :: bs) = (dqValue bs).map (b :: ·) := by
  cases bs with
  | nil => simp [dqValue, h]
  | cons c rest => simp [dqValue, h]

theorem dqValue_bs_special (c : UInt8) (bs : Bytes) (h : c = 36 ∨ c = 34 ∨ c = 96 ∨ c = 92) :
    dqValue (92 :: c :: bs) = (dqValue bs).map (c :: ·) := by
  rcases h with h | h | h | h <;> subst h <;> simp [dqValue]

/-- What both sides of a scanner step that copies `b` have in common. -/
theorem map_cons_inj {b : UInt8} {o o' : Option Bytes} {nv v : Bytes}
    (h1 : o.map (b :: ·) = some nv) (h2 : o'.map (b :: ·) = some v)
    (ih : ∀ r r', o = some r → o' = some r' → r = r') : nv = v := by
  obtain ⟨r, hr, rfl⟩ := Option.map_eq_some_iff.1 h1
  obtain ⟨r', hr', rfl⟩ := Option.map_eq_some_iff.1 h2
  rw [ih r r' hr hr']

/-- The scanner agrees with the double-quote rules: with a pending backslash (`esc = true`) the
    text read so far is `\` followed by the rest. -/
theorem dqScan_value (l : Bytes) (esc : Bool) : ∀ (nv v : Bytes),
    dqScan esc l = some nv →
    dqValue (if esc then 92 :: l else l) = some v → nv = v := by
  fun_induction dqScan esc l with
  | case1 esc =>
    intro nv v h1 h2
    cases h1
    cases esc
    · cases h2; rfl
    · cases h2
  | case2 esc bs he ih =>
    intro nv v h1 h2
    cases esc
    · exact ih nv v h1 h2
    · cases he
  | case3 esc bs he ih =>
    intro nv v h1 h2
    cases esc
    · exact absurd rfl he
    · rw [if_pos rfl, dqValue_bs_special 92 bs (.inr (.inr (.inr rfl)))] at h2
      exact map_cons_inj h1 h2 fun r r' => ih r r'
  | case4 => intro nv v h1; cases h1
  | case5 esc b bs hb _ hs ih =>
    intro nv v h1 h2
    simp only [Bool.or_eq_true, decide_eq_true_eq] at hs
    cases esc
    · rw [if_neg (by decide), dqValue_cons_ne b bs hb] at h2
      exact map_cons_inj h1 h2 fun r r' => ih r r'
    · rw [if_pos rfl, dqValue_bs_special b bs (by rcases hs with (h | h) | h <;> simp [h])] at h2
      exact map_cons_inj h1 h2 fun r r' => ih r r'
  | case6 => intro nv v h1; cases h1
  | case7 esc b bs hb _ _ he ih =>
    intro nv v h1 h2
    rw [if_neg he, dqValue_cons_ne b bs hb] at h2
    exact map_cons_inj h1 h2 fun r r' => ih r r'

/-- The scanner gives up at a single quote, so none reaches its output. -/
theorem dqScan_no_quote (l : Bytes) (esc : Bool) : ∀ r : Bytes, dqScan esc l = some r → (39 : UInt8) ∉ r := by
  have cons : ∀ {b : UInt8} {o : Option Bytes} {r : Bytes}, b ≠ 39 → (∀ r', o = some r' → (39 : UInt8) ∉ r') →
      o.map (b :: ·) = some r → (39 : UInt8) ∉ r := fun hb ih h => by
    obtain ⟨r', hr', rfl⟩ := Option.map_eq_some_iff.1 h
    exact List.not_mem_cons_of_ne_of_not_mem (Ne.symm hb) (ih r' hr')
  fun_induction dqScan esc l with
  | case1 => intro r h; cases h; exact List.not_mem_nil
  | case2 _ _ _ ih => exact ih
  | case3 _ _ _ ih => exact fun r => cons (by decide) ih
  | case4 => intro r h; cases h
  | case5 _ b _ _ hq _ ih => exact fun r => cons hq ih
  | case6 => intro r h; cases h
  | case7 _ b _ _ hq _ _ ih => exact fun r => cons hq ih

section ArithInterp
open Arith

theorem deref_not_name (env : Env) (k : Nat) (s : Bytes) (h : validName s = false) :
    deref env k s = s := by
  cases k <;> simp [deref, h]

theorem deref_succ (env : Env) (k : Nat) (n : Bytes) (h : validName n = true) :
    deref env (k+1) n = if env n = [] then n else if k = 0 then n else deref env k (env n) := by
  simp [deref, h]

theorem deref_name (env : Env) (n : Bytes) (h : validName n = true) :
    deref env maxNameRefDepth n = if env n = [] then n else deref env 99 (env n) := by
  have e : maxNameRefDepth = 99 + 1 := rfl
  rw [e, deref_succ env 99 n h]
  simp

/-- The names in `D` do not hold names. -/
def NoNamesOn (D : Bytes → Prop) (env : Env) : Prop := ∀ m, D m → validName (env m) = false

theorem noNamesOn_set (P : Prims) (hP : P.Lawful) (D : Bytes → Prop) (env : Env) (n : Bytes) (k : Int)
    (hE : NoNamesOn D env) : NoNamesOn D (env.set n (P.fmt k)) := by
  intro m hm
  unfold Env.set
  split
  · exact hP.fmt_not_name k
  · exact hE m hm

theorem evalI_inline_on (P : Prims) (hP : P.Lawful) (env : Env) (e : Arith)
    (hE : ∀ n, n ∈ e.dollars → validName (env n) = false) :
    evalI P env (Arith.inline e) = evalI P env e := by
  cases e with
  | dollar b n =>
    have hn := hE n (List.mem_singleton.2 rfl)
    simp only [Arith.inline]
    split
    · rename_i hv
      simp only [evalI, deref_name env n hv, deref_not_name env _ (env n) hn]
      split
      · rename_i he
        rw [he, hP.atoi_name n hv]
      · rfl
    · rfl
  | _ => rfl

theorem evalI_pres (P : Prims) (Q : Env → Prop)
    (hQ : ∀ (env : Env) (n : Bytes) (k : Int), Q env → Q (env.set n (P.fmt k))) :
    ∀ (e : Arith) (env : Env) (v : Int) (env' : Env), Q env → evalI P env e = some (v, env') → Q env' := by
  intro e
  induction e with
  | lit w => intro env v env' hE h; cases h; exact hE
  | dollar b n => intro env v env' hE h; cases h; exact hE
  | paren x ih => exact ih
  | unary op post x ih =>
    intro env v env' hE h
    simp only [evalI] at h
    split at h
    · split at h
      · cases h; exact hQ _ _ _ hE
      · cases h
    · split at h
      · rename_i hx
        obtain ⟨_, _, h⟩ := Option.map_eq_some_iff.1 h
        cases h; exact ih _ _ _ hE hx
      · cases h
  | tern c a b ihc iha ihb =>
    intro env v env' hE h
    simp only [evalI] at h
    split at h
    · rename_i hc
      have hE1 := ihc _ _ _ hE hc
      split at h
      · exact iha _ _ _ hE1 h
      · exact ihb _ _ _ hE1 h
    · cases h
  | binary op x y ihx ihy =>
    intro env v env' hE h
    simp only [evalI] at h
    split at h
    · -- assignment: the right-hand side, then the update
      split at h
      · split at h
        · rename_i hy
          split at h
          · cases h; exact hQ _ _ _ (ihy _ _ _ hE hy)
          · cases h
        · cases h
      · cases h
    · -- `&&`, `||`, any other operator: `x`, then possibly `y`
      have hy : ∀ {l env1 r env2}, evalI P env x = some (l, env1) → evalI P env1 y = some (r, env2) →
          Q env2 := fun hx hy => ihy _ _ _ (ihx _ _ _ hE hx) hy
      split at h
      · split at h
        · rename_i hx
          split at h
          · cases h; exact ihx _ _ _ hE hx
          · split at h
            · rename_i hy'; cases h; exact hy hx hy'
            · cases h
        · cases h
      · split at h
        · split at h
          · rename_i hx
            split at h
            · cases h; exact ihx _ _ _ hE hx
            · split at h
              · rename_i hy'; cases h; exact hy hx hy'
              · cases h
          · cases h
        · split at h
          · rename_i hx
            split at h
            · rename_i hy'
              obtain ⟨_, _, h⟩ := Option.map_eq_some_iff.1 h
              cases h; exact hy hx hy'
            · cases h
          · cases h

/-- `Simplify` preserves the interpreter's value and side effects, given that the variables in `D`
    (which include those read through a `$name` operand) do not hold names. -/
theorem evalI_simpl_on (P : Prims) (hP : P.Lawful) (D : Bytes → Prop) : ∀ e : Arith, e.WF P →
    (∀ n, n ∈ e.dollars → D n) → ∀ env : Env, NoNamesOn D env →
    (evalI P env e.top = evalI P env e ∧ evalI P env e.walk = evalI P env e ∧
     evalI P env e.walkInl = evalI P env e) := by
  have hpres := evalI_pres P (NoNamesOn D) (noNamesOn_set P hP D)
  intro e
  induction e with
  | lit v => intro _ _ env _; exact ⟨rfl, rfl, rfl⟩
  | dollar b n =>
    intro _ hd env hE
    have := evalI_inline_on P hP env (.dollar b n) (fun m hm => hE m (hd m hm))
    exact ⟨this, rfl, this⟩
  | paren x ih =>
    intro hw hd env hE
    have := (ih hw hd env hE).1
    exact ⟨this, this, this⟩
  | unary op post x ih =>
    intro hw hd env hE
    have hx : evalI P env (.unary op post x.walk) = evalI P env (.unary op post x) := by
      simp only [evalI]
      split
      · -- `++`/`--` apply to a bare name, which `walk` leaves alone
        rename_i hdd
        obtain ⟨n, rfl⟩ := hw.1 (by rw [hdd]; rfl)
        rfl
      · rw [(ih hw.2 hd env hE).2.1]
    exact ⟨hx, hx, hx⟩
  | tern c a b ihc iha ihb =>
    intro hw hd env hE
    have hdc : ∀ n, n ∈ c.dollars → D n := fun n hn => hd n (List.mem_append_left _ (List.mem_append_left _ hn))
    have hda : ∀ n, n ∈ a.dollars → D n := fun n hn => hd n (List.mem_append_left _ (List.mem_append_right _ hn))
    have hdb : ∀ n, n ∈ b.dollars → D n := fun n hn => hd n (List.mem_append_right _ hn)
    have h : evalI P env (.tern c.walkInl a.walkInl b.walkInl) = evalI P env (.tern c a b) := by
      simp only [evalI, (ihc hw.1 hdc env hE).2.2]
      split
      · rename_i hce
        have hE1 := hpres c _ _ _ hE hce
        rw [(iha hw.2.1 hda _ hE1).2.2, (ihb hw.2.2 hdb _ hE1).2.2]
      · rfl
    exact ⟨h, h, h⟩
  | binary op x y ihx ihy =>
    intro hw hd env hE
    have hdx : ∀ n, n ∈ x.dollars → D n := fun n hn => hd n (List.mem_append_left _ hn)
    have hdy : ∀ n, n ∈ y.dollars → D n := fun n hn => hd n (List.mem_append_right _ hn)
    have h : evalI P env (.binary op x.walkInl y.walkInl) = evalI P env (.binary op x y) := by
      simp only [evalI]
      split
      · -- an assignment's left-hand side is a bare name, which `walkInl` leaves alone
        rename_i hao
        obtain ⟨n, rfl⟩ := hw.1 (by rw [hao]; rfl)
        simp only [Arith.walkInl, (ihy hw.2.2 hdy env hE).2.2]
      · simp only [(ihx hw.2.1 hdx env hE).2.2]
        cases hxe : evalI P env x with
        | none => rfl
        | some r =>
          have hE1 := hpres x _ _ _ hE hxe
          simp only [(ihy hw.2.2 hdy _ hE1).2.2]
    exact ⟨h, h, h⟩

theorem evalI_simpl (P : Prims) (hP : P.Lawful) : ∀ e : Arith, e.WF P → ∀ env : Env, env.NoNames →
    (evalI P env e.top = evalI P env e ∧ evalI P env e.walk = evalI P env e ∧
     evalI P env e.walkInl = evalI P env e) :=
  fun e hw env hE => evalI_simpl_on P hP (fun _ => True) e hw (fun _ _ => trivial) env fun m _ => hE m

end ArithInterp

section ArithBash
open Arith

theorem evalB_frame (P : Prims) (env0 : IEnv) : ∀ (e : Arith) (env : IEnv) (v : Int) (env' : IEnv),
    evalB P env0 env e = some (v, env') → ∀ n, n ∉ e.assigned P → env' n = env n := by
  intro e
  induction e with
  | lit w => intro env v env' h n _; cases h; rfl
  | dollar b m => intro env v env' h n _; cases h; rfl
  | paren x ih => exact ih
  | unary op post x ih =>
    intro env v env' h n hn
    simp only [evalB] at h
    split at h
    · rename_i hd
      split at h
      next name =>
        cases h
        have hne : n ≠ name := fun e => hn (by rw [e]; simp [Arith.assigned, hd])
        simp only [IEnv.set, if_neg hne]
      · cases h
    · split at h
      · rename_i hx
        obtain ⟨_, _, h⟩ := Option.map_eq_some_iff.1 h
        cases h
        exact ih _ _ _ hx n fun hm => hn (List.mem_append_right _ hm)
      · cases h
  | tern c a b ihc iha ihb =>
    intro env v env' h n hn
    simp only [Arith.assigned, List.mem_append, not_or] at hn
    simp only [evalB] at h
    split at h
    · rename_i hc
      have h1 := ihc _ _ _ hc n hn.1.1
      split at h
      · rw [iha _ _ _ h n hn.1.2, h1]
      · rw [ihb _ _ _ h n hn.2, h1]
    · cases h
  | binary op x y ihx ihy =>
    intro env v env' h n hn
    simp only [Arith.assigned, List.mem_append, not_or] at hn
    simp only [evalB] at h
    split at h
    · rename_i hao
      split at h
      · split at h
        · rename_i hy
          split at h
          · cases h
            have hne : n ≠ _ := fun e => hn.1.1 (by rw [e, hao]; exact List.mem_singleton.2 rfl)
            simp only [IEnv.set, if_neg hne]
            exact ihy _ _ _ hy n hn.2
          · cases h
        · cases h
      · cases h
    · have hy : ∀ {l env1 r env2}, evalB P env0 env x = some (l, env1) →
          evalB P env0 env1 y = some (r, env2) → env2 n = env n :=
        fun hx hy => by rw [ihy _ _ _ hy n hn.2, ihx _ _ _ hx n hn.1.2]
      split at h
      · split at h
        · rename_i hx
          split at h
          · cases h; exact ihx _ _ _ hx n hn.1.2
          · split at h
            · rename_i hy'; cases h; exact hy hx hy'
            · cases h
        · cases h
      · split at h
        · split at h
          · rename_i hx
            split at h
            · cases h; exact ihx _ _ _ hx n hn.1.2
            · split at h
              · rename_i hy'; cases h; exact hy hx hy'
              · cases h
          · cases h
        · split at h
          · rename_i hx
            split at h
            · rename_i hy'
              obtain ⟨_, _, h⟩ := Option.map_eq_some_iff.1 h
              cases h; exact hy hx hy'
            · cases h
          · cases h

theorem evalB_inline (P : Prims) (env0 env : IEnv) (e : Arith)
    (h : ∀ n, n ∈ e.dollars → validName n = true → env n = env0 n) :
    evalB P env0 env (Arith.inline e) = evalB P env0 env e := by
  cases e with
  | dollar b n =>
    simp only [Arith.inline]
    split
    · rename_i hv
      simp only [evalB, hv, if_true, h n (List.mem_singleton.2 rfl) hv]
    · rfl
  | _ => rfl

/-- `Simplify` preserves bash's value and side effects, given that the variables in `D` (which include
    the inlinable `$name` operands) still have their initial value and are not assigned. -/
theorem evalB_simpl (P : Prims) (env0 : IEnv) (D : Bytes → Prop) : ∀ e : Arith, e.WF P →
    (∀ n, n ∈ e.dollars → validName n = true → D n) → (∀ n, D n → n ∉ e.assigned P) →
    ∀ env : IEnv, (∀ n, D n → env n = env0 n) →
    (evalB P env0 env e.top = evalB P env0 env e ∧ evalB P env0 env e.walk = evalB P env0 env e ∧
     evalB P env0 env e.walkInl = evalB P env0 env e) := by
  have hpres : ∀ (x : Arith) (env : IEnv) (l : Int) (env1 : IEnv), (∀ n, D n → n ∉ x.assigned P) →
      (∀ n, D n → env n = env0 n) → evalB P env0 env x = some (l, env1) → ∀ n, D n → env1 n = env0 n :=
    fun x env l env1 ha hE hx n hn => by rw [evalB_frame P env0 x env l env1 hx n (ha n hn)]; exact hE n hn
  intro e
  induction e with
  | lit v => intro _ _ _ env _; exact ⟨rfl, rfl, rfl⟩
  | dollar b n =>
    intro _ hd _ env hE
    have := evalB_inline P env0 env (.dollar b n) (fun m hm hv => hE m (hd m hm hv))
    exact ⟨this, rfl, this⟩
  | paren x ih =>
    intro hw hd ha env hE
    have := (ih hw hd ha env hE).1
    exact ⟨this, this, this⟩
  | unary op post x ih =>
    intro hw hd ha env hE
    have hx : evalB P env0 env (.unary op post x.walk) = evalB P env0 env (.unary op post x) := by
      simp only [evalB]
      split
      · rename_i hdd
        obtain ⟨n, rfl⟩ := hw.1 (by rw [hdd]; rfl)
        rfl
      · rw [(ih hw.2 hd (fun n hn hm => ha n hn (List.mem_append_right _ hm)) env hE).2.1]
    exact ⟨hx, hx, hx⟩
  | tern c a b ihc iha ihb =>
    intro hw hd ha env hE
    simp only [Arith.dollars, Arith.assigned, List.mem_append, not_or] at hd ha
    have hac : ∀ n, D n → n ∉ c.assigned P := fun n hn => (ha n hn).1.1
    have h : evalB P env0 env (.tern c.walkInl a.walkInl b.walkInl) = evalB P env0 env (.tern c a b) := by
      simp only [evalB, (ihc hw.1 (fun n hn => hd n (.inl (.inl hn))) hac env hE).2.2]
      split
      · rename_i hce
        have hE1 := hpres c _ _ _ hac hE hce
        rw [(iha hw.2.1 (fun n hn => hd n (.inl (.inr hn))) (fun n hn => (ha n hn).1.2) _ hE1).2.2,
          (ihb hw.2.2 (fun n hn => hd n (.inr hn)) (fun n hn => (ha n hn).2) _ hE1).2.2]
      · rfl
    exact ⟨h, h, h⟩
  | binary op x y ihx ihy =>
    intro hw hd ha env hE
    simp only [Arith.dollars, Arith.assigned, List.mem_append, not_or] at hd ha
    have hax : ∀ n, D n → n ∉ x.assigned P := fun n hn => (ha n hn).1.2
    have hy := ihy hw.2.2 (fun n hn => hd n (.inr hn)) (fun n hn => (ha n hn).2)
    have h : evalB P env0 env (.binary op x.walkInl y.walkInl) = evalB P env0 env (.binary op x y) := by
      simp only [evalB]
      split
      · rename_i hao
        obtain ⟨n, rfl⟩ := hw.1 (by rw [hao]; rfl)
        simp only [Arith.walkInl, (hy env hE).2.2]
      · simp only [(ihx hw.2.1 (fun n hn => hd n (.inl hn)) hax env hE).2.2]
        cases hxe : evalB P env0 env x with
        | none => rfl
        | some r => simp only [(hy _ (hpres x _ _ _ hax hE hxe)).2.2]
    exact ⟨h, h, h⟩

end ArithBash

section TestSem
open Test

theorem eval_strip (S : TSem) : ∀ x : Test, S.eval (strip x) = S.eval x := by
  intro x
  induction x with
  | paren x ih => simpa [strip, TSem.eval] using ih
  | _ => rfl

theorem value_unqW (S : TSem) (w : TWord) : S.value (unqW w) = S.value w := by
  cases w <;> rfl

theorem eval_unquote (S : TSem) (x : Test) : S.eval (unquote x) = S.eval x := by
  cases x with
  | word w => simp only [unquote, TSem.eval, value_unqW S w]
  | _ => rfl

theorem eval_removeNegate (S : TSem) (x : Test) : S.eval (removeNegate x) = S.eval x := by
  cases x with
  | not y =>
    cases y with
    | un yop w =>
      simp only [removeNegate]
      by_cases h1 : yop = tsEmpStr
      · subst h1; simp only [TSem.eval, tsEmpStr, tsNempStr, if_true]; simp [bne]
      · by_cases h2 : yop = tsNempStr
        · subst h2; simp [TSem.eval, tsEmpStr, tsNempStr, bne]
        · simp [h1, h2]
    | not x => simp [removeNegate, TSem.eval]
    | bin yop a b =>
      simp only [removeNegate]
      by_cases h1 : yop = tsMatch
      · subst h1; simp [TSem.eval, tsMatch, tsNoMatch, tsMatchShort]
      · by_cases h2 : yop = tsNoMatch
        · subst h2; simp [TSem.eval, tsMatch, tsNoMatch, tsMatchShort]
        · simp [h1, h2]
    | _ => rfl
  | _ => rfl

theorem eval_walk (S : TSem) : ∀ (f : Nat) (x : Test), S.eval (walk f x) = S.eval x := by
  intro f
  induction f with
  | zero => intro x; rfl
  | succ f ih =>
    intro x
    cases x with
    | word w => rfl
    | paren x => simp only [walk, TSem.eval, ih, eval_removeNegate, eval_strip]
    | not x => simp only [walk, TSem.eval, ih, eval_unquote]
    | un op w => simp only [walk, TSem.eval, value_unqW]
    | logic c x y => simp only [walk, TSem.eval, ih, eval_removeNegate, eval_unquote]
    | bin op a b =>
      simp only [walk]
      by_cases hs : op = tsMatchShort
      · subst hs
        simp [TSem.eval, noUnquoteRhs, tsMatch, tsMatchShort, value_unqW]
      · simp only [hs, if_false]
        cases hn : noUnquoteRhs op
        · -- an operator that reads both operands as strings
          simp only [noUnquoteRhs, Bool.or_eq_false_iff, decide_eq_false_iff_not] at hn
          simp [TSem.eval, value_unqW, hn, hs]
        · simp only [if_true, TSem.eval, value_unqW]

theorem eval_top (S : TSem) (x : Test) : S.eval (top x) = S.eval x := by
  rw [top, eval_walk, eval_removeNegate, eval_strip]

end TestSem

theorem runCmd_sub_sub (inner : List Stmt) (s : ShState) :
    runCmd (.sub [.mk false false (.sub inner)]) s = runCmd (.sub inner) s := by
  simp [runCmd, runStmts, runStmt]

theorem cmdSubst_sub (inner : List Stmt) (s : ShState) :
    cmdSubst [.mk false false (.sub inner)] s = cmdSubst inner s := by
  simp [cmdSubst, runCmd, runStmts, runStmt]

/-- `inlineSub` changes nothing that cannot tell `( ( S ) )` from `( S )`. -/
theorem inlineSub_pres {α : Type} (X : List Stmt → α)
    (hX : ∀ inner, X [.mk false false (.sub inner)] = X inner) :
    ∀ (f : Nat) (stmts : List Stmt), X (inlineSub f stmts) = X stmts := by
  intro f
  induction f with
  | zero => intro stmts; rfl
  | succ f ih =>
    intro stmts
    simp only [inlineSub]
    split
    · rw [ih, hX]
    · rfl

theorem letter_not_digit (b : UInt8) (h : (isLetter b || b == 95) = true) : isDigit b = false := by
  simp only [isLetter, isDigit, Bool.or_eq_true, Bool.and_eq_true, decide_eq_true_eq, beq_iff_eq,
    Bool.and_eq_false_iff, decide_eq_false_iff_not, UInt8.le_iff_toNat_le, ← UInt8.toNat_inj,
    UInt8.toNat_ofNat] at h ⊢
  omega

theorem atoiDec_name (n : Bytes) (h : validName n = true) : atoiDec n = atoiDec [] := by
  cases n with
  | nil => rfl
  | cons b rest =>
    simp only [validName, Bool.and_eq_true] at h
    have hd := letter_not_digit b h.1
    have h45 : b ≠ 45 := by
      have h1 := h.1
      intro e; subst e; revert h1; decide
    simp [atoiDec, h45, List.all_cons, hd]

theorem isDigit_ofNat (n : Nat) : isDigit (UInt8.ofNat (48 + n % 10)) = true := by
  simp only [isDigit, Bool.and_eq_true, decide_eq_true_eq, UInt8.le_iff_toNat_le, UInt8.toNat_ofNat',
    UInt8.toNat_ofNat]
  omega

theorem fmtNatAux_head (f n : Nat) (acc : Bytes) :
    ∃ d rest, fmtNatAux (f+1) n acc = d :: rest ∧ isDigit d = true := by
  induction f generalizing n acc with
  | zero => exact ⟨_, acc, by simp only [fmtNatAux, ite_self], isDigit_ofNat n⟩
  | succ f ih =>
    rw [fmtNatAux]
    split
    · exact ⟨_, acc, rfl, isDigit_ofNat n⟩
    · exact ih _ _

theorem fmtInt_not_name (k : Int) : validName (fmtInt k) = false := by
  unfold fmtInt
  obtain ⟨d, rest, e, hd⟩ := fmtNatAux_head k.natAbs k.natAbs []
  split
  · simp [validName, isLetter]
  · -- a number starts with a digit, a name does not
    have hns : (isLetter d || d == 95) = false :=
      Bool.eq_false_iff.2 fun hc => Bool.false_ne_true ((letter_not_digit d hc).symm.trans hd)
    unfold fmtNat
    rw [e]
    simp [validName, hns]

theorem demoPrims_lawful : demoPrims.Lawful :=
  ⟨atoiDec_name, fmtInt_not_name⟩

end ShVerif.C04
