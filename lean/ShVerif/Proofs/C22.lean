/-
  C22.  One part under `expand.Literal` / `literalKeepEscapes` is its quote-removed value; the
  simulation: a Go state of `wordFields` stands for a state of the specification's scan (`absW`),
  each operation of the Go code is one or two steps of the scan, hence `wordFields` part by part on
  `partOk` words (`parts_abs`); and on the specification, the scan over literals and quotes without
  `$@` leaves one open field (`plain_fold`).  Core Lean only.
-/
import ShVerif.Model.C22
namespace ShVerif.C22

theorem takeWhile_ne0 : ∀ (s : Bytes), s.contains 0 = false → s.takeWhile (· != 0) = s
  | [], _ => rfl
  | b :: rest, h => by
    rw [List.contains_cons, Bool.or_eq_false_iff] at h
    rw [List.takeWhile_cons_of_pos (by rw [bne_comm]; exact congrArg not h.1), takeWhile_ne0 rest h.2]

theorem unbackslash_no92 (s : Bytes) (h : s.contains 92 = false) : unbackslash s = s := by
  fun_induction unbackslash s with
  | case1 => rfl
  | case2 b => rfl
  | case3 b c rest hb ih =>
    obtain rfl : b = 92 := eq_of_beq hb
    exact absurd h (by simp)
  | case4 b c rest hb ih =>
    rw [List.contains_cons, Bool.or_eq_false_iff] at h
    rw [ih h.2]

theorem unbackslash_ne_nil : ∀ (s : Bytes), s ≠ [] → unbackslash s ≠ []
  | [], h => absurd rfl h
  | [b], _ => List.cons_ne_nil _ _
  | b :: c :: rest, _ => by
    rw [unbackslash]; split <;> exact List.cons_ne_nil _ _

theorem dqUnescape_nonul (s : Bytes) (h : s.contains 0 = false) : (dqUnescape s).contains 0 = false := by
  fun_induction dqUnescape s with
  | case1 => rfl
  | case2 b => exact h
  | case3 b c rest hb ih =>
    simp only [List.contains_cons, Bool.or_eq_false_iff] at h ⊢
    exact ⟨h.2.1, ih h.2.2⟩
  | case4 b c rest hb ih =>
    rw [List.contains_cons, Bool.or_eq_false_iff] at h ⊢
    exact ⟨h.1, ih h.2⟩

theorem unbackslash_nonul (s : Bytes) (h : s.contains 0 = false) : (unbackslash s).contains 0 = false := by
  fun_induction unbackslash s with
  | case1 => rfl
  | case2 b => exact h
  | case3 b c rest hb ih =>
    simp only [List.contains_cons, Bool.or_eq_false_iff] at h ⊢
    exact ⟨h.2.1, ih h.2.2⟩
  | case4 b c rest hb ih =>
    rw [List.contains_cons, Bool.or_eq_false_iff] at h ⊢
    exact ⟨h.1, ih h.2⟩

/-- The specification's value of a part inside double quotes (the anonymous function of
    `posixLiteralVal`). -/
def dspecVal (env : Env) : DPart → Bytes
  | .lit s => dqUnescape s
  | .exp v => strBytes v
  | .at => joinBytes [32] (env.params.map strBytes)
  | .star => joinBytes (ifsSep env.ifs) (env.params.map strBytes)

theorem posixLiteralVal_dbl (env : Env) (ps : List DPart) :
    posixLiteralVal env (.dbl ps) = (ps.map (dspecVal env)).flatten := rfl

theorem dpartVal_ok (env : Env) (d : DPart) (h : dpartOk d = true) :
    dpartVal env d = dspecVal env d := by
  cases d with
  | lit s => exact takeWhile_ne0 _ (dqUnescape_nonul s ((Bool.not_eq_true' _).mp h))
  | _ => rfl

theorem dpartVals_ok (env : Env) (ps : List DPart) (h : ps.all dpartOk = true) :
    ps.map (dpartVal env) = ps.map (dspecVal env) :=
  List.map_congr_left (fun d hd => dpartVal_ok env d (List.all_eq_true.mp h d hd))

/-- One part without field splitting: the source text holds no NUL byte, and where the backslashes
    of unquoted literals are kept there are none. -/
theorem literalVal_spec (u : Bool) (env : Env) (p : Part)
    (h1 : ∀ s, p = .lit s → (u = false → s.contains 92 = false) ∧ s.contains 0 = false)
    (h2 : ∀ ps, p = .dbl ps → ps.all dpartOk = true) :
    literalVal u env p = posixLiteralVal env p := by
  cases p with
  | lit s =>
    obtain ⟨a, b⟩ := h1 s rfl
    cases u
    · exact (takeWhile_ne0 s b).trans (unbackslash_no92 s (a rfl)).symm
    · exact takeWhile_ne0 _ (unbackslash_nonul s b)
  | dbl ps => exact congrArg List.flatten (dpartVals_ok env ps (h2 ps rfl))
  | _ => rfl

theorem fieldJoin_append (a b : List FP) : fieldJoin (a ++ b) = fieldJoin a ++ fieldJoin b :=
  List.flatMap_append

theorem fieldJoin_single (p : FP) : fieldJoin [p] = p.val := List.append_nil _

theorem fieldJoin_snoc (f : List FP) (p : FP) : fieldJoin (f ++ [p]) = fieldJoin f ++ p.val := by
  rw [fieldJoin_append, fieldJoin_single]

theorem addPart_cur_ne (w : WS) (p : FP) : (addPart w p).cur ≠ [] :=
  List.append_ne_nil_of_right_ne_nil _ (List.cons_ne_nil p [])

theorem foldl_addPart (vs : List Bytes) (w : WS) :
    vs.foldl (fun w v => addPart w ⟨v, 1⟩) w =
      { w with cur := w.cur ++ vs.map (fun v => (⟨v, 1⟩ : FP)) } := by
  induction vs generalizing w with
  | nil => rw [List.map_nil, List.append_nil]; rfl
  | cons v vs ih => rw [List.foldl_cons, ih, addPart, List.append_assoc]; rfl

/-- The parts that double quotes without `$@` add to the current field: one per inner part, and
    one empty part for `""`. -/
def dblParts (env : Env) : List DPart → List FP
  | [] => [⟨[], 1⟩]
  | d :: ps => (d :: ps).map (fun d => (⟨dpartVal env d, 1⟩ : FP))

theorem dblParts_ne_nil (env : Env) (ps : List DPart) : dblParts env ps ≠ [] := by
  cases ps <;> exact List.cons_ne_nil _ _

theorem fieldJoin_dblParts (env : Env) (ps : List DPart) :
    fieldJoin (dblParts env ps) = (ps.map (dpartVal env)).flatten := by
  cases ps with
  | nil => rfl
  | cons d ps => exact List.flatMap_def.trans (congrArg List.flatten List.map_map)

theorem partStep_dbl_gen (env : Env) (w : WS) (first : Bool) (ps : List DPart)
    (h0 : ps ≠ []) (h1 : ps ≠ [.at]) (h2 : ps ≠ [.star]) :
    partStep env w first (.dbl ps) =
      { w with allowEmpty := true, cur := w.cur ++ ps.map (fun d => (⟨dpartVal env d, 1⟩ : FP)) } := by
  have : partStep env w first (.dbl ps) =
      (ps.map (dpartVal env)).foldl (fun w v => addPart w ⟨v, 1⟩) { w with allowEmpty := true } := by
    match ps, h0, h1, h2 with
    | [], h0, _, _ => exact absurd rfl h0
    | [.lit _], _, _, _ => rfl
    | [.exp _], _, _, _ => rfl
    | [.at], _, h1, _ => exact absurd rfl h1
    | [.star], _, _, h2 => exact absurd rfl h2
    | d :: e :: rest, _, _, _ => cases d <;> rfl
  rw [this, foldl_addPart, List.map_map]
  rfl

theorem partStep_dbl_star (env : Env) (w : WS) (first : Bool) :
    partStep env w first (.dbl [.star]) =
      { w with cur := w.cur ++ [(⟨dpartVal env .star, 1⟩ : FP)] } := rfl

theorem partStep_dbl_nil (env : Env) (w : WS) (first : Bool) :
    partStep env w first (.dbl []) =
      { w with allowEmpty := true, cur := w.cur ++ [(⟨[], 1⟩ : FP)] } := rfl

/-- Double quotes without `$@`: `"$*"` alone, `""` and the general path all append `dblParts`. -/
theorem partStep_dbl_noat (env : Env) (w : WS) (first : Bool) (ps : List DPart)
    (h : containsAt ps = false) :
    (partStep env w first (.dbl ps)).fields = w.fields ∧
    (partStep env w first (.dbl ps)).cur = w.cur ++ dblParts env ps := by
  by_cases hs : ps = [.star]
  · subst hs; exact ⟨rfl, rfl⟩
  · cases ps with
    | nil => exact ⟨rfl, rfl⟩
    | cons d ps =>
      rw [partStep_dbl_gen env w first _ (List.cons_ne_nil d ps) (fun ha => by rw [ha] at h; exact nomatch h) hs]
      exact ⟨rfl, rfl⟩

theorem partStep_lit_nil (env : Env) (w : WS) (first : Bool) :
    partStep env w first (.lit []) = w := rfl

theorem partStep_lit_ne (env : Env) (w : WS) (first : Bool) (s : Bytes) (hs : s ≠ []) :
    partStep env w first (.lit s) = addPart w ⟨unbackslash s, 0⟩ := by
  cases s with
  | nil => exact absurd rfl hs
  | cons b s => rfl

theorem dqItems_cons (env : Env) (d : DPart) (ps : List DPart) (a : Bytes) (h : d ≠ .at) :
    dqItems env (d :: ps) (some a) = dqItems env ps (some (a ++ dspecVal env d)) := by
  cases d with
  | «at» => exact absurd rfl h
  | _ => rfl

theorem dqItems_noat (env : Env) : ∀ (ps : List DPart) (a : Bytes), containsAt ps = false →
    dqItems env ps (some a) = [.quoted (a ++ (ps.map (dspecVal env)).flatten)]
  | [], a, _ => by rw [dqItems, List.map_nil, List.flatten_nil, List.append_nil]
  | d :: ps, a, h => by
    have hd : d ≠ .at := by rintro rfl; exact Bool.noConfusion h
    have h' : containsAt ps = false := by cases d <;> first | exact h | exact absurd rfl hd
    rw [dqItems_cons env d ps a hd, dqItems_noat env ps _ h', List.map_cons, List.flatten_cons,
      List.append_assoc]

theorem partItems_dbl_noat (env : Env) (ps : List DPart) (h : containsAt ps = false) :
    partItems env (.dbl ps) = [.quoted (posixLiteralVal env (.dbl ps))] := by
  rw [partItems, h, if_neg Bool.false_ne_true, dqItems_noat env ps [] h]; rfl

/-- `splitAdd`'s "ending a field". -/
def endAcc (w : WS) : Option Bytes → WS
  | some b => addPart w ⟨b, 0⟩
  | none => w

theorem splitLoop_cons (ifs : Str) (w : WS) (acc : Option Bytes) (s : Sym) (rest : Str) :
    splitLoop ifs w acc (s :: rest) =
      if ifsRune ifs s.r then splitLoop ifs (delimit ifs (endAcc w acc) s.r) none rest
      else splitLoop ifs { w with wsDelim := false } (some (acc.getD [] ++ s.bs)) rest := rfl

theorem splitAdd_eq (ifs : Str) (w : WS) (val : Str) :
    splitAdd ifs w val =
      endAcc (splitLoop ifs w none val).1 (splitLoop ifs w none val).2 := by
  unfold splitAdd
  cases h : splitLoop ifs w none val with
  | mk w1 a => cases a <;> rfl

def NE (w : WS) : Prop := w.fields ≠ [] ∨ w.cur ≠ []

/-- From `w` to `w'`, `allowEmpty` is untouched and what had been produced is not lost: `Inv`
    carries over (`inv_le`). -/
def Le (w w' : WS) : Prop := w'.allowEmpty = w.allowEmpty ∧ (NE w → NE w')

/-- The `allowEmpty` fallback of `wordFields` cannot fire. -/
def Inv (w : WS) : Prop := w.allowEmpty = true → NE w

theorem Le.refl (w : WS) : Le w w := ⟨rfl, id⟩

theorem Le.trans {a b c : WS} (h1 : Le a b) (h2 : Le b c) : Le a c :=
  ⟨h2.1.trans h1.1, fun h => h2.2 (h1.2 h)⟩

theorem le_flush (w : WS) : Le w (flush w) := by
  obtain ⟨f, c, ae, wd⟩ := w
  cases c <;> simp [flush, Le, NE]

theorem le_addPart (w : WS) (p : FP) : Le w (addPart w p) := by
  simp [addPart, Le, NE]

theorem le_endAcc (w : WS) : ∀ acc, Le w (endAcc w acc)
  | none => Le.refl w
  | some _ => le_addPart w _

theorem le_wsDelim (w : WS) (b : Bool) : Le w { w with wsDelim := b } := ⟨rfl, id⟩

theorem le_delimit (ifs : Str) (w : WS) (r : Char) : Le w (delimit ifs w r) := by
  unfold delimit
  split
  · exact Le.trans (le_flush w) (le_wsDelim _ _)
  · split
    · exact Le.refl w
    · split
      · exact le_wsDelim w false
      · exact ⟨rfl, fun _ => Or.inl (List.append_ne_nil_of_right_ne_nil _ (List.cons_ne_nil _ _))⟩

theorem inv_le {w w' : WS} (hi : Inv w) (h : Le w w') : Inv w' := by
  intro ha
  rw [h.1] at ha
  exact h.2 (hi ha)

theorem inv_of_cur (w : WS) (h : w.cur ≠ []) : Inv w := fun _ => Or.inr h

/-- The scan state a Go state stands for, inside `splitLoop` (`acc`: the field being accumulated).
    The "delimiter begun by IFS white space" flag is only read by the Go code while no field is
    open (`wsDelim` is stale otherwise), and never with an empty IFS. -/
def absA (ifs : Str) (w : WS) (acc : Option Bytes) : SS :=
  ⟨w.fields.map fieldJoin,
   if w.cur.isEmpty && acc.isNone then none else some (fieldJoin w.cur ++ acc.getD []),
   w.cur.isEmpty && acc.isNone && w.wsDelim && !ifs.isEmpty⟩

def absW (ifs : Str) (w : WS) : SS := absA ifs w none

theorem absA_endAcc (ifs : Str) (w : WS) (acc : Option Bytes) :
    absW ifs (endAcc w acc) = absA ifs w acc := by
  cases acc with
  | none => rfl
  | some b =>
    obtain ⟨f, c, ae, wd⟩ := w
    simp [absW, absA, endAcc, addPart, fieldJoin_snoc]

theorem absA_push (ifs : Str) (w : WS) (acc : Option Bytes) (s : Sym) (hi : ifsRune ifs s.r = false) :
    absA ifs { w with wsDelim := false } (some (acc.getD [] ++ s.bs)) =
      splitStep ifs (absA ifs w acc) (.u s) := by
  obtain ⟨f, c, ae, wd⟩ := w
  cases acc <;> cases c <;> simp [absA, splitStep, hi, fieldJoin]

theorem absW_delimit (ifs : Str) (w : WS) (s : Sym) (hi : ifsRune ifs s.r = true) :
    absW ifs (delimit ifs w s.r) = splitStep ifs (absW ifs w) (.u s) := by
  have hne : ifs.isEmpty = false := by
    cases ifs with
    | nil => exact nomatch hi
    | cons _ _ => rfl
  obtain ⟨f, c, ae, wd⟩ := w
  cases c with
  | nil =>
    cases hw : wsRune s.r <;> cases wd <;>
      simp [absW, absA, delimit, splitStep, ifsWs, hi, hw, hne, fieldJoin]
  | cons y c =>
    cases hw : wsRune s.r <;>
      simp [absW, absA, delimit, flush, splitStep, ifsWs, hi, hw, hne]

theorem absW_append (ifs : Str) (w w' : WS) (l : List FP) (hl : l ≠ [])
    (hf : w'.fields = w.fields) (hc : w'.cur = w.cur ++ l) :
    absW ifs w' = splitStep ifs (absW ifs w) (.quoted (fieldJoin l)) := by
  obtain ⟨f, c, ae, wd⟩ := w
  obtain ⟨f', c', ae', wd'⟩ := w'
  simp only at hf hc
  subst hf hc
  cases l with
  | nil => exact absurd rfl hl
  | cons x l => cases c <;> simp [absW, absA, splitStep, fieldJoin]

theorem absW_addPart (ifs : Str) (w : WS) (b : Bytes) (q : Nat) :
    absW ifs (addPart w ⟨b, q⟩) = splitStep ifs (absW ifs w) (.quoted b) :=
  (absW_append ifs w (addPart w ⟨b, q⟩) [⟨b, q⟩] (List.cons_ne_nil _ _) rfl rfl).trans
    (by rw [fieldJoin_single])

theorem step_lit_quoted (ifs : Str) (st : SS) (b : Bytes) (hb : b ≠ []) :
    splitStep ifs st (.lit b) = splitStep ifs st (.quoted b) := by
  simp [splitStep, hb]

/- There is no equation for a `flush` alone: it closes the field and leaves a stale `wsDelim`,
   where the scan's `.brk` clears the flag.  Outside `delimit` the Go code calls `flush()` in two
   places only: between the elements of `"$@"`, where a part is added at once (the field is open
   again and the flag is not read), and between those of unquoted `$@`/`$*` when IFS is empty (the
   flag is never read). -/

theorem absW_flush_addPart (ifs : Str) (w : WS) (b : Bytes) (q : Nat) :
    absW ifs (addPart (flush w) ⟨b, q⟩) =
      splitStep ifs (splitStep ifs (absW ifs w) .brk) (.quoted b) := by
  obtain ⟨f, c, ae, wd⟩ := w
  cases c <;> simp [absW, absA, flush, addPart, splitStep, fieldJoin]

theorem absW_flush_nil (w : WS) : absW [] (flush w) = splitStep [] (absW [] w) .brk := by
  obtain ⟨f, c, ae, wd⟩ := w
  cases c <;> simp [absW, absA, flush, splitStep]

/-- The loop of `splitAdd` is the scan over the characters of the value; as in every loop below,
    the same induction shows that nothing produced is lost (`Le`). -/
theorem splitLoop_abs (ifs : Str) : ∀ (val : Str) (w : WS) (acc : Option Bytes),
    absA ifs (splitLoop ifs w acc val).1 (splitLoop ifs w acc val).2 =
      (val.map .u).foldl (splitStep ifs) (absA ifs w acc) ∧ Le w (splitLoop ifs w acc val).1
  | [], w, acc => ⟨rfl, Le.refl w⟩
  | s :: rest, w, acc => by
    rw [List.map_cons, List.foldl_cons, splitLoop_cons]
    cases hi : ifsRune ifs s.r with
    | true =>
      rw [if_pos rfl, ← absA_endAcc ifs w acc, ← absW_delimit ifs _ s hi]
      exact (splitLoop_abs ifs rest _ none).imp_right
        (Le.trans (Le.trans (le_endAcc w acc) (le_delimit ifs _ _)))
    | false =>
      rw [if_neg Bool.false_ne_true, ← absA_push ifs w acc s hi]
      exact (splitLoop_abs ifs rest _ _).imp_right (Le.trans (le_wsDelim w false))

theorem splitAdd_abs (ifs : Str) (val : Str) (w : WS) :
    absW ifs (splitAdd ifs w val) = (val.map .u).foldl (splitStep ifs) (absW ifs w) ∧
      Le w (splitAdd ifs w val) := by
  rw [splitAdd_eq, absA_endAcc]
  exact (splitLoop_abs ifs val w none).imp_right fun l => Le.trans l (le_endAcc _ _)

/-- What separates two positional parameters: the first IFS character, or a break. -/
def sepItem (ifs : Str) : Item :=
  match ifs with
  | [] => .brk
  | sep :: _ => .u sep

def sepStep (ifs : Str) (w : WS) : WS :=
  match ifs with
  | [] => flush w
  | sep :: _ => delimit ifs w sep.r

def uRest (ifs : Str) : List Str → List Item
  | [] => []
  | p :: rest => sepItem ifs :: (p.map .u ++ uRest ifs rest)

theorem unquotedElems_cons (ifs : Str) : ∀ (rest : List Str) (p : Str),
    unquotedElems ifs (p :: rest) = p.map .u ++ uRest ifs rest
  | [], _ => (List.append_nil _).symm
  | q :: rest, p =>
    congrArg (fun l => p.map Item.u ++ sepItem ifs :: l) (unquotedElems_cons ifs rest q)

theorem addUnq_false_cons (ifs : Str) (w : WS) (e : Str) (rest : List Str) :
    addUnquotedElems ifs w false (e :: rest) =
      addUnquotedElems ifs (splitAdd ifs (sepStep ifs w) e) false rest := by
  cases ifs <;> rfl

theorem addUnq_true_cons (ifs : Str) (w : WS) (e : Str) (rest : List Str) :
    addUnquotedElems ifs w true (e :: rest) =
      addUnquotedElems ifs (splitAdd ifs w e) false rest := rfl

theorem sepStep_abs (ifs : Str) (w : WS) (e : Str) :
    absW ifs (splitAdd ifs (sepStep ifs w) e) =
      (e.map .u).foldl (splitStep ifs) (splitStep ifs (absW ifs w) (sepItem ifs)) ∧
    Le w (splitAdd ifs (sepStep ifs w) e) := by
  cases ifs with
  | nil =>
    rw [sepItem, ← absW_flush_nil]
    exact (splitAdd_abs [] e _).imp_right (Le.trans (le_flush w))
  | cons sep t =>
    rw [sepItem, ← absW_delimit (sep :: t) w sep (by simp [ifsRune])]
    exact (splitAdd_abs _ e _).imp_right (Le.trans (le_delimit _ w _))

theorem unq_false_abs (ifs : Str) : ∀ (rest : List Str) (w : WS),
    absW ifs (addUnquotedElems ifs w false rest) = (uRest ifs rest).foldl (splitStep ifs) (absW ifs w) ∧
      Le w (addUnquotedElems ifs w false rest)
  | [], w => ⟨rfl, Le.refl w⟩
  | p :: rest, w => by
    obtain ⟨e, l⟩ := sepStep_abs ifs w p
    rw [uRest, List.foldl_cons, List.foldl_append, addUnq_false_cons, ← e]
    exact (unq_false_abs ifs rest _).imp_right (Le.trans l)

theorem unq_abs (ifs : Str) (params : List Str) (w : WS) :
    absW ifs (addUnquotedElems ifs w true params) =
      (unquotedElems ifs params).foldl (splitStep ifs) (absW ifs w) ∧
      Le w (addUnquotedElems ifs w true params) := by
  cases params with
  | nil => exact ⟨rfl, Le.refl w⟩
  | cons p rest =>
    obtain ⟨e, l⟩ := splitAdd_abs ifs p w
    rw [unquotedElems_cons, List.foldl_append, addUnq_true_cons, ← e]
    exact (unq_false_abs ifs rest _).imp_right (Le.trans l)

def qRest : List Bytes → List Item
  | [] => []
  | q :: rest => .brk :: .quoted q :: qRest rest

theorem atFull_cons (env : Env) : ∀ (rest : List Bytes) (p : Bytes),
    (atItems none (p :: rest)).1 ++ dqItems env [] (atItems none (p :: rest)).2 =
      .quoted p :: qRest rest
  | [], _ => rfl
  | q :: rest, p => congrArg (fun l => Item.quoted p :: .brk :: l) (atFull_cons env rest q)

theorem partItems_dblat (env : Env) :
    partItems env (.dbl [.at]) =
      (atItems none (env.params.map strBytes)).1 ++
        dqItems env [] (atItems none (env.params.map strBytes)).2 := rfl

theorem q_false_abs (ifs : Str) : ∀ (rest : List Bytes) (w : WS),
    absW ifs (addQuotedElems w false rest) = (qRest rest).foldl (splitStep ifs) (absW ifs w) ∧
      Le w (addQuotedElems w false rest)
  | [], w => ⟨rfl, Le.refl w⟩
  | q :: rest, w => by
    rw [qRest, List.foldl_cons, List.foldl_cons, ← absW_flush_addPart ifs w q 1]
    exact (q_false_abs ifs rest _).imp_right (Le.trans (Le.trans (le_flush w) (le_addPart _ _)))

theorem dblat_abs (env : Env) (w : WS) :
    absW env.ifs (addQuotedElems w true (env.params.map strBytes)) =
      (partItems env (.dbl [.at])).foldl (splitStep env.ifs) (absW env.ifs w) ∧
      Le w (addQuotedElems w true (env.params.map strBytes)) := by
  rw [partItems_dblat]
  cases env.params.map strBytes with
  | nil => exact ⟨rfl, Le.refl w⟩
  | cons p rest =>
    rw [atFull_cons, List.foldl_cons, ← absW_addPart env.ifs w p 1]
    exact (q_false_abs env.ifs rest _).imp_right (Le.trans (le_addPart _ _))

theorem part_abs (env : Env) (w : WS) (first : Bool) (p : Part) (hi : Inv w) (hok : partOk p = true) :
    absW env.ifs (partStep env w first p) =
      (partItems env p).foldl (splitStep env.ifs) (absW env.ifs w) ∧
    Inv (partStep env w first p) := by
  cases p with
  | lit s =>
    by_cases hs : s = []
    · subst hs
      exact ⟨rfl, hi⟩
    · rw [partStep_lit_ne env w first s hs]
      exact ⟨(absW_addPart _ w _ 0).trans (step_lit_quoted _ _ _ (unbackslash_ne_nil s hs)).symm,
        inv_of_cur _ (addPart_cur_ne _ _)⟩
  | sgl s =>
    exact ⟨absW_addPart env.ifs { w with allowEmpty := true } s 3, inv_of_cur _ (addPart_cur_ne _ _)⟩
  | dbl ps =>
    simp only [partOk, Bool.and_eq_true, Bool.or_eq_true, Bool.not_eq_true', beq_iff_eq] at hok
    obtain ⟨hat, hdp⟩ := hok
    by_cases ha : ps = [.at]
    · subst ha
      exact (dblat_abs env w).imp_right (inv_le hi)
    · have hc : containsAt ps = false := hat.resolve_right ha
      obtain ⟨h1, h2⟩ := partStep_dbl_noat env w first ps hc
      have hl := dblParts_ne_nil env ps
      refine ⟨?_, inv_of_cur _ (h2 ▸ List.append_ne_nil_of_right_ne_nil _ hl)⟩
      rw [absW_append env.ifs w _ _ hl h1 h2, partItems_dbl_noat env ps hc, fieldJoin_dblParts,
        dpartVals_ok env ps hdp, posixLiteralVal_dbl]
      rfl
  | exp v => exact (splitAdd_abs env.ifs v w).imp_right (inv_le hi)
  | «at» => exact (unq_abs env.ifs env.params w).imp_right (inv_le hi)
  | star => exact (unq_abs env.ifs env.params w).imp_right (inv_le hi)

theorem parts_abs (env : Env) : ∀ (parts : List Part) (w : WS) (first : Bool),
    Inv w → (∀ p ∈ parts, partOk p = true) →
    absW env.ifs (partsLoop env w first parts) =
      (parts.flatMap (partItems env)).foldl (splitStep env.ifs) (absW env.ifs w) ∧
    Inv (partsLoop env w first parts)
  | [], w, first, hi, _ => ⟨rfl, hi⟩
  | p :: ps, w, first, hi, hall => by
    obtain ⟨e, i⟩ := part_abs env w first p hi (hall p List.mem_cons_self)
    rw [List.flatMap_cons, List.foldl_append, partsLoop, ← e]
    exact parts_abs env ps _ false i (fun q hq => hall q (List.mem_cons_of_mem _ hq))

/-- What `wordFields` returns from the final state: the `allowEmpty` fallback cannot fire. -/
theorem wordFields_abs (env : Env) (parts : List Part) (hi : Inv (partsLoop env WS.init true parts)) :
    wordFields env parts =
      (absW env.ifs (partsLoop env WS.init true parts)).out ++
        (absW env.ifs (partsLoop env WS.init true parts)).cur.toList := by
  unfold wordFields
  generalize partsLoop env WS.init true parts = wf at *
  obtain ⟨f, c, ae, wd⟩ := wf
  cases c with
  | nil =>
    cases ae with
    | false => simp [flush, absW, absA]
    | true =>
      have := hi rfl
      simp only [NE, ne_eq, not_true_eq_false, or_false] at this
      simp [flush, this, absW, absA]
  | cons x c => simp [flush, absW, absA]

theorem posixSplit_eq (ifs : Str) (items : List Item) :
    posixSplit ifs items =
      (items.foldl (splitStep ifs) SS.init).out ++ (items.foldl (splitStep ifs) SS.init).cur.toList := by
  unfold posixSplit
  generalize items.foldl (splitStep ifs) SS.init = st
  obtain ⟨o, c, p⟩ := st
  cases c
  · exact (List.append_nil o).symm
  · rfl

/-- The scan over a part that neither splits nor breaks the word appends its quote-removed value
    to the current field; an empty unquoted literal is nothing. -/
theorem plain_items (env : Env) (p : Part) (hp : plain p = true) (st : SS) :
    (partItems env p).foldl (splitStep env.ifs) st =
      if p = .lit [] then st else ⟨st.out, some (st.cur.getD [] ++ posixLiteralVal env p), false⟩ := by
  cases p with
  | lit s =>
    by_cases hs : s = []
    · subst hs; rfl
    · rw [if_neg (fun h => hs (Part.lit.inj h))]
      simp [partItems, splitStep, unbackslash_ne_nil s hs, posixLiteralVal]
  | sgl s => rfl
  | dbl ps =>
    rw [partItems_dbl_noat env ps ((Bool.not_eq_true' _).mp hp), if_neg Part.noConfusion]; rfl
  | exp v => exact nomatch hp
  | «at» => exact nomatch hp
  | star => exact nomatch hp

theorem plain_fold (env : Env) : ∀ (parts : List Part) (st : SS), parts.all plain = true →
    ((parts.flatMap (partItems env)).foldl (splitStep env.ifs) st).out = st.out ∧
    ((parts.flatMap (partItems env)).foldl (splitStep env.ifs) st).cur.getD [] =
      st.cur.getD [] ++ (parts.map (posixLiteralVal env)).flatten ∧
    (st.cur.isSome = true ∨ (∃ p ∈ parts, p ≠ Part.lit []) →
      ((parts.flatMap (partItems env)).foldl (splitStep env.ifs) st).cur.isSome = true)
  | [], st, _ => ⟨rfl, (List.append_nil _).symm, fun h => h.elim id fun ⟨_, hp, _⟩ => nomatch hp⟩
  | p :: ps, st, hp => by
    rw [List.all_cons, Bool.and_eq_true] at hp
    rw [List.flatMap_cons, List.foldl_append, plain_items env p hp.1]
    by_cases h0 : p = .lit []
    · subst h0
      obtain ⟨l1, l2, l3⟩ := plain_fold env ps st hp.2
      refine ⟨l1, l2, fun h => l3 (h.imp_right fun ⟨q, hq, hne⟩ => ⟨q, ?_, hne⟩)⟩
      exact (List.mem_cons.mp hq).resolve_left hne
    · rw [if_neg h0]
      obtain ⟨l1, l2, l3⟩ := plain_fold env ps ⟨st.out, some (st.cur.getD [] ++ posixLiteralVal env p), false⟩ hp.2
      exact ⟨l1, by rw [l2, List.map_cons, List.flatten_cons]; exact List.append_assoc _ _ _, fun _ => l3 (Or.inl rfl)⟩

theorem qRest_fields (ifs : Str) : ∀ (rest : List Bytes) (o : List Bytes) (b : Bytes) (pe : Bool),
    ((qRest rest).foldl (splitStep ifs) ⟨o, some b, pe⟩).out ++
      ((qRest rest).foldl (splitStep ifs) ⟨o, some b, pe⟩).cur.toList = o ++ b :: rest
  | [], _, _, _ => rfl
  | q :: rest, o, b, _ =>
    (qRest_fields ifs rest (o ++ [b]) q false).trans (List.append_assoc o [b] (q :: rest))

theorem partsLoop_at_star (env : Env) : ∀ (pre post : List Part) (w : WS) (first : Bool),
    partsLoop env w first (pre ++ .at :: post) = partsLoop env w first (pre ++ .star :: post)
  | [], _, _, _ => rfl
  | _ :: pre, post, _, _ => partsLoop_at_star env pre post _ false

end ShVerif.C22
