import ShVerif.Proofs.C26Loop
/-
  C26 — simulation: the command step, the induction on the fuel, the EXIT trap (simple actions) and
  whole files (`Runner.Run`).
-/
namespace ShVerif.C26
open ShVerif.L5 ShVerif.L5.Bash

theorem simC_step (n : Nat) (hS : SimS n) (hC : SimC n) (hW : SimW n) : SimC (n+1) := by
  intro K k sub c s hst hs hd hl hp hx
  have hns := stop_false_of_exit hx
  -- after a simple command the errexit test is made: nothing to say about its status
  have nq : ∀ {c : Cmd}, isChecked c = true → ¬ (isChecked c = false ∧ tailOkC c = true) :=
    fun h h' => nomatch h.symm.trans h'.1
  cases c with
  | tru | fls | echo _ | test _ _ _ | assign _ _ =>
    exact ((sim_pure _ rfl hd hp hx (nq rfl) k).mono fun _ _ _ h => h.2).toPostC
  | exit m => exact (sim_exit hd hp hx m hst hl).toPostC
  | ret m => exact (sim_ret hd hp hx m hst hs).toPostC
  | brk m => exact (sim_brk hd hp hx m hst hs).toPostC
  | cont m => exact (sim_cont hd hp hx m hst hs).toPostC
  | setE on => exact (sim_setE hd hp hx on hs).toPostC
  | setPF on => exact (sim_setPF hd hp hx on).toPostC
  | trapExit b => exact (sim_trapExit hd hp hx b hst hs).toPostC
  | trapErr b => exact (sim_trapErr hd hp hx b hs).toPostC
  | assignSub x p => exact (sim_assignSub hS p hst hd hl hp hx x hs (nq rfl)).toPostC
  | echoSub w1 p w2 => exact (sim_echoSub hS p hst hd hl hp hx w1 w2 hs).toPostC
  | call f =>
    cases hf : lookupFn s.funcs f with
    | none => exact (sim_call_none hd hp hx f hf (nq rfl)).toPostC
    | some body => exact sim_call hS f body hf hst hd hl hp hx
  | block p => exact (sim_block hS p hst hs hd hl hp hx).toPostC
  | subsh p => exact (sim_subsh hS p hst hd hl hp hx hs (nq rfl)).toPostC
  | and x y =>
    rw [run_and x y hns, sem_and]
    exact (sim_andor hS (fun s1 => s1.exit.ok = true) (fun e1 => e1.status = 0)
      (fun _ => beq_iff_eq) x y (fun h => nomatch h.2) hst hs hd hl hp hx).toPostC
  | or x y =>
    rw [run_or x y hns, sem_or]
    exact (sim_andor hS (fun s1 => (!s1.exit.ok) = true) (fun e1 => e1.status ≠ 0)
      (fun _ => by simp [Exit.ok, absEnvC]) x y
      (fun h => ⟨h.2, fun s1 h1 => by simpa [Exit.ok] using h1⟩) hst hs hd hl hp hx).toPostC
  | pipe x y => exact sim_pipe hS x y hst hs hd hl hp hx
  | ifc c t e => exact ((sim_ifc hS hC c t e hst hs hd hl hp hx).mono fun _ _ _ h =>
      h.mono_q fun _ => trivial).toPostC
  | whl u c b =>
    rw [run_cmd_whl u c b hns, sem_whl]
    exact ((hW K k sub u c b s hst hs hd hl (noFlags_of_exit hx) hp).mono fun _ _ _ h =>
      h.mono_q fun _ => trivial).toPostC
  | forc x items b =>
    have hs : (!b.isNil && supBody (bodyK K) b && (!K.e || K.ign || tailOk b)) = true := hs
    simp only [Bool.and_eq_true, Bool.or_eq_true, Bool.not_eq_eq_eq_not, Bool.not_true] at hs
    obtain ⟨⟨hb0, hsb⟩, htail⟩ := hs
    rw [run_forc x items b hns, sem_forc]
    cases items with
    | nil =>
      have he : ({ absEnv s with status := 0 } : Env) = absEnvC s := by rw [absEnvC, hx]; rfl
      exact .inl (he ▸ Post.zero hd ⟨rfl, rfl, rfl⟩ hx hp)
    | cons it rest =>
      exact ((sim_forLoop hS x b hst hb0 hsb (it :: rest) s hd hl (noFlags_of_exit hx) hp
        (fun h => nomatch h)).mono fun _ _ _ h => h.tail_q hst fun _ => htail).toPostC
  | case w is =>
    rw [run_case w is hns, sem_case]
    exact ((sim_caseLoop hS _ hst s is false false false s hs hd hl (noFlags_of_exit hx) hp
      ⟨rfl, rfl, rfl⟩ (fun h => nomatch h) (fun _ => hx) (quiet_of_zero (by rw [hx]))).mono
      fun _ _ _ h => h.mono_q fun _ => trivial).toPostC
  | fn f b => exact (sim_fn hd hp hx f b hs).toPostC

theorem sim_all : ∀ n : Nat, SimS n ∧ SimC n ∧ SimW n
  | 0 => ⟨fun _ _ _ _ _ _ _ _ _ _ _ => trivial, fun _ _ _ _ _ _ _ _ _ _ _ => trivial,
      fun _ _ _ _ _ _ _ _ _ _ _ _ _ => trivial⟩
  | n + 1 =>
    have ⟨hS, hC, hW⟩ := sim_all n
    ⟨simS_step n hC, simC_step n hS hC hW, simW_step n hS hW⟩

/-- While a simple EXIT action runs, the two sides agree on what its `echo`s read and write. -/
def TrapInv (s : St) (e : Env) : Prop :=
  s.handlingTrap = true ∧ s.out = e.out ∧ s.lastExit.code = e.status ∧ s.vars = e.vars

theorem simple_trap_stmt (n : Nat) (k : Ctx) (st : Stmt) (hst : simpleTrapStmt st = true) (s : St)
    (e : Env) (h : TrapInv s e) :
    Rel (fun s' fl e' => fl = .norm ∧ TrapInv s' e') (run n (.stmt st) s) (sem n k (.stmt st) e) := by
  obtain ⟨hh, ho, hs, hv⟩ := h
  -- `stop()` is disabled while a trap runs
  have hns : stop s = false := by simp only [stop, hh, Bool.not_true, Bool.false_and]
  have hns0 : stop { s with exit := {} } = false := stop_false_of_exit rfl
  obtain ⟨neg, c⟩ := st
  cases neg with
  | true => cases hst
  | false =>
  cases n with
  | zero => trivial
  | succ n =>
  rw [run_stmt_pos c hns, sem_stmt_pos]
  cases n with
  | zero => trivial
  | succ m =>
  cases c with
  | tru =>
    rw [run_tru hns0, sem_tru, Option.bind_some, Option.bind_some, stmtEnd_skip (.inr (.inl rfl)),
      semEnd_zero _ rfl]
    exact ⟨rfl, hh, ho, rfl, hv⟩
  | echo w =>
    rw [run_echo w hns0, sem_echo, Option.bind_some, Option.bind_some, stmtEnd_skip (.inr (.inl rfl)),
      semEnd_zero _ rfl]
    exact ⟨rfl, hh, by show s.out ++ _ = e.out ++ _; rw [ho, hv, hs], rfl, hv⟩
  | _ => cases hst

theorem simple_trap_list (n : Nat) (k : Ctx) :
    ∀ (body : Prog), simpleTrap body = true → ∀ (s : St) (e : Env), TrapInv s e →
      Rel (fun s' fl e' => fl = .norm ∧ TrapInv s' e') (foldStmts (runS n) body s)
        (seqList (semS n k) body e)
  | .nil, _, _, _, h => ⟨rfl, h⟩
  | .cons st rest, hsim, s, e, h => by
    have hsim : (simpleTrapStmt st && simpleTrap rest) = true := hsim
    rw [Bool.and_eq_true] at hsim
    rw [foldStmts_cons, seqList_cons]
    exact Rel.bind (simple_trap_stmt n k st hsim.1 s e h)
      fun s1 fl e1 _ ⟨hfl, h1⟩ => by subst hfl; exact simple_trap_list n k rest hsim.2 s1 e1 h1

theorem sim_exit_trap (n : Nat) (body : Prog) (hsim : simpleTrap body = true) (s : St) (e : Env)
    (hh : s.handlingTrap = false) (ho : s.out = e.out) (hs : s.exit.code = e.status)
    (hv : s.vars = e.vars) :
    Rel (fun s2 _ e2 => s2.out = e2.out ∧ s2.exit.code = e2.status)
      (run n (.trap body) s) (sem n { exitTrap := true } (.trap body) e) := by
  cases n with
  | zero => trivial
  | succ m =>
    rw [sem_trap]
    cases hb : body.isNil with
    | true => rw [run_trap_skip body (.inl hb)]; exact ⟨ho, hs⟩
    | false =>
      rw [run_trap body hb hh]
      exact Rel.bind (simple_trap_list m _ body hsim { s with handlingTrap := true, lastExit := s.exit }
        e ⟨rfl, ho, hs, hv⟩) fun s1 fl e1 _ ⟨hfl, _, h2, _⟩ => by subst hfl; exact ⟨h2, hs⟩

/-- What the EXIT trap step needs from the end of the statement list. -/
structure EndRel (s : St) (e1 : Env) : Prop where
  out : s.out = e1.out
  st : s.exit.code = e1.status
  tr : e1.trapExit = s.callbackExit
  simple : simpleTrap s.callbackExit = true
  ht : s.handlingTrap = false
  vars : s.vars = e1.vars

theorem run_eq_sem_file (e : Bool) (fuel : Nat) (p : Prog) (hsup : supportedProg e p = true) :
    runFile fuel p = semFile fuel p := by
  have hst : Stat { e := e } ({} : Ctx) false :=
    ⟨⟨rfl, rfl⟩, fun h => (nomatch h), fun _ _ _ => rfl, fun h => (nomatch h), Nat.le_refl _,
      fun _ => rfl⟩
  have hd : Dyn { e := e } ({} : Ctx) false ({} : St) :=
    ⟨rfl, ⟨fun h => (nomatch h), rfl⟩, fun f b h => (nomatch h), rfl, fun _ => rfl,
      fun _ => rfl, fun h => (nomatch h), fun h => absurd rfl h⟩
  have hend : Rel (fun s _ e1 => EndRel s e1) (foldStmts (runS fuel) p {})
      (seqList (semS fuel {}) p {}) := by
    cases hp : p.isNil with
    | true =>
      obtain rfl : p = .nil := by cases p <;> first | rfl | cases hp
      exact ⟨rfl, rfl, rfl, rfl, rfl, rfl⟩
    | false =>
      refine (sim_list fuel (sim_all fuel).1 p { e := e } false {} false {} hp hst hsup hd
        ⟨rfl, rfl⟩ ⟨rfl, rfl⟩ ⟨rfl, rfl⟩).mono fun s fl e1 hpo => ?_
      rcases hpo.flows_nil rfl with rfl | hfl
      · obtain ⟨l, _⟩ := hpo
        obtain rfl := l.env
        exact ⟨rfl, rfl, rfl, l.dyn.csub.2, l.dyn.ht, rfl⟩
      · cases fl with
        | exit => exact ⟨hpo.out.symm, hpo.status.symm, hpo.trap, hpo.csub.2, hpo.ht, hpo.vars.symm⟩
        | ret => exact nomatch hpo.2.2.2.1
        | _ => cases hfl
  rw [runFile_eq, semFile_eq, semSub, subRun_eq, Option.bind_assoc]
  refine Rel.bind_eq hend fun s _ e1 h => ?_
  rw [Option.bind_assoc, h.tr]
  exact Rel.bind_eq (sim_exit_trap fuel s.callbackExit h.simple { s with lastExit := s.exit } e1 h.ht
    h.out h.st h.vars) fun s2 _ e2 ⟨h1, h2⟩ => by
      show some (s2.out, s2.exit.code) = some (e2.out, e2.status)
      rw [h1, h2]

end ShVerif.C26
