import ShVerif.Model.C30
/-
  Symbolic interpretation of a Reset table (`resetSym`) and the congruence lemma that makes "the
  result only mentions stable fields" mean "the result only depends on stable fields".
  Whole-file run vs one Run per statement: between the top-level statements of a run that has not
  exited `Inv` holds, and under it `Run`'s prologue is invisible to the next statement (`stmt_pro`);
  `incr_core` follows the two runs statement by statement, `runIncr_eq` is its closed form.  The
  file name matters only through `$0`: forgetting it (`nf`) commutes with everything that does not
  read `$0` (the `_nf` lemmas).
-/
namespace ShVerif.C30

/-- symbolic values over the fields of the pre-state -/
inductive Sym where
  | zero
  | inp (f : String)                     -- the pre-state's field f
  | empty (backing : Sym)                -- own store, emptied
  | built (tag : String) (args : List Sym)
  deriving Repr

mutual
  def Sym.eval (s : AState) : Sym → AVal
    | .zero => .zero
    | .inp f => s f
    | .empty b => .empty (Sym.eval s b)
    | .built t as => .built t (Sym.evalList s as)
  def Sym.evalList (s : AState) : List Sym → List AVal
    | [] => []
    | a :: r => Sym.eval s a :: Sym.evalList s r
end

mutual
  /-- observable part: the backing store of an emptied value is dropped -/
  def Sym.obs : Sym → Sym
    | .zero => .zero
    | .inp f => .inp f
    | .empty _ => .empty .zero
    | .built t as => .built t (Sym.obsList as)
  def Sym.obsList : List Sym → List Sym
    | [] => []
    | a :: r => Sym.obs a :: Sym.obsList r
end

mutual
  def Sym.inputs : Sym → List String
    | .zero => []
    | .inp f => [f]
    | .empty b => Sym.inputs b
    | .built _ as => Sym.inputsList as
  def Sym.inputsList : List Sym → List String
    | [] => []
    | a :: r => Sym.inputs a ++ Sym.inputsList r
end

mutual
  theorem Sym.eval_congr (s1 s2 : AState) : ∀ e : Sym, (∀ f ∈ e.inputs, s1 f = s2 f) → e.eval s1 = e.eval s2
    | .zero, _ => rfl
    | .inp f, h => by simpa [Sym.eval] using h f (by simp [Sym.inputs])
    | .empty b, h => by
        have := Sym.eval_congr s1 s2 b (by simpa [Sym.inputs] using h)
        simp [Sym.eval, this]
    | .built t as, h => by
        have := Sym.evalList_congr s1 s2 as (by simpa [Sym.inputs] using h)
        simp [Sym.eval, this]
  theorem Sym.evalList_congr (s1 s2 : AState) : ∀ es : List Sym, (∀ f ∈ Sym.inputsList es, s1 f = s2 f) → Sym.evalList s1 es = Sym.evalList s2 es
    | [], _ => rfl
    | a :: r, h => by
        have h1 := Sym.eval_congr s1 s2 a (fun f hf => h f (by simp [Sym.inputsList, hf]))
        have h2 := Sym.evalList_congr s1 s2 r (fun f hf => h f (by simp [Sym.inputsList, hf]))
        simp [Sym.evalList, h1, h2]
end

/-- value shapes of the extractor, read against the symbolic state `cur` (for the literal: the
    state before Reset; for later writes: the state at that point) -/
def symOfVal (cur : String → Sym) (f : String) (v : Val) : Sym :=
  if v.kind = "self" then cur v.field
  else if v.kind = "self0" then .empty (cur v.field)
  else if v.kind = "const" then .built ("const:" ++ v.field) []
  else if v.kind = "make" then .empty .zero
  else if v.kind = "clear" then .empty (cur f)
  else if v.kind = "fresh" then .built "fresh" (v.deps.map cur)
  else if v.kind = "appendSelf" then .built "append" (cur v.field :: v.deps.map cur)
  else .built "other" (v.deps.map cur)

def symLiteral (t : ResetTable) : String → Sym := fun f =>
  match lookup f t.literal with
  | some v => symOfVal .inp f v
  | none => .zero

def symPost (cur : String → Sym) : List Write → String → Sym
  | [] => cur
  | w :: r =>
    let v := symOfVal cur w.field w.val
    symPost (fun g => if g = w.field then v else cur g) r

/-- the symbolic state after `Reset` (guards of post-literal writes are ignored: the checked
    shapes make/clear under isNil/notNil give the same observable value on both branches) -/
def resetSym (t : ResetTable) : String → Sym := symPost (symLiteral t) t.post

/-- a field's observable value after Reset mentions only fields accepted by `stable` -/
def dependsOnlyOn (t : ResetTable) (stable : String → Bool) (f : String) : Bool :=
  ((resetSym t f).obs.inputs).all stable

theorem reset_congr (t : ResetTable) (stable : String → Bool) (f : String)
    (h : dependsOnlyOn t stable f = true) (s1 s2 : AState)
    (hs : ∀ g, stable g = true → s1 g = s2 g) :
    ((resetSym t f).obs).eval s1 = ((resetSym t f).obs).eval s2 := by
  apply Sym.eval_congr
  intro g hg
  apply hs
  unfold dependsOnlyOn at h
  exact (List.all_eq_true.mp h) g hg

def nf (s : St) : St := { s with filename := "" }

theorem run_file_eq (name : String) (ss : List Stmt) (s : St) :
    runFile name ss s = trapCallback (fixLast (stmts (pro name s) ss)) := by
  simp [runFile, run]

theorem run_stmt_eq (c : Stmt) (s : St) :
    run s none [c] = (if (fixLast (stmt (pro "" s) c)).exit.exiting then trapCallback (fixLast (stmt (pro "" s) c)) else fixLast (stmt (pro "" s) c)) := by
  simp [run, stmts]

/-- the statement wrapper, when it is not skipped -/
def wrap (s : St) (c : Simple) : St := fixLast (errx (cmdSimple (zeroExit s) c))

theorem stmtSimple_run {s : St} (h : stop s = false) (c : Simple) : stmtSimple s c = wrap s c := by
  simp [stmtSimple, wrap, h]

theorem stmtSimple_skip {s : St} (h : stop s = true) (c : Simple) : stmtSimple s c = s := by
  simp [stmtSimple, h]

theorem errx_frame (s : St) :
    (errx s).handlingTrap = s.handlingTrap ∧ (errx s).trap = s.trap ∧ (errx s).filename = s.filename
      ∧ (errx s).noexec = s.noexec := by
  unfold errx; split <;> exact ⟨rfl, rfl, rfl, rfl⟩

theorem cmdSimple_frame (s : St) (c : Simple) :
    (cmdSimple s c).handlingTrap = s.handlingTrap ∧ (cmdSimple s c).trap = s.trap
      ∧ (cmdSimple s c).filename = s.filename := by
  cases c <;> exact ⟨rfl, rfl, rfl⟩

theorem wrap_frame (s : St) (c : Simple) :
    (wrap s c).handlingTrap = s.handlingTrap ∧ (wrap s c).trap = s.trap ∧ (wrap s c).filename = s.filename := by
  obtain ⟨h1, h2, h3, _⟩ := errx_frame (cmdSimple (zeroExit s) c)
  show (errx _).handlingTrap = _ ∧ (errx _).trap = _ ∧ (errx _).filename = _
  rw [h1, h2, h3]
  exact cmdSimple_frame (zeroExit s) c

theorem stmtSimple_frame (s : St) (c : Simple) :
    (stmtSimple s c).handlingTrap = s.handlingTrap ∧ (stmtSimple s c).trap = s.trap
      ∧ (stmtSimple s c).filename = s.filename := by
  cases h : stop s
  · rw [stmtSimple_run h]; exact wrap_frame s c
  · rw [stmtSimple_skip h]; exact ⟨rfl, rfl, rfl⟩

theorem stmtSimple_handlingTrap (s : St) (c : Simple) : (stmtSimple s c).handlingTrap = s.handlingTrap :=
  (stmtSimple_frame s c).1

theorem errx_zero {s : St} (h : s.exit = .zero) : (errx s).exit = .zero := by
  unfold errx
  have hc : s.exit.code = 0 := by rw [h]; rfl
  have hn : ¬ ((s.exit.code ≠ 0 && s.errexit) = true) := by simp [hc]
  rw [if_neg hn, h]

/-- only `set -n` turns `noexec` on, and it leaves status 0 -/
theorem wrap_noexec (s : St) (c : Simple) (hn : s.noexec = false) :
    (wrap s c).noexec = true → (wrap s c).exit = .zero := by
  show (errx (cmdSimple (zeroExit s) c)).noexec = true → (errx (cmdSimple (zeroExit s) c)).exit = .zero
  rw [(errx_frame _).2.2.2]
  cases c with
  | setN => exact fun _ => errx_zero rfl
  | _ => exact fun h => absurd (h.symm.trans hn) nofun

theorem stmt_trap_run {s : St} (h : stop s = false) (b : List Simple) :
    stmt s (.trapExit b) = fixLast (setTrap (zeroExit s) b) := by
  simp [stmt, h]

theorem stmt_skip {s : St} (h : stop s = true) (c : Stmt) : stmt s c = s := by
  cases c <;> simp [stmt, stmtSimple, h]

theorem stmt_filename (s : St) (c : Stmt) : (stmt s c).filename = s.filename := by
  cases h : stop s
  · cases c with
    | simple c => exact (stmtSimple_frame s c).2.2
    | trapExit b => rw [stmt_trap_run h]; rfl
  · rw [stmt_skip h]

/-- between top-level statements of a run that has not exited -/
structure Inv (s : St) : Prop where
  noTrap : s.handlingTrap = false
  last : s.lastExit = s.exit
  notExiting : s.exit.exiting = false
  noexecZero : s.noexec = true → s.exit = .zero

theorem stop_of_inv {s : St} (h : Inv s) : stop s = s.noexec := by
  simp [stop, h.noTrap, h.notExiting]

theorem pro_eq_of_zero {s : St} (hz : s.exit = .zero) : pro s.filename s = s := by
  cases s; simp_all [pro]

theorem zeroExit_pro (s : St) : zeroExit (pro s.filename s) = zeroExit s := by
  cases s; rfl

theorem stmt_pro {s : St} (h : Inv s) (c : Stmt) : stmt (pro s.filename s) c = stmt s c := by
  cases hn : s.noexec with
  | true => rw [pro_eq_of_zero (h.noexecZero hn)]
  | false =>
    have hs : stop s = false := by rw [stop_of_inv h, hn]
    have hs' : stop (pro s.filename s) = false := by
      simp [stop, pro, Exit.zero, hn]
    cases c with
    | simple c => simp only [stmt]; rw [stmtSimple_run hs, stmtSimple_run hs', wrap, wrap, zeroExit_pro]
    | trapExit b => rw [stmt_trap_run hs, stmt_trap_run hs', zeroExit_pro]

theorem stmt_post {s : St} (h : Inv s) (c : Stmt) :
    (stmt s c).handlingTrap = false ∧ (stmt s c).lastExit = (stmt s c).exit
      ∧ ((stmt s c).noexec = true → (stmt s c).exit = .zero) := by
  cases hn : s.noexec with
  | true =>
    have hs : stop s = true := by rw [stop_of_inv h, hn]
    rw [stmt_skip hs]; exact ⟨h.noTrap, h.last, h.noexecZero⟩
  | false =>
    have hs : stop s = false := by rw [stop_of_inv h, hn]
    cases c with
    | trapExit b =>
      rw [stmt_trap_run hs]
      exact ⟨h.noTrap, rfl, fun _ => rfl⟩
    | simple c =>
      simp only [stmt]; rw [stmtSimple_run hs]
      exact ⟨(wrap_frame s c).1.trans h.noTrap, rfl, wrap_noexec s c hn⟩

theorem fixLast_of_last {s : St} (h : s.lastExit = s.exit) : fixLast s = s := by
  cases s; simp_all [fixLast]

theorem stmts_exiting {s : St} (ht : s.handlingTrap = false) (he : s.exit.exiting = true) (ss : List Stmt) :
    stmts s ss = s := by
  have hs : stop s = true := by simp [stop, ht, he]
  induction ss with
  | nil => rfl
  | cons c r ih => simp only [stmts]; rw [stmt_skip hs, ih]

theorem trapCallback_exit (s : St) : (trapCallback s).exit = s.exit := by
  unfold trapCallback
  split
  · rfl
  · split <;> rfl

theorem incr_core (ss : List Stmt) : ∀ s : St, Inv s → s.filename = "" →
    ((runIncr ss s).exit.exiting = true → trapCallback (fixLast (stmts s ss)) = runIncr ss s)
    ∧ ((runIncr ss s).exit.exiting = false → runIncr ss s = stmts s ss ∧ Inv (stmts s ss)) := by
  induction ss with
  | nil =>
    intro s h _
    refine ⟨fun he => ?_, fun _ => ⟨rfl, h⟩⟩
    simp [runIncr, h.notExiting] at he
  | cons c r ih =>
    intro s h hf
    have hpro : stmt (pro "" s) c = stmt s c := by
      have := stmt_pro h c
      rwa [hf] at this
    obtain ⟨p1, p2, p3⟩ := stmt_post h c
    have hfix : fixLast (stmt s c) = stmt s c := fixLast_of_last p2
    have hfn : (stmt s c).filename = "" := by rw [stmt_filename, hf]
    have hrun : run s none [c] = (if (stmt s c).exit.exiting then trapCallback (stmt s c) else stmt s c) := by
      rw [run_stmt_eq, hpro, hfix]
    cases he : (stmt s c).exit.exiting with
    | true =>
      have hr : run s none [c] = trapCallback (stmt s c) := by rw [hrun, he]; rfl
      have hte : (trapCallback (stmt s c)).exit.exiting = true := by rw [trapCallback_exit, he]
      have hi : runIncr (c :: r) s = trapCallback (stmt s c) := by
        simp only [runIncr, hr, hte, if_true]
      rw [hi]
      refine ⟨fun _ => ?_, fun hne => ?_⟩
      · simp only [stmts]; rw [stmts_exiting p1 he r, hfix]
      · rw [hte] at hne; cases hne
    | false =>
      have hr : run s none [c] = stmt s c := by rw [hrun, he]; rfl
      have hi : runIncr (c :: r) s = runIncr r (stmt s c) := by
        simp only [runIncr, hr, he]; rfl
      rw [hi]
      simp only [stmts]
      exact ih (stmt s c) ⟨p1, p2, he, p3⟩ hfn

/-- The right-hand side is how `specIncr` is written: the whole-file loop, followed by the EXIT
    trap only if the shell is exiting. -/
theorem runIncr_eq {s : St} (h : Inv s) (hf : s.filename = "") (ss : List Stmt) :
    runIncr ss s = if (fixLast (stmts s ss)).exit.exiting then trapCallback (fixLast (stmts s ss))
      else fixLast (stmts s ss) := by
  obtain ⟨c1, c2⟩ := incr_core ss s h hf
  cases he : (runIncr ss s).exit.exiting with
  | true =>
    have e := c1 he
    rw [if_pos (by rw [← trapCallback_exit, e, he]), e]
  | false =>
    obtain ⟨e, hi⟩ := c2 he
    rw [fixLast_of_last hi.last, ← e, he]
    rfl

def simpleOk (c : Simple) : Bool := !usesArg0Simple c
def trapOk (s : St) : Bool := s.trap.all simpleOk

theorem cmdSimple_nf (s : St) (c : Simple) (h : simpleOk c = true) : cmdSimple (nf s) c = nf (cmdSimple s c) := by
  cases c <;> first | rfl | (simp [simpleOk, usesArg0Simple] at h)

theorem errx_nf (s : St) : errx (nf s) = nf (errx s) := by
  unfold errx; rw [apply_ite nf]; rfl

theorem wrap_nf (s : St) (c : Simple) (h : simpleOk c = true) : wrap (nf s) c = nf (wrap s c) := by
  have e : zeroExit (nf s) = nf (zeroExit s) := rfl
  unfold wrap
  rw [e, cmdSimple_nf _ c h, errx_nf]; rfl

theorem stmtSimple_nf (s : St) (c : Simple) (h : simpleOk c = true) : stmtSimple (nf s) c = nf (stmtSimple s c) := by
  cases hs : stop s
  · rw [stmtSimple_run hs, stmtSimple_run (s := nf s) hs, wrap_nf s c h]
  · rw [stmtSimple_skip hs, stmtSimple_skip (s := nf s) hs]

theorem stmtsSimple_nf (b : List Simple) : ∀ s : St, b.all simpleOk = true → stmtsSimple (nf s) b = nf (stmtsSimple s b) := by
  induction b with
  | nil => intro s _; rfl
  | cons c r ih =>
    intro s h
    simp only [List.all_cons, Bool.and_eq_true] at h
    simp only [stmtsSimple, stmtSimple_nf s c h.1, ih _ h.2]

theorem stmt_nf (s : St) (c : Stmt) (h : usesArg0 c = false) : stmt (nf s) c = nf (stmt s c) := by
  cases c with
  | simple c =>
    simp only [stmt]
    exact stmtSimple_nf s c (by simpa [simpleOk, usesArg0] using h)
  | trapExit b =>
    cases hs : stop s
    · rw [stmt_trap_run hs, stmt_trap_run (s := nf s) hs]; rfl
    · rw [stmt_skip hs, stmt_skip (s := nf s) hs]

theorem stmt_trapOk (s : St) (c : Stmt) (h : usesArg0 c = false) (ht : trapOk s = true) : trapOk (stmt s c) = true := by
  cases c with
  | simple c => exact (congrArg (·.all simpleOk) (stmtSimple_frame s c).2.1).trans ht
  | trapExit b =>
    cases hs : stop s
    · rw [stmt_trap_run hs]
      show b.all simpleOk = true
      simpa [usesArg0, simpleOk] using h
    · rw [stmt_skip hs]; exact ht

theorem stmts_nf (ss : List Stmt) : ∀ s : St, ss.all (fun c => !usesArg0 c) = true → trapOk s = true →
    stmts (nf s) ss = nf (stmts s ss) ∧ trapOk (stmts s ss) = true := by
  induction ss with
  | nil => intro s _ ht; exact ⟨rfl, ht⟩
  | cons c r ih =>
    intro s h ht
    simp only [List.all_cons, Bool.and_eq_true, Bool.not_eq_true'] at h
    simp only [stmts, stmt_nf s c h.1]
    exact ih _ (by simpa using h.2) (stmt_trapOk s c h.1 ht)

theorem trapCallback_nf (s : St) (ht : trapOk s = true) : trapCallback (nf s) = nf (trapCallback s) := by
  unfold trapCallback
  have e1 : (nf s).trap = s.trap := rfl
  have e2 : (nf s).handlingTrap = s.handlingTrap := rfl
  have e3 : enterTrap (nf s) = nf (enterTrap s) := rfl
  rw [e1, e2, e3, stmtsSimple_nf s.trap _ ht]
  split
  · rfl
  · split <;> rfl

theorem obs_nf (s : St) : (nf s).obs = s.obs := rfl

theorem fixLast_stmts_nf (name : String) (ss : List Stmt) (s : St)
    (h : ss.all (fun c => !usesArg0 c) = true) (ht : trapOk s = true) :
    fixLast (stmts (pro "" s) ss) = nf (fixLast (stmts (pro name s) ss))
      ∧ trapOk (fixLast (stmts (pro name s) ss)) = true :=
  let ⟨e, t⟩ := stmts_nf ss (pro name s) h ht
  ⟨congrArg fixLast e, t⟩

theorem runFile_nf (name : String) (ss : List Stmt) (s : St)
    (h : ss.all (fun c => !usesArg0 c) = true) (ht : trapOk s = true) :
    nf (runFile name ss s) = runFile "" ss s := by
  obtain ⟨e, t⟩ := fixLast_stmts_nf name ss s h ht
  rw [run_file_eq, run_file_eq, e, trapCallback_nf _ t]

theorem specIncr_nf (name : String) (ss : List Stmt) (s : St)
    (h : ss.all (fun c => !usesArg0 c) = true) (ht : trapOk s = true) :
    specIncr name ss s = specIncr "" ss s := by
  obtain ⟨e, t⟩ := fixLast_stmts_nf name ss s h ht
  simp only [specIncr, e, trapCallback_nf _ t]
  rw [← apply_ite nf, obs_nf]
  rfl

/-- a runner state as `New`/`Reset` leave it (`exit`, `lastExit`, `handlingTrap`, `filename` are
    classified `zeroed` in Expect/C30.lean, checked by `Props.C30.reset_fields`) -/
def Fresh (s : St) : Prop :=
  s.exit = .zero ∧ s.lastExit = .zero ∧ s.handlingTrap = false ∧ s.filename = ""

theorem fresh_inv {s0 : St} (h : Fresh s0) : Inv s0 ∧ s0.filename = "" ∧ pro "" s0 = s0 := by
  obtain ⟨h1, h2, h3, h4⟩ := h
  exact ⟨⟨h3, by rw [h1, h2], by rw [h1]; rfl, fun _ => h1⟩, h4, h4 ▸ pro_eq_of_zero h1⟩

end ShVerif.C30
