import ShVerif.Model.C23
/-
  C23 — `read`: line reading and REPLY against their specifications; the Go loop of ReadFields on
  a state of closed positions and an optional open field (`abs`), the part after the loop as a
  function of the closed positions (`finishM`, `cut`), index safety of ReadFields.
-/
namespace ShVerif.C23

theorem bareReplyLoop_cons (b : UInt8) (rest : Bytes) (esc : Bool) :
    bareReplyLoop (b :: rest) esc =
      if b == bsl && !esc then bareReplyLoop rest true else b :: bareReplyLoop rest false := by
  rw [bareReplyLoop]

theorem bareReplyLoop_false : ∀ l : Bytes, bareReplyLoop l false = specBareReply false l
  | [] => by simp [bareReplyLoop, specBareReply]
  | [b] => by
    by_cases h : b = bsl <;> simp [bareReplyLoop, specBareReply, h]
  | b :: c :: rest => by
    rw [bareReplyLoop_cons]
    by_cases h : b = bsl
    · rw [bareReplyLoop_cons]
      simp [specBareReply, h, bareReplyLoop_false rest]
    · simp [specBareReply, h, bareReplyLoop_false (c :: rest)]

theorem readLineLoop_cons (raw : Bool) (b : UInt8) (rest line : Bytes) (esc : Bool) :
    readLineLoop raw (b :: rest) line esc =
      if !raw && b == bsl then readLineLoop raw rest (line ++ [b]) (!esc)
      else if !raw && b == nl && esc then
        if line.length == 0 then .error "line[:len(line)-1]"
        else readLineLoop raw rest line.dropLast false
      else if b == nl then .ok ⟨line, rest, false⟩
      else readLineLoop raw rest (line ++ [b]) false := by
  rw [readLineLoop]

theorem readLineLoop_raw : ∀ (input acc : Bytes) (esc : Bool),
    readLineLoop true input acc esc =
      .ok { specReadLine true input with line := acc ++ (specReadLine true input).line }
  | [], acc, esc => by simp [readLineLoop, specReadLine]
  | b :: rest, acc, esc => by
    rw [readLineLoop_cons]
    by_cases h : b = nl
    · simp [specReadLine, h]
    · simp [specReadLine, h, readLineLoop_raw rest]

theorem bsl_ne_nl : bsl ≠ nl := by decide

theorem readLineLoop_cooked : ∀ (input acc : Bytes),
    readLineLoop false input acc false =
      .ok { specReadLine false input with line := acc ++ (specReadLine false input).line }
  | [], acc => by simp [readLineLoop, specReadLine]
  | [b], acc => by
    rw [readLineLoop_cons]
    by_cases h : b = nl
    · simp [specReadLine, h, bsl_ne_nl.symm]
    · by_cases h2 : b = bsl
      · simp [readLineLoop, specReadLine, h2, bsl_ne_nl]
      · simp [readLineLoop, specReadLine, h, h2]
  | b :: c :: rest, acc => by
    rw [readLineLoop_cons]
    by_cases h2 : b = bsl
    · subst h2
      rw [readLineLoop_cons]
      by_cases h3 : c = nl
      · subst h3
        simp [specReadLine, bsl_ne_nl.symm, readLineLoop_cooked rest]
      · by_cases h4 : c = bsl
        · subst h4
          simp [specReadLine, bsl_ne_nl, readLineLoop_cooked rest]
        · simp [specReadLine, h3, h4, readLineLoop_cooked rest]
    · by_cases h : b = nl
      · simp [specReadLine, h, bsl_ne_nl.symm]
      · simp [specReadLine, h, h2, readLineLoop_cooked (c :: rest)]

inductive Chain : Nat → Nat → List Pos → Prop
  | nil {lo hi : Nat} : lo ≤ hi → Chain lo hi []
  | cons {lo hi s e : Nat} {ps : List Pos} : lo ≤ s → s ≤ e → Chain e hi ps →
      Chain lo hi (⟨s, (e : Int)⟩ :: ps)

theorem Chain.le {lo hi ps} (h : Chain lo hi ps) : lo ≤ hi := by
  induction h with
  | nil h => exact h
  | cons h1 h2 _ ih => omega

theorem Chain.mono {lo hi hi' ps} (h : Chain lo hi ps) (hh : hi ≤ hi') : Chain lo hi' ps := by
  induction h with
  | nil h => exact .nil (by omega)
  | cons h1 h2 _ ih => exact .cons h1 h2 (ih hh)

theorem Chain.snoc {lo a e ps} (h : Chain lo a ps) (hae : a ≤ e) :
    Chain lo e (ps ++ [⟨a, (e : Int)⟩]) := by
  induction h with
  | nil h => exact .cons h hae (.nil (Nat.le_refl _))
  | cons h1 h2 _ ih => exact .cons h1 h2 (ih hae)

theorem setLastEnd_snoc (ps : List Pos) (p : Pos) (e : Int) :
    setLastEnd (ps ++ [p]) e = .ok (ps ++ [{ p with stop := e }]) := by
  induction ps with
  | nil => rfl
  | cons q qs ih =>
    cases qs with
    | nil => rfl
    | cons r rs => rw [List.cons_append, List.cons_append, setLastEnd, ← List.cons_append, ih]; rfl

/-- The Go state without its redundancy: the closed fields, the start of the open one (`infield`
    is `cur.isSome`, its `end` is still -1), the runes. -/
structure MSt where
  closed : List Pos
  cur : Option Nat
  runes : List Char

def curPos (e : Int) : Option Nat → List Pos
  | some a => [⟨a, e⟩]
  | none => []

def abs (ms : MSt) (esc : Bool) : St :=
  ⟨ms.closed ++ curPos (-1) ms.cur, ms.runes, ms.cur.isSome, esc⟩

/-- The `if infield {…} else {…}` statement at a rune that is (`true`) or is not an IFS rune. -/
def MSt.toggle (ms : MSt) : Bool → MSt
  | true => match ms.cur with
    | some a => ⟨ms.closed ++ [⟨a, (ms.runes.length : Int)⟩], none, ms.runes⟩
    | none => ms
  | false => match ms.cur with
    | some _ => ms
    | none => ⟨ms.closed, some ms.runes.length, ms.runes⟩

def MSt.add (ms : MSt) (c : Char) : MSt := { ms with runes := ms.runes ++ [c] }

theorem toggle_abs (ifs : List Char) (raw : Bool) (ms : MSt) (esc : Bool) (r : Char) :
    toggle ifs raw (abs ms esc) r =
      .ok (abs (if raw || !esc then ms.toggle (ifsRune ifs r) else ms) esc) := by
  obtain ⟨closed, cur, runes⟩ := ms
  unfold toggle abs
  dsimp only
  generalize (raw || !esc) = g
  cases cur <;> cases ifsRune ifs r <;> cases g <;>
    simp [curPos, MSt.toggle, setLastEnd_snoc]

theorem push_abs (raw : Bool) (ms : MSt) (esc : Bool) (r : Char) :
    push raw (abs ms esc) r =
      abs (if !(raw || esc) && r == '\\' then ms else ms.add r) (!esc && r == '\\') := by
  unfold push abs
  dsimp only
  generalize (raw || esc) = g
  by_cases hr : r = '\\' <;> cases g <;> simp [MSt.add, hr]

theorem push_fpos (raw : Bool) (st : St) (r : Char) :
    (push raw st r).fpos = st.fpos ∧ (push raw st r).infield = st.infield ∧
    st.runes.length ≤ (push raw st r).runes.length := by
  unfold push
  split
  · refine ⟨rfl, rfl, ?_⟩
    dsimp only
    split <;> simp
  · exact ⟨rfl, rfl, by simp⟩

theorem step_abs (ifs : List Char) (raw : Bool) (ms : MSt) (esc : Bool) (r : Char) :
    step ifs raw (abs ms esc) r = .ok (abs
      (let ms1 := if raw || !esc then ms.toggle (ifsRune ifs r) else ms
       if !(raw || esc) && r == '\\' then ms1 else ms1.add r) (!esc && r == '\\')) := by
  rw [step, toggle_abs]; simp only [push_abs]

/-- Closed fields are ordered and end before the open field starts (or before the end of the
    runes). -/
def MSt.WF (ms : MSt) : Prop :=
  Chain 0 (ms.cur.getD ms.runes.length) ms.closed ∧ ms.cur.getD ms.runes.length ≤ ms.runes.length

theorem MSt.WF.toggle {ms : MSt} (h : ms.WF) (b : Bool) : (ms.toggle b).WF := by
  obtain ⟨closed, cur, runes⟩ := ms
  cases b <;> cases cur
  · exact h
  · exact h
  · exact h
  · exact ⟨h.1.snoc h.2, Nat.le_refl _⟩

theorem MSt.WF.add {ms : MSt} (h : ms.WF) (c : Char) : (ms.add c).WF := by
  obtain ⟨closed, cur, runes⟩ := ms
  have hl : runes.length ≤ (runes ++ [c]).length := by simp
  cases cur
  · exact ⟨h.1.mono hl, Nat.le_refl _⟩
  · exact ⟨h.1, Nat.le_trans h.2 hl⟩

theorem step_wf (ifs : List Char) (raw : Bool) {ms : MSt} (h : ms.WF) (esc : Bool) (r : Char) :
    ∃ ms' esc', step ifs raw (abs ms esc) r = .ok (abs ms' esc') ∧ ms'.WF := by
  refine ⟨_, _, step_abs ifs raw ms esc r, ?_⟩
  have h1 : (if raw || !esc then ms.toggle (ifsRune ifs r) else ms).WF := by
    split
    · exact h.toggle _
    · exact h
  dsimp only
  split
  · exact h1
  · exact h1.add r

theorem loop_wf (ifs : List Char) (raw : Bool) : ∀ (line : List Char) (ms : MSt) (esc : Bool),
    ms.WF → ∃ ms' esc', loop ifs raw (abs ms esc) line = .ok (abs ms' esc') ∧ ms'.WF
  | [], ms, esc, h => ⟨ms, esc, rfl, h⟩
  | r :: rs, ms, esc, h => by
    obtain ⟨ms1, esc1, h1, h2⟩ := step_wf ifs raw h esc r
    rw [loop, h1]
    exact loop_wf ifs raw rs ms1 esc1 h2

/-- The positions after `if infield { fpos[len(fpos)-1].end = len(runes) }`. -/
def closeAll (ms : MSt) : List Pos := ms.closed ++ curPos ms.runes.length ms.cur

theorem MSt.WF.closeAll {ms : MSt} (h : ms.WF) : Chain 0 ms.runes.length (closeAll ms) := by
  obtain ⟨closed, cur, runes⟩ := ms
  cases cur
  · show Chain 0 runes.length (closed ++ [])
    rw [List.append_nil]; exact h.1
  · exact h.1.snoc h.2

def finishM (ifs : List Char) (n : Int) (P : List Pos) (R : List Char) : Except String (List (List Char)) :=
  finish ifs n ⟨P, R, false, false⟩

theorem finish_abs (ifs : List Char) (n : Int) (ms : MSt) (esc : Bool) :
    finish ifs n (abs ms esc) = finishM ifs n (closeAll ms) ms.runes := by
  obtain ⟨closed, cur, runes⟩ := ms
  cases cur with
  | none => rfl
  | some a =>
    have h := setLastEnd_snoc closed ⟨a, -1⟩ (runes.length : Int)
    cases closed with
    | nil => rfl
    | cons q qs =>
      unfold finishM finish abs closeAll
      simp only [curPos, List.cons_append, Option.isSome_some, if_true, Bool.false_eq_true,
        if_false] at h ⊢
      rw [h]

theorem readFields_of_loop {ifs line : List Char} {raw : Bool} {ms : MSt} {esc : Bool}
    (h : loop ifs raw (abs ⟨[], none, []⟩ false) line = .ok (abs ms esc)) (n : Int) :
    readFields ifs line n raw = finishM ifs n (closeAll ms) ms.runes := by
  rw [readFields, show St.init = abs ⟨[], none, []⟩ false from rfl, h]
  exact finish_abs ifs n ms esc

def lastStop (P : List Pos) : Int :=
  match lastPos P with
  | some p => p.stop
  | none => 0

theorem lastStop_cons (p q : Pos) (qs : List Pos) : lastStop (p :: q :: qs) = lastStop (q :: qs) := rfl

theorem lastPos_cons_some (p : Pos) : ∀ ps : List Pos, ∃ pl, lastPos (p :: ps) = some pl
  | [] => ⟨p, rfl⟩
  | q :: qs => lastPos_cons_some q qs

/-- `finish` on closed positions, `fpos[len(fpos)-1].end` read once. -/
theorem finishM_cons (ifs : List Char) (n : Int) (p0 : Pos) (ps : List Pos) (R : List Char) :
    finishM ifs n (p0 :: ps) R =
      if n == 1 then
        match loLoop ifs R p0.start p0.start 0, hiLoop ifs R (lastStop (p0 :: ps)) R.length with
        | .ok lo, .ok hi => sliceAll R [⟨lo, hi⟩]
        | .error m, _ => .error m
        | _, .error m => .error m
      else if n != -1 && n < (p0 :: ps).length then
        if n - 1 < 0 then .error "fpos[n-1]"
        else sliceAll R ((setEndAt (p0 :: ps) (n - 1).toNat (lastStop (p0 :: ps))).take n.toNat)
      else sliceAll R (p0 :: ps) := by
  obtain ⟨pl, h⟩ := lastPos_cons_some p0 ps
  unfold finishM finish lastStop
  simp only [Bool.false_eq_true, if_false, h]
  rfl

theorem finishM_neg (ifs : List Char) (P : List Pos) (R : List Char) :
    finishM ifs (-1) P R = sliceAll R P := by
  cases P with
  | nil => rfl
  | cons p ps => rw [finishM_cons]; rfl

/-- The positions ReadFields keeps for `k ≥ 1` names: `fpos[k-1].end = fpos[len(fpos)-1].end;
    fpos = fpos[:k]`. -/
def cut (k : Nat) (P : List Pos) : List Pos :=
  if k < P.length then (setEndAt P (k - 1) (lastStop P)).take k else P

theorem cut_one (p : Pos) (P : List Pos) : cut 1 (p :: P) = [⟨p.start, lastStop (p :: P)⟩] := by
  cases P <;> rfl

theorem cut_succ (k : Nat) (p : Pos) (P : List Pos) :
    cut (k + 2) (p :: P) = p :: cut (k + 1) P := by
  cases P with
  | nil => rfl
  | cons q qs =>
    unfold cut
    rw [lastStop_cons]
    by_cases h : k + 1 < (q :: qs).length
    · have h' : k + 2 < (p :: q :: qs).length := Nat.succ_lt_succ h
      rw [if_pos h, if_pos h']; rfl
    · have h' : ¬ k + 2 < (p :: q :: qs).length := fun h' => h (Nat.lt_of_succ_lt_succ h')
      rw [if_neg h, if_neg h']

theorem finishM_cut (ifs : List Char) (j : Nat) (P : List Pos) (R : List Char) :
    finishM ifs ((j + 2 : Nat) : Int) P R = sliceAll R (cut (j + 2) P) := by
  cases P with
  | nil => rfl
  | cons p ps =>
    have h1 : (((j + 2 : Nat) : Int) == 1) = false := rfl
    have h2 : (((j + 2 : Nat) : Int) != -1) = true := rfl
    have h3 : ((j + 2 : Nat) : Int) - 1 = ((j + 1 : Nat) : Int) := by omega
    rw [finishM_cons, cut, h1, h2, h3, if_neg Bool.false_ne_true, Bool.true_and,
      if_neg (Int.not_lt.mpr (Int.natCast_nonneg _)), Int.toNat_natCast, Int.toNat_natCast]
    simp only [decide_eq_true_eq, Int.ofNat_lt]
    split <;> rfl

theorem finishM_one (ifs : List Char) (p0 : Pos) (ps : List Pos) (R : List Char) {e lo hi : Nat}
    (he : lastStop (p0 :: ps) = (e : Int)) (hlo : loLoop ifs R p0.start p0.start 0 = .ok lo)
    (hhi : hiLoop ifs R (e : Int) R.length = .ok hi) :
    finishM ifs 1 (p0 :: ps) R = sliceAll R [⟨lo, (hi : Int)⟩] := by
  rw [finishM_cons, he, hlo, hhi]; rfl

theorem sliceRunes_ok (runes : List Char) (s e : Nat) (h1 : s ≤ e) (h2 : e ≤ runes.length) :
    sliceRunes runes ⟨s, (e : Int)⟩ = .ok ((runes.drop s).take (e - s)) := by
  unfold sliceRunes
  simp only [Int.not_lt.mpr (Int.natCast_nonneg e), Nat.not_lt.mpr h2, Nat.not_lt.mpr h1, if_false,
    Int.toNat_natCast]

theorem sliceAll_chain (runes : List Char) {lo hi : Nat} {ps : List Pos} (h : Chain lo hi ps)
    (hh : hi ≤ runes.length) : ∃ fs, sliceAll runes ps = .ok fs := by
  induction h with
  | nil _ => exact ⟨[], rfl⟩
  | @cons lo hi s e ps h1 h2 hc ih =>
    obtain ⟨fs, hfs⟩ := ih hh
    rw [sliceAll, sliceRunes_ok runes s e h2 (Nat.le_trans hc.le hh), hfs]
    exact ⟨_, rfl⟩

theorem Chain.lastStop {lo hi : Nat} {ps : List Pos} (h : Chain lo hi ps) : ∀ (s e : Nat), e ≤ lo →
    ∃ e' : Nat, lastStop (⟨s, (e : Int)⟩ :: ps) = (e' : Int) ∧ e ≤ e' ∧ e' ≤ hi := by
  induction h with
  | nil h => exact fun s e he => ⟨e, rfl, Nat.le_refl _, Nat.le_trans he h⟩
  | @cons lo hi s1 e1 ps h1 h2 _ ih =>
    intro s e he
    obtain ⟨e', h3, h4, h5⟩ := ih s1 e1 (Nat.le_refl _)
    exact ⟨e', h3, by omega, h5⟩

theorem Chain.cut {lo hi : Nat} {ps : List Pos} (h : Chain lo hi ps) :
    ∀ k, Chain lo hi (cut (k + 1) ps) := by
  induction h with
  | nil h => exact fun _ => .nil h
  | @cons lo hi s e ps h1 h2 hc ih =>
    intro k
    cases k with
    | zero =>
      obtain ⟨e', h3, h4, h5⟩ := hc.lastStop s e (Nat.le_refl _)
      rw [cut_one, h3]
      exact .cons h1 (Nat.le_trans h2 h4) (.nil h5)
    | succ k => rw [cut_succ]; exact .cons h1 h2 (ih k)

theorem loLoop_spec (ifs runes : List Char) (start : Nat) (hs : start ≤ runes.length) :
    ∀ (fuel lo : Nat), lo ≤ start → start ≤ fuel + lo →
      ∃ lo', loLoop ifs runes start fuel lo = .ok lo' ∧ lo' ≤ start ∧
        (lo' < start → ∃ r, runes[lo']? = some r ∧ ifsWhitespace ifs r = false)
  | 0, lo, h, hf =>
    ⟨lo, rfl, h, fun hlt =>
      absurd (Nat.lt_of_lt_of_le hlt hf) (by rw [Nat.zero_add]; exact Nat.lt_irrefl _)⟩
  | fuel + 1, lo, h, hf => by
    rw [loLoop]
    by_cases hlt : lo < start
    · obtain ⟨r, hr⟩ : ∃ r, runes[lo]? = some r :=
        ⟨_, List.getElem?_eq_getElem (Nat.lt_of_lt_of_le hlt hs)⟩
      rw [if_pos hlt, hr]; dsimp only
      cases hw : ifsWhitespace ifs r
      · exact ⟨lo, if_neg Bool.false_ne_true, h, fun _ => ⟨r, hr, hw⟩⟩
      · rw [if_pos rfl]
        exact loLoop_spec ifs runes start hs fuel (lo + 1) hlt (by omega)
    · exact ⟨lo, if_neg hlt, h, fun h' => absurd h' hlt⟩

theorem hiLoop_spec (ifs runes : List Char) (e : Nat) :
    ∀ (hi : Nat), hi ≤ runes.length → e ≤ hi →
      ∃ hi', hiLoop ifs runes (e : Int) hi = .ok hi' ∧ e ≤ hi' ∧ hi' ≤ hi ∧
        (e < hi' → ∃ r, runes[hi' - 1]? = some r ∧ ifsWhitespace ifs r = false)
  | 0, _, he => ⟨0, if_neg (Int.not_lt.mpr (Int.natCast_nonneg e)), he, Nat.le_refl _,
      fun h => absurd h (Nat.not_lt_zero e)⟩
  | hi + 1, hl, he => by
    rw [hiLoop]
    by_cases hgt : e < hi + 1
    · obtain ⟨r, hr⟩ : ∃ r, runes[hi]? = some r := ⟨_, List.getElem?_eq_getElem hl⟩
      rw [if_pos (Int.ofNat_lt.mpr hgt), hr]; dsimp only
      cases hw : ifsWhitespace ifs r
      · exact ⟨hi + 1, if_neg Bool.false_ne_true, he, Nat.le_refl _, fun _ => ⟨r, hr, hw⟩⟩
      · rw [if_pos rfl]
        obtain ⟨hi', h1, h2, h3, h4⟩ :=
          hiLoop_spec ifs runes e hi (Nat.le_of_succ_le hl) (Nat.le_of_lt_succ hgt)
        exact ⟨hi', h1, h2, Nat.le_succ_of_le h3, h4⟩
    · exact ⟨hi + 1, if_neg (fun h => hgt (Int.ofNat_lt.mp h)), he, Nat.le_refl _,
        fun h => absurd h hgt⟩

theorem finishM_safe (ifs : List Char) (n : Int) (hn : 1 ≤ n ∨ n = -1) {P : List Pos} {R : List Char}
    (h : Chain 0 R.length P) : ∃ fs, finishM ifs n P R = .ok fs := by
  rcases hn with hn | rfl
  · obtain ⟨k, rfl⟩ := Int.eq_ofNat_of_zero_le (Int.le_trans (by decide) hn)
    match k, hn with
    | 0, hn => exact absurd hn (by decide)
    | j + 2, _ =>
      rw [finishM_cut]
      exact sliceAll_chain R (h.cut (j + 1)) (Nat.le_refl _)
    | 1, _ =>
      cases h with
      | nil _ => exact ⟨[], rfl⟩
      | @cons _ _ s e ps h1 h2 hc =>
        obtain ⟨e', h3, h4, h5⟩ := hc.lastStop s e (Nat.le_refl _)
        have hs : s ≤ R.length := Nat.le_trans h2 (Nat.le_trans h4 h5)
        obtain ⟨lo, hlo, hlo1, _⟩ := loLoop_spec ifs R s hs s 0 (Nat.zero_le _) (Nat.le_refl _)
        obtain ⟨hi, hhi, hhi1, hhi2, _⟩ := hiLoop_spec ifs R e' R.length (Nat.le_refl _) h5
        have hlh : lo ≤ hi := Nat.le_trans hlo1 (Nat.le_trans h2 (Nat.le_trans h4 hhi1))
        rw [show ((1 : Nat) : Int) = 1 from rfl, finishM_one ifs _ ps R h3 hlo hhi, sliceAll,
          sliceRunes_ok R lo hi hlh hhi2]
        exact ⟨_, rfl⟩
  · rw [finishM_neg]
    exact sliceAll_chain R h (Nat.le_refl _)

end ShVerif.C23
