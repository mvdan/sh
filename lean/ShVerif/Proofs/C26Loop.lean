import ShVerif.Proofs.C26Cmd
/-
  C26 — simulation: loop bodies (`Runner.loopStmtsBroken` against `break n`/`continue n`
  completions), `while`/`until`, `for`, `case`.
-/
namespace ShVerif.C26
open ShVerif.L5 ShVerif.L5.Bash

/-- What `loopStmtsBroken` does when a statement of the body completed with `fl`. -/
def finishBody : Flow → St → St × Bool
  | .cont _, s1 =>
    ({ s1 with contnEnclosing := s1.contnEnclosing - 1 }, decide (s1.contnEnclosing - 1 > 0))
  | .brk _, s1 => ({ s1 with breakEnclosing := s1.breakEnclosing - 1 }, true)
  | _, s1 => (s1, false)

/-- Relation for loop bodies: the statement-level relation for the state `s1` *before*
    `loopStmtsBroken` decrements the counters; `G` holds after a normal completion. -/
def BodyPost (K : SCtx) (k : Ctx) (sub : Bool) (G : St → Prop) (s : St) (r : St × Bool) (fl : Flow)
    (e' : Env) : Prop :=
  ∃ s1, Post K k sub True False s s1 fl e' ∧ r = finishBody fl s1 ∧ (fl = .norm → G s1)

/-- `G` is a property of the state after the last statement of the body that the loop needs
    (`while`: the status is 0; `for`: the errexit test would not act on it).  `hG` derives it from
    what that statement did in `BashSem` and from its `Quiet` clause. -/
theorem sim_body (n : Nat) (hS : SimS n) (G : St → Prop) :
    ∀ (b : Prog) (K : SCtx) (k : Ctx) (sub : Bool) (s : St),
      Stat K k sub → supBody K b = true → Dyn K k sub s → LastOk s → NoFlags s → NoPending s →
      (b.isNil = true → s.lastExit = s.exit ∧ G s) →
      (∀ st, lastStmt b = some st → ∀ e0 s1, sem n k (.stmt st) e0 = some (.norm, absEnvC s1) →
        (tailOkS st = true → Quiet s1) → G s1) →
      Rel (BodyPost K k sub G s) (foldBody (runS n) b s) (seqList (semS n k) b (absEnv s))
  | .nil, K, k, sub, s, _, _, hd, _, hnf, hnp, hnil, _ => by
    obtain ⟨hle, hg⟩ := hnil rfl
    exact ⟨s, ⟨⟨(absEnvC_eq_absEnv hle).symm, hd, ⟨rfl, rfl, rfl⟩, fun _ => hle⟩, hnf, hnp, False.elim⟩,
      rfl, fun _ => hg⟩
  | .cons st rest, K, k, sub, s, hst, hsup, hd, hl, hnf, hnp, _, hG => by
    have hsup : (supStmt K st && supBody K rest) = true := hsup
    rw [Bool.and_eq_true] at hsup
    rw [foldBody_cons, seqList_cons]
    refine Rel.bind (hS K k sub st s hst hsup.1 hd hl hnf hnp).results fun s1 fl e1 hr ⟨_, hsem, hp⟩ => ?_
    have hn1 : 1 ≤ n := run_pos hr
    cases fl with
    | norm =>
      obtain ⟨l, h4, h5, h7⟩ := hp
      obtain rfl := l.env
      have hle := l.last trivial
      show Rel _ (if s1.contnEnclosing > 0 then _ else if s1.breakEnclosing > 0 then _ else _)
        (seqList (semS n k) rest (absEnvC s1))
      rw [if_neg (by rw [h5.2]; decide), if_neg (by rw [h5.1]; decide), absEnvC_eq_absEnv hle]
      refine (sim_body n hS G rest K k sub s1 hst hsup.2 l.dyn (LastOk_of_le hle h4) h4 h5 ?_ ?_).mono
        fun _ _ _ ⟨s2, hp2, hfin, hg⟩ => ⟨s2, hp2.frame_trans l.frame, hfin, hg⟩
      · intro hrn
        cases rest with
        | nil => exact ⟨hle, hG st rfl _ s1 hsem h7⟩
        | cons _ _ => cases hrn
      · cases rest with
        | nil => exact fun _ h => nomatch h
        | cons st2 r2 => exact hG
    | brk m =>
      show Rel _ (if s1.contnEnclosing > 0 then _ else if s1.breakEnclosing > 0 then _ else _) _
      rw [if_neg (by rw [hp.2.2.2.1]; decide), if_pos (by rw [hp.2.2.1]; have := hp.2.2.2.2.1.1; omega)]
      exact ⟨s1, hp.change_q (by simp), rfl, fun h => nomatch h⟩
    | cont m =>
      show Rel _ (if s1.contnEnclosing > 0 then _ else _) _
      rw [if_pos (by rw [hp.2.2.1]; have := hp.2.2.2.2.1.1; omega)]
      exact ⟨s1, hp.change_q (by simp), rfl, fun h => nomatch h⟩
    | ret | exit =>
      obtain ⟨hs, hnp1⟩ := hp.stopped rfl
      show Rel _ (if s1.contnEnclosing > 0 then _ else if s1.breakEnclosing > 0 then _ else _) _
      rw [if_neg (by rw [hnp1.2]; decide), if_neg (by rw [hnp1.1]; decide),
        foldBody_fixed _ s1 (fun st => run_stmt_stopped hn1 st s1 hs) hnp1.1 hnp1.2]
      exact ⟨s1, hp.change_q (by simp), rfl, fun h => nomatch h⟩

/-- One iteration, seen from the loop: it goes on (in a state where `G` holds), or it is left. -/
def IterPost (K : SCtx) (k : Ctx) (sub : Bool) (G : St → Prop) (s3 : St) (r : St × Bool) (fl : Flow)
    (e2 : Env) : Prop :=
  ((afterBody fl).1 = false ∧ r.2 = false ∧ Dyn K k sub r.1 ∧ Frame s3 r.1 ∧ NoFlags r.1 ∧
      NoPending r.1 ∧ e2 = absEnv r.1 ∧ r.1.lastExit = r.1.exit ∧ G r.1) ∨
  ((afterBody fl).1 = true ∧ Post K k sub False True s3 r.1 (afterBody fl).2 e2 ∧
      (r.2 = true ∨ stop r.1 = true))

section iter
variable {n : Nat} {K : SCtx} {k : Ctx} {sub : Bool}

/-- `hG0`: `G` holds after `continue` (status 0); `hGi`: it does not read `inLoop`. -/
theorem sim_iter (hS : SimS n) (G : St → Prop) (hG0 : ∀ s1, s1.exit.code = 0 → G s1)
    (hGi : ∀ s1 il, G s1 → G { s1 with inLoop := il }) (b : Prog)
    (s3 : St) (hst : Stat K k sub) (hb0 : b.isNil = false) (hsup : supBody (bodyK K) b = true)
    (hG : ∀ st, lastStmt b = some st → ∀ e0 s1,
      sem n { k with depth := k.depth + 1 } (.stmt st) e0 = some (.norm, absEnvC s1) →
      (tailOkS st = true → Quiet s1) → G s1)
    (hd : Dyn K k sub s3) (hl : LastOk s3) (hnf : NoFlags s3) (hnp : NoPending s3) :
    Rel (IterPost K k sub G s3) (loopStmtsBroken (runS n) b s3)
      (seqList (semS n { k with depth := k.depth + 1 }) b (absEnv s3)) := by
  rw [loopStmtsBroken_eq]
  refine Rel.bind_left (sim_body n hS G b (bodyK K) { k with depth := k.depth + 1 } sub
    { s3 with inLoop := true } hst.body hsup hd.body hl hnf hnp
    (fun h => nomatch hb0.symm.trans h) hG) fun r fl e2 _ ⟨s1, hp, hfin, hg⟩ => ?_
  subst hfin
  have live : ∀ {le : Prop} {x y : Int}, Live (bodyK K) { k with depth := k.depth + 1 } sub le
        { s3 with inLoop := true } s1 e2 →
      Live K k sub False s3
        { s1 with inLoop := s3.inLoop, breakEnclosing := x, contnEnclosing := y } e2 :=
    fun l => ⟨l.env, hd.unbody l.dyn _ _, ⟨l.frame.ne, rfl, l.frame.inf⟩, False.elim⟩
  cases fl with
  | norm =>
    obtain ⟨l, h4, h5, _⟩ := hp
    have hle : s1.lastExit = s1.exit := l.last trivial
    exact .inl ⟨rfl, rfl, (live l).dyn, (live l).frame, h4, h5,
      l.env.trans (absEnvC_eq_absEnv hle), hle, hGi _ _ (hg rfl)⟩
  | cont m =>
    obtain ⟨l, h4, hc, hbk, hlv, hz0⟩ := hp
    have hle : s1.lastExit = s1.exit := l.last trivial
    obtain ⟨m, rfl⟩ : ∃ m', m = m' + 1 := ⟨m - 1, (Nat.sub_add_cancel hlv.1).symm⟩
    cases m with
    | zero =>
      -- `continue 1`: the next iteration
      exact .inl ⟨rfl, by show decide (s1.contnEnclosing - 1 > 0) = false; rw [hc]; rfl,
        (live l).dyn, (live l).frame, h4, ⟨hbk, by show s1.contnEnclosing - 1 = 0; rw [hc]; rfl⟩,
        l.env.trans (absEnvC_eq_absEnv hle), hle, hG0 _ hz0⟩
    | succ m =>
      refine .inr ⟨rfl, ⟨live l, h4, ?_, hbk, hlv.pred, hz0⟩, .inl ?_⟩
      · show s1.contnEnclosing - 1 = ((m + 1 : Nat) : Int); rw [hc]; omega
      · show decide (s1.contnEnclosing - 1 > 0) = true; rw [hc]
        exact decide_eq_true (by omega)
  | brk m =>
    obtain ⟨l, h4, hbk, hc, hlv, hz0⟩ := hp
    obtain ⟨m, rfl⟩ : ∃ m', m = m' + 1 := ⟨m - 1, (Nat.sub_add_cancel hlv.1).symm⟩
    cases m with
    | zero =>
      exact .inr ⟨rfl, ⟨live l, h4, ⟨by show s1.breakEnclosing - 1 = 0; rw [hbk]; rfl, hc⟩,
        fun _ => quiet_of_zero hz0⟩, .inl rfl⟩
    | succ m =>
      refine .inr ⟨rfl, ⟨live l, h4, ?_, hc, hlv.pred, hz0⟩, .inl rfl⟩
      show s1.breakEnclosing - 1 = ((m + 1 : Nat) : Int); rw [hbk]; omega
  | ret =>
    obtain ⟨l, h5, hr', hfn, hex⟩ := hp
    exact .inr ⟨rfl, ⟨live (x := s1.breakEnclosing) (y := s1.contnEnclosing) l, h5, hr', hfn, hex⟩,
      .inr (stop_of_returning hr' l.dyn.ht)⟩
  | exit =>
    exact .inr ⟨rfl, ⟨hp.exiting, hp.returning, hp.status, hp.out, hp.trap, hp.csub, hp.ht, hp.cerr,
      hp.np, hp.vars⟩, .inr (stop_of_exiting hp.exiting hp.ht)⟩

end iter

/-- The `for !r.stop(ctx)` loop of `WhileClause` against the `loop` of `BashSem`. -/
def SimW (n : Nat) : Prop :=
  ∀ (K : SCtx) (k : Ctx) (sub : Bool) (u : Bool) (c b : Prog) (s : St),
    Stat K k sub → supCmd K (.whl u c b) = true → Dyn K k sub s → LastOk s → NoFlags s →
    NoPending s →
    Rel (Post K k sub False True s) (run n (.whl u c b) s) (sem n k (.loop u c b 0) (absEnv s))

theorem St.inLoop_roundtrip (s : St) :
    ({ { s with inLoop := true } with inLoop := s.inLoop } : St) = s := by
  cases s; rfl

theorem semEnd_norm_inv {n : Nat} {k : Ctx} {c : Cmd} {e0 e1 e2 : Env} {fl : Flow}
    (h : semEnd n k c e0 (fl, e1) = some (.norm, e2)) : fl = .norm := by
  unfold semEnd at h
  split at h
  · split at h
    · cases h
    · cases h
    · split at h <;> cases h
      rfl
  · cases h; rfl

theorem sem_zero_stmt {n : Nat} {k : Ctx} {c : Cmd} (hc : zeroCmd c = true) {e e1 : Env}
    (h : sem n k (.stmt (.mk false c)) e = some (.norm, e1)) : e1.status = 0 := by
  obtain ⟨m, rfl⟩ : ∃ m, n = m + 2 := ⟨n - 2, by have := sem_stmt_ge2 h; omega⟩
  rw [sem_stmt_pos] at h
  have key : ∀ fl e', sem (m+1) k (.cmd c) e = some (fl, e') → fl = .norm → e'.status = 0 := by
    intro fl e' h' hfl
    subst hfl
    cases c with
    | tru => cases h'; rfl
    | echo w => cases h'; rfl
    | assign x w => cases h'; rfl
    | setE on => cases h'; rfl
    | setPF on => cases h'; rfl
    | trapExit b => cases h'; rfl
    | fn f b => cases h'; rfl
    | brk m =>
      rw [sem_brk] at h'
      split at h'
      · cases h'; rfl
      · split at h' <;> cases h'
    | cont m =>
      rw [sem_cont] at h'
      split at h'
      · cases h'; rfl
      · split at h' <;> cases h'
    | _ => cases hc
  cases hr : sem (m+1) k (.cmd c) e with
  | none => rw [hr] at h; cases h
  | some r =>
    obtain ⟨fl, e'⟩ := r
    rw [hr] at h
    obtain rfl := semEnd_norm_inv h
    have h0 := key _ _ hr rfl
    rw [Option.bind_some, semEnd_zero _ h0] at h
    cases h; exact h0

theorem simW_step (n : Nat) (hS : SimS n) (hW : SimW n) : SimW (n+1) := by
  intro K k sub u c b s hst hs hd hl hnf hnp
  have hs' : (!c.isNil && supProg (condK K) false c && !b.isNil && supBody (bodyK K) b &&
      lastZero b) = true := hs
  simp only [Bool.and_eq_true, Bool.not_eq_eq_eq_not, Bool.not_true] at hs'
  obtain ⟨⟨⟨⟨hc0, hsc⟩, hb0⟩, hsb⟩, hlz⟩ := hs'
  rw [run_whl u c b (not_stop hnf), sem_loop]
  refine Rel.cond (sim_list n hS c (condK K) false { k with ign := true, depth := k.depth + 1 } sub
    { s with noErrExit := true } hc0 (hst.cond _ (Nat.le_succ _)) hsc (hd.cond _) hl hnf hnp) hd
    (fun fl _ h => by cases fl <;> first | rfl | cases h) (fun s1 hr hs1 hnp1 hcl => ?_)
    (fun s1 hr hd1 hf1 hle h4 h5 => ?_)
  · have hn1 := foldStmts_pos hc0 hr
    have hs3 : stop { s1 with noErrExit := s.noErrExit } = true := hs1
    show (if (s1.exit.ok == u) = true then _ else _) = _
    rw [hcl]
    split
    · rfl
    · rw [loopStmtsBroken_stopped hn1 b _ hs3 hnp1.1 hnp1.2]
      exact run_whl_stopped hn1 u c b _ hs3
  · show Rel _ (if (s1.exit.ok == u) = true then _ else _) (if (s1.exit.ok == u) = true then _ else _)
    rw [clear_of_noFlags h4.1 h4.2]
    have hd3 := hd.uncond hd1 {}
    have hf3 := hf1.uncond {}
    by_cases hstop : (s1.exit.ok == u) = true
    · rw [if_pos hstop, if_pos hstop]
      exact Post.zero hd3 hf3 rfl h5
    · rw [if_neg hstop, if_neg hstop, absEnvC_eq_absEnv hle]
      have hl1 : LastOk s1 := LastOk_of_le hle h4
      refine Rel.bind (sim_iter hS (fun s4 => s4.exit.code = 0) (fun _ h => h) (fun _ _ h => h) b
        { s1 with noErrExit := s.noErrExit, exit := {} } hst hb0 hsb ?_ hd3 hl1 ⟨rfl, rfl⟩ h5)
        fun r fl2 e2 _ hit => ?_
      · -- `lastZero` [finding C26-while-status]: the last statement of the body always returns 0
        intro st hst' e0 s2 hsem _
        obtain ⟨neg, c'⟩ := st
        have hlz : (!neg && zeroCmd c') = true := by
          have : lastZero b = true := hlz
          rw [lastZero, hst'] at this; exact this
        rw [Bool.and_eq_true] at hlz
        obtain rfl : neg = false := by simpa using hlz.1
        exact sem_zero_stmt hlz.2 hsem
      · obtain ⟨s4, br⟩ := r
        rcases hit with ⟨hab, hbr, hd4, hf4, hnf4, hnp4, he2, hle4, hz4⟩ | ⟨hab, hpo, hbs⟩
        · obtain rfl : br = false := hbr
          have hst2 : e2.status = 0 := by rw [he2]; show s4.lastExit.code = 0; rw [hle4]; exact hz4
          rw [loopEnd_go _ hab, hst2, he2]
          exact (hW K k sub u c b s4 hst hs hd4 (LastOk_of_le hle4 hnf4) hnf4 hnp4).mono
            fun _ _ _ h => h.frame_trans (hf3.trans hf4)
        · rw [loopEnd_leave _ hab]
          have hpo' := hpo.frame_trans hf3
          rcases hbs with hbs | hbs
          · obtain rfl : br = true := hbs
            exact hpo'
          · show Rel _ (if br = true then _ else _) _
            split
            · exact hpo'
            · exact (run_whl_stopped (foldStmts_pos hc0 hr) u c b s4 hbs).symm ▸ hpo'

section forcase
variable {n : Nat} {K : SCtx} {k : Ctx} {sub : Bool}

theorem sim_forLoop (hS : SimS n) (x : Str) (b : Prog) (hst : Stat K k sub) (hb0 : b.isNil = false)
    (hsb : supBody (bodyK K) b = true) :
    ∀ (items : List Str) (s : St), Dyn K k sub s → LastOk s → NoFlags s → NoPending s →
      (items = [] → s.lastExit = s.exit ∧ (tailOk b = true → Quiet s)) →
      Rel (Post K k sub False (tailOk b = true) s)
        (forLoop (runS n) x b items s)
        (forItems (semS n { k with depth := k.depth + 1 }) x b items (absEnv s))
  | [], s, hd, _, hnf, hnp, hle =>
    ⟨⟨(absEnvC_eq_absEnv (hle rfl).1).symm, hd, ⟨rfl, rfl, rfl⟩, False.elim⟩, hnf, hnp, (hle rfl).2⟩
  | it :: rest, s, hd, hl, hnf, hnp, _ => by
    rw [forLoop_cons _ _ _ _ _ _ (not_stop hnf), forItems_cons]
    refine Rel.bind (sim_iter hS (fun s4 => tailOk b = true → Quiet s4) (fun _ h _ => quiet_of_zero h)
      (fun _ _ h => h) b { s with vars := (x, it) :: s.vars } hst hb0 hsb ?_
      (hd.keeps ⟨⟨rfl, rfl, rfl⟩, rfl, rfl, rfl, rfl, rfl⟩) hl hnf hnp) fun r fl2 e2 _ hit => ?_
    · intro st hst' _ s2 _ h7 ht
      rw [tailOk, hst'] at ht
      exact h7 ht
    · obtain ⟨s4, br⟩ := r
      have hf1 : Frame s { s with vars := (x, it) :: s.vars } := ⟨rfl, rfl, rfl⟩
      rcases hit with ⟨hab, hbr, hd4, hf4, hnf4, hnp4, he2, hle4, hq4⟩ | ⟨hab, hpo, hbs⟩
      · obtain rfl : br = false := hbr
        rw [loopEnd_go _ hab, he2]
        exact (sim_forLoop hS x b hst hb0 hsb rest s4 hd4 (LastOk_of_le hle4 hnf4) hnf4 hnp4
          fun _ => ⟨hle4, hq4⟩).mono fun _ _ _ h => h.frame_trans (hf1.trans hf4)
      · rw [loopEnd_leave _ hab]
        have hpo' := (hpo.frame_trans hf1).mono_q (q' := tailOk b = true) fun _ => trivial
        show Rel _ (if br = true then _ else _) _
        split
        next => exact hpo'
        next hbr =>
          rw [forLoop_stopped _ x b rest s4 (hbs.resolve_left hbr)]
          exact hpo'

/-- `s0`: the state the `case` command started from.  While no non-empty clause has run
    (`ne = false`) the runner has not touched `exit`, and `BashSem` ends with status 0 (`caseDone`);
    after one (`ne = true`: only behind `;&`/`;;&`, `chain`) its status is in `lastExit = exit`. -/
theorem sim_caseLoop (hS : SimS n) (str : Str) (hst : Stat K k sub) (s0 : St) :
    ∀ (items : Items) (chain rn ne : Bool) (s : St),
      supItems K chain items = true → Dyn K k sub s → LastOk s → NoFlags s → NoPending s →
      Frame s0 s → (ne = true → chain = true ∧ s.lastExit = s.exit) → (ne = false → s.exit = {}) →
      Quiet s →
      Rel (Post K k sub False True s0)
        (caseLoop (runS n) str rn items s)
        (caseItems (semS n k) str rn ne items (absEnv s))
  | .nil, chain, rn, ne, s, _, hd, _, hnf, hnp, hfr, hne1, hne0, hq => by
    refine ⟨⟨?_, hd, hfr, False.elim⟩, hnf, hnp, fun _ => hq⟩
    cases ne with
    | true => exact (absEnvC_eq_absEnv (hne1 rfl).2).symm
    | false => simp only [caseDone, absEnv, absEnvC, hne0 rfl, Bool.false_eq_true, ↓reduceIte]
  | .cons pats body op rest, chain, rn, ne, s, hsup, hd, hl, hnf, hnp, hfr, hne1, hne0, hq => by
    have hsup : (!(chain && body.isNil) && (match (generalizing := false) op with
        | .brk => supProg K true body && supItems K chain rest
        | _ => supProg { K with tl := headFalse K.tl } true body && supItems K true rest)) = true :=
      hsup
    rw [Bool.and_eq_true] at hsup
    obtain ⟨hnil, hsup⟩ := hsup
    rw [caseLoop_cons, caseItems_cons, ← Bool.not_or]
    cases hsel : (rn || pats.any (patMatches str)) with
    | true =>
      rw [if_neg (by decide), if_pos (by decide)]
      cases hb : body.isNil with
      | true =>
        -- an empty clause: nothing runs; it cannot follow `;&`/`;;&`, so no status is pending
        obtain rfl : body = .nil := by cases body <;> first | rfl | cases hb
        obtain rfl : chain = false := by cases chain <;> first | rfl | cases hnil
        obtain rfl : ne = false := by cases ne <;> first | rfl | exact nomatch (hne1 rfl).1
        have hx0 := hne0 rfl
        cases op with
        | brk =>
          refine ⟨⟨?_, hd, hfr, False.elim⟩, hnf, hnp, fun _ => hq⟩
          simp only [caseDone, absEnv, absEnvC, hx0, Bool.not_true, Bool.false_eq_true, ↓reduceIte]
        | _ =>
          rw [Bool.and_eq_true] at hsup
          exact sim_caseLoop hS str hst s0 rest true _ false s hsup.2 hd hl hnf hnp hfr
            (fun h => nomatch h) (fun _ => hx0) hq
      | false =>
        cases op with
        | brk =>
          rw [Bool.and_eq_true] at hsup
          refine Rel.bind (sim_list n hS body K true k sub s hb hst hsup.1 hd hl hnf hnp)
            fun s1 fl e1 _ hp => ?_
          have hp' : Post K k sub False True s0 s1 fl e1 :=
            (hp.frame_trans hfr).weaken fun _ => rfl
          -- `Res.next` (and, after a normal completion, `caseDone true`) reduces once `fl` is known
          cases fl <;> exact hp'
        | _ =>
          rw [Bool.and_eq_true] at hsup
          refine Rel.bind (sim_list n hS body { K with tl := headFalse K.tl } true k sub s hb hst.toHF
            hsup.1 hd.toHF hl hnf hnp) fun s1 fl e1 hr hp => ?_
          obtain ⟨hpK, hfl⟩ := hp.ofHF
          rcases hfl with rfl | hfl
          · obtain ⟨l, h4, h5, h7⟩ := hpK
            obtain rfl := l.env
            have hle := l.last trivial
            show Rel _ _ (caseItems _ _ _ true rest (absEnvC s1))
            rw [absEnvC_eq_absEnv hle]
            exact sim_caseLoop hS str hst s0 rest true _ true s1 hsup.2 l.dyn (LastOk_of_le hle h4)
              h4 h5 (hfr.trans l.frame) (fun _ => ⟨rfl, hle⟩) (fun h => nomatch h) (h7 rfl)
          · show Rel _ (caseLoop _ _ _ rest s1) _
            rw [Res.next_stops _ hfl, caseLoop_stopped (foldStmts_pos hb hr) str rest _ s1
              (hpK.stopped hfl).1]
            exact (hpK.frame_trans hfr).weaken fun _ => rfl
    | false =>
      rw [if_pos (by decide), if_neg (by decide)]
      obtain rfl : rn = false := (Bool.or_eq_false_iff.1 hsel).1
      cases op with
      | brk =>
        rw [Bool.and_eq_true] at hsup
        exact sim_caseLoop hS str hst s0 rest chain false ne s hsup.2 hd hl hnf hnp hfr hne1 hne0 hq
      | _ =>
        rw [Bool.and_eq_true] at hsup
        exact sim_caseLoop hS str hst s0 rest true false ne s hsup.2 hd hl hnf hnp hfr
          (fun h' => ⟨rfl, (hne1 h').2⟩) hne0 hq

end forcase

end ShVerif.C26
