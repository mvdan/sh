/-
  L4 printer lemmas: a running summary of the pieces written so far (last piece, tokens, whether
  the last token was a newline, whether no two pieces glue), how each printer primitive changes
  it, up to simple commands; and the summaries `CmdOut`/`StmtOut` of commands without subshells
  and blocks.  The induction over the tree is in `Proofs/L4PrintGen.lean`.
-/
import ShVerif.Proofs.L4Parse
import ShVerif.Proofs.L4PrintEq
namespace ShVerif.L4

/-! ## Summaries of piece lists, computed left to right -/

def Piece.first? (p : Piece) : Option UInt8 := p.bytes.head?

/-- tokens a piece contributes, given whether the previous token was a newline -/
def pieceToks (sk : Bool) : Piece → List ATok
  | .word parts => [.word (mergeN (parts.map WordPart.erase))]
  | .op b => match opTok b with | some t => [t] | none => []
  | .gap b => match gapKind b with
    | some .newline => if sk then [] else [.newl]
    | _ => []

def pieceSk (sk : Bool) : Piece → Bool
  | .word _ => false
  | .op _ => false
  | .gap b => match gapKind b with
    | some .newline => true
    | _ => sk

structure Sum where
  last : Option Piece := none
  sk : Bool := false
  toks : List ATok := []
  ok : Bool := true

def Sum.step (a : Sum) (q : Piece) : Sum :=
  { last := some q
    sk := pieceSk a.sk q
    toks := a.toks ++ pieceToks a.sk q
    ok := a.ok && q.shapeOK && (match a.last with
      | none => true
      | some l => followOK l q.first?) }

def summarize (a : Sum) (ps : List Piece) : Sum := ps.foldl Sum.step a

theorem summarize_append (a : Sum) (ps qs : List Piece) : summarize a (ps ++ qs) = summarize (summarize a ps) qs := by
  simp [summarize, List.foldl_append]

/-- a piece of a printer shape has at least one byte -/
theorem Piece.shapeOK_first {q : Piece} (h : q.shapeOK = true) : ∃ b t, q.bytes = b :: t := by
  cases q with
  | word parts =>
    simp only [Piece.shapeOK, Bool.and_eq_true, Bool.not_eq_true', List.isEmpty_eq_false_iff, List.all_eq_true] at h
    obtain ⟨b, t, hb, _⟩ := wordBytes_head parts h.1 h.2
    exact ⟨b, t, hb⟩
  | op b =>
    cases b with
    | nil => simp [Piece.shapeOK, opTok] at h
    | cons x t => exact ⟨x, t, rfl⟩
  | gap b =>
    cases b with
    | nil => simp [Piece.shapeOK, gapKind] at h
    | cons x t => exact ⟨x, t, rfl⟩

theorem render_cons_head {q : Piece} (h : q.shapeOK = true) (rest : List Piece) :
    (render (q :: rest)).head? = q.first? := by
  obtain ⟨b, t, hb⟩ := Piece.shapeOK_first h
  simp [render, Piece.first?, hb]

theorem expect_cons (sk : Bool) (q : Piece) (rest : List Piece) :
    expect sk (q :: rest) = pieceToks sk q ++ expect (pieceSk sk q) rest := by
  cases q with
  | word parts => rfl
  | op b => rfl
  | gap b =>
    simp only [pieceToks, pieceSk, expect]
    cases hg : gapKind b with
    | none => rfl
    | some k => cases k <;> cases sk <;> rfl

/-- `lexChain` and `expect` from the summary: generalised over the pieces already seen -/
theorem lexChain_expect_of_sum : ∀ (ps : List Piece) (a : Sum) (l : Piece),
    a.last = some l → (summarize a ps).ok = true →
    (match (summarize a ps).last with | some z => followOK z none | none => true) = true →
    a.ok = true ∧ followOK l (render ps).head? = true ∧ lexChain ps = true ∧
      (summarize a ps).toks ++ [ATok.eof] = a.toks ++ expect a.sk ps := by
  intro ps
  induction ps with
  | nil =>
    intro a l hl hok hlast
    simp only [summarize, List.foldl_nil, hl] at hok hlast
    simp [summarize, render, lexChain, expect, hok, hlast]
  | cons q rest ih =>
    intro a l hl hok hlast
    have hstep : summarize a (q :: rest) = summarize (a.step q) rest := rfl
    rw [hstep] at hok hlast
    obtain ⟨h1, h2, h3, h4⟩ := ih (a.step q) q rfl hok hlast
    simp only [Sum.step, hl, Bool.and_eq_true] at h1
    obtain ⟨⟨ha, hq⟩, hf⟩ := h1
    refine ⟨ha, ?_, ?_, ?_⟩
    · rw [render_cons_head hq]; exact hf
    · simp only [lexChain, hq, h2, h3, Bool.and_self]
    · rw [hstep, h4, expect_cons]
      simp only [Sum.step, List.append_assoc]

/-- the whole output: from the empty summary -/
theorem lexChain_expect_init (ps : List Piece) (hok : (summarize {} ps).ok = true)
    (hlast : (match (summarize {} ps).last with | some z => followOK z none | none => true) = true) :
    lexChain ps = true ∧ expect false ps = (summarize {} ps).toks ++ [ATok.eof] := by
  cases ps with
  | nil => simp [lexChain, expect, summarize]
  | cons q rest =>
    have hstep : summarize {} (q :: rest) = summarize (Sum.step {} q) rest := rfl
    rw [hstep] at hok hlast ⊢
    obtain ⟨h1, h2, h3, h4⟩ := lexChain_expect_of_sum rest (Sum.step {} q) q rfl hok hlast
    simp only [Sum.step, Bool.true_and, Bool.and_true] at h1
    refine ⟨by simp only [lexChain, h1, h2, h3, Bool.and_self], ?_⟩
    rw [h4, expect_cons]
    rfl

/-! ## The summary of the printer state -/

def P.sum (p : P) : Sum := summarize {} p.out.reverse

theorem P.sum_push (p : P) (q : Piece) (p' : P) (h : p'.out = q :: p.out) : p'.sum = p.sum.step q := by
  simp [P.sum, h, summarize, List.foldl_append]

theorem P.sum_same (p p' : P) (h : p'.out = p.out) : p'.sum = p.sum := by
  simp [P.sum, h]

/-- pieces after which a word, `!` or an escaped newline must not follow directly -/
def needsGap : Piece → Bool
  | .word _ => true
  | .gap _ => false
  | .op b => b == [123] || b == [125] || b == [33] || b == [38]

/-- what may follow an operator piece, by cases on the operator: what each one forbids -/
theorem followOK_op (b : Bytes) (c : UInt8)
    (h59 : b = [59] → (c != 59 && c != 38 && c != 124) = true)
    (h38 : b = [38] → (c != 38 && c != 62 && c != 124 && c != 33) = true)
    (h124 : b = [124] → (c != 124 && c != 38) = true)
    (h40 : b = [40] → (c != 40 && c != 41) = true)
    (hw : b = [123] ∨ b = [125] ∨ b = [33] → isDelim c = true) : followOK (.op b) (some c) = true := by
  show (if b = [59] then _ else if b = [38] then _ else if b = [124] then _ else if b = [40] then _
    else if b = [123] ∨ b = [125] ∨ b = [33] then _ else true) = true
  by_cases e1 : b = [59]
  · rw [if_pos e1]; exact h59 e1
  by_cases e2 : b = [38]
  · rw [if_neg e1, if_pos e2]; exact h38 e2
  by_cases e3 : b = [124]
  · rw [if_neg e1, if_neg e2, if_pos e3]; exact h124 e3
  by_cases e4 : b = [40]
  · rw [if_neg e1, if_neg e2, if_neg e3, if_pos e4]; exact h40 e4
  rw [if_neg e1, if_neg e2, if_neg e3, if_neg e4]
  by_cases e5 : b = [123] ∨ b = [125] ∨ b = [33]
  · rw [if_pos e5]; exact hw e5
  · rw [if_neg e5]

theorem followOK_blank (l : Piece) (c : UInt8) (hc : c = 32 ∨ c = 10 ∨ c = 9) : followOK l (some c) = true := by
  rcases hc with rfl | rfl | rfl <;> cases l <;>
    first
    | rfl
    | exact followOK_op _ _ (fun _ => rfl) (fun _ => rfl) (fun _ => rfl) (fun _ => rfl) (fun _ => rfl)

/-- after a piece that needs no gap, a word byte, `!`, `{` or a backslash may follow directly -/
theorem followOK_free (l : Piece) (c : UInt8) (hl : needsGap l = false)
    (hc : c = 92 ∨ c = 33 ∨ c = 39 ∨ c = 123 ∨ isSafe c = true) : followOK l (some c) = true := by
  cases l with
  | word _ => simp [needsGap] at hl
  | gap _ => rfl
  | op b =>
    simp only [needsGap, Bool.or_eq_false_iff, beq_eq_false_iff_ne, ne_eq] at hl
    obtain ⟨⟨⟨h1, h2⟩, h3⟩, h4⟩ := hl
    have key : (c != 59 && c != 38 && c != 124) = true ∧ (c != 124 && c != 38) = true ∧ (c != 40 && c != 41) = true := by
      rcases hc with rfl | rfl | rfl | rfl | hs
      · decide
      · decide
      · decide
      · decide
      · obtain ⟨_, _, _, _, _, _, f59, f38, f124, f40, f41, _⟩ := safe_facts c hs
        simp [bne, f59, f38, f124, f40, f41]
    exact followOK_op b c (fun _ => key.1) (fun e => absurd e h4) (fun _ => key.2.1) (fun _ => key.2.2)
      (fun e => by rcases e with e | e | e <;> contradiction)


/-! ## One more piece -/

/-- the step of a piece whose first byte `c` may follow what was written last -/
theorem Sum.step_eq (a : Sum) (q : Piece) (c : UInt8) (hs : q.shapeOK = true) (hc : q.first? = some c)
    (hf : ∀ l, a.last = some l → followOK l (some c) = true) :
    a.step q = { last := some q, sk := pieceSk a.sk q, toks := a.toks ++ pieceToks a.sk q, ok := a.ok } := by
  unfold Sum.step
  rw [hs, hc]
  cases hl : a.last with
  | none => simp
  | some l => simp [hf l hl]

/-- an operator or reserved word `b` with token `t` -/
theorem Sum.step_op (a : Sum) (b : Bytes) (t : ATok) (c : UInt8) (r : Bytes) (hb : b = c :: r) (ht : opTok b = some t)
    (hf : ∀ l, a.last = some l → followOK l (some c) = true) :
    a.step (.op b) = { last := some (.op b), sk := false, toks := a.toks ++ [t], ok := a.ok } := by
  rw [a.step_eq (.op b) c (by simp [Piece.shapeOK, ht]) (by simp [Piece.first?, Piece.bytes, hb]) hf]
  simp only [pieceSk, pieceToks, ht]

theorem gapKind_replicate (n : Nat) (c : UInt8) (hn : n ≠ 0) (hc : c = 32 ∨ c = 9) :
    gapKind (List.replicate n c) = some .blanks := by
  cases n with
  | zero => exact absurd rfl hn
  | succ m => rcases hc with rfl | rfl <;> simp [gapKind, List.replicate_succ]

/-- a run of blanks or tabs -/
theorem step_blanks (a : Sum) (n : Nat) (c : UInt8) (hn : n ≠ 0) (hc : c = 32 ∨ c = 9) :
    a.step (.gap (List.replicate n c)) =
      { last := some (.gap (List.replicate n c)), sk := a.sk, toks := a.toks, ok := a.ok } := by
  have hk := gapKind_replicate n c hn hc
  have hfirst : (Piece.gap (List.replicate n c)).first? = some c := by
    cases n with
    | zero => exact absurd rfl hn
    | succ m => simp [Piece.first?, Piece.bytes, List.replicate_succ]
  rw [a.step_eq _ c (by simp [Piece.shapeOK, hk]) hfirst
    (fun l _ => followOK_blank l c (by rcases hc with h | h <;> simp [h]))]
  simp only [pieceSk, pieceToks, hk, List.append_nil]

theorem step_space (a : Sum) : a.step (.gap [32]) = { last := some (.gap [32]), sk := a.sk, toks := a.toks, ok := a.ok } :=
  step_blanks a 1 32 (by decide) (Or.inl rfl)

theorem step_nl (a : Sum) : a.step (.gap [10]) =
    { last := some (.gap [10]), sk := true, toks := a.toks ++ (if a.sk then [] else [.newl]), ok := a.ok } :=
  a.step_eq (.gap [10]) 10 rfl rfl (fun l _ => followOK_blank l 10 (Or.inr (Or.inl rfl)))

theorem step_bsnl (a : Sum) (h : ∀ l, a.last = some l → needsGap l = false) :
    a.step (.gap [92, 10]) = { last := some (.gap [92, 10]), sk := a.sk, toks := a.toks, ok := a.ok } := by
  rw [a.step_eq (.gap [92, 10]) 92 rfl rfl (fun l hl => followOK_free l 92 (h l hl) (Or.inl rfl))]
  simp [pieceSk, pieceToks, gapKind]

theorem step_word (a : Sum) (parts : List WordPart) (hne : parts ≠ []) (hw : ∀ p ∈ parts, p.wf = true)
    (h : ∀ l, a.last = some l → needsGap l = false) :
    a.step (.word parts) =
      { last := some (.word parts), sk := false, toks := a.toks ++ [.word (mergeN (parts.map WordPart.erase))], ok := a.ok } := by
  obtain ⟨b, t, hb, hsafe⟩ := wordBytes_head parts hne hw
  have hshape : (Piece.word parts).shapeOK = true := by
    simp only [Piece.shapeOK, Bool.and_eq_true, Bool.not_eq_true', List.isEmpty_eq_false_iff, List.all_eq_true]
    exact ⟨hne, hw⟩
  exact a.step_eq (.word parts) b hshape (by simp [Piece.first?, Piece.bytes, hb])
    (fun l hl => followOK_free l b (h l hl) (by rcases hsafe with e | e <;> simp [e]))

/-- `;` or `&` directly after a word, after a blank, or after `}` / `)` -/
theorem step_term (a : Sum) (b : Bytes) (hb : b = [59] ∨ b = [38])
    (h : ∀ l, a.last = some l → (match l with | .op x => x ≠ [59] ∧ x ≠ [38] ∧ x ≠ [124] ∧ x ≠ [40] | _ => True)) :
    a.step (.op b) =
      { last := some (.op b), sk := false, toks := a.toks ++ [if b = [59] then ATok.semi else ATok.amp], ok := a.ok } := by
  have key : ∀ (c : UInt8), isDelim c = true → ∀ l, a.last = some l → followOK l (some c) = true := by
    intro c hc l hl
    have hx := h l hl
    cases l with
    | word _ => exact hc
    | gap _ => rfl
    | op x =>
      exact followOK_op x c (fun e => absurd e hx.1) (fun e => absurd e hx.2.1) (fun e => absurd e hx.2.2.1)
        (fun e => absurd e hx.2.2.2) (fun _ => hc)
  rcases hb with rfl | rfl
  · exact a.step_op [59] .semi 59 [] rfl rfl (key 59 rfl)
  · exact a.step_op [38] .amp 38 [] rfl rfl (key 38 rfl)

/-- `!` after something that needs no gap -/
theorem step_bang (a : Sum) (h : ∀ l, a.last = some l → needsGap l = false) :
    a.step (.op [33]) = { last := some (.op [33]), sk := false, toks := a.toks ++ [.bang], ok := a.ok } :=
  a.step_op [33] .bang 33 [] rfl rfl (fun l hl => followOK_free l 33 (h l hl) (Or.inr (Or.inl rfl)))


/-! ## The printer primitives on the summary -/

/-- no two pieces glue so far, and whatever needs a gap before a word is recorded in `wantSpace` -/
structure W (p : P) : Prop where
  ok : p.sum.ok = true
  gap : ∀ l, p.sum.last = some l → needsGap l = true → p.wantSpace = .required

theorem W.free {p : P} (h : W p) (hw : p.wantSpace ≠ .required) : ∀ l, p.sum.last = some l → needsGap l = false := by
  intro l hl
  cases hn : needsGap l with
  | false => rfl
  | true => exact absurd (h.gap l hl hn) hw

/-- `W` after one more piece `x`, given its summary step; a piece that needs a gap leaves `wantSpace` required -/
theorem W.push {p p' : P} {x : Piece} {sk : Bool} {ts : List ATok} (hok : p.sum.ok = true) (hout : p'.out = x :: p.out)
    (hst : p.sum.step x = { last := some x, sk := sk, toks := ts, ok := p.sum.ok })
    (hg : needsGap x = true → p'.wantSpace = .required) : W p' := by
  have hsum := (P.sum_push p x p' hout).trans hst
  refine ⟨by rw [hsum]; exact hok, fun l hl hn => ?_⟩
  rw [hsum] at hl
  cases hl
  exact hg hn

theorem Flds.sum {p q : P} (h : Flds p q) : q.sum = p.sum := P.sum_same _ _ h.out
theorem Flds.w {p q : P} (h : Flds p q) (hw : W p) : W q :=
  ⟨by rw [h.sum]; exact hw.ok, by rw [h.sum, h.ws]; exact hw.gap⟩

/-- fields no flat-printing step changes, except where stated -/
structure Same (p p' : P) : Prop where
  o : p'.o = p.o
  must : p'.mustNewline = p.mustNewline
  first : p'.firstLine = p.firstLine
  wnl : p'.wantNewline = p.wantNewline
  wsemi : p'.wroteSemi = p.wroteSemi

theorem Same.refl (p : P) : Same p p := ⟨rfl, rfl, rfl, rfl, rfl⟩
theorem Same.trans {a b c : P} (h1 : Same a b) (h2 : Same b c) : Same a c :=
  ⟨h2.o.trans h1.o, h2.must.trans h1.must, h2.first.trans h1.first, h2.wnl.trans h1.wnl, h2.wsemi.trans h1.wsemi⟩

/-- a step that writes layout only: no token, same newline state -/
structure Quiet (p p' : P) : Prop where
  same : Same p p'
  toks : p'.sum.toks = p.sum.toks
  sk : p'.sum.sk = p.sum.sk
  w : W p'
  last : p'.sum.last = p.sum.last ∨ ∃ g, p'.sum.last = some (.gap g)

theorem Quiet.trans {a b c : P} (h1 : Quiet a b) (h2 : Quiet b c) : Quiet a c :=
  ⟨h1.same.trans h2.same, h2.toks.trans h1.toks, h2.sk.trans h1.sk, h2.w, by
    rcases h2.last with h | h
    · rcases h1.last with h' | h'
      · exact Or.inl (h.trans h')
      · exact Or.inr (by obtain ⟨g, hg⟩ := h'; exact ⟨g, h.trans hg⟩)
    · exact Or.inr h⟩

theorem Quiet.rfl' {p : P} (hw : W p) : Quiet p p := ⟨Same.refl p, rfl, rfl, hw, Or.inl rfl⟩

theorem Quiet.of_out {p p' : P} (hw : W p) (hout : p'.out = p.out) (hs : Same p p') (hws : p'.wantSpace = p.wantSpace) :
    Quiet p p' := by
  have hsum := P.sum_same p p' hout
  exact ⟨hs, by rw [hsum], by rw [hsum], ⟨by rw [hsum]; exact hw.ok, by rw [hsum, hws]; exact hw.gap⟩, Or.inl (by rw [hsum])⟩

/-- writing one piece of layout `g`, given its summary step -/
theorem Quiet.gap {p p' : P} {g : Bytes} (hw : W p) (hout : p'.out = .gap g :: p.out) (hs : Same p p')
    (hst : p.sum.step (.gap g) = { last := some (.gap g), sk := p.sum.sk, toks := p.sum.toks, ok := p.sum.ok }) :
    Quiet p p' := by
  have hsum := (P.sum_push p _ p' hout).trans hst
  exact ⟨hs, by rw [hsum], by rw [hsum], W.push hw.ok hout hst (fun h => by cases h), Or.inr ⟨g, by rw [hsum]⟩⟩

theorem Quiet.space {p : P} (hw : W p) : Quiet p p.space ∧ p.space.wantSpace = .written :=
  ⟨Quiet.gap hw rfl ⟨rfl, rfl, rfl, rfl, rfl⟩ (step_space _), rfl⟩

theorem Quiet.spacePad {p : P} (hw : W p) : Quiet p p.spacePad ∧ p.spacePad.wantSpace ≠ .required := by
  unfold P.spacePad
  split
  · exact ⟨(Quiet.space hw).1, by simp⟩
  · rename_i h
    exact ⟨Quiet.rfl' hw, h⟩

theorem Quiet.advanceLine {p : P} (hw : W p) (l : Nat) : Quiet p (p.advanceLine l) :=
  Quiet.of_out hw rfl ⟨rfl, rfl, rfl, rfl, rfl⟩ rfl

theorem Quiet.setNested {p : P} (hw : W p) (b : Bool) : Quiet p { p with nestedBinary := b } :=
  Quiet.of_out hw rfl ⟨rfl, rfl, rfl, rfl, rfl⟩ rfl

theorem Quiet.indent {p : P} (hw : W p) : Quiet p p.indent ∧ p.indent.wantSpace = p.wantSpace := by
  unfold P.indent
  split
  · exact ⟨Quiet.rfl' hw, rfl⟩
  · dsimp only
    split
    · exact ⟨Quiet.of_out hw rfl ⟨rfl, rfl, rfl, rfl, rfl⟩ rfl, rfl⟩
    · rename_i hlev
      have hmk : ∀ (n : Nat) (c : UInt8), n ≠ 0 → (c = 32 ∨ c = 9) →
          Quiet p (P.gapw { p with lastLevel := p.level } (List.replicate n c)) ∧
            (P.gapw { p with lastLevel := p.level } (List.replicate n c)).wantSpace = p.wantSpace :=
        fun n c hn hc => ⟨Quiet.gap hw rfl ⟨rfl, rfl, rfl, rfl, rfl⟩ (step_blanks _ n c hn hc), rfl⟩
      split
      · exact hmk p.level 9 hlev (Or.inr rfl)
      · rename_i hind
        exact hmk (p.o.indent * p.level) 32 (Nat.mul_ne_zero hind hlev) (Or.inl rfl)

theorem Quiet.incLevel {p : P} (hw : W p) : Quiet p p.incLevel ∧ p.incLevel.wantSpace = p.wantSpace := by
  unfold P.incLevel
  split
  · exact ⟨Quiet.of_out hw rfl ⟨rfl, rfl, rfl, rfl, rfl⟩ rfl, rfl⟩
  · split
    · exact ⟨Quiet.of_out hw rfl ⟨rfl, rfl, rfl, rfl, rfl⟩ rfl, rfl⟩
    · exact ⟨Quiet.of_out hw rfl ⟨rfl, rfl, rfl, rfl, rfl⟩ rfl, rfl⟩

theorem decLevel_sum (p : P) : p.decLevel.sum = p.sum := (Flds.decLevel' p).sum

theorem Quiet.decLevel {p : P} (hw : W p) : Quiet p p.decLevel ∧ p.decLevel.wantSpace = p.wantSpace := by
  unfold P.decLevel
  split
  · exact ⟨Quiet.of_out hw rfl ⟨rfl, rfl, rfl, rfl, rfl⟩ rfl, rfl⟩
  · exact ⟨Quiet.of_out hw rfl ⟨rfl, rfl, rfl, rfl, rfl⟩ rfl, rfl⟩

theorem Quiet.bslashNewl {p : P} (hw : W p) : Quiet p p.bslashNewl ∧ p.bslashNewl.wantSpace ≠ .required := by
  unfold P.bslashNewl
  dsimp only
  -- after the optional blank, nothing that needs a gap is last
  have h1 : ∃ q : P, q = (if p.wantSpace = .required then p.space else p) ∧ Quiet p q ∧ q.wantSpace ≠ .required := by
    refine ⟨_, rfl, ?_⟩
    split
    · exact ⟨(Quiet.space hw).1, by simp [(Quiet.space hw).2]⟩
    · rename_i h; exact ⟨Quiet.rfl' hw, h⟩
  obtain ⟨q, hq, hqq, hqw⟩ := h1
  rw [← hq]
  have hfree := hqq.w.free hqw
  have hq2 : Quiet q { (q.gapw [92, 10]) with line := (q.gapw [92, 10]).line + 1 } :=
    Quiet.gap hqq.w rfl ⟨rfl, rfl, rfl, rfl, rfl⟩ (step_bsnl _ hfree)
  obtain ⟨hi, hiw⟩ := Quiet.indent hq2.w
  exact ⟨hqq.trans (hq2.trans hi), by rw [hiw]; exact hqw⟩


/-! ## Words and simple commands -/

/-- what a step that writes the tokens `ts` (and layout) establishes -/
structure Emits (p p' : P) (ts : List ATok) : Prop where
  same : Same p p'
  toks : p'.sum.toks = p.sum.toks ++ ts
  w : W p'

theorem Emits.of_quiet {a b : P} (h : Quiet a b) : Emits a b [] := ⟨h.same, by simp [h.toks], h.w⟩
theorem Emits.trans {a b c : P} {t1 t2 : List ATok} (h1 : Emits a b t1) (h2 : Emits b c t2) : Emits a c (t1 ++ t2) :=
  ⟨h1.same.trans h2.same, by rw [h2.toks, h1.toks, List.append_assoc], h2.w⟩

/-- `p.word(w)` when no blank is pending -/
theorem Emits.word {p : P} (hw : W p) (hws : p.wantSpace ≠ .required) (w : Word) (hwf : w.wf = true) :
    Emits p (p.word w) [.word w.norm] ∧ (p.word w).wantSpace = .required ∧ (p.word w).sum.sk = false ∧
      (p.word w).sum.last = some (.word w.parts) := by
  have hne := Word.wf_parts_ne hwf
  have he := word_eq p w hne
  -- the optional escaped newline
  obtain ⟨hqq, hqw⟩ : Quiet p (p.preWord w) ∧ (p.preWord w).wantSpace ≠ .required := by
    rcases preWord_cases p w with e | e <;> rw [e]
    · exact Quiet.bslashNewl hw
    · exact ⟨Quiet.rfl' hw, hws⟩
  have hsum : (p.word w).sum = (p.preWord w).sum.step (.word w.parts) := P.sum_push _ _ _ (by rw [he])
  rw [step_word _ w.parts hne (Word.wf_parts hwf) (hqq.w.free hqw)] at hsum
  have hnorm : mergeN (w.parts.map WordPart.erase) = w.norm := by rw [Word.norm, normParts_eq]
  refine ⟨⟨hqq.same.trans ?_, by rw [hsum, hqq.toks, hnorm], ⟨by rw [hsum]; exact hqq.w.ok, fun _ _ _ => by rw [he]⟩⟩,
    by rw [he], by rw [hsum], by rw [hsum]⟩
  rw [he]
  exact ⟨rfl, rfl, rfl, rfl, rfl⟩

/-- the state after a non-empty sequence of words -/
structure AfterWord (p : P) : Prop where
  ws : p.wantSpace = .required
  sk : p.sum.sk = false
  last : ∃ parts, p.sum.last = some (.word parts)

theorem Emits.wordJoinLoop (ws : List Word) : ∀ (p : P) (any : Bool), W p → (∀ w ∈ ws, w.wf = true) →
    Emits p (p.wordJoinLoop any ws).1 (ws.map fun w => ATok.word w.norm) ∧
      (ws ≠ [] → AfterWord (p.wordJoinLoop any ws).1) ∧
      (ws = [] → (p.wordJoinLoop any ws).1 = p) := by
  induction ws with
  | nil =>
    intro p any hw _
    unfold P.wordJoinLoop
    exact ⟨⟨Same.refl p, by simp, hw⟩, fun h => absurd rfl h, fun _ => rfl⟩
  | cons w rest ih =>
    intro p any hw hwf
    have hw1 := hwf w (by simp)
    have hrest : ∀ x ∈ rest, x.wf = true := fun x hx => hwf x (by simp [hx])
    obtain ⟨pos, hpos⟩ := Word.wf_pos hw1
    unfold P.wordJoinLoop
    rw [hpos]
    dsimp only
    -- the optional line break
    have h1 : ∃ (q : P) (any' : Bool), (q, any') = (if (decide (pos.line > p.line) && !p.o.singleLine) = true then
          ((if (!any) = true then p.incLevel else p).bslashNewl, true) else (p, any)) ∧ Quiet p q := by
      by_cases hbr : (decide (pos.line > p.line) && !p.o.singleLine) = true
      · rw [if_pos hbr]
        cases any with
        | false =>
          refine ⟨p.incLevel.bslashNewl, true, rfl, ?_⟩
          exact (Quiet.incLevel hw).1.trans (Quiet.bslashNewl (Quiet.incLevel hw).1.w).1
        | true =>
          refine ⟨p.bslashNewl, true, rfl, ?_⟩
          exact (Quiet.bslashNewl hw).1
      · rw [if_neg hbr]
        exact ⟨p, any, rfl, Quiet.rfl' hw⟩
    obtain ⟨q, any', hq, hqq⟩ := h1
    rw [← hq]
    dsimp only
    obtain ⟨hpad, hpadw⟩ := Quiet.spacePad hqq.w
    obtain ⟨he, hews, hesk, helast⟩ := Emits.word hpad.w hpadw w hw1
    obtain ⟨ih1, ih2, ih3⟩ := ih (q.spacePad.word w) any' he.w hrest
    refine ⟨?_, fun _ => ?_, fun h => by simp at h⟩
    · have := ((Emits.of_quiet (hqq.trans hpad)).trans he).trans ih1
      simpa using this
    · cases rest with
      | nil =>
        rw [ih3 rfl]
        exact ⟨hews, hesk, ⟨_, helast⟩⟩
      | cons x xs => exact ih2 (by simp)

theorem Emits.wordJoin (ws : List Word) (p : P) (hw : W p) (hwf : ∀ w ∈ ws, w.wf = true) :
    Emits p (p.wordJoin ws) (ws.map fun w => ATok.word w.norm) ∧ (ws ≠ [] → AfterWord (p.wordJoin ws)) ∧
      (ws = [] → (p.wordJoin ws).wantSpace = p.wantSpace ∧ (p.wordJoin ws).sum = p.sum) := by
  obtain ⟨h1, h2, h3⟩ := Emits.wordJoinLoop ws p false hw hwf
  unfold P.wordJoin
  cases hres : p.wordJoinLoop false ws with
  | mk p' any =>
    rw [hres] at h1 h2 h3
    dsimp only at h1 h2 h3 ⊢
    cases any with
    | false =>
      simp only [Bool.false_eq_true, ↓reduceIte]
      refine ⟨h1, h2, fun h => ?_⟩
      rw [h3 h]
      exact ⟨rfl, rfl⟩
    | true =>
      simp only [↓reduceIte]
      obtain ⟨hd, hdw⟩ := Quiet.decLevel h1.w
      have hds := decLevel_sum p'
      refine ⟨by simpa using h1.trans (Emits.of_quiet hd), fun h => ?_, fun h => ?_⟩
      · obtain ⟨a1, a2, a3⟩ := h2 h
        exact ⟨by rw [hdw]; exact a1, by rw [hd.sk]; exact a2, by rw [hds]; exact a3⟩
      · rw [h3 h] at hdw hds ⊢
        exact ⟨hdw, hds⟩


/-! ## Statements made of a simple command -/

/-- fields the statement-level steps keep (they do change `wroteSemi`) -/
structure Same' (p p' : P) : Prop where
  o : p'.o = p.o
  must : p'.mustNewline = p.mustNewline
  first : p'.firstLine = p.firstLine
  wnl : p'.wantNewline = p.wantNewline

theorem Same.weak {p p' : P} (h : Same p p') : Same' p p' := ⟨h.o, h.must, h.first, h.wnl⟩
theorem Same'.trans {a b c : P} (h1 : Same' a b) (h2 : Same' b c) : Same' a c :=
  ⟨h2.o.trans h1.o, h2.must.trans h1.must, h2.first.trans h1.first, h2.wnl.trans h1.wnl⟩

theorem Emits.command_call (args : List Word) (hne : args ≠ []) (hwf : ∀ w ∈ args, w.wf = true) (p : P) (hw : W p) :
    Emits p (p.command (.call args)) (args.map fun w => ATok.word w.norm) ∧ AfterWord (p.command (.call args)) := by
  cases args with
  | nil => exact absurd rfl hne
  | cons w rest =>
    obtain ⟨pos, hpos⟩ := Word.wf_pos (hwf w (by simp))
    unfold P.command
    simp only [hpos]
    have q1 := Quiet.advanceLine hw pos.line
    have q2 := (Quiet.spacePad q1.w).1
    have q3 := (Quiet.incLevel q2.w).1
    have q4 := (Quiet.decLevel q3.w).1
    have hq : Quiet p ((p.advanceLine pos.line).spacePad.incLevel.decLevel) := q1.trans (q2.trans (q3.trans q4))
    have hw1 : ∀ x ∈ [w], x.wf = true := by
      intro x hx
      simp only [List.mem_singleton] at hx
      exact hx ▸ hwf w (by simp)
    have hr : ∀ x ∈ rest, x.wf = true := fun x hx => hwf x (by simp [hx])
    obtain ⟨j1, j2, _⟩ := Emits.wordJoin [w] _ hq.w hw1
    split
    · rename_i hrest
      have : rest = [] := by simpa using hrest
      subst this
      exact ⟨by simpa using (Emits.of_quiet hq).trans j1, j2 (by simp)⟩
    · rename_i hrest
      have hrne : rest ≠ [] := by simpa using hrest
      obtain ⟨k1, k2, _⟩ := Emits.wordJoin rest _ j1.w hr
      exact ⟨by simpa using ((Emits.of_quiet hq).trans j1).trans k1, k2 hrne⟩

theorem W.setWroteSemi {p : P} (hw : W p) (b : Bool) : W { p with wroteSemi := b } :=
  ⟨hw.ok, hw.gap⟩

/-- `!` via `spacedString` -/
theorem Emits.stmtPre (p : P) (hw : W p) (neg : Bool) :
    (P.sum (p.stmtPre neg)).toks = p.sum.toks ++ (if neg then [ATok.bang] else []) ∧ W (p.stmtPre neg) ∧
      Same' p (p.stmtPre neg) ∧ (neg = false → (p.stmtPre neg).wantSpace = p.wantSpace ∧ (p.stmtPre neg).sum = p.sum) := by
  unfold P.stmtPre
  dsimp only
  have hw0 : W { p with wroteSemi := false } := hw.setWroteSemi false
  cases neg with
  | false =>
    refine ⟨?_, hw0, ⟨rfl, rfl, rfl, rfl⟩, fun _ => ⟨rfl, rfl⟩⟩
    show p.sum.toks = p.sum.toks ++ []
    simp
  | true =>
    simp only [↓reduceIte]
    unfold P.spacedString
    obtain ⟨hq, hqw⟩ := Quiet.spacePad hw0
    have hfree := hq.w.free hqw
    have hsum : (P.sum { (P.tok (P.spacePad { p with wroteSemi := false }) [33]) with wantSpace := .required }) =
        (P.spacePad { p with wroteSemi := false }).sum.step (.op [33]) := P.sum_push _ _ _ rfl
    refine ⟨?_, ⟨?_, fun _ _ _ => rfl⟩, ⟨hq.same.o, hq.same.must, hq.same.first, hq.same.wnl⟩, fun h => by cases h⟩
    · rw [hsum, step_bang _ hfree, hq.toks]
      rfl
    · rw [hsum, step_bang _ hfree]; exact hq.w.ok

/-! ## Norms of well-formed words are acceptable to the parser -/

theorem normParts_nil {parts : List WordPart} (h : normParts parts = []) : parts = [] := by
  cases parts with
  | nil => rfl
  | cons p rest =>
    cases p with
    | lit a e v =>
      simp only [normParts] at h
      split at h <;> cases h
    | sgl l r v => simp [normParts] at h

theorem normParts_single_lit : ∀ (parts : List WordPart) (v : Bytes), (∀ p ∈ parts, p.wf = true) →
    normParts parts = [.lit v] → (Word.mk parts).litValue? = some v ∧ (∀ b ∈ v, isSafe b = true) ∧ v ≠ [] := by
  intro parts
  induction parts with
  | nil => intro v _ h; simp [normParts] at h
  | cons p rest ih =>
    intro v hw h
    have hrest : ∀ q ∈ rest, q.wf = true := fun q hq => hw q (by simp [hq])
    cases p with
    | sgl l r x => simp [normParts] at h
    | lit a e v1 =>
      obtain ⟨_, hne, hsafe⟩ := WordPart.wf_lit_bytes (hw (.lit a e v1) (by simp))
      simp only [normParts] at h
      split at h
      · rename_i v' r hnr
        simp only [List.cons.injEq, NPart.lit.injEq] at h
        obtain ⟨rfl, rfl⟩ := h
        obtain ⟨i1, i2, _⟩ := ih v' hrest hnr
        refine ⟨?_, ?_, by simp [hne]⟩
        · simp only [Word.litValue?, List.foldr_cons] at i1 ⊢
          rw [i1]
        · intro b hb
          simp only [List.mem_append] at hb
          rcases hb with hb | hb
          · exact hsafe b hb
          · exact i2 b hb
      · rename_i hnot
        simp only [List.cons.injEq, NPart.lit.injEq] at h
        obtain ⟨rfl, hr⟩ := h
        have := normParts_nil hr
        subst this
        exact ⟨by simp [Word.litValue?], hsafe, hne⟩

theorem Word.norm_ok (w : Word) (hw : w.wf = true) : nwordOK w.norm = true := by
  unfold nwordOK
  split
  · rename_i v hv
    obtain ⟨_, hs, _⟩ := normParts_single_lit w.parts v (Word.wf_parts hw) hv
    have key : ∀ v : Bytes, (∀ b ∈ v, isSafe b = true) → (v != [123] && v != [125] && v != [33]) = true := by
      intro v hs
      cases v with
      | nil => rfl
      | cons b t =>
        have hb := safe_facts b (hs b (by simp))
        simp only [Bool.and_eq_true, bne_iff_ne, ne_eq, List.cons.injEq, not_and]
        refine ⟨⟨fun h => ?_, fun h => ?_⟩, fun h => ?_⟩ <;> subst h <;> simp at hb
    exact key v hs
  · rfl

theorem Word.norm_name_ok (w : Word) (hw : w.wf = true) (hn : w.cmdNameOK = true) : ncmdNameOK w.norm = true := by
  unfold ncmdNameOK
  split
  · rename_i v hv
    obtain ⟨hl, _, _⟩ := normParts_single_lit w.parts v (Word.wf_parts hw) hv
    unfold Word.cmdNameOK at hn
    have : w.litValue? = some v := hl
    rw [this] at hn
    exact hn
  · rfl


/-! ## Lists of simple commands -/

/-- every statement of the list is a simple command (no subshell, block or binary command) -/
def Stmts.flat : Stmts → Bool
  | .nil => true
  | .cons (.mk _ _ _ _ (.call _)) r => r.flat
  | .cons _ _ => false

/-- the layout statement of a simple command -/
def mkL (neg : Bool) (args : List Word) (term : Term) : LStmt := .mk neg (.call (args.map Word.norm)) term

theorem mkL_valid (neg : Bool) (args : List Word) (term : Term) (hc : (Cmd.call args).wf = true) :
    (mkL neg args term).valid = true := by
  cases args with
  | nil => simp [Cmd.wf] at hc
  | cons w rest =>
    simp only [Cmd.wf, Bool.and_eq_true, List.all_eq_true] at hc
    obtain ⟨hall, hname⟩ := hc
    simp only [mkL, LStmt.valid, LCmd.valid, List.map_cons, LCmd.isAndOr, Bool.and_false, Bool.not_false, Bool.and_true,
      Bool.and_eq_true, List.all_eq_true]
    refine ⟨?_, Word.norm_name_ok w (hall w (by simp)) hname⟩
    intro n hn
    simp only [List.mem_cons, List.mem_map] at hn
    rcases hn with rfl | ⟨x, hx, rfl⟩
    · exact Word.norm_ok w (hall w (by simp))
    · exact Word.norm_ok x (hall x (by simp [hx]))

theorem call_wf_args {args : List Word} (h : (Cmd.call args).wf = true) : args ≠ [] ∧ ∀ w ∈ args, w.wf = true := by
  cases args with
  | nil => simp [Cmd.wf] at h
  | cons w rest =>
    simp only [Cmd.wf, Bool.and_eq_true, List.all_eq_true] at h
    exact ⟨by simp, h.1⟩

/-- whether a newline token follows the last statement of the layout -/
def LStmts.finalNl : LStmts → Bool
  | .one _ nl => nl
  | .cons _ _ rest => rest.finalNl

/-- the layout with a newline after its last statement -/
def LStmts.withFinalNl : LStmts → LStmts
  | .one s _ => .one s true
  | .cons s nl rest => .cons s nl rest.withFinalNl

theorem LStmts.withFinalNl_facts : ∀ (lt : LStmts), lt.finalNl = false →
    lt.withFinalNl.toks = lt.toks ++ [.newl] ∧ lt.withFinalNl.valid = lt.valid ∧ lt.withFinalNl.norm = lt.norm
  | .one s nl => fun h => by
    simp only [LStmts.finalNl] at h
    subst h
    simp [LStmts.withFinalNl, LStmts.toks, nlT, LStmts.valid, LStmts.norm]
  | .cons s nl rest => fun h => by
    obtain ⟨h1, h2, h3⟩ := LStmts.withFinalNl_facts rest (by simpa [LStmts.finalNl] using h)
    simp [LStmts.withFinalNl, LStmts.toks, LStmts.valid, LStmts.norm, h1, h2, h3, List.append_assoc]

/-! ## Before the first statement -/

theorem W.init (o : Opts) : W (P.init o) := ⟨rfl, fun l hl _ => by simp [P.sum, P.init, summarize] at hl⟩

/-- before the first statement nothing is written -/
theorem stmtSep_first (o : Opts) (l : Nat) :
    ((P.init o).stmtSep true l).out = [] ∧ ((P.init o).stmtSep true l).firstLine = false ∧
    ((P.init o).stmtSep true l).mustNewline = false ∧ ((P.init o).stmtSep true l).o = o := by
  rw [stmtSep_first_eq, newlines_eq]
  cases hm : o.minify <;> simp [P.init, P.sepCond, hm, P.advanceLine]

/-! ## Steps of the printer with their tokens -/

/-- a step of the printer: options and `firstLine` kept, `mustNewline` stays off, tokens added -/
structure Adv (p p' : P) (ts : List ATok) : Prop where
  o : p'.o = p.o
  must : p.mustNewline = false → p'.mustNewline = false
  first : p'.firstLine = p.firstLine
  toks : p'.sum.toks = p.sum.toks ++ ts
  w : W p'

theorem Adv.of_emits {a b : P} {ts : List ATok} (h : Emits a b ts) : Adv a b ts :=
  ⟨h.same.o, fun hm => by rw [h.same.must]; exact hm, h.same.first, h.toks, h.w⟩

theorem Adv.of_quiet {a b : P} (h : Quiet a b) : Adv a b [] := Adv.of_emits (Emits.of_quiet h)

theorem Adv.trans {a b c : P} {t1 t2 : List ATok} (h1 : Adv a b t1) (h2 : Adv b c t2) : Adv a c (t1 ++ t2) :=
  ⟨h2.o.trans h1.o, fun hm => h2.must (h1.must hm), h2.first.trans h1.first,
    by rw [h2.toks, h1.toks, List.append_assoc], h2.w⟩

theorem needsGap_binop (op : BinOp) : needsGap (.op op.str) = false := by
  cases op <;> simp [needsGap, BinOp.str]

/-- the last piece is a word or layout -/
def LastWG (p : P) : Prop := ∀ l, p.sum.last = some l → (match l with | .op _ => False | _ => True)

theorem AfterWord.lastWG {p : P} (h : AfterWord p) : LastWG p := by
  intro l hl
  obtain ⟨parts, e⟩ := h.last
  rw [e] at hl; cases hl; trivial

/-- `p.newline(pos)` -/
theorem Adv.newline (p : P) (hw : W p) (l : Nat) :
    Adv p (p.newline l) (if p.sum.sk then [] else [.newl]) ∧ (p.newline l).sum.sk = true := by
  unfold P.newline
  let q : P := { (p.gapw [10]) with wantSpace := .written, wantNewline := false, mustNewline := false }
  have hs : q.sum = p.sum.step (.gap [10]) := P.sum_push p _ _ rfl
  have hwq : W q := W.push hw.ok rfl (step_nl _) (fun h => by cases h)
  have qa := Quiet.advanceLine hwq l
  refine ⟨⟨qa.same.o, fun _ => by rw [qa.same.must], qa.same.first, ?_, qa.w⟩, by rw [qa.sk, hs, step_nl]⟩
  rw [qa.toks, hs, step_nl]

theorem Quiet.binaryEnd (p : P) (hw : W p) (indent multi : Bool) :
    Quiet p (p.binaryEnd indent multi) ∧ (p.binaryEnd indent multi).wantSpace = p.wantSpace ∧
      (p.binaryEnd indent multi).sum = p.sum := by
  unfold P.binaryEnd
  split
  · dsimp only
    have h0 : ∃ q : P, q = (if indent = true then p.decLevel else p) ∧ Quiet p q ∧ q.wantSpace = p.wantSpace ∧ q.sum = p.sum := by
      refine ⟨_, rfl, ?_⟩
      split
      · obtain ⟨h1, h2⟩ := Quiet.decLevel hw
        exact ⟨h1, h2, decLevel_sum p⟩
      · exact ⟨Quiet.rfl' hw, rfl, rfl⟩
    obtain ⟨q, hq, h1, h2, h3⟩ := h0
    rw [← hq]
    have hfin := Quiet.setNested h1.w false
    exact ⟨h1.trans hfin, h2, h3⟩
  · exact ⟨Quiet.rfl' hw, rfl, rfl⟩


/-! ## Statements without subshells and blocks: simple commands joined by `&&`, `||`, `|` -/

mutual
def Stmt.lin : Stmt → Bool
  | .mk _ _ _ _ c => c.lin
def Cmd.lin : Cmd → Bool
  | .call _ => true
  | .binary _ _ x y => x.lin && y.lin
  | _ => false
end

def Stmts.lin : Stmts → Bool
  | .nil => true
  | .cons s r => s.lin && r.lin

/-- what printing a command establishes -/
structure CmdOut (p p' : P) (c : Cmd) (lc : LCmd) : Prop where
  adv : Adv p p' lc.toks
  valid : lc.valid = true
  norm : lc.norm = c.norm
  ao : lc.isAndOr = c.isAndOr
  bin : lc.isBinary = c.isBinary
  after : AfterWord p'
  wsemi : p.wroteSemi = false → p'.wroteSemi = false
  ew : lc.endsInWord = true

/-- what printing a statement establishes -/
structure StmtOut (p p' : P) (s : Stmt) (ls : LStmt) : Prop where
  adv : Adv p p' ls.toks
  valid : ls.valid = true
  norm : ls.norm = s.norm
  neg : ls.neg = s.negated
  ao : ls.cmd.isAndOr = s.cmd.isAndOr
  bin : ls.cmd.isBinary = s.cmd.isBinary
  ws : p'.wantSpace = .required
  sk : p'.sum.sk = false
  wsemi : p'.wroteSemi = (ls.term != .none)
  bare : s.bare = true → ls.term = .none
  single : p.o.singleLine = true → s.bg = false → ls.term = .none
  amp : (ls.term == .amp) = s.bg
  last : ls.term = .none → ∃ parts, p'.sum.last = some (.word parts)
  ew : ls.cmd.endsInWord = true

/-! ## Terminators of layout statements -/

def LStmt.withTerm : LStmt → Term → LStmt
  | .mk n c _, t => .mk n c t

theorem LStmt.withTerm_semi (ls : LStmt) (h : ls.term = .none) :
    (ls.withTerm .semi).toks = ls.toks ++ [.semi] ∧ (ls.withTerm .semi).valid = ls.valid ∧
    (ls.withTerm .semi).norm = ls.norm ∧ (ls.withTerm .semi).term = .semi := by
  obtain ⟨n, c, t⟩ := ls
  simp only [LStmt.term] at h
  subst h
  refine ⟨by simp [LStmt.withTerm, LStmt.toks, Term.toks], by simp [LStmt.withTerm, LStmt.valid], ?_, rfl⟩
  simp only [LStmt.withTerm, LStmt.norm]
  rfl

theorem Stmts.lin_cons {s : Stmt} {r : Stmts} (h : (Stmts.cons s r).lin = true) : s.lin = true ∧ r.lin = true := by
  simpa [Stmts.lin] using h

theorem Stmts.flat_lin : ∀ ss : Stmts, ss.flat = true → ss.lin = true
  | .nil => fun _ => rfl
  | .cons (.mk _ _ _ _ c) r => fun h => by
    cases c with
    | call _ => simpa [Stmts.lin, Stmt.lin, Cmd.lin] using Stmts.flat_lin r (by simpa [Stmts.flat] using h)
    | subshell _ _ _ => simp [Stmts.flat] at h
    | block _ _ _ => simp [Stmts.flat] at h
    | binary _ _ _ _ => simp [Stmts.flat] at h

end ShVerif.L4
