import ShVerif.Proofs.L3Glob
import ShVerif.Proofs.C17
/-
  C17 — tokens.  The reference keeps track of "at the start of a path component" on the subject
  side (`GDen … b …`), pattern.go on the pattern side (`sl.last()`); `Pos` / `PosOK` is the invariant
  that ties the two, and it only matters when a leading dot is special (`dotSens`).  `TokAgree` says
  that an expression pattern.go emits and a reference token agree under that invariant; one lemma per
  kind of token (character, `?`, `*`, bracket expression), each for every mode.
-/
namespace ShVerif.L3

def dotSens (m : Mode) : Bool := m.filenames && !m.dotglob

/-- What the pattern-side position says about the subject-side context. -/
def PosOK (m : Mode) (pos : Pos) (b : Bool) : Prop :=
  dotSens m = true → (pos = .start → b = true) ∧ (pos = .mid → b = false)

/-- `pos` is `start` exactly when the previous pattern character is a slash (or there is none). -/
def PP (m : Mode) (pos : Pos) (prev : Rune) : Prop :=
  dotSens m = true → (pos = .start ↔ (prev = 0 ∨ prev = cSlash))

theorem PosOK.of_not_dotSens {m : Mode} (h : dotSens m = false) (pos : Pos) (b : Bool) : PosOK m pos b :=
  fun h' => absurd (h.symm.trans h') (by decide)

theorem dotSens_nofn {m : Mode} (h : m.filenames = false) : dotSens m = false := by
  rw [dotSens, h]; rfl

theorem PosOK.mid (m : Mode) : PosOK m .mid false := fun _ => ⟨fun h => (nomatch h), fun _ => rfl⟩

/-- `hsupp` is what `supp` asks of `?`, of a bracket expression and of a pattern-list. -/
theorem PosOK.not_start {m : Mode} {pos : Pos} {b : Bool} (hp : PosOK m pos b) (hf : m.filenames = true)
    (hsupp : (!(m.filenames && !m.dotglob) || pos == Pos.mid) = true) :
    ¬ (m.dotglob = false ∧ b = true) := by
  rintro ⟨hd, hb⟩
  have hds : dotSens m = true := by simp [dotSens, hf, hd]
  have hm : pos = .mid := by simpa [hf, hd] using hsupp
  have := (hp hds).2 hm
  rw [hb] at this; cases this

theorem PP.of_ne {m : Mode} {pos : Pos} {c : Rune} (hp : pos ≠ .start) (h0 : c ≠ 0) (hs : c ≠ cSlash) :
    PP m pos c :=
  fun _ => ⟨fun h => absurd h hp, fun h => h.elim (absurd · h0) (absurd · hs)⟩

/-- The expression `r` pattern.go emits and the reference token `g` agree when the token stands at
    pattern position `pos`, and leave the subject in a context that `pos'` describes. -/
structure TokAgree (m : Mode) (pos pos' : Pos) (r : Regex) (g : Glob) : Prop where
  compiles : goCompiles r = true
  sem : ∀ b s, PosOK m pos b → (Matches m.nocase r s ↔ GDen m g b s)
  ctx : ∀ b s, PosOK m pos b → GDen m g b s → PosOK m pos' (ctxAfter m b s)

theorem range_single (c y : Nat) : (decide (c ≤ y) && decide (y ≤ c)) = (y == c) := by
  rw [Bool.eq_iff_iff]
  simp only [Bool.and_eq_true, decide_eq_true_eq, beq_iff_eq]
  constructor
  · rintro ⟨h1, h2⟩; exact Nat.le_antisymm h2 h1
  · rintro rfl; exact ⟨Nat.le_refl _, Nat.le_refl _⟩

theorem setMem_notSlash (nc : Bool) (x : Nat) : setMem nc true [.raw cSlash] x = !(x == cSlash) := by
  unfold setMem
  rw [parseItems_single (.raw cSlash) [] rfl (fun _ _ h => nomatch h), parseItems_nil]
  simp only [Option.map_some, CItem.char, List.any_cons, List.any_nil, Bool.or_false, CRange.mem, range_single]
  rw [any_variants_eq nc x cSlash (by decide)]
  cases (x == cSlash) <;> rfl

theorem setMem_notSlashDot (nc : Bool) (x : Nat) :
    setMem nc true [.raw cSlash, .raw cDot] x = (!(x == cSlash) && !(x == cDot)) := by
  unfold setMem
  rw [parseItems_single (.raw cSlash) [.raw cDot] rfl (fun _ _ h => nomatch h),
    parseItems_single (.raw cDot) [] rfl (fun _ _ h => nomatch h), parseItems_nil]
  simp only [Option.map_some, CItem.char, List.any_cons, List.any_nil, Bool.or_false, CRange.mem, range_single]
  rw [any_or_split, any_variants_eq nc x cSlash (by decide), any_variants_eq nc x cDot (by decide)]
  cases (x == cSlash) <;> cases (x == cDot) <;> rfl

theorem matches_notSlash_iff (nc : Bool) (s : Str) :
    Matches nc notSlash s ↔ ∃ x, s = [x] ∧ x ≠ cSlash := by
  unfold notSlash
  simp only [matches_set_iff, setMem_notSlash, Bool.not_eq_true', beq_eq_false_iff_ne, ne_eq]

theorem matches_notSlashDot_iff (nc : Bool) (s : Str) :
    Matches nc notSlashDot s ↔ ∃ x, s = [x] ∧ x ≠ cSlash ∧ x ≠ cDot := by
  unfold notSlashDot
  simp only [matches_set_iff, setMem_notSlashDot, Bool.and_eq_true, Bool.not_eq_true', beq_eq_false_iff_ne, ne_eq]

/-- `[^/]*` -/
theorem matches_star_notSlash (nc : Bool) (s : Str) :
    Matches nc (.star notSlash) s ↔ ∀ x ∈ s, x ≠ cSlash := by
  constructor
  · intro h
    generalize hr : Regex.star notSlash = r at h
    induction h with
    | starNil => intro x hx; simp at hx
    | @starCons a s1 s2 h1 _ _ ih2 =>
      cases hr
      obtain ⟨y, rfl, hy⟩ := (matches_notSlash_iff nc s1).mp h1
      intro x hx
      simp only [List.cons_append, List.nil_append, List.mem_cons] at hx
      rcases hx with rfl | hx
      · exact hy
      · exact ih2 rfl x hx
    | _ => cases hr
  · intro h
    induction s with
    | nil => exact .starNil
    | cons x s ih =>
      exact .starCons (s := [x]) ((matches_notSlash_iff nc [x]).mpr ⟨x, rfl, h x (List.mem_cons_self ..)⟩)
        (ih (fun y hy => h y (List.mem_cons_of_mem _ hy)))

/-- `([^/.][^/]*)?` -/
theorem matches_segStar (nc : Bool) (s : Str) :
    Matches nc segStar s ↔ (∀ x ∈ s, x ≠ cSlash) ∧ s.head? ≠ some cDot := by
  unfold segStar
  constructor
  · intro h
    cases h with
    | optNil => exact ⟨fun _ hx => (nomatch hx), fun h => (nomatch h)⟩
    | optSome h =>
      cases h with
      | grp h =>
        obtain ⟨s1, s2, rfl, h1, h2⟩ := (matches_cat_iff nc _ _ _).mp h
        obtain ⟨x, rfl, hx1, hx2⟩ := (matches_notSlashDot_iff nc s1).mp h1
        refine ⟨fun y hy => ?_, fun h => hx2 (Option.some.inj h)⟩
        rcases List.mem_cons.mp hy with rfl | hy
        · exact hx1
        · exact (matches_star_notSlash nc s2).mp h2 y hy
  · rintro ⟨h1, h2⟩
    cases s with
    | nil => exact .optNil
    | cons x u =>
      exact .optSome (.grp (.cat (s := [x])
        ((matches_notSlashDot_iff nc [x]).mpr ⟨x, rfl, h1 x (List.mem_cons_self ..), fun e => h2 (e ▸ rfl)⟩)
        ((matches_star_notSlash nc u).mpr fun y hy => h1 y (List.mem_cons_of_mem _ hy))))

theorem wildOk_fn {m : Mode} (hf : m.filenames = true) (b : Bool) (x : Nat) :
    wildOk m b x = true ↔ x ≠ cSlash ∧ ¬ (m.dotglob = false ∧ b = true ∧ x = cDot) := by
  cases hd : m.dotglob <;> cases b <;> simp [wildOk, hf, hd]

theorem StarDen_false_fn {m : Mode} (hf : m.filenames = true) (s : Str) :
    StarDen m false s ↔ ∀ x ∈ s, x ≠ cSlash := by
  induction s with
  | nil => simp [StarDen]
  | cons x s ih => simp [StarDen, ih, wildOk_fn hf]

theorem StarDen_fn {m : Mode} (hf : m.filenames = true) (b : Bool) (s : Str) :
    StarDen m b s ↔ (∀ x ∈ s, x ≠ cSlash) ∧ ¬ (m.dotglob = false ∧ b = true ∧ s.head? = some cDot) := by
  cases s with
  | nil => simp [StarDen]
  | cons x u =>
    simp only [StarDen, StarDen_false_fn hf, wildOk_fn hf, List.mem_cons, forall_eq_or_imp, List.head?_cons,
      Option.some.injEq]
    exact ⟨fun ⟨⟨h1, h2⟩, h3⟩ => ⟨⟨h1, h3⟩, h2⟩, fun ⟨⟨h1, h3⟩, h2⟩ => ⟨⟨h1, h2⟩, h3⟩⟩

theorem StarDen_append (m : Mode) : ∀ (a c : Str) (b : Bool),
    StarDen m b a → StarDen m (ctxAfter m b a) c → StarDen m b (a ++ c) := by
  intro a
  induction a with
  | nil => intro c b _ h; rw [ctxAfter_nil] at h; simpa using h
  | cons x a ih =>
    intro c b h1 h2
    obtain ⟨hw, ha⟩ := h1
    rw [ctxAfter_cons, wildOk_not_start hw] at h2
    exact ⟨hw, ih c false ha h2⟩

theorem GDen_star_star (m : Mode) (g : Glob) (b : Bool) (s : Str) :
    GDen m (.seq .star (.seq .star g)) b s ↔ GDen m (.seq .star g) b s := by
  simp only [GDen]
  constructor
  · rintro ⟨a, r, rfl, ha, c, d, rfl, hc, hd⟩
    refine ⟨a ++ c, d, by simp, StarDen_append m a c b ha hc, ?_⟩
    rw [← ctxAfter_append]; exact hd
  · rintro ⟨a, d, rfl, ha, hd⟩
    exact ⟨a, d, rfl, ha, [], d, rfl, trivial, by rw [ctxAfter_nil]; exact hd⟩

theorem posAfter_start_iff (c : Rune) : posAfter c = .start ↔ c = cSlash := by
  unfold posAfter
  by_cases h : c = cSlash
  · simp [h]
  · have : (c == cSlash) = false := beq_false_of_ne h
    simp [this, h]

theorem posAfter_mid_iff (c : Rune) : posAfter c = .mid ↔ c ≠ cSlash := by
  unfold posAfter
  by_cases h : c = cSlash
  · simp [h]
  · have : (c == cSlash) = false := beq_false_of_ne h
    simp [this, h]

theorem lit_agree (m : Mode) (pos : Pos) (prev c : Rune) (hpp : PP m pos prev)
    (hsupp : (!(m.filenames && !m.dotglob && pos == Pos.unknown && c == cDot)) = true) :
    TokAgree m pos (posAfter c) (.chr c) (litTok m prev c) := by
  have hbk : ∀ b, PosOK m pos b →
      (m.filenames && !m.dotglob && c == cDot) = true → b = true → prev = 0 ∨ prev = cSlash := by
    intro b hp hcond hb
    simp only [Bool.and_eq_true, Bool.not_eq_true', beq_iff_eq] at hcond
    obtain ⟨⟨h1, h2⟩, h3⟩ := hcond
    have hds : dotSens m = true := by simp [dotSens, h1, h2]
    have hpu : pos ≠ .unknown := by
      intro hu
      simp [h1, h2, hu, h3] at hsupp
    have hpm : pos ≠ .mid := fun hm => by
      have := (hp hds).2 hm
      rw [hb] at this; cases this
    have : pos = .start := by
      cases pos <;> simp_all
    exact (hpp hds).mp this
  refine ⟨rfl, fun b s hp => ?_, fun b s hp hg hds => ?_⟩
  · rw [GDen_litTok m prev c b (hbk b hp) s, matches_chr_iff]
  · obtain ⟨x, rfl, hx⟩ := (GDen_litTok m prev c b (hbk b hp) s).mp hg
    have hf : m.filenames = true := by
      simp only [dotSens, Bool.and_eq_true] at hds; exact hds.1
    rw [ctxAfter_singleton]
    constructor
    · intro hs
      have hc := (posAfter_start_iff c).mp hs
      have : x = cSlash := (chEq_slash_iff hx).mpr hc
      simp [startAfter, hf, this]
    · intro hm
      have hc := (posAfter_mid_iff c).mp hm
      have : x ≠ cSlash := fun e => hc ((chEq_slash_iff hx).mp e)
      have : (x == cSlash) = false := beq_false_of_ne this
      simp [startAfter, this]

/-- `?`: `.`, or `[^/]` in filename mode. -/
theorem any_agree (m : Mode) (pos : Pos)
    (hsupp : (!(m.filenames && !m.dotglob) || pos == Pos.mid) = true) :
    TokAgree m pos .mid (if m.filenames then notSlash else .any) .any := by
  cases hf : m.filenames with
  | false =>
    refine ⟨rfl, fun b s _ => ?_, fun _ _ _ _ => PosOK.of_not_dotSens (dotSens_nofn hf) _ _⟩
    simp only [Bool.false_eq_true, if_false, matches_any_iff, GDen, wildOk_nofn hf, and_true]
  | true =>
    refine ⟨by decide, fun b s hp => ?_, fun b s _ hg => ?_⟩
    · simp only [if_true]
      rw [matches_notSlash_iff]
      simp only [GDen, wildOk_fn hf]
      exact ⟨fun ⟨x, hs, hx⟩ => ⟨x, hs, hx, fun h => hp.not_start hf hsupp ⟨h.1, h.2.1⟩⟩, fun ⟨x, hs, hx, _⟩ => ⟨x, hs, hx⟩⟩
    · simp only [GDen] at hg
      obtain ⟨x, rfl, hx⟩ := hg
      rw [ctxAfter_singleton, wildOk_not_start hx]
      exact PosOK.mid m

/-- `*` outside filename mode: `.*`. -/
theorem star_agree_nofn (m : Mode) (hnf : m.filenames = false) (pos pos' : Pos) :
    TokAgree m pos pos' (.star .any) .star :=
  ⟨rfl, fun b s _ => ⟨fun _ => starDen_nofn hnf b s, fun _ => matches_star_any _ s⟩,
    fun _ _ _ _ => PosOK.of_not_dotSens (dotSens_nofn hnf) _ _⟩

/-- `*` in filename mode: `([^/.][^/]*)?` at the start of a component, `[^/]*` elsewhere. -/
theorem star_agree_fn (m : Mode) (hf : m.filenames = true) (pos : Pos) (prev : Rune) (hpp : PP m pos prev)
    (hsupp : (!(m.filenames && !m.dotglob) || pos != Pos.unknown) = true) :
    TokAgree m pos (if pos == Pos.mid then Pos.mid else Pos.unknown)
      (singleStar m (prev == 0 || prev == cSlash)) .star := by
  refine ⟨by unfold singleStar; split <;> decide, fun b s hp => ?_, fun b s hp hg hds => ?_⟩
  · simp only [GDen]
    rw [StarDen_fn hf]
    unfold singleStar
    cases hdg : m.dotglob with
    | true =>
      rw [Bool.not_true, Bool.and_false, if_neg Bool.false_ne_true, matches_star_notSlash]
      exact ⟨fun h => ⟨h, fun h' => Bool.noConfusion h'.1⟩, And.left⟩
    | false =>
      have hds : dotSens m = true := by simp [dotSens, hf, hdg]
      have hpu : pos ≠ .unknown := by
        intro hu; simp [hf, hdg, hu] at hsupp
      rw [Bool.not_false, Bool.and_true]
      by_cases hstart : pos = .start
      · have hsb : (prev == 0 || prev == cSlash) = true := by simpa using (hpp hds).mp hstart
        rw [hsb, if_pos rfl, matches_segStar, (hp hds).1 hstart]
        exact and_congr_right fun _ => ⟨fun h h' => h h'.2.2, fun h h' => h ⟨rfl, rfl, h'⟩⟩
      · have hsb : (prev == 0 || prev == cSlash) = false := by
          cases h : (prev == 0 || prev == cSlash) with
          | false => rfl
          | true => exact absurd ((hpp hds).mpr (by simpa using h)) hstart
        have hm : pos = .mid := by cases pos <;> simp_all
        rw [hsb, if_neg Bool.false_ne_true, matches_star_notSlash, (hp hds).2 hm]
        exact ⟨fun h => ⟨h, fun h' => Bool.noConfusion h'.2.1⟩, And.left⟩
  · simp only [GDen] at hg
    constructor
    · intro h
      split at h <;> cases h
    · intro h
      have hm : pos = .mid := by
        by_cases hpm : pos = .mid
        · exact hpm
        · have : (pos == Pos.mid) = false := beq_false_of_ne hpm
          simp [this] at h
      have hb := (hp hds).2 hm
      subst hb
      cases s with
      | nil => rfl
      | cons x u => exact StarDen_ctx hg (by simp)

theorem bracketMem_slash (nc : Bool) (items : List BItem) (h : items.any (·.mem cSlash) = false) :
    bracketMem nc false items cSlash = false := by
  unfold bracketMem
  have : items.any (fun i => i.memFold nc cSlash) = false := by
    rw [List.any_eq_false] at h ⊢
    intro i hi
    have := h i hi
    cases i with
    | cls k => simpa [BItem.memFold, BItem.mem] using this
    | ch c => simpa [BItem.memFold, variants_slash] using this
    | range lo hi => simpa [BItem.memFold, variants_slash] using this
  simp [this]

/-- `hsl`: in filename mode the set has no slash; `hdot`: where dots are special the bracket does not
    stand at a possible component start. -/
theorem bracket_tok (m : Mode) (pos : Pos) (neg : Bool) (items : List BItem) (citems : List CItem)
    (hcc : classCompiles citems = true)
    (hmem : ∀ x, setMem m.nocase neg citems x = bracketMem m.nocase neg items x)
    (hsl : (!(m.filenames && (neg || items.any (·.mem cSlash)))) = true)
    (hdot : (!(m.filenames && !m.dotglob) || pos == Pos.mid) = true) :
    TokAgree m pos .mid (.set neg citems) (.bracket neg items) := by
  have hw : ∀ b x, PosOK m pos b → bracketMem m.nocase neg items x = true → wildOk m b x = true := by
    intro b x hp hbm
    cases hf : m.filenames with
    | false => exact wildOk_nofn hf b x
    | true =>
      simp only [hf, Bool.true_and, Bool.not_eq_true', Bool.or_eq_false_iff] at hsl
      obtain ⟨hneg, hany⟩ := hsl
      subst hneg
      have hx : x ≠ cSlash := by
        intro e; subst e
        rw [bracketMem_slash _ _ hany] at hbm; cases hbm
      exact (wildOk_fn hf b x).mpr ⟨hx, fun h => hp.not_start hf hdot ⟨h.1, h.2.1⟩⟩
  refine ⟨hcc, fun b s hp => ?_, fun b s _ hg => ?_⟩
  · rw [matches_set_iff]
    simp only [GDen]
    constructor
    · rintro ⟨x, rfl, hx⟩
      rw [hmem] at hx
      exact ⟨x, rfl, hw b x hp hx, hx⟩
    · rintro ⟨x, rfl, _, hx⟩
      exact ⟨x, rfl, by rw [hmem]; exact hx⟩
  · simp only [GDen] at hg
    obtain ⟨x, rfl, hx, _⟩ := hg
    rw [ctxAfter_singleton, wildOk_not_start hx]
    exact PosOK.mid m

theorem TokAgree.of_nofn {m : Mode} (hnf : m.filenames = false) {pos p1 : Pos} {r : Regex} {g : Glob}
    (h : TokAgree m pos p1 r g) (pos' p2 : Pos) : TokAgree m pos' p2 r g :=
  ⟨h.compiles, fun b s _ => h.sem b s (PosOK.of_not_dotSens (dotSens_nofn hnf) _ _),
    fun _ _ _ _ => PosOK.of_not_dotSens (dotSens_nofn hnf) _ _⟩

theorem lit_nofn (m : Mode) (hnf : m.filenames = false) (pos pos' : Pos) (c : Rune) :
    TokAgree m pos pos' (.chr c) (.lit c) := by
  have h := (lit_agree m .mid 0 c (fun h => absurd ((dotSens_nofn hnf).symm.trans h) (by decide))
    (by rw [hnf]; rfl)).of_nofn hnf pos pos'
  rwa [litTok_nofn hnf] at h

/-- Agreement of the reference parse and the translation of the same (rest of a) pattern, read
    from pattern position `pos`. -/
inductive TopAgree (m : Mode) (pos : Pos) : Except Err Glob → Except Err (Regex × List (Nat × Nat)) → Prop
  | ok {g : Glob} {body : Regex} : goCompiles body = true →
      (∀ b s, PosOK m pos b → (Matches m.nocase body s ↔ GDen m g b s)) →
      TopAgree m pos (.ok g) (.ok (body, []))
  | error {e : Err} : TopAgree m pos (.error e) (.error e)

/-- The continuation of `topLoop` after a token. -/
def contTok (r : Regex) (t : Except Err (Regex × List (Nat × Nat))) : Except Err (Regex × List (Nat × Nat)) :=
  match t with
  | .ok (b, negs) => .ok (.cat r b, negs)
  | .error e => .error e

theorem TopAgree.nil {m : Mode} {pos : Pos} : TopAgree m pos (.ok .eps) (.ok (.eps, [])) :=
  .ok rfl fun _ s _ => matches_eps_iff _ s

theorem TokAgree.cons {m : Mode} {pos pos' : Pos} {r : Regex} {gtok : Glob} {pr : Except Err Glob}
    {t : Except Err (Regex × List (Nat × Nat))} (ht : TokAgree m pos pos' r gtok)
    (h : TopAgree m pos' pr t) : TopAgree m pos (andThenG gtok pr) (contTok r t) := by
  cases h with
  | error => exact .error
  | ok hcb hb =>
    refine .ok (by simp only [goCompiles, ht.compiles, hcb, Bool.and_self]) fun b s hp => ?_
    rw [matches_cat_iff]
    simp only [GDen]
    constructor
    · rintro ⟨s1, s2, rfl, h1, h2⟩
      have g1 := (ht.sem b s1 hp).mp h1
      exact ⟨s1, s2, rfl, g1, (hb _ s2 (ht.ctx b s1 hp g1)).mp h2⟩
    · rintro ⟨s1, s2, rfl, h1, h2⟩
      exact ⟨s1, s2, rfl, (ht.sem b s1 hp).mpr h1, (hb _ s2 (ht.ctx b s1 hp h1)).mpr h2⟩

/-- `**` without globstar: the reference reads two stars where pattern.go emits one token. -/
theorem TopAgree.dup_star {m : Mode} {pos : Pos} {pr : Except Err Glob}
    {t : Except Err (Regex × List (Nat × Nat))} (h : TopAgree m pos (andThenG .star pr) t) :
    TopAgree m pos (andThenG .star (andThenG .star pr)) t := by
  cases pr with
  | error e => exact h
  | ok g =>
    cases h with
    | ok hc hb => exact .ok hc fun b s hp => by rw [hb b s hp, GDen_star_star]

end ShVerif.L3
