import ShVerif.Proofs.C24Fmt
/-
  C24 — the loop of formatInto and the builtins.

  The loop is taken one iteration at a time.  `step` has one equation per kind of iteration (escape,
  text, conversion character, other character of a directive); `FmtsOK` is the invariant on the
  directive being read: a non-empty `fmts` is what has been read of an `MDir`, for which
  `goFprintf_dir` answers.  What a pass does is decided by the format up to the contents of the
  arguments: `plan` computes it (a `Plan`: bytes and conversions in turn, and how the pass ends) and
  `go_plan` says the loop is the plan run against the arguments.  Safety, missing arguments, the error
  being a matter of the format alone and unused trailing arguments are read off `Plan.run`; the reuse
  loop of `printf` rests on them.
-/
namespace ShVerif.C24

theorem go_nil (n : Option (Bytes → Res)) (k : Nat) (st : St) :
    go n [] k st = if st.fmts.length > 0 then .err [] .missingChar else .ok [] st.args.length := by
  cases k <;> rfl

theorem go_skip (n : Option (Bytes → Res)) (c : UInt8) (rest : Bytes) (k : Nat) (st : St) :
    go n (c :: rest) (k + 1) st = go n rest k st := rfl

theorem go_skip_append (n : Option (Bytes → Res)) (st : St) (rest : Bytes) :
    ∀ (pre : Bytes), go n (pre ++ rest) pre.length st = go n rest 0 st
  | [] => rfl
  | c :: pre => by
    simp only [List.cons_append, List.length_cons, go_skip]
    exact go_skip_append n st rest pre

theorem go_zero (n : Option (Bytes → Res)) (c : UInt8) (rest : Bytes) (st : St) :
    go n (c :: rest) 0 st =
      match step n c rest st with
      | .cont o st' k => (go n rest k st').prepend o
      | .stop r => r := rfl

theorem go_cont {n : Option (Bytes → Res)} {c : UInt8} {rest o : Bytes} {st st' : St} {k : Nat}
    (h : step n c rest st = .cont o st' k) : go n (c :: rest) 0 st = (go n rest k st').prepend o := by
  rw [go_zero, h]

theorem Res.prepend_nil (r : Res) : r.prepend [] = r := by
  cases r <;> rfl

theorem Res.prepend_prepend (a b : Bytes) (r : Res) : (r.prepend b).prepend a = r.prepend (a ++ b) := by
  cases r <;> simp [Res.prepend]

theorem Res.prepend_eq_ok (o : Bytes) (r : Res) (out : Bytes) (left : Nat)
    (h : r.prepend o = .ok out left) : ∃ out', r = .ok out' left ∧ out = o ++ out' := by
  cases r with
  | ok out' l => cases h; exact ⟨out', rfl, rfl⟩
  | _ => cases h

def Res.errOf : Res → Option Err
  | .err _ e => some e
  | _ => none

theorem Res.errOf_prepend (o : Bytes) (r : Res) : (r.prepend o).errOf = r.errOf := by
  cases r <;> rfl

def Res.view : Res → Res
  | .ok out _ => .ok out 0
  | r => r

theorem Res.view_prepend (o : Bytes) (r : Res) : (r.prepend o).view = (r.view).prepend o := by
  cases r <;> rfl

theorem countDigits_le (hex : Bool) : ∀ (max : Nat) (s : Bytes), countDigits hex max s ≤ s.length
  | 0, s => by simp [countDigits]
  | _ + 1, [] => by simp [countDigits]
  | max + 1, c :: rest => by
    simp only [countDigits]
    split
    · have := countDigits_le hex max rest
      simp only [List.length_cons]; omega
    · omega

theorem decdigit_isDigitChar (hex : Bool) (c : UInt8) (h : 48 ≤ c ∧ c ≤ 57) : isDigitChar hex c = true := by
  simp [isDigitChar, h]

theorem countDigits_append (hex : Bool) (rest : Bytes) :
    ∀ (ds : Bytes) (max : Nat), (∀ d ∈ ds, isDigitChar hex d = true) → ds.length ≤ max →
      (ds.length = max ∨ ∀ c r, rest = c :: r → isDigitChar hex c = false) →
      countDigits hex max (ds ++ rest) = ds.length
  | [], max, _, _, hstop => by
    cases max with
    | zero => rfl
    | succ m =>
      cases rest with
      | nil => rfl
      | cons c r =>
        rcases hstop with h | h
        · simp at h
        · simp [countDigits, h c r rfl]
  | d :: ds, max, hds, hlen, hstop => by
    cases max with
    | zero => simp at hlen
    | succ m =>
      have hd := hds d (List.mem_cons_self ..)
      simp only [List.cons_append, countDigits, hd, if_true, List.length_cons]
      rw [countDigits_append hex rest ds m (fun x hx => hds x (List.mem_cons_of_mem _ hx))
        (by simp at hlen; omega)
        (by rcases hstop with h | h
            · left; simp at h; omega
            · right; exact h)]
      omega

theorem readDigits_some (max : Nat) (hex : Bool) (s : Bytes) :
    readDigits max hex s = some (s.take (countDigits hex max s), countDigits hex max s) := by
  have h := countDigits_le hex max s
  simp [readDigits, slice?, h]

theorem oct_not_table (c : UInt8) (hc : 48 ≤ c ∧ c ≤ 55) :
    ¬ (c = 97 ∨ c = 98 ∨ c = 101 ∨ c = 69 ∨ c = 102 ∨ c = 110 ∨ c = 114 ∨ c = 116 ∨ c = 118
      ∨ c = 92 ∨ c = 39 ∨ c = 34 ∨ c = 63) := by
  intro h
  rcases h with h | h | h | h | h | h | h | h | h | h | h | h | h <;> exact ne_of_dec (dec_of_oct hc) (by decide) h

theorem xuU_not_table (c : UInt8) (hc : c = 120 ∨ c = 117 ∨ c = 85) :
    ¬ (c = 97 ∨ c = 98 ∨ c = 101 ∨ c = 69 ∨ c = 102 ∨ c = 110 ∨ c = 114 ∨ c = 116 ∨ c = 118
      ∨ c = 92 ∨ c = 39 ∨ c = 34 ∨ c = 63) ∧ ¬ (48 ≤ c ∧ c ≤ 55) := by
  rcases hc with h | h | h <;> subst h <;> decide

theorem escape_oct (c : UInt8) (after : Bytes) (hc : 48 ≤ c ∧ c ≤ 55) :
    escape (c :: after) =
      some ([UInt8.ofNat (parseUint ((c :: after).take (countDigits false 3 (c :: after))) 8 8).1],
        countDigits false 3 (c :: after)) := by
  have hne := oct_not_table c hc
  simp only [not_or] at hne
  -- the octal digit itself is counted, so the `j = 0` exit is not taken
  have hj : countDigits false 3 (c :: after) ≠ 0 := by
    simp [countDigits, decdigit_isDigitChar false c (dec_of_oct hc)]
  unfold escape
  simp only [hne, hc, or_self, and_self, if_false, if_true, readDigits_some, hj]

theorem escape_isSome (rest : Bytes) : (escape rest).isSome = true := by
  cases rest with
  | nil => rfl
  | cons c after =>
    by_cases h : 48 ≤ c ∧ c ≤ 55
    · rw [escape_oct c after h]; rfl
    · unfold escape
      simp only [readDigits_some, apply_ite Option.isSome, Option.isSome_some, h, if_false, ite_self]

theorem escape_eq (rest : Bytes) : ∃ o k, escape rest = some (o, k) := by
  obtain ⟨⟨o, k⟩, h⟩ := Option.isSome_iff_exists.1 (escape_isSome rest)
  exact ⟨o, k, h⟩

/-- The single-character escapes: (character after the backslash, byte written). -/
def escTable : List (UInt8 × UInt8) :=
  [(97, 7), (98, 8), (101, 27), (69, 27), (102, 12), (110, 10), (114, 13), (116, 9), (118, 11),
   (92, 92), (39, 39), (34, 34), (63, 63)]

theorem popArg_eq (args : List Bytes) : popArg args = some (args.headD [], args.tail) := by
  cases args with
  | nil => rfl
  | cons a as => simp [popArg, idx?, slice?]

theorem verb_facts (c : UInt8) (h : c = 99 ∨ c = 115 ∨ c = 98 ∨ isNumVerb c = true) :
    c ≠ 92 ∧ c ≠ 37 ∧ ¬ (c = 43 ∨ c = 45 ∨ c = 32) ∧ ¬ (48 ≤ c ∧ c ≤ 57) := by
  rw [isNumVerb_iff] at h
  rcases h with h | h | h | h | h | h | h | h <;> subst h <;> decide

theorem step_esc (n : Option (Bytes → Res)) (rest : Bytes) (st : St) :
    step n 92 rest st =
      match escape rest with
      | none => .stop .panic
      | some (o, k) => .cont o st k := by
  simp only [step, if_true]
  rfl

theorem step_text (n : Option (Bytes → Res)) (c : UInt8) (rest : Bytes) (args : List Bytes)
    (h92 : c ≠ 92) :
    step n c rest ⟨[], args⟩ =
      if n.isSome ∧ c = 37 then .cont [] ⟨[c], args⟩ 0 else .cont [c] ⟨[], args⟩ 0 := by
  simp only [step, h92, if_false, List.length_nil, gt_iff_lt, Nat.lt_irrefl]

theorem step_dir (n : Option (Bytes → Res)) (c : UInt8) (rest fm : Bytes) (args : List Bytes)
    (h92 : c ≠ 92) (hfm : fm.length > 0)
    (hv : ¬ (c = 99 ∨ c = 115 ∨ c = 98 ∨ isNumVerb c = true)) :
    step n c rest ⟨fm, args⟩ =
      if c = 37 then .cont [37] ⟨[], args⟩ 0
      else if c = 43 ∨ c = 45 ∨ c = 32 then
        if fm.length > 1 then .stop (.err [] (.invalidChar c)) else .cont [] ⟨fm ++ [c], args⟩ 0
      else if 48 ≤ c ∧ c ≤ 57 then .cont [] ⟨fm ++ [c], args⟩ 0
      else .stop (.err [] (.invalidChar c)) := by
  have h99 : c ≠ 99 := fun h => hv (Or.inl h)
  have hverb : ¬ (c = 115 ∨ c = 98 ∨ isNumVerb c = true) := fun h => hv (Or.inr h)
  simp only [step, h92, hfm, h99, hverb, if_false, if_true]

theorem step_digit (n : Option (Bytes → Res)) (c : UInt8) (rest fm : Bytes) (args : List Bytes)
    (hc : 48 ≤ c ∧ c ≤ 57) (hfm : fm.length > 0) :
    step n c rest ⟨fm, args⟩ = .cont [] ⟨fm ++ [c], args⟩ 0 := by
  have hfl : ¬ (c = 43 ∨ c = 45 ∨ c = 32) := fun h => by
    rcases h with h | h | h <;> exact ne_of_dec hc (by decide) h
  rw [step_dir n c rest fm args (ne_of_dec hc (by decide)) hfm (fun hv => (verb_facts c hv).2.2.2 hc),
    if_neg (ne_of_dec hc (by decide)), if_neg hfl, if_pos hc]

theorem step_conv (n : Option (Bytes → Res)) (c : UInt8) (rest fm : Bytes) (args : List Bytes)
    (hfm : fm.length > 0) (hv : c = 99 ∨ c = 115 ∨ c = 98 ∨ isNumVerb c = true) :
    step n c rest ⟨fm, args⟩ =
      if c = 99 then .cont [(args.headD []).headD 0] ⟨[], args.tail⟩ 0
      else if c = 98 then
        match n with
        | none => .stop .unmodelled
        | some f =>
          match f (args.headD []) with
          | .ok o _ => .cont o ⟨[], args.tail⟩ 0
          | .err o e => .stop (.err o e)
          | r => .stop r
      else
        match goFprintf (fm ++ [goVerb c]) (fargOf c (args.headD [])) with
        | some o => .cont o ⟨[], args.tail⟩ 0
        | none => .stop .unmodelled := by
  obtain ⟨h92, h37, hnf, hnd⟩ := verb_facts c hv
  simp only [step, h92, hfm, h37, hnf, hnd, if_false, if_true, popArg_eq]
  by_cases h99 : c = 99
  · simp only [h99, if_true]
    cases args with
    | nil => rfl
    | cons a as => cases a <;> rfl
  · simp only [h99, hv.resolve_left h99, if_false, if_true]
    rfl

/-- `fmts` between iterations: empty, or what has been read of a directive (whose conversion
    character is yet to come: any one will do). -/
def FmtsOK (fmts : Bytes) : Prop := fmts = [] ∨ ∃ d : MDir, d.WF ∧ d.fmts = fmts

theorem FmtsOK_nil : FmtsOK [] := Or.inl rfl

theorem FmtsOK_pct : FmtsOK [37] :=
  Or.inr ⟨⟨[], 0, [], 115⟩, ⟨Or.inl rfl, nofun, nofun, Or.inr (Or.inl rfl)⟩, rfl⟩

theorem FmtsOK_flag (fmts : Bytes) (c : UInt8) (hc : c = 43 ∨ c = 45 ∨ c = 32) (h : FmtsOK fmts)
    (hne : fmts.length > 0) (hlen : ¬ fmts.length > 1) : FmtsOK (fmts ++ [c]) := by
  rcases h with rfl | ⟨d, _, rfl⟩
  · exact absurd hne (Nat.lt_irrefl 0)
  · have e : d.flag ++ d.digits = [] :=
      List.eq_nil_of_length_eq_zero (by rw [MDir.fmts, List.length_cons] at hlen; omega)
    rw [MDir.fmts, e]
    exact Or.inr ⟨⟨[c], 0, [], 115⟩,
      ⟨by rcases hc with h | h | h <;> subst h <;> simp, nofun, nofun, Or.inr (Or.inl rfl)⟩, rfl⟩

theorem FmtsOK_digit (fmts : Bytes) (c : UInt8) (hc : 48 ≤ c ∧ c ≤ 57) (h : FmtsOK fmts)
    (hne : fmts.length > 0) : FmtsOK (fmts ++ [c]) := by
  rcases h with rfl | ⟨d, hd, rfl⟩
  · exact absurd hne (Nat.lt_irrefl 0)
  -- `fmt` takes a zero before the width for a flag; any other digit belongs to the width
  by_cases hz : d.width = [] ∧ c = 48
  · refine Or.inr ⟨{ d with zeros := d.zeros + 1 }, ⟨hd.flag, hd.width, hd.nz, hd.verb⟩, ?_⟩
    simp [MDir.fmts, MDir.digits, hz.1, hz.2, List.replicate_succ']
  · refine Or.inr ⟨{ d with width := d.width ++ [c] }, ⟨hd.flag, ?_, ?_, hd.verb⟩, ?_⟩
    · intro x hx
      rcases List.mem_append.1 hx with hx | hx
      · exact hd.width x hx
      · rw [List.mem_singleton.1 hx, isDec_iff]; exact hc
    · intro x r e
      cases hw : d.width with
      | nil => rw [hw] at e hz; cases e; exact fun h => hz ⟨rfl, h⟩
      | cons y t => rw [hw] at e; cases e; exact hd.nz _ _ hw
    · simp [MDir.fmts, MDir.digits]

theorem MDir.fmtsOK (d : MDir) (h : d.WF) : FmtsOK d.fmts := Or.inr ⟨d, h, rfl⟩

theorem MDir.digits_dec (d : MDir) (h : d.WF) : ∀ x ∈ d.digits, isDec x = true := by
  intro x hx
  rcases List.mem_append.1 hx with hx | hx
  · rw [List.mem_replicate] at hx; rw [hx.2]; decide
  · exact h.width x hx

theorem goFprintf_isSome (fm : Bytes) (c : UInt8) (a : Bytes) (hne : fm ≠ []) (hf : FmtsOK fm)
    (hc : c = 115 ∨ isNumVerb c = true) : (goFprintf (fm ++ [goVerb c]) (fargOf c a)).isSome = true := by
  obtain ⟨d, hd, rfl⟩ := hf.resolve_left hne
  obtain ⟨hv, hp⟩ := conv_fprintf c a hc
  by_cases hw : WidthOK d.width
  · rw [(goFprintf_dir d hd _ hv _).1 hw]; exact hp _ _
  · rw [(goFprintf_dir d hd _ hv _).2 hw]; exact noVerbExtra_isSome _

/-- With a nil args slice nothing but escapes is processed: the result is always `ok … 0`. -/
theorem go_none_ok : ∀ (f : Bytes) (k : Nat), ∃ o, go none f k ⟨[], []⟩ = .ok o 0
  | [], k => ⟨[], by rw [go_nil]; rfl⟩
  | c :: rest, k + 1 => by rw [go_skip]; exact go_none_ok rest k
  | c :: rest, 0 => by
    rw [go_zero]
    by_cases h92 : c = 92
    · obtain ⟨o, k, he⟩ := escape_eq rest
      obtain ⟨o', h'⟩ := go_none_ok rest k
      exact ⟨o ++ o', by rw [h92, step_esc, he]; simp only [h']; rfl⟩
    · obtain ⟨o', h'⟩ := go_none_ok rest 0
      exact ⟨[c] ++ o', by rw [step_text _ _ _ _ h92]; simp only [Option.isSome_none, Bool.false_eq_true,
        false_and, if_false, h']; rfl⟩

theorem formatNil_ok (f : Bytes) : ∃ o, formatNil f = .ok o 0 := go_none_ok f 0

/-- The nested formatter of `%b` never fails. -/
def NestedOK (n : Option (Bytes → Res)) : Prop :=
  match n with
  | none => True
  | some f => ∀ a, ∃ o l, f a = .ok o l

theorem nestedOK_formatNil : NestedOK (some formatNil) := fun a =>
  let ⟨o, h⟩ := formatNil_ok a; ⟨o, 0, h⟩

/-- Does the iteration `c` (with the given `fmts`) take an argument? -/
def pops (fmts : Bytes) (c : UInt8) : Bool :=
  decide (c ≠ 92) && decide (fmts.length > 0) &&
    (decide (c = 99) || decide (c = 115) || decide (c = 98) || isNumVerb c)

theorem pops_iff (fmts : Bytes) (c : UInt8) :
    pops fmts c = true ↔ c ≠ 92 ∧ fmts.length > 0 ∧ (c = 99 ∨ c = 115 ∨ c = 98 ∨ isNumVerb c = true) := by
  simp [pops, and_assoc, or_assoc]

/-- What the conversion `c`, reached with `fmts = fm`, writes for the argument `a`
    (`MDir.out f d a` is `convOut f d.verb d.fmts a`). -/
def convOut (f : Bytes → Res) (c : UInt8) (fm a : Bytes) : Bytes :=
  if c = 99 then [a.headD 0]
  else if c = 98 then (match f a with | .ok o _ => o | _ => [])
  else (goFprintf (fm ++ [goVerb c]) (fargOf c a)).getD []

theorem step_conv_ok (f : Bytes → Res) (hf : NestedOK (some f)) (c : UInt8) (rest fm : Bytes)
    (args : List Bytes) (hinv : FmtsOK fm) (hp : pops fm c = true) :
    step (some f) c rest ⟨fm, args⟩ = .cont (convOut f c fm (args.headD [])) ⟨[], args.tail⟩ 0 := by
  obtain ⟨_, hfm, hv⟩ := (pops_iff fm c).1 hp
  rw [step_conv _ _ _ _ _ hfm hv]
  unfold convOut
  by_cases h99 : c = 99
  · rw [if_pos h99, if_pos h99]
  rw [if_neg h99, if_neg h99]
  by_cases h98 : c = 98
  · rw [if_pos h98, if_pos h98]
    obtain ⟨o, l, ho⟩ := hf (args.headD [])
    simp only [ho]
  rw [if_neg h98, if_neg h98]
  have hne : fm ≠ [] := fun h => by rw [h] at hfm; exact Nat.lt_irrefl 0 hfm
  have hsome := goFprintf_isSome fm c (args.headD []) hne hinv
    ((hv.resolve_left h99).imp_right (·.resolve_left h98))
  obtain ⟨o, ho⟩ := Option.isSome_iff_exists.1 hsome
  simp only [ho, Option.getD_some]

def Step.OK (c : UInt8) : Step → Prop
  | .cont _ st' _ => FmtsOK st'.fmts
  | .stop r => r = .err [] (.invalidChar c)

theorem step_ok (f : Bytes → Res) (hf : NestedOK (some f)) (c : UInt8) (rest fm : Bytes)
    (args : List Bytes) (h : FmtsOK fm) : (step (some f) c rest ⟨fm, args⟩).OK c := by
  by_cases hp : pops fm c = true
  · rw [step_conv_ok f hf c rest fm args h hp]; exact FmtsOK_nil
  by_cases h92 : c = 92
  · obtain ⟨o, k, he⟩ := escape_eq rest
    rw [h92, step_esc, he]; exact h
  cases fm with
  | nil =>
    rw [step_text _ _ _ _ h92]
    by_cases h37 : (some f).isSome ∧ c = 37
    · rw [if_pos h37, h37.2]; exact FmtsOK_pct
    · rw [if_neg h37]; exact FmtsOK_nil
  | cons b fm' =>
    have hfm : (b :: fm').length > 0 := Nat.zero_lt_succ _
    rw [step_dir _ _ _ _ _ h92 hfm (fun hv => hp ((pops_iff _ _).2 ⟨h92, hfm, hv⟩))]
    by_cases h37 : c = 37
    · rw [if_pos h37]; exact FmtsOK_nil
    rw [if_neg h37]
    by_cases hflag : c = 43 ∨ c = 45 ∨ c = 32
    · rw [if_pos hflag]
      by_cases hl1 : (b :: fm').length > 1
      · rw [if_pos hl1]; rfl
      · rw [if_neg hl1]; exact FmtsOK_flag _ _ hflag h hfm hl1
    rw [if_neg hflag]
    by_cases hdig : 48 ≤ c ∧ c ≤ 57
    · rw [if_pos hdig]; exact FmtsOK_digit _ _ hdig h hfm
    · rw [if_neg hdig]; rfl

def Step.withArgs (a : List Bytes) : Step → Step
  | .cont o st k => .cont o { st with args := a } k
  | .stop r => .stop r

theorem step_nopop (n : Option (Bytes → Res)) (c : UInt8) (rest : Bytes) (fm : Bytes)
    (args : List Bytes) (h : pops fm c = false) :
    step n c rest ⟨fm, args⟩ = (step n c rest ⟨fm, []⟩).withArgs args := by
  by_cases h92 : c = 92
  · rw [h92, step_esc, step_esc]
    cases escape rest <;> rfl
  cases fm with
  | nil =>
    rw [step_text _ _ _ _ h92, step_text _ _ _ _ h92, apply_ite (Step.withArgs args)]
    rfl
  | cons b fm' =>
    have hfm : (b :: fm').length > 0 := Nat.zero_lt_succ _
    have hv : ¬ (c = 99 ∨ c = 115 ∨ c = 98 ∨ isNumVerb c = true) := fun hv => by
      rw [(pops_iff _ _).2 ⟨h92, hfm, hv⟩] at h; cases h
    rw [step_dir _ _ _ _ _ h92 hfm hv, step_dir _ _ _ _ _ h92 hfm hv]
    simp only [apply_ite (Step.withArgs args)]
    rfl

/-- What one iteration of the loop contributes, as far as the format alone decides it: bytes, or a
    conversion (its character and the `fmts` it is reached with), which takes the next argument. -/
inductive Item
  | lit (o : Bytes)
  | conv (c : UInt8) (fm : Bytes)

/-- A pass over a format before the arguments are known: what it writes and how it ends. -/
structure Plan where
  items : List Item
  err : Option Err

def Plan.cons (i : Item) (p : Plan) : Plan := { p with items := i :: p.items }

section
variable (f : Bytes → Res)

/-- The recursion of `go` with the argument list left out (`f` is not called: an iteration that
    does not take an argument does not format one). -/
def plan : Bytes → Nat → Bytes → Plan
  | [], _, fm => ⟨[], if fm.length > 0 then some .missingChar else none⟩
  | _ :: rest, k + 1, fm => plan rest k fm
  | c :: rest, 0, fm =>
    if pops fm c = true then (plan rest 0 []).cons (.conv c fm)
    else
      match step (some f) c rest ⟨fm, []⟩ with
      | .cont o st k => (plan rest k st.fmts).cons (.lit o)
      | .stop _ => ⟨[], some (.invalidChar c)⟩

def render : List Item → List Bytes → Bytes
  | [], _ => []
  | .lit o :: is, args => o ++ render is args
  | .conv c fm :: is, args => convOut f c fm (args.headD []) ++ render is args.tail

def nconv : List Item → Nat
  | [] => 0
  | .lit _ :: is => nconv is
  | .conv _ _ :: is => nconv is + 1

def Plan.run (p : Plan) (args : List Bytes) : Res :=
  match p.err with
  | none => .ok (render f p.items args) (args.length - nconv p.items)
  | some e => .err (render f p.items args) e

theorem Plan.run_lit (o : Bytes) (p : Plan) (args : List Bytes) :
    (p.cons (.lit o)).run f args = (p.run f args).prepend o := by
  unfold Plan.run Plan.cons
  cases p.err <;> rfl

theorem Plan.run_conv (c : UInt8) (fm : Bytes) (p : Plan) (args : List Bytes) :
    (p.cons (.conv c fm)).run f args = (p.run f args.tail).prepend (convOut f c fm (args.headD [])) := by
  unfold Plan.run Plan.cons
  cases p.err
  · simp only [nconv, render, Res.prepend, List.length_tail, Nat.sub_sub, Nat.add_comm]
  · rfl

theorem Plan.run_cases (p : Plan) (args : List Bytes) :
    (∃ out left, p.run f args = .ok out left) ∨ ∃ out e, p.run f args = .err out e := by
  unfold Plan.run
  cases p.err
  · exact Or.inl ⟨_, _, rfl⟩
  · exact Or.inr ⟨_, _, rfl⟩

theorem Plan.run_errOf (p : Plan) (args : List Bytes) : (p.run f args).errOf = p.err := by
  unfold Plan.run
  cases p.err <;> rfl

theorem Plan.run_eq_ok (p : Plan) (args : List Bytes) (out : Bytes) (left : Nat) :
    p.run f args = .ok out left ↔
      p.err = none ∧ render f p.items args = out ∧ args.length - nconv p.items = left := by
  unfold Plan.run
  cases p.err <;> simp

theorem Plan.run_view (p : Plan) {a1 a2 : List Bytes} (h : render f p.items a1 = render f p.items a2) :
    (p.run f a1).view = (p.run f a2).view := by
  unfold Plan.run
  cases p.err <;> simp only [Res.view, h]

theorem render_missing : ∀ (is : List Item) (args : List Bytes) (m : Nat),
    render f is (args ++ List.replicate m []) = render f is args
  | [], _, _ => rfl
  | .lit o :: is, args, m => congrArg (o ++ ·) (render_missing is args m)
  | .conv .. :: is, _ :: as, m => congrArg (_ ++ ·) (render_missing is as m)
  | .conv .. :: _, [], 0 => rfl
  | .conv .. :: is, [], m + 1 => congrArg (_ ++ ·) (render_missing is [] m)

/-- Arguments beyond the conversions of the plan are not looked at. -/
theorem render_take : ∀ (is : List Item) (args : List Bytes),
    render f is (args.take (nconv is)) = render f is args
  | [], _ => rfl
  | .lit o :: is, args => congrArg (o ++ ·) (render_take is args)
  | .conv .. :: _, [] => rfl
  | .conv .. :: is, _ :: as => congrArg (_ ++ ·) (render_take is as)

end

theorem plan_nil (f : Bytes → Res) (k : Nat) (fm : Bytes) :
    plan f [] k fm = ⟨[], if fm.length > 0 then some .missingChar else none⟩ := by
  cases k <;> rfl

/-- The loop of formatInto in closed form: the format alone decides what is written between the
    conversions, which conversions there are and whether the pass fails; a conversion takes the
    first argument, any other iteration leaves the arguments alone. -/
theorem go_plan (f : Bytes → Res) (hf : NestedOK (some f)) :
    ∀ (fmt : Bytes) (k : Nat) (fm : Bytes), FmtsOK fm → ∀ args,
      go (some f) fmt k ⟨fm, args⟩ = (plan f fmt k fm).run f args
  | [], k, fm, _, args => by
    rw [go_nil, plan_nil]
    unfold Plan.run
    split <;> rfl
  | _ :: rest, k + 1, fm, h, args => go_plan f hf rest k fm h args
  | c :: rest, 0, fm, h, args => by
    rw [plan]
    by_cases hp : pops fm c = true
    · rw [if_pos hp, go_cont (step_conv_ok f hf c rest fm args h hp), Plan.run_conv,
        go_plan f hf rest 0 [] FmtsOK_nil]
    · rw [if_neg hp, go_zero, step_nopop _ _ _ _ _ (Bool.not_eq_true _ ▸ hp)]
      have hi := step_ok f hf c rest fm [] h
      cases hs : step (some f) c rest ⟨fm, []⟩ with
      | cont o st' k =>
        rw [hs] at hi
        simp only [Step.withArgs]
        rw [Plan.run_lit, go_plan f hf rest k st'.fmts hi]
      | stop r =>
        rw [hs] at hi
        rw [hi]; rfl

theorem formatArgs_plan (fmt : Bytes) (args : List Bytes) :
    formatArgs fmt args = (plan formatNil fmt 0 []).run formatNil args :=
  go_plan formatNil nestedOK_formatNil fmt 0 [] FmtsOK_nil args

/-- Neither a Go panic nor a call of `fmt` outside the modelled fragment. -/
theorem formatArgs_cases (fmt : Bytes) (args : List Bytes) :
    (∃ out left, formatArgs fmt args = .ok out left) ∨ ∃ out e, formatArgs fmt args = .err out e := by
  rw [formatArgs_plan]; exact Plan.run_cases ..

theorem formatArgs_errOf_indep (fmt : Bytes) (a1 a2 : List Bytes) :
    (formatArgs fmt a1).errOf = (formatArgs fmt a2).errOf := by
  rw [formatArgs_plan, formatArgs_plan, Plan.run_errOf, Plan.run_errOf]

theorem formatArgs_missing (fmt : Bytes) (args : List Bytes) (m : Nat) :
    (formatArgs fmt (args ++ List.replicate m [])).view = (formatArgs fmt args).view := by
  rw [formatArgs_plan, formatArgs_plan]
  exact Plan.run_view _ _ (render_missing ..)

/-- A pass uses as many arguments as the format has conversions, and on those alone it writes the
    same. -/
theorem formatArgs_split (fmt : Bytes) (args : List Bytes) (out : Bytes) (left : Nat)
    (h : formatArgs fmt args = .ok out left) :
    ∃ chunk rest, args = chunk ++ rest ∧ rest.length = left ∧ formatArgs fmt chunk = .ok out 0 := by
  rw [formatArgs_plan, Plan.run_eq_ok] at h
  obtain ⟨he, rfl, rfl⟩ := h
  refine ⟨args.take (nconv (plan formatNil fmt 0 []).items), args.drop (nconv (plan formatNil fmt 0 []).items),
    (List.take_append_drop _ _).symm, List.length_drop, ?_⟩
  rw [formatArgs_plan, Plan.run_eq_ok]
  exact ⟨he, render_take .., by rw [List.length_take]; omega⟩

theorem go_digits (n : Option (Bytes → Res)) (rest : Bytes) (args : List Bytes) :
    ∀ (ds fm : Bytes), (∀ d ∈ ds, isDec d = true) → fm.length > 0 →
      go n (ds ++ rest) 0 ⟨fm, args⟩ = go n rest 0 ⟨fm ++ ds, args⟩
  | [], fm, _, _ => by simp
  | d :: ds, fm, hds, hfm => by
    have hd : 48 ≤ d ∧ d ≤ 57 := (isDec_iff d).1 (hds d (List.mem_cons_self ..))
    rw [List.cons_append, go_cont (step_digit n d _ fm args hd hfm), Res.prepend_nil]
    rw [go_digits n rest args ds (fm ++ [d]) (fun x hx => hds x (List.mem_cons_of_mem _ hx)) (by simp)]
    simp

theorem go_directive (f : Bytes → Res) (hf : NestedOK (some f)) (d : MDir) (h : d.WF)
    (rest : Bytes) (args : List Bytes) :
    go (some f) (d.render ++ rest) 0 ⟨[], args⟩ =
      (go (some f) rest 0 ⟨[], args.tail⟩).prepend (d.out f (args.headD [])) := by
  have hr : d.render ++ rest = 37 :: (d.flag ++ (d.digits ++ (d.verb :: rest))) := by
    simp [MDir.render, MDir.fmts]
  have hpct : ∀ r, step (some f) 37 r ⟨[], args⟩ = .cont [] ⟨[37], args⟩ 0 := fun _ => rfl
  rw [hr, go_cont (hpct _), Res.prepend_nil]
  have hflag : go (some f) (d.flag ++ (d.digits ++ (d.verb :: rest))) 0 ⟨[37], args⟩ =
      go (some f) (d.digits ++ (d.verb :: rest)) 0 ⟨37 :: d.flag, args⟩ := by
    rcases h.flag with hfl | hfl | hfl | hfl <;> rw [hfl]
    · rfl
    all_goals exact (go_cont (o := []) rfl).trans (Res.prepend_nil _)
  rw [hflag, go_digits (some f) _ args d.digits (37 :: d.flag) (d.digits_dec h) (Nat.zero_lt_succ _)]
  have hp : pops d.fmts d.verb = true :=
    (pops_iff _ _).2 ⟨(verb_facts _ h.verb).1, Nat.zero_lt_succ _, h.verb⟩
  exact go_cont (step_conv_ok f hf d.verb rest d.fmts args (d.fmtsOK h) hp)

theorem formatArgs_directive (d : MDir) (h : d.WF) (args : List Bytes) :
    formatArgs d.render args = .ok (d.out formatNil (args.headD [])) args.tail.length := by
  have := go_directive formatNil nestedOK_formatNil d h [] args
  rw [List.append_nil] at this
  unfold formatArgs
  rw [this, go_nil]
  simp [Res.prepend]

/-- `%b`: flags and width are ignored, as formatInto ignores them (`finding_width_ignored_c_b`). -/
theorem dir_out_b (d : MDir) (hv : d.verb = 98) (a : Bytes) :
    ∃ o, formatNil a = .ok o 0 ∧ d.out formatNil a = o := by
  obtain ⟨o, ho⟩ := formatNil_ok a
  refine ⟨o, ho, ?_⟩
  simp [MDir.out, hv, ho]

theorem formatInto_obs (f : Bytes) (args : List Bytes) (nil : Bool) :
    ∃ o, formatInto f args nil = .obs o := by
  unfold formatInto
  cases nil with
  | true =>
    obtain ⟨o, h⟩ := formatNil_ok f
    simp only [if_true, h]; exact ⟨_, rfl⟩
  | false =>
    simp only [Bool.false_eq_true, if_false]
    rcases formatArgs_cases f args with ⟨out, left, h⟩ | ⟨out, e, h⟩ <;> rw [h] <;> exact ⟨_, rfl⟩

theorem format_obs (f : Bytes) (args : List Bytes) (nil : Bool) : ∃ o, format f args nil = .obs o := by
  obtain ⟨o, h⟩ := formatInto_obs f args nil
  unfold format
  rw [h]
  simp only
  split <;> exact ⟨_, rfl⟩

theorem formatInto_false (f : Bytes) (args : List Bytes) :
    formatInto f args false =
      match formatArgs f args with
      | .ok out left => .obs { out := out, consumed := args.length - left, err := none }
      | .err out e => .obs { out := out, consumed := 0, err := some e }
      | .panic => .panic
      | .unmodelled => .unmodelled := by
  simp only [formatInto, Bool.false_eq_true, if_false]
  cases formatArgs f args <;> rfl

theorem format_false (f : Bytes) (args : List Bytes) :
    format f args false =
      match formatArgs f args with
      | .ok out left => .obs { out := out, consumed := args.length - left, err := none }
      | .err _ e => .obs { out := [], consumed := 0, err := some e }
      | .panic => .panic
      | .unmodelled => .unmodelled := by
  rw [format, formatInto_false]
  cases formatArgs f args <;> rfl

theorem slice_drop (args : List Bytes) (n : Nat) (h : n ≤ args.length) :
    slice? args n args.length = some (args.drop n) := by
  have : (args.drop n).take (args.length - n) = args.drop n :=
    List.take_of_length_le (by simp)
  simp [slice?, h, this]

theorem printfLoop_succ (fuel : Nat) (fmt : Bytes) (args : List Bytes) (acc : Bytes) :
    printfLoop (fuel + 1) fmt args acc =
      match formatArgs fmt args with
      | .ok out left =>
        if args.length - left = 0 ∨ (args.drop (args.length - left)).length = 0 then
          .done { out := acc ++ out, status := 0 }
        else printfLoop fuel fmt (args.drop (args.length - left)) (acc ++ out)
      | .err _ _ => .done { out := acc, status := 1 }
      | .panic => .panic
      | .unmodelled => .unmodelled := by
  simp only [printfLoop, format_false]
  cases formatArgs fmt args with
  | ok out left =>
    have h : args.length - left ≤ args.length := Nat.sub_le ..
    simp [slice_drop _ _ h]
  | err out e => simp
  | panic => rfl
  | unmodelled => rfl

theorem echoBody_some (ex : Bool) : ∀ (ws : List Bytes) (first : Bool), ∃ b, echoBody ex ws first = some b
  | [], _ => ⟨[], rfl⟩
  | w :: rest, first => by
    obtain ⟨r, hr⟩ := echoBody_some ex rest false
    have : ∃ x, echoArg ex w = some x := by
      unfold echoArg
      cases ex with
      | false => exact ⟨w, rfl⟩
      | true =>
        obtain ⟨o, ho⟩ := format_obs w [] true
        simp only [if_true, ho]
        exact ⟨_, rfl⟩
    obtain ⟨x, hx⟩ := this
    simp only [echoBody, hx, hr]
    exact ⟨_, rfl⟩

/-- `Reuse fmt args out`: `out` is the concatenation of what single passes write for consecutive
    chunks of `args`, each chunk used up completely by its pass — or the format takes no argument
    at all and the arguments are ignored. -/
inductive Reuse (fmt : Bytes) : List Bytes → Bytes → Prop
  | last (chunk : List Bytes) (out : Bytes) :
      formatArgs fmt chunk = .ok out 0 → Reuse fmt chunk out
  | ignored (args : List Bytes) (out : Bytes) :
      args ≠ [] → formatArgs fmt args = .ok out args.length → Reuse fmt args out
  | more (chunk rest : List Bytes) (out out' : Bytes) :
      chunk ≠ [] → rest ≠ [] → formatArgs fmt chunk = .ok out 0 → Reuse fmt rest out' →
      Reuse fmt (chunk ++ rest) (out ++ out')

theorem printfLoop_ok (fuel : Nat) (fmt : Bytes) (chunk rest : List Bytes) (acc out : Bytes)
    (h : formatArgs fmt (chunk ++ rest) = .ok out rest.length) :
    printfLoop (fuel + 1) fmt (chunk ++ rest) acc =
      if chunk = [] ∨ rest = [] then .done { out := acc ++ out, status := 0 }
      else printfLoop fuel fmt rest (acc ++ out) := by
  rw [printfLoop_succ, h]
  simp only [List.length_append, Nat.add_sub_cancel, List.drop_left, List.length_eq_zero_iff]

-- `n` only drives the induction; `out` is fixed before `fuel` and `acc`, so that one `out` serves two
-- runs of the loop (`printf_reuse`).
theorem printfLoop_reuse (fmt : Bytes) (hok : (formatArgs fmt []).errOf = none) :
    ∀ (n : Nat) (args : List Bytes), args.length < n →
      ∃ out, Reuse fmt args out ∧ ∀ fuel acc, args.length < fuel →
        printfLoop fuel fmt args acc = .done { out := acc ++ out, status := 0 }
  | 0, args, h => by omega
  | n + 1, args, hn => by
    have he := formatArgs_errOf_indep fmt args []
    rw [hok] at he
    rcases formatArgs_cases fmt args with ⟨out, left, hfa⟩ | ⟨o, e, hfa⟩
    · obtain ⟨chunk, rest, rfl, rfl, hc⟩ := formatArgs_split fmt args out left hfa
      have hsucc : ∀ fuel, (chunk ++ rest).length < fuel → ∃ k, fuel = k + 1 :=
        fun fuel hf => ⟨fuel - 1, by omega⟩
      by_cases hstop : chunk = [] ∨ rest = []
      · refine ⟨out, ?_, fun fuel acc hf => ?_⟩
        · by_cases hr : rest = []
          · rw [hr, List.append_nil]; exact Reuse.last _ _ hc
          · rw [hstop.resolve_right hr, List.nil_append] at hfa ⊢
            exact Reuse.ignored _ _ hr hfa
        · obtain ⟨k, rfl⟩ := hsucc fuel hf
          rw [printfLoop_ok _ _ _ _ _ _ hfa, if_pos hstop]
      · obtain ⟨hc0, hr0⟩ := not_or.1 hstop
        have hcp := List.length_pos_iff.2 hc0
        rw [List.length_append] at hn
        obtain ⟨out', hre, hloop⟩ := printfLoop_reuse fmt hok n rest (by omega)
        refine ⟨out ++ out', Reuse.more _ _ _ _ hc0 hr0 hc hre, fun fuel acc hf => ?_⟩
        obtain ⟨k, rfl⟩ := hsucc fuel hf
        rw [printfLoop_ok _ _ _ _ _ _ hfa, if_neg hstop, hloop k _ (by rw [List.length_append] at hf; omega),
          List.append_assoc]
    · rw [hfa] at he; cases he

theorem printfLoop_err (fmt : Bytes) (e : Err) (hok : (formatArgs fmt []).errOf = some e)
    (fuel : Nat) (args : List Bytes) (acc : Bytes) :
    printfLoop (fuel + 1) fmt args acc = .done { out := acc, status := 1 } := by
  have he := formatArgs_errOf_indep fmt args []
  rw [hok] at he
  rw [printfLoop_succ]
  rcases formatArgs_cases fmt args with ⟨out, left, hfa⟩ | ⟨o, e, hfa⟩ <;> rw [hfa] at he ⊢
  · cases he

end ShVerif.C24
