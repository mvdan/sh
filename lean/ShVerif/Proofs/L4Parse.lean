/-
  L4 parser lemmas: the fragment parser applied to a token list that matches the abstract token
  sequence of a (layout-annotated) tree returns that tree, positions aside.
-/
import ShVerif.Proofs.L4Lex
import ShVerif.Proofs.L4ParseStep
namespace ShVerif.L4

theorem toksMatch_length : ∀ {as : List ATok} {tps : List TokPos}, toksMatch as tps → tps.length = as.length
  | [], [], _ => rfl
  | [], _ :: _, h => absurd h (by simp [toksMatch])
  | _ :: _, [], h => absurd h (by simp [toksMatch])
  | _ :: as, (_, _) :: ts, h => by
    have := toksMatch_length (as := as) (tps := ts) h.2
    simp [this]

theorem toksMatch_cons {a : ATok} {as : List ATok} {tps : List TokPos} (h : toksMatch (a :: as) tps) :
    ∃ t p ts, tps = (t, p) :: ts ∧ tokMatch a t ∧ toksMatch as ts := by
  cases tps with
  | nil => exact absurd h (by simp [toksMatch])
  | cons x xs =>
    obtain ⟨t, p⟩ := x
    exact ⟨t, p, xs, rfl, h.1, h.2⟩

/-- abstract tokens at which the argument loop of `callExpr` stops -/
def stopA (inSub : Bool) : ATok → Bool
  | .newl | .semi | .amp | .andAnd | .orOr | .pipe | .eof => true
  | .rparen => inSub
  | _ => false

theorem stopA_tok {inSub : Bool} {a : ATok} {t : Tok} (hm : tokMatch a t) (hs : stopA inSub a = true) :
    t.isStop = true ∧ (t = .rparen → inSub = true) := by
  cases a with
  | rparen => cases hm; exact ⟨rfl, fun _ => hs⟩
  | newl | semi | amp | andAnd | orOr | pipe | eof => cases hm; exact ⟨rfl, fun h => by cases h⟩
  | word | lparen | lbrace | rbrace | bang => cases hs

def nwordOK (n : List NPart) : Bool :=
  match n with
  | [.lit v] => v != [123] && v != [125] && v != [33]
  | _ => true

theorem plainLit_of_match {n : List NPart} {lit : Option Bytes} (hn : nwordOK n = true)
    (hlit : ∀ v, lit = some v → n = [.lit v]) : plainLit lit := by
  intro v hv hc
  rw [hlit v hv] at hn
  simp only [nwordOK, Bool.and_eq_true, bne_iff_ne, ne_eq] at hn
  rcases hc with h | h | h
  · exact hn.1.1 h
  · exact hn.1.2 h
  · exact hn.2 h

theorem callArgs_ok (ns : List (List NPart)) (hok : ∀ n ∈ ns, nwordOK n = true) (inSub : Bool) (k : List ATok)
    (hk : ∃ a rest, k = a :: rest ∧ stopA inSub a = true) :
    ∀ (tps : List TokPos) (acc : List Word) (fuel : Nat), fuel ≥ ns.length + 1 →
      toksMatch (ns.map ATok.word ++ k) tps →
      ∃ ws tps', callArgs fuel inSub ⟨tps⟩ acc = .ok (acc.reverse ++ ws, ⟨tps'⟩) ∧
        ws.map Word.norm = ns ∧ toksMatch k tps' ∧ (∀ x ∈ tps', x ∈ tps) := by
  induction ns with
  | nil =>
    intro tps acc fuel hf hm
    obtain ⟨a, rest, rfl, hs⟩ := hk
    obtain ⟨t, p, ts, rfl, hma, hmr⟩ := toksMatch_cons hm
    cases fuel with
    | zero => cases hf
    | succ n =>
      refine ⟨[], (t, p) :: ts, ?_, rfl, ⟨hma, hmr⟩, fun x hx => hx⟩
      rw [callArgs_done (ps := ⟨(t, p) :: ts⟩) (stopA_tok hma hs).1 (stopA_tok hma hs).2, List.append_nil]
  | cons n ns ih =>
    intro tps acc fuel hf hm
    obtain ⟨t, p, ts, rfl, hma, hmr⟩ := toksMatch_cons hm
    obtain ⟨w, lit, rfl, hnorm, hlit⟩ := hma
    cases fuel with
    | zero => cases hf
    | succ f =>
      obtain ⟨ws, tps', h1, h2, h3, h3'⟩ := ih (fun m hm' => hok m (List.mem_cons_of_mem _ hm')) ts (w :: acc) f
        (by simp only [List.length_cons] at hf; omega) hmr
      refine ⟨w :: ws, tps', ?_, ?_, h3, fun x hx => List.mem_cons_of_mem _ (h3' x hx)⟩
      · rw [callArgs_word (plainLit_of_match (hok n List.mem_cons_self) hlit), h1]
        simp
      · simp only [List.map_cons, h2, Word.norm, normParts_eq, hnorm]

/-!
  A layout tree is the norm tree annotated with the layout choices that matter to the parser:
  which terminator a statement has (`;`, `&`, none) and where newline tokens are. -/

inductive Term
  | none | semi | amp
deriving DecidableEq, Repr, Inhabited

def Term.toks : Term → List ATok
  | .none => []
  | .semi => [.semi]
  | .amp => [.amp]

def nlT (b : Bool) : List ATok := if b then [.newl] else []

def opA : BinOp → ATok
  | .andStmt => .andAnd
  | .orStmt => .orOr
  | .pipe => .pipe

mutual
inductive LStmt
  | mk (neg : Bool) (cmd : LCmd) (term : Term)
inductive LCmd
  | call (args : List (List NPart))
  | subshell (nl : Bool) (ss : LStmts)
  | block (nl : Bool) (ss : LStmts)
  | binary (op : BinOp) (nl : Bool) (x y : LStmt)
inductive LStmts
  | one (s : LStmt) (nl : Bool)
  | cons (s : LStmt) (nl : Bool) (rest : LStmts)
end

mutual
def LStmt.toks : LStmt → List ATok
  | .mk neg cmd term => (if neg then [.bang] else []) ++ (cmd.toks ++ term.toks)
def LCmd.toks : LCmd → List ATok
  | .call args => args.map .word
  | .subshell nl ss => .lparen :: (nlT nl ++ (ss.toks ++ [.rparen]))
  | .block nl ss => .lbrace :: (nlT nl ++ (ss.toks ++ [.rbrace]))
  | .binary op nl x y => x.toks ++ (opA op :: (nlT nl ++ y.toks))
def LStmts.toks : LStmts → List ATok
  | .one s nl => s.toks ++ nlT nl
  | .cons s nl rest => s.toks ++ (nlT nl ++ rest.toks)
end

mutual
def LStmt.norm : LStmt → NStmt
  | .mk neg cmd term => .mk neg (term == .amp) cmd.norm
def LCmd.norm : LCmd → NCmd
  | .call args => .call args
  | .subshell _ ss => .subshell ss.norm
  | .block _ ss => .block ss.norm
  | .binary op _ x y => .binary op x.norm y.norm
def LStmts.norm : LStmts → NStmts
  | .one s _ => .cons s.norm .nil
  | .cons s _ rest => .cons s.norm rest.norm
end

def LStmt.neg : LStmt → Bool
  | .mk n _ _ => n
def LStmt.cmd : LStmt → LCmd
  | .mk _ c _ => c
def LStmt.term : LStmt → Term
  | .mk _ _ t => t

def LCmd.isAndOr : LCmd → Bool
  | .binary .andStmt _ _ _ => true
  | .binary .orStmt _ _ _ => true
  | _ => false

def LCmd.isBinary : LCmd → Bool
  | .binary _ _ _ _ => true
  | _ => false

def ncmdNameOK (n : List NPart) : Bool :=
  match n with
  | [.lit v] => !isOutsideKeyword v
  | _ => true

mutual
/-- the last token of the statement is a word (then `}` may not follow directly) -/
def LStmt.endsInWord : LStmt → Bool
  | .mk _ cmd term => term == .none && cmd.endsInWord
def LCmd.endsInWord : LCmd → Bool
  | .call _ => true
  | .subshell _ _ => false
  | .block _ _ => false
  | .binary _ _ _ y => y.endsInWord
end

/-- the list may be closed by `}`: its last statement is terminated, followed by a newline, or
    does not end in a word -/
def LStmts.closable : LStmts → Bool
  | .one s nl => nl || !s.endsInWord
  | .cons _ _ rest => rest.closable

mutual
def LStmt.valid : LStmt → Bool
  | .mk neg cmd _ => cmd.valid && !(neg && cmd.isAndOr)
def LCmd.valid : LCmd → Bool
  | .call args =>
    match args with
    | [] => false
    | n :: _ => args.all nwordOK && ncmdNameOK n
  | .subshell _ ss => ss.valid
  | .block _ ss => ss.valid && ss.closable
  | .binary op _ x y =>
    x.valid && y.valid && x.term == .none && y.term == .none &&
    (match op with
     | .pipe => !x.neg && !y.neg && !x.cmd.isAndOr && !y.cmd.isBinary
     | _ => !y.cmd.isAndOr)
def LStmts.valid : LStmts → Bool
  | .one s _ => s.valid
  | .cons s nl rest => s.valid && (nl || s.term != .none) && rest.valid
end

def Stmt.normOf (neg bg : Bool) (c : NCmd) : NStmt := .mk neg bg c

theorem mkStmt_norm (pos : Pos) (neg : Bool) (c : Cmd) : (mkStmt pos neg c).norm = .mk neg false c.norm := by
  simp [mkStmt, Stmt.norm]

theorem mkStmt_bare (pos : Pos) (neg : Bool) (c : Cmd) : (mkStmt pos neg c).bare = true := by
  simp [mkStmt, Stmt.bare, Stmt.bg, Stmt.semi, Pos.valid, Pos.zero]

def ATok.notPipe : ATok → Bool
  | .pipe => false
  | _ => true

def ATok.notAndOr : ATok → Bool
  | .andAnd | .orOr => false
  | _ => true

theorem tokMatch_pipe {a : ATok} {t : Tok} (h : tokMatch a t) : (t == Tok.pipe) = !a.notPipe := by
  cases a with
  | word _ => obtain ⟨w, lit, rfl, _⟩ := h; rfl
  | lbrace | rbrace | bang => obtain ⟨w, rfl⟩ := h; rfl
  | newl | semi | amp | andAnd | orOr | pipe | lparen | rparen | eof => cases h; rfl

theorem tokMatch_notAndOr {a : ATok} {t : Tok} (hm : tokMatch a t) (ha : a.notAndOr = true) :
    t ≠ .andAnd ∧ t ≠ .orOr := by
  cases a with
  | andAnd | orOr => cases ha
  | word _ => obtain ⟨w, lit, rfl, _⟩ := hm; exact ⟨nofun, nofun⟩
  | lbrace | rbrace | bang => obtain ⟨w, rfl⟩ := hm; exact ⟨nofun, nofun⟩
  | newl | semi | amp | pipe | lparen | rparen | eof => cases hm; exact ⟨nofun, nofun⟩

/-- tokens that may follow a command: a stop token of the argument loop, or — after a command
    that does not end in a word — the `}` closing the enclosing block -/
def followTok (inSub ew : Bool) (a : ATok) : Bool := stopA inSub a || (!ew && a == .rbrace)

def headFollow (inSub ew : Bool) (k : List ATok) : Prop :=
  ∃ a rest, k = a :: rest ∧ followTok inSub ew a = true

def headFollowNP (inSub ew : Bool) (k : List ATok) : Prop :=
  ∃ a rest, k = a :: rest ∧ followTok inSub ew a = true ∧ a.notPipe = true

def startTok : ATok → Bool
  | .word n => nwordOK n
  | .lparen | .lbrace => true
  | _ => false

def LStmt.bodyToks : LStmt → List ATok
  | .mk neg cmd _ => (if neg then [.bang] else []) ++ cmd.toks

theorem LStmt.toks_eq (s : LStmt) : s.toks = s.bodyToks ++ s.term.toks := by
  cases s with
  | mk neg cmd term => simp [LStmt.toks, LStmt.bodyToks, LStmt.term]

theorem LStmt.toks_none {s : LStmt} (h : s.term = .none) : s.toks = s.bodyToks := by
  rw [LStmt.toks_eq, h]; simp [Term.toks]

theorem LStmt.valid_cmd {s : LStmt} (h : s.valid = true) : s.cmd.valid = true := by
  obtain ⟨neg, cmd, term⟩ := s
  simp only [LStmt.valid, Bool.and_eq_true] at h
  exact h.1

theorem LCmd.start : ∀ (c : LCmd), c.valid = true → c.isAndOr = false →
    ∃ a rest, c.toks = a :: rest ∧ startTok a = true
  | .call args, hv, _ => by
    cases args with
    | nil => simp [LCmd.valid] at hv
    | cons n ns =>
      simp only [LCmd.valid, Bool.and_eq_true, List.all_eq_true] at hv
      exact ⟨.word n, ns.map .word, by simp [LCmd.toks], by simpa [startTok] using hv.1 n (by simp)⟩
  | .subshell nl ss, _, _ => ⟨.lparen, nlT nl ++ (ss.toks ++ [.rparen]), by simp [LCmd.toks], rfl⟩
  | .block nl ss, _, _ => ⟨.lbrace, nlT nl ++ (ss.toks ++ [.rbrace]), by simp [LCmd.toks], rfl⟩
  | .binary op nl (.mk xn xc xt) y, hv, hao => by
    cases op with
    | andStmt => simp [LCmd.isAndOr] at hao
    | orStmt => simp [LCmd.isAndOr] at hao
    | pipe =>
      simp only [LCmd.valid, LStmt.valid, LStmt.term, LStmt.neg, LStmt.cmd, Bool.and_eq_true, beq_iff_eq,
        Bool.not_eq_true'] at hv
      obtain ⟨⟨⟨⟨⟨hxc, _⟩, _⟩, hxt⟩, _⟩, ⟨⟨⟨hxn, _⟩, hxao⟩, _⟩⟩ := hv
      subst hxt
      subst hxn
      obtain ⟨a, rest, h1, h2⟩ := LCmd.start xc hxc hxao
      exact ⟨a, rest ++ (opA .pipe :: (nlT nl ++ y.toks)), by simp [LCmd.toks, LStmt.toks, Term.toks, h1], h2⟩

theorem startTok_match {a : ATok} {t : Tok} (ha : startTok a = true) (hm : tokMatch a t) :
    t.isStop = false ∧ t.isLit [33] = false ∧
    (t == Tok.eof) = false ∧ (t == Tok.newl) = false ∧ (t == Tok.semi) = false ∧
    t.isLit [125] = false ∧ (t == Tok.rparen) = false := by
  cases a <;> simp [startTok] at ha <;> simp only [tokMatch] at hm
  · -- word
    obtain ⟨w, lit, rfl, _, hl⟩ := hm
    cases lit with
    | none => simp [Tok.isStop, Tok.isLit]
    | some v =>
      have := hl v rfl
      subst this
      simp only [nwordOK, Bool.and_eq_true, bne_iff_ne, ne_eq] at ha
      simp [Tok.isStop, Tok.isLit, ha.1.2, ha.2]
  · subst hm; simp [Tok.isStop, Tok.isLit]
  · obtain ⟨w, rfl⟩ := hm; simp [Tok.isStop, Tok.isLit]

mutual
theorem LStmt.bodyToks_head : ∀ (s : LStmt), s.valid = true → ∃ a rest, s.bodyToks = a :: rest ∧ (a = .bang ∨ startTok a = true)
  | .mk neg cmd term, hv => by
    have hcv : cmd.valid = true := LStmt.valid_cmd hv
    cases neg with
    | true => exact ⟨.bang, cmd.toks, by simp [LStmt.bodyToks], Or.inl rfl⟩
    | false =>
      obtain ⟨a, rest, h1, h2⟩ := LCmd.toks_head cmd hcv
      exact ⟨a, rest, by simp [LStmt.bodyToks, h1], h2⟩
theorem LCmd.toks_head : ∀ (c : LCmd), c.valid = true → ∃ a rest, c.toks = a :: rest ∧ (a = .bang ∨ startTok a = true)
  | .call args, hv => by
    obtain ⟨a, rest, h1, h2⟩ := LCmd.start (.call args) hv rfl
    exact ⟨a, rest, h1, Or.inr h2⟩
  | .subshell nl ss, _ => ⟨.lparen, nlT nl ++ (ss.toks ++ [.rparen]), by simp [LCmd.toks], Or.inr rfl⟩
  | .block nl ss, _ => ⟨.lbrace, nlT nl ++ (ss.toks ++ [.rbrace]), by simp [LCmd.toks], Or.inr rfl⟩
  | .binary op nl x y, hv => by
    simp only [LCmd.valid, Bool.and_eq_true, beq_iff_eq] at hv
    obtain ⟨⟨⟨⟨hx, _⟩, hxt⟩, _⟩, _⟩ := hv
    obtain ⟨a, rest, h1, h2⟩ := LStmt.bodyToks_head x hx
    exact ⟨a, rest ++ (opA op :: (nlT nl ++ y.toks)), by simp [LCmd.toks, LStmt.toks_none hxt, h1], h2⟩
end

theorem head_tok_facts {a : ATok} {t : Tok} (ha : a = .bang ∨ startTok a = true) (hm : tokMatch a t) :
    (t == Tok.eof) = false ∧ (t == Tok.newl) = false ∧ t.isLit [125] = false ∧ (t == Tok.rparen) = false := by
  rcases ha with rfl | ha
  · obtain ⟨w, rfl⟩ := hm
    exact ⟨rfl, rfl, by simp [Tok.isLit], rfl⟩
  · obtain ⟨_, _, e3, e4, _, e6, e7⟩ := startTok_match ha hm
    exact ⟨e3, e4, e6, e7⟩

theorem head_atok_facts {a : ATok} (ha : a = .bang ∨ startTok a = true) :
    a.notAndOr = true ∧ a.notPipe = true ∧ a ≠ .semi ∧ a ≠ .amp := by
  rcases ha with rfl | ha
  · exact ⟨rfl, rfl, by simp, by simp⟩
  · cases a <;> simp [startTok] at ha <;> exact ⟨rfl, rfl, by simp, by simp⟩

theorem LStmts.toks_head (ss : LStmts) (hv : ss.valid = true) :
    ∃ a rest, ss.toks = a :: rest ∧ (a = .bang ∨ startTok a = true) := by
  cases ss with
  | one s2 nl2 =>
    simp only [LStmts.valid] at hv
    obtain ⟨a2, r2, h1, h2⟩ := LStmt.bodyToks_head s2 hv
    exact ⟨a2, r2 ++ s2.term.toks ++ nlT nl2, by simp [LStmts.toks, LStmt.toks_eq, h1], h2⟩
  | cons s2 nl2 rest2 =>
    simp only [LStmts.valid, Bool.and_eq_true] at hv
    obtain ⟨a2, r2, h1, h2⟩ := LStmt.bodyToks_head s2 hv.1.1
    exact ⟨a2, r2 ++ s2.term.toks ++ (nlT nl2 ++ rest2.toks), by simp [LStmts.toks, LStmt.toks_eq, h1], h2⟩

/-! The claims proved by mutual induction over layout trees.  Fuel is `6 * tokens + d`, with `d` =
    6, 5, 4, 3 down the call chain `stmtsF` → `getStmtF` → `gotStmtPipeF` → `firstCmdF`; every loop
    iteration and every nested list reads a token, which pays for the next round. -/

def posValid (tps : List TokPos) : Prop := ∀ tp ∈ tps, tp.2.valid = true

def ClaimF (c : LCmd) : Prop :=
  ∀ (inSub : Bool) (pos : Pos) (neg : Bool) (k : List ATok) (tps : List TokPos) (fuel : Nat),
    headFollow inSub c.endsInWord k → toksMatch (c.toks ++ k) tps → posValid tps → fuel ≥ 6 * tps.length + 3 →
    ∃ s tps', firstCmdF fuel inSub pos neg ⟨tps⟩ = .ok (some s, ⟨tps'⟩) ∧ toksMatch k tps' ∧ posValid tps' ∧
      s.norm = .mk neg false c.norm ∧ s.bare = true ∧ tps'.length < tps.length

/-- `gotStmtPipeF` on a pipeline: the first command is parsed and the pipe loop goes on -/
def ClaimC (c : LCmd) : Prop :=
  ∀ (inSub : Bool) (pos : Pos) (neg : Bool) (k : List ATok) (tps : List TokPos) (fuel : Nat),
    headFollow inSub c.endsInWord k → toksMatch (c.toks ++ k) tps → posValid tps → fuel ≥ 6 * tps.length + 4 →
    ∃ s tps' fuel', gotStmtPipeF fuel inSub pos neg false ⟨tps⟩ = pipeWrap (pipeF fuel' inSub false s ⟨tps'⟩) ∧
      toksMatch k tps' ∧ posValid tps' ∧ s.norm = .mk neg false c.norm ∧ s.bare = true ∧
      fuel' ≥ 6 * tps'.length + 3 ∧ tps'.length < tps.length

/-- `getStmtF` on the body of a statement (without its terminator): the first pipeline is parsed
    and the and-or loop goes on -/
def ClaimS (s : LStmt) : Prop :=
  ∀ (inSub readEnd : Bool) (k : List ATok) (tps : List TokPos) (fuel : Nat),
    headFollowNP inSub s.cmd.endsInWord k → toksMatch (s.bodyToks ++ k) tps → posValid tps →
    fuel ≥ 6 * tps.length + 5 →
    ∃ s' tps' fuel', getStmtF fuel inSub readEnd false ⟨tps⟩ = endWrap readEnd (andOrF fuel' inSub false s' ⟨tps'⟩) ∧
      toksMatch k tps' ∧ posValid tps' ∧ s'.norm = .mk s.neg false s.cmd.norm ∧ s'.bare = true ∧
      fuel' ≥ 6 * tps'.length + 4 ∧ tps'.length < tps.length

/-- the same for an operand of `&&` / `||` (`binCmd = true`): the loop is not entered -/
def ClaimY (s : LStmt) : Prop :=
  s.cmd.isAndOr = false →
  ∀ (inSub : Bool) (k : List ATok) (tps : List TokPos) (fuel : Nat),
    headFollowNP inSub s.cmd.endsInWord k → toksMatch (s.bodyToks ++ k) tps → posValid tps →
    fuel ≥ 6 * tps.length + 5 →
    ∃ s' tps', getStmtF fuel inSub false true ⟨tps⟩ = .ok (some s', ⟨tps'⟩) ∧
      toksMatch k tps' ∧ posValid tps' ∧ s'.norm = .mk s.neg false s.cmd.norm ∧ s'.bare = true ∧
      tps'.length < tps.length

def normList : List Stmt → NStmts
  | [] => .nil
  | s :: r => .cons s.norm (normList r)

def closerOK (inSub stopBrace closable : Bool) (a : ATok) : Bool :=
  a == .eof || (a == .rparen && inSub) || (a == .rbrace && stopBrace && closable)

def ClaimL (ss : LStmts) : Prop :=
  ∀ (inSub stopBrace gotEnd nl0 : Bool) (a : ATok) (k : List ATok) (tps : List TokPos) (acc : List Stmt) (fuel : Nat),
    (gotEnd = true ∨ nl0 = true) → closerOK inSub stopBrace ss.closable a = true →
    toksMatch (nlT nl0 ++ (ss.toks ++ a :: k)) tps → posValid tps → fuel ≥ 6 * tps.length + 6 →
    ∃ ss' tps', stmtsF fuel inSub stopBrace gotEnd ⟨tps⟩ acc = .ok (acc.reverse ++ ss', ⟨tps'⟩) ∧
      toksMatch (a :: k) tps' ∧ posValid tps' ∧ normList ss' = ss.norm ∧ ss' ≠ [] ∧ tps'.length < tps.length

theorem posValid_tail {tp : TokPos} {ts : List TokPos} (h : posValid (tp :: ts)) : posValid ts :=
  fun x hx => h x (by simp [hx])

theorem claimC_of_F {c : LCmd} (hF : ClaimF c) : ClaimC c := by
  intro inSub pos neg k tps fuel hk hm hpv hf
  cases fuel with
  | zero => omega
  | succ f =>
    obtain ⟨s, tps', h1, h2, h3, h4, h5, h6⟩ := hF inSub pos neg k tps f hk hm hpv (by omega)
    refine ⟨s, tps', f, ?_, h2, h3, h4, h5, by omega, h6⟩
    rw [gotStmtPipeF_eq, h1]

/-- `ClaimS` and `ClaimY` in one (`binCmd` arbitrary), for a command that is no and-or list -/
theorem getStmtF_base (s : LStmt) (hv : s.valid = true) (hao : s.cmd.isAndOr = false) (hC : ClaimC s.cmd)
    (inSub readEnd binCmd : Bool) (k : List ATok) (tps : List TokPos) (fuel : Nat)
    (hk : headFollowNP inSub s.cmd.endsInWord k) (hm : toksMatch (s.bodyToks ++ k) tps) (hpv : posValid tps)
    (hf : fuel ≥ 6 * tps.length + 5) :
    ∃ s' tps' fuel', getStmtF fuel inSub readEnd binCmd ⟨tps⟩ = endWrap readEnd (andOrF fuel' inSub binCmd s' ⟨tps'⟩) ∧
      toksMatch k tps' ∧ posValid tps' ∧ s'.norm = .mk s.neg false s.cmd.norm ∧ s'.bare = true ∧
      fuel' ≥ 6 * tps'.length + 4 ∧ tps'.length < tps.length := by
  obtain ⟨neg, cmd, term⟩ := s
  simp only [LStmt.cmd, LStmt.neg] at *
  have hcv : cmd.valid = true := LStmt.valid_cmd hv
  obtain ⟨a0, rest0, hstart, hst⟩ := LCmd.start cmd hcv hao
  obtain ⟨ak, restk, rfl, hfk, hnp⟩ := hk
  have hkC : headFollow inSub cmd.endsInWord (ak :: restk) := ⟨ak, restk, rfl, hfk⟩
  -- the state after the optional `!`
  have key : ∃ tps0, (if (PS.mk tps).tok.isLit [33] = true then (PS.mk tps).next else ⟨tps⟩) = ⟨tps0⟩ ∧
      (PS.mk tps).tok.isLit [33] = neg ∧ toksMatch (cmd.toks ++ ak :: restk) tps0 ∧ posValid tps0 ∧
      tps0.length ≤ tps.length := by
    cases neg with
    | false =>
      simp only [LStmt.bodyToks, Bool.false_eq_true, ↓reduceIte, List.nil_append] at hm
      have hm' := hm
      rw [hstart] at hm'
      obtain ⟨t, p, ts, rfl, hma, _⟩ := toksMatch_cons hm'
      have e2 : (PS.mk ((t, p) :: ts)).tok.isLit [33] = false := (startTok_match hst hma).2.1
      exact ⟨_, by rw [e2]; rfl, e2, hm, hpv, Nat.le_refl _⟩
    | true =>
      simp only [LStmt.bodyToks, ↓reduceIte, List.cons_append] at hm
      obtain ⟨tb, pb, tsb, rfl, hmb, hmrest⟩ := toksMatch_cons hm
      obtain ⟨wb, rfl⟩ := hmb
      exact ⟨tsb, rfl, rfl, hmrest, posValid_tail hpv, Nat.le_succ _⟩
  obtain ⟨tps0, hps, hneg, hm0, hpv0, hl0⟩ := key
  have hm' := hm0
  rw [hstart] at hm'
  obtain ⟨t, p, ts, rfl, hma, _⟩ := toksMatch_cons hm'
  obtain ⟨e1, e2, _⟩ := startTok_match hst hma
  cases fuel with
  | zero => omega
  | succ f =>
    obtain ⟨s1, tps1, f1, h1, h2, h3, h4, h5, h6, h7⟩ := hC inSub (PS.mk tps).pos neg (ak :: restk) _ f hkC hm0 hpv0 (by omega)
    obtain ⟨t1, p1, ts1, rfl, hmk, _⟩ := toksMatch_cons h2
    have hp1 : pipeF f1 inSub false s1 ⟨(t1, p1) :: ts1⟩ = .ok (s1, ⟨(t1, p1) :: ts1⟩) := by
      cases f1 with
      | zero => omega
      | succ g => exact pipeF_done (.inl (by rw [PS.tok_cons, tokMatch_pipe hmk, hnp]; rfl))
    refine ⟨s1, (t1, p1) :: ts1, f, ?_, h2, h3, h4, h5, by omega, by omega⟩
    refine getStmtF_more (fun hb => ?_) (by rw [hps, hneg, h1, hp1]; rfl)
    rw [if_pos hb] at hps
    rw [hps]
    exact ⟨e1, e2⟩

theorem Stmt.norm_setEnd (s : Stmt) (n b : Bool) (c : NCmd) (h : s.norm = .mk n b c) (p : Pos) (bg : Bool) :
    (s.setEnd p bg).norm = .mk n bg c ∧ (s.setEnd p bg).semi = p := by
  obtain ⟨a, e, n', b', c'⟩ := s
  simp only [Stmt.norm, NStmt.mk.injEq] at h
  obtain ⟨rfl, rfl, rfl⟩ := h
  simp [Stmt.setEnd, Stmt.norm, Stmt.semi]

theorem Stmt.norm_setNeg (s : Stmt) (n b : Bool) (c : NCmd) (h : s.norm = .mk n b c) (m : Bool) :
    (s.setNeg m).norm = .mk m b c ∧ s.negated = n ∧ (s.setNeg m).bare = s.bare := by
  obtain ⟨a, e, n', b', c'⟩ := s
  simp only [Stmt.norm, NStmt.mk.injEq] at h
  obtain ⟨rfl, rfl, rfl⟩ := h
  simp [Stmt.setNeg, Stmt.norm, Stmt.negated, Stmt.bare, Stmt.bg, Stmt.semi]

theorem LStmt.norm_none {s : LStmt} (h : s.term = .none) : s.norm = .mk s.neg false s.cmd.norm := by
  obtain ⟨n, c, t⟩ := s
  simp only [LStmt.term] at h
  subst h
  simp [LStmt.norm, LStmt.neg, LStmt.cmd]

theorem gotNewl_nlT (nl : Bool) (rest : List ATok) (tps : List TokPos) (hm : toksMatch (nlT nl ++ rest) tps)
    (hhead : ∃ a r, rest = a :: r ∧ (a = .bang ∨ startTok a = true)) (hpv : posValid tps) :
    ∃ tps', (PS.mk tps).gotNewl = (nl, ⟨tps'⟩) ∧ toksMatch rest tps' ∧ posValid tps' ∧ tps'.length ≤ tps.length := by
  cases nl with
  | true =>
    obtain ⟨t, p, ts, rfl, hma, hmr⟩ := toksMatch_cons hm
    cases hma
    exact ⟨ts, rfl, hmr, posValid_tail hpv, Nat.le_succ _⟩
  | false =>
    obtain ⟨a, r, rfl, ha⟩ := hhead
    obtain ⟨t, p, ts, rfl, hma, _⟩ := toksMatch_cons hm
    refine ⟨_, ?_, hm, hpv, Nat.le_refl _⟩
    rw [PS.gotNewl, PS.tok_cons, if_neg (by rw [(head_tok_facts ha hma).2.1]; exact Bool.false_ne_true)]

theorem claimS_andor (op : BinOp) (hop : op ≠ .pipe) (nl : Bool) (x y : LStmt) (term : Term)
    (hxt : x.term = .none) (hyt : y.term = .none) (hyv : y.valid = true) (hyao : y.cmd.isAndOr = false)
    (hSx : ClaimS x) (hYy : ClaimY y) : ClaimS (.mk false (.binary op nl x y) term) := by
  intro inSub readEnd k tps fuel hk hm hpv hf
  simp only [LStmt.cmd, LCmd.endsInWord] at hk
  have hyew : y.endsInWord = y.cmd.endsInWord := by
    obtain ⟨n, c, t⟩ := y
    simp only [LStmt.term] at hyt
    subst hyt
    simp [LStmt.endsInWord, LStmt.cmd]
  rw [hyew] at hk
  have htoks : (LStmt.mk false (.binary op nl x y) term).bodyToks ++ k =
      x.bodyToks ++ (opA op :: (nlT nl ++ (y.bodyToks ++ k))) := by
    simp [LStmt.bodyToks, LCmd.toks, LStmt.toks_none hxt, LStmt.toks_none hyt]
  rw [htoks] at hm
  have hk1 : headFollowNP inSub x.cmd.endsInWord (opA op :: (nlT nl ++ (y.bodyToks ++ k))) := by
    refine ⟨opA op, _, rfl, ?_, ?_⟩
    · cases op <;> simp [opA, followTok, stopA]
    · cases op with
      | pipe => exact absurd rfl hop
      | andStmt => rfl
      | orStmt => rfl
  obtain ⟨sx, tps1, f1, h1, h2, h3, h4, h5, h6, h7⟩ := hSx inSub readEnd _ tps fuel hk1 hm hpv hf
  obtain ⟨top, pop, ts1, rfl, hmop, hmr⟩ := toksMatch_cons h2
  obtain ⟨ay, ry, hyb, hyh⟩ := LStmt.bodyToks_head y hyv
  obtain ⟨tps2, hg, hm2, hpv2, hlen2⟩ := gotNewl_nlT nl (y.bodyToks ++ k) ts1 hmr ⟨ay, ry ++ k, by rw [hyb]; rfl, hyh⟩
    (posValid_tail h3)
  simp only [List.length_cons] at h6 h7
  cases f1 with
  | zero => omega
  | succ g =>
    obtain ⟨sy, tpsk, hy1, hy2, hy3, hy4, hy5, hy6⟩ := hYy hyao inSub k tps2 g hk hm2 hpv2 (by omega)
    refine ⟨mkStmt sx.pos false (.binary pop op sx sy), tpsk, g, ?_, hy2, hy3, ?_, mkStmt_bare _ _ _, ?_, ?_⟩
    · have htop : top = op.tok := by cases op <;> first | exact hmop | exact absurd rfl hop
      rw [h1, htop, andOrF_more hop (by rw [hg]; exact hy1)]
    · rw [mkStmt_norm]
      simp only [Cmd.norm, h4, hy4, LStmt.neg, LStmt.cmd, LCmd.norm, LStmt.norm_none hxt, LStmt.norm_none hyt]
    · omega
    · omega

theorem claimC_pipe (nl : Bool) (x y : LStmt) (hxt : x.term = .none) (hyt : y.term = .none)
    (hxn : x.neg = false) (hyn : y.neg = false) (hyv : y.cmd.valid = true) (hynb : y.cmd.isBinary = false)
    (hCx : ClaimC x.cmd) (hFy : ClaimF y.cmd) : ClaimC (.binary .pipe nl x y) := by
  intro inSub pos neg k tps fuel hk hm hpv hf
  obtain ⟨xn, xc, xt⟩ := x
  obtain ⟨yn, yc, yt⟩ := y
  simp only [LStmt.term, LStmt.neg, LStmt.cmd] at *
  subst hxt hyt hxn hyn
  have hyao : yc.isAndOr = false := by
    cases yc with
    | binary op _ _ _ => simp [LCmd.isBinary] at hynb
    | _ => rfl
  simp only [LCmd.endsInWord, LStmt.endsInWord, beq_self_eq_true, Bool.true_and] at hk
  have htoks : (LCmd.binary .pipe nl (.mk false xc .none) (.mk false yc .none)).toks ++ k =
      xc.toks ++ (ATok.pipe :: (nlT nl ++ (yc.toks ++ k))) := by
    simp [LCmd.toks, LStmt.toks, Term.toks, opA]
  rw [htoks] at hm
  have hk1 : headFollow inSub xc.endsInWord (ATok.pipe :: (nlT nl ++ (yc.toks ++ k))) :=
    ⟨.pipe, _, rfl, by simp [followTok, stopA]⟩
  obtain ⟨sx, tps1, f1, h1, h2, h3, h4, h5, h6, h7⟩ := hCx inSub pos neg _ tps fuel hk1 hm hpv hf
  obtain ⟨tp, pp, ts1, rfl, hmp, hmr⟩ := toksMatch_cons h2
  simp only [tokMatch] at hmp
  subst hmp
  obtain ⟨ay, ry, hyb, hyh⟩ := LCmd.start yc hyv hyao
  obtain ⟨tps2, hg, hm2, hpv2, hlen2⟩ := gotNewl_nlT nl (yc.toks ++ k) ts1 hmr ⟨ay, ry ++ k, by rw [hyb]; rfl, .inr hyh⟩
    (posValid_tail h3)
  simp only [List.length_cons] at h6 h7
  -- three units of fuel: the round of the loop that reads `|`, the right operand, the round that ends the loop
  obtain ⟨f, rfl⟩ : ∃ f, f1 = f + 3 := ⟨f1 - 3, by omega⟩
  obtain ⟨sy, tpsk, hy1, hy2, hy3, hy4, hy5, hy6⟩ := hFy inSub (PS.mk tps2).pos false k tps2 (f + 1) hk hm2 hpv2 (by omega)
  obtain ⟨hn1, hn2, hn3⟩ := Stmt.norm_setNeg sx _ _ _ h4 false
  refine ⟨mkStmt sx.pos sx.negated (.binary pp .pipe (sx.setNeg false) sy), tpsk, f + 2, ?_, hy2, hy3, ?_,
    mkStmt_bare _ _ _, by omega, by omega⟩
  · rw [h1]
    refine congrArg pipeWrap (pipeF_more ?_)
    rw [hg, gotStmtPipeF_eq, hy1]
    dsimp only
    rw [pipeF_done (.inr rfl)]
    rfl
  · rw [mkStmt_norm]
    simp only [Cmd.norm, hn1, hn2, hy4, LCmd.norm, LStmt.norm]
    simp

theorem stmtsF_close (fuel : Nat) (inSub stopBrace gotEnd nl cl : Bool) (a : ATok) (k : List ATok)
    (tps : List TokPos) (acc : List Stmt) (hc : closerOK inSub stopBrace cl a = true)
    (hm : toksMatch (nlT nl ++ a :: k) tps) :
    ∃ tps', stmtsF (fuel + 1) inSub stopBrace gotEnd ⟨tps⟩ acc = .ok (acc.reverse, ⟨tps'⟩) ∧
      toksMatch (a :: k) tps' ∧ tps'.length ≤ tps.length ∧ (∀ x ∈ tps', x ∈ tps) := by
  have closer : ∀ t, tokMatch a t → (t == .newl) = false ∧
      (t = .eof ∨ (t = .rparen ∧ inSub = true) ∨ (t.isLit [125] = true ∧ stopBrace = true)) := by
    intro t hma
    simp only [closerOK, Bool.or_eq_true, Bool.and_eq_true, beq_iff_eq] at hc
    rcases hc with (rfl | ⟨rfl, hin⟩) | ⟨⟨rfl, hsb⟩, _⟩
    · cases hma; exact ⟨rfl, .inl rfl⟩
    · cases hma; exact ⟨rfl, .inr (.inl ⟨rfl, hin⟩)⟩
    · obtain ⟨w, rfl⟩ := hma; exact ⟨rfl, .inr (.inr ⟨by simp [Tok.isLit], hsb⟩)⟩
  cases nl with
  | false =>
    obtain ⟨t, p, ts, rfl, hma, hmr⟩ := toksMatch_cons (by simpa [nlT] using hm)
    obtain ⟨hnl, hcl⟩ := closer t hma
    have hg : (PS.mk ((t, p) :: ts)).gotNewl = (false, ⟨(t, p) :: ts⟩) := by simp [PS.gotNewl, PS.tok_cons, hnl]
    refine ⟨(t, p) :: ts, ?_, ⟨hma, hmr⟩, Nat.le_refl _, fun x hx => hx⟩
    rw [stmtsF_stop (by
      rw [hg]
      rcases hcl with h | h | h
      · exact .inl ⟨h, .inl h⟩
      · exact .inr (.inl h)
      · exact .inr (.inr h)), hg]
  | true =>
    obtain ⟨tn, pn, ts0, rfl, hmn, hm0⟩ := toksMatch_cons (by simpa [nlT] using hm)
    cases hmn
    obtain ⟨t, p, ts, rfl, hma, hmr⟩ := toksMatch_cons hm0
    obtain ⟨_, hcl⟩ := closer t hma
    have hg : (PS.mk ((Tok.newl, pn) :: (t, p) :: ts)).gotNewl = (true, ⟨(t, p) :: ts⟩) := rfl
    refine ⟨(t, p) :: ts, ?_, ⟨hma, hmr⟩, by simp, fun x hx => by simp [hx]⟩
    rw [stmtsF_stop (by
      rw [hg]
      rcases hcl with h | h | h
      · exact .inl ⟨h, .inr (.inl rfl)⟩
      · exact .inr (.inl h)
      · exact .inr (.inr h)), hg]

/-- what may follow a whole statement: no operator and no second terminator; after a statement
    without terminator, a token that may follow its command -/
def stmtFollow (inSub : Bool) (s : LStmt) (k : List ATok) : Prop :=
  ∃ a rest, k = a :: rest ∧ a.notAndOr = true ∧ a.notPipe = true ∧ a ≠ .semi ∧ a ≠ .amp ∧
    (s.term = .none → followTok inSub s.cmd.endsInWord a = true)

theorem tokMatch_not_semi_amp {a : ATok} {t : Tok} (hm : tokMatch a t) (h1 : a ≠ .semi) (h2 : a ≠ .amp) :
    t ≠ .semi ∧ t ≠ .amp := by
  cases a with
  | semi => exact absurd rfl h1
  | amp => exact absurd rfl h2
  | word _ => obtain ⟨w, lit, rfl, _⟩ := hm; exact ⟨nofun, nofun⟩
  | lbrace | rbrace | bang => obtain ⟨w, rfl⟩ := hm; exact ⟨nofun, nofun⟩
  | newl | andAnd | orOr | pipe | lparen | rparen | eof => cases hm; exact ⟨nofun, nofun⟩

theorem getStmt_full (s : LStmt) (hS : ClaimS s) (inSub : Bool) (k : List ATok) (tps : List TokPos) (fuel : Nat)
    (hk : stmtFollow inSub s k)
    (hm : toksMatch (s.toks ++ k) tps) (hpv : posValid tps) (hf : fuel ≥ 6 * tps.length + 5) :
    ∃ s' tps', getStmtF fuel inSub true false ⟨tps⟩ = .ok (some s', ⟨tps'⟩) ∧ toksMatch k tps' ∧ posValid tps' ∧
      s'.norm = s.norm ∧ s'.semi.valid = (s.term != .none) ∧ tps'.length < tps.length := by
  obtain ⟨a, rest, rfl, hnao, hnp, hns, hna, hfol⟩ := hk
  rw [LStmt.toks_eq, List.append_assoc] at hm
  have hk1 : headFollowNP inSub s.cmd.endsInWord (s.term.toks ++ a :: rest) := by
    cases hterm : s.term with
    | none => exact ⟨a, rest, by simp [Term.toks], hfol hterm, hnp⟩
    | semi => exact ⟨.semi, a :: rest, by simp [Term.toks], by simp [followTok, stopA], rfl⟩
    | amp => exact ⟨.amp, a :: rest, by simp [Term.toks], by simp [followTok, stopA], rfl⟩
  obtain ⟨s1, tps1, f1, h1, h2, h3, h4, h5, h6, h7⟩ := hS inSub true _ tps fuel hk1 hm hpv hf
  obtain ⟨n, c, term⟩ := s
  simp only [LStmt.term, LStmt.neg, LStmt.cmd] at *
  cases f1 with
  | zero => omega
  | succ g =>
    cases term with
    | none =>
      simp only [Term.toks, List.nil_append] at h2
      obtain ⟨t1, p1, ts1, rfl, hma, hmr⟩ := toksMatch_cons h2
      obtain ⟨e1, e2⟩ := tokMatch_not_semi_amp hma hns hna
      refine ⟨s1, (t1, p1) :: ts1, ?_, ⟨hma, hmr⟩, h3, ?_, ?_, h7⟩
      · rw [h1, andOrF_done (.inl (tokMatch_notAndOr hma hnao))]
        -- `e1`, `e2` discharge the side conditions of the default case of `endWrap`'s `match`
        simp only [endWrap, ↓reduceIte, PS.tok_cons]
      · simp [h4, LStmt.norm]
      · simp only [Stmt.bare, Bool.and_eq_true, Bool.not_eq_true'] at h5
        simp [h5.2]
    | semi | amp =>
      obtain ⟨t1, p1, ts1, rfl, hma, hmr⟩ := toksMatch_cons h2
      cases hma
      exact ⟨_, ts1, by rw [h1, andOrF_done (.inl ⟨by simp [PS.tok], by simp [PS.tok]⟩)]; rfl, hmr, posValid_tail h3,
        by rw [(Stmt.norm_setEnd s1 _ _ _ h4 _ _).1]; rfl,
        by rw [(Stmt.norm_setEnd s1 _ _ _ h4 _ _).2]; exact h3 _ List.mem_cons_self,
        by simp only [List.length_cons] at h7; omega⟩

theorem stmtsF_step (s : LStmt) (hv : s.valid = true) (hS : ClaimS s) (inSub stopBrace gotEnd nl0 : Bool)
    (k2 : List ATok) (tps : List TokPos) (acc : List Stmt) (f : Nat)
    (hsep : gotEnd = true ∨ nl0 = true)
    (hk : stmtFollow inSub s k2)
    (hm : toksMatch (nlT nl0 ++ (s.toks ++ k2)) tps) (hpv : posValid tps) (hf : f + 1 ≥ 6 * tps.length + 6) :
    ∃ s' tps', stmtsF (f + 1) inSub stopBrace gotEnd ⟨tps⟩ acc =
        stmtsF f inSub stopBrace (s.term != .none) ⟨tps'⟩ (s' :: acc) ∧
      toksMatch k2 tps' ∧ posValid tps' ∧ s'.norm = s.norm ∧ tps'.length < tps.length := by
  obtain ⟨a0, r0, hb, ha0⟩ := LStmt.bodyToks_head s hv
  obtain ⟨tps1, hg, hm1, hpv1, hlen1⟩ := gotNewl_nlT nl0 (s.toks ++ k2) tps hm
    ⟨a0, r0 ++ s.term.toks ++ k2, by rw [LStmt.toks_eq, hb]; simp, ha0⟩ hpv
  obtain ⟨s', tps', h1, h2, h3, h4, h5, h6⟩ := getStmt_full s hS inSub k2 tps1 f hk hm1 hpv1 (by omega)
  refine ⟨s', tps', ?_, h2, h3, h4, by omega⟩
  -- the first token of the statement
  have hm1' := hm1
  rw [LStmt.toks_eq, hb] at hm1'
  simp only [List.cons_append] at hm1'
  obtain ⟨t, p, ts, rfl, hma, _⟩ := toksMatch_cons hm1'
  obtain ⟨e1, e2, e3, e4⟩ := head_tok_facts ha0 hma
  have hfirst : ((PS.mk tps).tok == Tok.eof) = false := by
    cases hn : (PS.mk tps).tok == Tok.newl
    · rw [PS.gotNewl, if_neg (by rw [hn]; exact Bool.false_ne_true)] at hg
      cases hg
      exact e1
    · rw [eq_of_beq hn]; rfl
  rw [← h5]
  exact stmtsF_more hfirst (by rw [hg]; exact hsep.symm) (by rw [hg]; exact e3) (by rw [hg]; exact e4)
    (by rw [hg]; exact e1) (by rw [hg]; exact h1)

theorem closer_facts {inSub stopBrace cl : Bool} {a : ATok} (h : closerOK inSub stopBrace cl a = true) :
    a.notAndOr = true ∧ a.notPipe = true ∧ a ≠ .semi ∧ a ≠ .amp ∧
    (a = .eof ∨ (a = .rparen ∧ inSub = true) ∨ (a = .rbrace ∧ stopBrace = true ∧ cl = true)) := by
  simp only [closerOK, Bool.or_eq_true, Bool.and_eq_true, beq_iff_eq] at h
  rcases h with (rfl | ⟨rfl, h⟩) | ⟨⟨rfl, h1⟩, h2⟩
  · exact ⟨rfl, rfl, by simp, by simp, Or.inl rfl⟩
  · exact ⟨rfl, rfl, by simp, by simp, Or.inr (Or.inl ⟨rfl, h⟩)⟩
  · exact ⟨rfl, rfl, by simp, by simp, Or.inr (Or.inr ⟨rfl, h1, h2⟩)⟩

theorem claimL_one (s : LStmt) (nl : Bool) (hv : s.valid = true) (hS : ClaimS s) : ClaimL (.one s nl) := by
  intro inSub stopBrace gotEnd nl0 a k tps acc fuel hsep hc hm hpv hf
  obtain ⟨c1, c2, c3, c4, c5⟩ := closer_facts hc
  cases fuel with
  | zero => omega
  | succ f =>
    have hm' : toksMatch (nlT nl0 ++ (s.toks ++ (nlT nl ++ a :: k))) tps := by
      simpa [LStmts.toks, List.append_assoc] using hm
    have hk : stmtFollow inSub s (nlT nl ++ a :: k) := by
      cases nl with
      | true => exact ⟨.newl, a :: k, by simp [nlT], rfl, rfl, by simp, by simp, fun _ => by simp [followTok, stopA]⟩
      | false =>
        refine ⟨a, k, by simp [nlT], c1, c2, c3, c4, ?_⟩
        intro hterm
        rcases c5 with rfl | ⟨rfl, hin⟩ | ⟨rfl, _, hcl⟩
        · simp [followTok, stopA]
        · simp [followTok, stopA, hin]
        · obtain ⟨n, c, t⟩ := s
          simp only [LStmt.term] at hterm
          subst hterm
          simp only [LStmts.closable, Bool.false_or, LStmt.endsInWord, beq_self_eq_true, Bool.true_and,
            Bool.not_eq_true'] at hcl
          simp [followTok, stopA, LStmt.cmd, hcl]
    obtain ⟨s', tps1, h1, h2, h3, h4, h5⟩ := stmtsF_step s hv hS inSub stopBrace gotEnd nl0 _ tps acc f hsep hk hm' hpv hf
    cases f with
    | zero => omega
    | succ g =>
      obtain ⟨tps2, h6, h7, h8, h9⟩ := stmtsF_close g inSub stopBrace (s.term != .none) nl _ a k tps1 (s' :: acc) hc h2
      refine ⟨[s'], tps2, ?_, h7, fun x hx => h3 x (h9 x hx), ?_, by simp, by omega⟩
      · rw [h1, h6]; simp
      · simp [normList, LStmts.norm, h4]

theorem claimL_cons (s : LStmt) (nl : Bool) (rest : LStmts) (hv : s.valid = true) (hrv : rest.valid = true)
    (hnl : (nl || s.term != .none) = true) (hS : ClaimS s) (hL : ClaimL rest) : ClaimL (.cons s nl rest) := by
  intro inSub stopBrace gotEnd nl0 a k tps acc fuel hsep hc hm hpv hf
  cases fuel with
  | zero => omega
  | succ f =>
    have hm' : toksMatch (nlT nl0 ++ (s.toks ++ (nlT nl ++ (rest.toks ++ a :: k)))) tps := by
      simpa [LStmts.toks, List.append_assoc] using hm
    -- the first token of the rest of the list
    obtain ⟨ar, rr, hrb, har⟩ := LStmts.toks_head rest hrv
    obtain ⟨f1, f2, f3, f4⟩ := head_atok_facts har
    have hk : stmtFollow inSub s (nlT nl ++ (rest.toks ++ a :: k)) := by
      cases nl with
      | true => exact ⟨.newl, rest.toks ++ a :: k, by simp [nlT], rfl, rfl, by simp, by simp, fun _ => by simp [followTok, stopA]⟩
      | false =>
        refine ⟨ar, rr ++ a :: k, by simp [nlT, hrb], f1, f2, f3, f4, ?_⟩
        intro hterm
        simp [hterm] at hnl
    obtain ⟨s', tps1, h1, h2, h3, h4, h5⟩ := stmtsF_step s hv hS inSub stopBrace gotEnd nl0 _ tps acc f hsep hk hm' hpv hf
    have hsep' : (s.term != .none) = true ∨ nl = true := by
      simp only [Bool.or_eq_true] at hnl
      rcases hnl with h | h
      · exact Or.inr h
      · exact Or.inl h
    obtain ⟨ss', tps2, h6, h7, h8, h9, h10, h11⟩ := hL inSub stopBrace (s.term != .none) nl a k tps1 (s' :: acc) f hsep'
      (by simpa [LStmts.closable] using hc) h2 h3 (by omega)
    refine ⟨s' :: ss', tps2, ?_, h7, h8, ?_, by simp, by omega⟩
    · rw [h1, h6]; simp
    · simp [normList, LStmts.norm, h4, h9]

theorem normList_ofList (ss : List Stmt) : (Stmts.ofList ss).norm = normList ss := by
  induction ss with
  | nil => rfl
  | cons s r ih => simp [Stmts.ofList, Stmts.norm, normList, ih]

/-- `firstCmdF` answers `outside` on `(;` and `{;`; here the token after `(` / `{` is a newline, `!`
    or a start token -/
theorem open_not_semi (nl : Bool) (ss : LStmts) (hv : ss.valid = true) (more : List ATok) (ts : List TokPos)
    (hm : toksMatch (nlT nl ++ (ss.toks ++ more)) ts) : ((PS.mk ts).tok == Tok.semi) = false := by
  cases nl with
  | true =>
    simp only [nlT, ↓reduceIte, List.singleton_append] at hm
    obtain ⟨t, p, ts', rfl, hma, _⟩ := toksMatch_cons hm
    simp only [tokMatch] at hma
    subst hma
    rfl
  | false =>
    obtain ⟨a, r, h1, h2⟩ := LStmts.toks_head ss hv
    simp only [nlT, Bool.false_eq_true, ↓reduceIte, List.nil_append, h1, List.cons_append] at hm
    obtain ⟨t, p, ts', rfl, hma, _⟩ := toksMatch_cons hm
    rcases h2 with rfl | h2
    · obtain ⟨w, rfl⟩ := hma; rfl
    · exact (startTok_match h2 hma).2.2.2.2.1

theorem claimF_subshell (nl : Bool) (ss : LStmts) (hv : ss.valid = true) (hL : ClaimL ss) :
    ClaimF (.subshell nl ss) := by
  intro inSub pos neg k tps fuel _ hm hpv hf
  have htoks : (LCmd.subshell nl ss).toks ++ k = .lparen :: (nlT nl ++ (ss.toks ++ .rparen :: k)) := by
    simp [LCmd.toks]
  rw [htoks] at hm
  obtain ⟨t0, p0, ts, rfl, hm0, hmr⟩ := toksMatch_cons hm
  simp only [tokMatch] at hm0
  subst hm0
  cases fuel with
  | zero => omega
  | succ f =>
    obtain ⟨ss', tps1, h1, h2, h3, h4, h5, h6⟩ := hL true false true nl .rparen k ts [] f (Or.inl rfl)
      (by simp [closerOK]) hmr (posValid_tail hpv) (by simp only [List.length_cons] at hf; omega)
    obtain ⟨tr, pr, tsk, rfl, hmrp, hmk⟩ := toksMatch_cons h2
    simp only [tokMatch] at hmrp
    subst hmrp
    refine ⟨mkStmt pos neg (.subshell p0 pr (Stmts.ofList ss')), tsk, ?_, hmk, posValid_tail h3, ?_,
      mkStmt_bare _ _ _, ?_⟩
    · exact firstCmdF_subshell (open_not_semi nl ss hv _ ts hmr) h1 h5
    · rw [mkStmt_norm]
      simp [Cmd.norm, normList_ofList, h4, LCmd.norm]
    · simp only [List.length_cons] at h6 ⊢
      omega

theorem claimF_block (nl : Bool) (ss : LStmts) (hv : ss.valid = true) (hcl : ss.closable = true) (hL : ClaimL ss) :
    ClaimF (.block nl ss) := by
  intro inSub pos neg k tps fuel _ hm hpv hf
  have htoks : (LCmd.block nl ss).toks ++ k = .lbrace :: (nlT nl ++ (ss.toks ++ .rbrace :: k)) := by
    simp [LCmd.toks]
  rw [htoks] at hm
  obtain ⟨t0, p0, ts, rfl, hm0, hmr⟩ := toksMatch_cons hm
  obtain ⟨w0, rfl⟩ := hm0
  cases fuel with
  | zero => omega
  | succ f =>
    obtain ⟨ss', tps1, h1, h2, h3, h4, h5, h6⟩ := hL inSub true true nl .rbrace k ts [] f (Or.inl rfl)
      (by simp [closerOK, hcl]) hmr (posValid_tail hpv) (by simp only [List.length_cons] at hf; omega)
    obtain ⟨tr, pr, tsk, rfl, hmrb, hmk⟩ := toksMatch_cons h2
    obtain ⟨wr, rfl⟩ := hmrb
    refine ⟨mkStmt pos neg (.block p0 pr (Stmts.ofList ss')), tsk, ?_, hmk, posValid_tail h3, ?_,
      mkStmt_bare _ _ _, ?_⟩
    · exact firstCmdF_block (open_not_semi nl ss hv _ ts hmr) h1 h5
    · rw [mkStmt_norm]
      simp [Cmd.norm, normList_ofList, h4, LCmd.norm]
    · simp only [List.length_cons] at h6 ⊢
      omega

theorem claimF_call (args : List (List NPart)) (hv : (LCmd.call args).valid = true) : ClaimF (.call args) := by
  intro inSub pos neg k tps fuel hk hm hpv hf
  obtain ⟨a, rest, rfl, hfa⟩ := hk
  have hstop : stopA inSub a = true := by simpa [followTok, LCmd.endsInWord] using hfa
  cases args with
  | nil => simp [LCmd.valid] at hv
  | cons n ns =>
    simp only [LCmd.valid, Bool.and_eq_true, List.all_eq_true] at hv
    obtain ⟨hall, hname⟩ := hv
    simp only [LCmd.toks, List.map_cons, List.cons_append] at hm
    obtain ⟨t, p, ts, rfl, hma, hmr⟩ := toksMatch_cons hm
    obtain ⟨w, lit, rfl, hnorm, hlit⟩ := hma
    have hlen := toksMatch_length hmr
    simp only [List.length_append, List.length_map, List.length_cons] at hlen hf
    cases fuel with
    | zero => omega
    | succ f =>
      obtain ⟨ws, tps', h1, h2, h3, h3'⟩ := callArgs_ok ns (fun m hm' => hall m (List.mem_cons_of_mem _ hm')) inSub _
        ⟨a, rest, rfl, hstop⟩ ts [w] (f + 1) (by omega) hmr
      have hlen' := toksMatch_length h3
      refine ⟨_, tps', firstCmdF_call (plainLit_of_match (hall n List.mem_cons_self) hlit) ?_ h1, h3,
        fun x hx => hpv x (List.mem_cons_of_mem _ (h3' x hx)), ?_, mkStmt_bare _ _ _, ?_⟩
      · intro v hv
        rw [hlit v hv] at hname
        simpa [ncmdNameOK] using hname
      · rw [mkStmt_norm]
        simp only [Cmd.norm, LCmd.norm, List.reverse_cons, List.reverse_nil, List.nil_append, List.singleton_append,
          List.map_cons, h2, Word.norm, normParts_eq, hnorm]
      · simp only [List.length_cons] at hlen' ⊢
        omega

mutual
theorem B_stmt : ∀ (s : LStmt), s.valid = true → ClaimS s ∧ ClaimY s
  | .mk neg cmd term, hv => by
    have hcv : cmd.valid = true := LStmt.valid_cmd hv
    cases hao : cmd.isAndOr with
    | false =>
      have hC := (B_cmd cmd hcv).2 hao
      refine ⟨?_, ?_⟩
      · intro inSub readEnd k tps fuel hk hm hpv hf
        exact getStmtF_base (.mk neg cmd term) hv hao hC inSub readEnd false k tps fuel hk hm hpv hf
      · intro _ inSub k tps fuel hk hm hpv hf
        obtain ⟨s', tps', f', h1, h2, h3, h4, h5, h6, h7⟩ :=
          getStmtF_base (.mk neg cmd term) hv hao hC inSub false true k tps fuel hk hm hpv hf
        refine ⟨s', tps', ?_, h2, h3, h4, h5, h7⟩
        cases f' with
        | zero => omega
        | succ g => rw [h1, andOrF_done (.inr rfl)]; rfl
    | true =>
      cases cmd with
      | call _ => simp [LCmd.isAndOr] at hao
      | subshell _ _ => simp [LCmd.isAndOr] at hao
      | block _ _ => simp [LCmd.isAndOr] at hao
      | binary op nl x y =>
        have hop : op ≠ .pipe := by
          intro h; subst h; simp [LCmd.isAndOr] at hao
        have hneg : neg = false := by
          simp only [LStmt.valid, hao, Bool.and_true, Bool.and_eq_true, Bool.not_eq_true'] at hv
          exact hv.2
        subst hneg
        simp only [LCmd.valid, Bool.and_eq_true, beq_iff_eq] at hcv
        obtain ⟨⟨⟨⟨hx, hy⟩, hxt⟩, hyt⟩, hsh⟩ := hcv
        have hyao : y.cmd.isAndOr = false := by
          cases op with
          | pipe => exact absurd rfl hop
          | andStmt => simpa using hsh
          | orStmt => simpa using hsh
        refine ⟨claimS_andor op hop nl x y term hxt hyt hy hyao (B_stmt x hx).1 (B_stmt y hy).2, ?_⟩
        intro h
        simp [LStmt.cmd, hao] at h
theorem B_cmd : ∀ (c : LCmd), c.valid = true → (c.isBinary = false → ClaimF c) ∧ (c.isAndOr = false → ClaimC c)
  | .call args, hv => ⟨fun _ => claimF_call args hv, fun _ => claimC_of_F (claimF_call args hv)⟩
  | .subshell nl ss, hv => by
    have hsv : ss.valid = true := by simpa [LCmd.valid] using hv
    have hF := claimF_subshell nl ss hsv (B_stmts ss hsv)
    exact ⟨fun _ => hF, fun _ => claimC_of_F hF⟩
  | .block nl ss, hv => by
    simp only [LCmd.valid, Bool.and_eq_true] at hv
    have hF := claimF_block nl ss hv.1 hv.2 (B_stmts ss hv.1)
    exact ⟨fun _ => hF, fun _ => claimC_of_F hF⟩
  | .binary op nl (.mk xn xc xt) (.mk yn yc yt), hv => by
    refine ⟨fun h => by simp [LCmd.isBinary] at h, ?_⟩
    intro hao
    cases op with
    | andStmt => simp [LCmd.isAndOr] at hao
    | orStmt => simp [LCmd.isAndOr] at hao
    | pipe =>
      simp only [LCmd.valid, LStmt.valid, LStmt.term, LStmt.neg, LStmt.cmd, Bool.and_eq_true, beq_iff_eq,
        Bool.not_eq_true'] at hv
      obtain ⟨⟨⟨⟨⟨hxc, _⟩, ⟨hyc, _⟩⟩, hxt⟩, hyt⟩, ⟨⟨⟨hxn, hyn⟩, hxao⟩, hynb⟩⟩ := hv
      exact claimC_pipe nl _ _ hxt hyt hxn hyn hyc hynb ((B_cmd xc hxc).2 hxao) ((B_cmd yc hyc).1 hynb)
theorem B_stmts : ∀ (ss : LStmts), ss.valid = true → ClaimL ss
  | .one s nl, hv => claimL_one s nl (by simpa [LStmts.valid] using hv) (B_stmt s (by simpa [LStmts.valid] using hv)).1
  | .cons s nl rest, hv => by
    simp only [LStmts.valid, Bool.and_eq_true] at hv
    exact claimL_cons s nl rest hv.1.1 hv.2 hv.1.2 (B_stmt s hv.1.1).1 (B_stmts rest hv.2)
end

theorem parseToks_layout (ss : LStmts) (hv : ss.valid = true) (nl0 : Bool) (tps : List TokPos) (hpv : posValid tps)
    (hm : toksMatch (nlT nl0 ++ (ss.toks ++ [.eof])) tps) :
    ∃ f, parseToks tps = .ok f ∧ f.norm = ss.norm := by
  obtain ⟨ss', tps', h1, h2, _, h4, _, _⟩ := B_stmts ss hv false false true nl0 .eof [] tps [] (parseFuelFor tps)
    (Or.inl rfl) (by simp [closerOK]) hm hpv (by simp [parseFuelFor])
  obtain ⟨t, p, ts, rfl, hma, _⟩ := toksMatch_cons h2
  simp only [tokMatch] at hma
  subst hma
  refine ⟨⟨Stmts.ofList ss'⟩, ?_, ?_⟩
  · unfold parseToks parseToksF
    rw [h1]
    simp [PS.tok_cons]
  · simp [File.norm, normList_ofList, h4]

end ShVerif.L4
