import ShVerif.Model.C21
/-
  C21 — helper definitions and lemmas for the property theorems (ShVerif/Props/C21.lean).
  Core Lean only.

  For a parameter that is not a list expansion `paramExp` is unfolded once, in `paramExp_scalar`: it is
  `scalarExp`, which is written with the operators on one string (`replOne`, `removePattern`, `caseOne`).
  The quoted list forms go through `fields_quoted_list` and `perElemOps_map`; `scalarOp_eq` connects the
  two.  The rest relates `sliceStr`, `removeWith` and `findAll`/`spliceLocs` to `Spec`.
-/
namespace ShVerif.C21
open Spec

def xN : Str := ['x']

/-- The environment in which `x` is in one of the three POSIX states (`v` its value when set). -/
def envOf (st : St) (v : Str) : Env :=
  match st with
  | .unset => []
  | .null => [(xN, Var.ofStr [])]
  | .set => [(xN, Var.ofStr v)]

def peOf (op : ExpOp) (w : Str) : PE := { name := xN, exp := some (op, w) }

/-- What each outcome of the POSIX table means for the result and the environment. -/
def outcomeResult (o : Outcome) (st : St) (v w : Str) : Except Err (Str × Env) :=
  match o with
  | .param => .ok (v, envOf st v)
  | .word => .ok (w, envOf st v)
  | .assign => .ok (w, (envOf st v).put xN (Var.ofStr w))
  | .error => .error (.unsetMsg w)
  | .null => .ok ([], envOf st v)

def Plain (name : Str) : Prop := name ≠ ['@'] ∧ name ≠ ['*']

instance (n : Str) : Decidable (Plain n) := by unfold Plain; exact inferInstance

instance (b : Bool) (s u r : Str) : Decidable (Spec.Removes b s u r) := by
  unfold Spec.Removes; cases b <;> exact inferInstance

theorem effIdx_plain {pe : PE} (h : Plain pe.name) : effIdx pe = pe.idx := by
  unfold effIdx; simp [h.1, h.2]

@[simp] theorem ofStr_set (s : Str) : (Var.ofStr s).set = true := rfl
@[simp] theorem ofStr_kind (s : Str) : (Var.ofStr s).kind = .string := rfl
@[simp] theorem ofStr_str (s : Str) : (Var.ofStr s).str = s := rfl
@[simp] theorem ofList_set (l : List Str) : (Var.ofList l).set = true := rfl
@[simp] theorem ofList_kind (l : List Str) : (Var.ofList l).kind = .indexed := rfl
@[simp] theorem ofList_list (l : List Str) : (Var.ofList l).list = some l := rfl
@[simp] theorem ofList_idx (l : List Str) : (Var.ofList l).idx = none := rfl
@[simp] theorem zero_set : Var.zero.set = false := rfl
@[simp] theorem zero_kind : Var.zero.kind = .unknown := rfl
@[simp] theorem ofMap_set (m : List (Str × Str)) : (Var.ofMap m).set = true := rfl
@[simp] theorem ofMap_kind (m : List (Str × Str)) : (Var.ofMap m).kind = .assoc := rfl
@[simp] theorem ofMap_map (m : List (Str × Str)) : (Var.ofMap m).map = m := rfl

theorem sliceElems_none (env : Env) (pe : PE) (el : Sl) (ix : Option (List Int)) (b : Bool)
    (h : pe.slice = none) : sliceElems env pe el ix b = .ok el := by
  simp [sliceElems, h]

theorem insertSorted_length (x : Str) (l : List Str) : (insertSorted x l).length = l.length + 1 := by
  induction l with
  | nil => rfl
  | cons y ys ih => simp only [insertSorted]; split <;> simp [ih]

theorem sortStrs_length (l : List Str) : (sortStrs l).length = l.length := by
  induction l with
  | nil => rfl
  | cons a as ih => simp [sortStrs, List.foldr, insertSorted_length] at ih ⊢; exact ih

theorem sortedSl_length (l : List Str) : (sortedSl l).toList.length = l.length := by
  unfold sortedSl
  cases l with
  | nil => rfl
  | cons a as => simp [Sl.toList, sortStrs_length]

/-! The do-blocks of the model are normalised to `Except.bind`. -/

theorem bind_ok {α β : Type} (a : α) (k : α → Except Err β) : (Except.ok a).bind k = k a := rfl

theorem bind_error {α β : Type} (e : Err) (k : α → Except Err β) : (Except.error e).bind k = .error e := rfl

theorem map_eq_bind {α β : Type} (f : α → β) (r : Except Err α) : r.map f = r.bind fun a => .ok (f a) := by
  cases r <;> rfl

theorem bind_bind {α β γ : Type} (r : Except Err α) (k : α → Except Err β) (k' : β → Except Err γ) :
    (r.bind k).bind k' = r.bind fun a => (k a).bind k' := by
  cases r <;> rfl

/-- For `simp`: work out the first computation of a do-block before looking at its continuation, which is
    then visited once, with its argument known, instead of once for every value it might get. -/
@[congr] theorem bind_congr_left {α β : Type} {r r' : Except Err α} (k : α → Except Err β) (h : r = r') :
    r.bind k = r'.bind k := by rw [h]

theorem mapMExcept_ok {α β : Type} (f : α → β) (l : List α) :
    mapMExcept (fun a => (.ok (f a) : Except Err β)) l = .ok (l.map f) := by
  induction l with
  | nil => rfl
  | cons a as ih => simp only [mapMExcept, ih, bind, bind_ok, pure, Except.pure, List.map_cons]

theorem mapMExcept_pure {α : Type} (l : List α) : mapMExcept (fun a => (.ok a : Except Err α)) l = .ok l := by
  rw [mapMExcept_ok (fun a => a), List.map_id']

theorem mapMExcept_err {α β : Type} (e : Err) (a : α) (as : List α) :
    mapMExcept (fun _ => (.error e : Except Err β)) (a :: as) = .error e := rfl

theorem mapMExcept_single {α β : Type} (f : α → Except Err β) (a : α) :
    mapMExcept f [a] = (f a).map ([·]) := by
  cases h : f a <;> simp only [mapMExcept, h, bind, bind_ok, bind_error, pure, Except.pure, Except.map]

/-- `${s/pat/with}` on one string. -/
def replOne (M : Str → Pat) (r : Repl) (s : Str) : Except Err Str :=
  if r.orig.isEmpty then .ok s
  else match M r.orig with
    | .panic => .error .panic
    | .err => .ok s
    | .ok m => .ok (spliceLocs s r.with_ 0 (findAll m s r.all))

theorem replaceElems_map (M : Str → Pat) (r : Repl) (l : List Str) :
    replaceElems M r (some l) = (mapMExcept (replOne M r) l).map some := by
  unfold replaceElems replOne
  by_cases h : r.orig.isEmpty = true
  · simp only [h, if_true]
    rw [mapMExcept_pure]; rfl
  · simp only [h, if_false, Bool.false_eq_true]
    cases hM : M r.orig with
    | err => simp only [Sl.toList]; rw [mapMExcept_pure]; rfl
    | panic =>
      cases l with
      | nil => rfl
      | cons a as => simp only [Sl.toList, List.isEmpty_cons, Bool.false_eq_true, if_false]; rw [mapMExcept_err]; rfl
    | ok m => simp only [Sl.toList]; rw [mapMExcept_ok]; simp [Except.map]

/-- `${s^pat}` … on one string. -/
def caseOne (M : Str → Pat) (op : ExpOp) (arg s : Str) : Except Err Str :=
  match M arg with
  | .err => .ok s
  | .panic => .error .panic
  | .ok m => .ok (convRunes (if op == .upperFirst || op == .upperAll then toUpper else toLower)
      (fun c => m [] || m [c]) (op == .upperAll || op == .lowerAll) s)

theorem caseConvElems_map (M : Str → Pat) (op : ExpOp) (arg : Str) (l : List Str)
    (hnp : M arg = .panic → l ≠ []) :
    caseConvElems M op arg (some l) = (mapMExcept (caseOne M op arg) l).map some := by
  unfold caseConvElems caseOne
  cases hM : M arg with
  | err => simp only; rw [mapMExcept_pure]; rfl
  | panic =>
    cases l with
    | nil => exact absurd rfl (hnp hM)
    | cons a as => simp only; rw [mapMExcept_err]; rfl
  | ok m => simp only [Sl.toList]; rw [mapMExcept_ok]; simp [Except.map]

theorem replaceElems_single (M : Str → Pat) (r : Repl) (s : Str) :
    replaceElems M r (some [s]) = (replOne M r s).map (some [·]) := by
  rw [replaceElems_map, mapMExcept_single]; cases replOne M r s <;> rfl

theorem caseConvElems_single (M : Str → Pat) (op : ExpOp) (arg s : Str) :
    caseConvElems M op arg (some [s]) = (caseOne M op arg s).map (some [·]) := by
  rw [caseConvElems_map _ _ _ _ (fun _ => List.cons_ne_nil _ _), mapMExcept_single]
  cases caseOne M op arg s <;> rfl

theorem removePatternElems_single (M : Str → Pat) (op : ExpOp) (arg s : Str) :
    removePatternElems M op arg [s] = (removePattern M s arg (op == .remSmallSuf || op == .remLargeSuf)
        (op == .remSmallPre || op == .remSmallSuf)).map ([·]) := by
  unfold removePatternElems; rw [mapMExcept_single]

/-- The operator switch of `paramExp` on the value `str` (`set`: the parameter counts as set). -/
def opExp (x : Ext) (env : Env) (pe : PE) (vr : Var) (str : Str) (set : Bool) (op : ExpOp) (arg : Str) :
    Except Err (Str × Env) :=
  match op with
  | .altUnsetOrNull => .ok (if str.isEmpty then str else if set then arg else str, env)
  | .altUnset => .ok (if set then arg else str, env)
  | .defUnset => .ok (if set then str else if str.isEmpty then arg else str, env)
  | .defUnsetOrNull => .ok (if str.isEmpty then arg else str, env)
  | .errUnset => if set then .ok (str, env) else if str.isEmpty then .error (.unsetMsg arg) else .ok (str, env)
  | .errUnsetOrNull => if str.isEmpty then .error (.unsetMsg arg) else .ok (str, env)
  | .asgUnset =>
    if set then .ok (str, env)
    else if str.isEmpty then (assignElem env pe.name vr pe.idx arg).map (arg, ·) else .ok (str, env)
  | .asgUnsetOrNull => if str.isEmpty then (assignElem env pe.name vr pe.idx arg).map (arg, ·) else .ok (str, env)
  | .remSmallPre | .remLargePre | .remSmallSuf | .remLargeSuf =>
    (removePattern x.M str arg (op == .remSmallSuf || op == .remLargeSuf)
      (op == .remSmallPre || op == .remSmallSuf)).map (·, env)
  | .upperFirst | .upperAll | .lowerFirst | .lowerAll => (caseOne x.M op arg str).map (·, env)
  | .other => (otherOp x pe.name vr set str arg).map (·, env)

/-- What `paramExp` does once `varInd` has returned the value `str` and the flag `set` of the
    variable `vr`, when the parameter is not a list expansion (`$@`, `$*`, `[@]`, `[*]`). -/
def scalarExp (x : Ext) (env : Env) (ifs : Str) (pe : PE) (vr : Var) (str : Str) (set : Bool) :
    Except Err (Str × Env) :=
  if pe.length then .ok (itoa str.length, env)
  else if pe.excl then
    if pe.names != 0 then
      .ok (if pe.names == 1 then ifsJoin ifs (namesByPrefix env pe.name).toList
           else joinWith [' '] (namesByPrefix env pe.name).toList, env)
    else if !vr.set then .error .indirect
    else if str.isEmpty then .ok ([], env)
    else (env.get str).string.map (·, env)
  else match pe.slice with
  | some (off, len) => (sliceStr str off len).map (·, env)
  | none =>
  match pe.repl with
  | some r => if !set then .ok (str, env) else (replOne x.M r str).map (·, env)
  | none =>
  match pe.exp with
  | none => .ok (str, env)
  | some (op, arg) => opExp x env pe vr str set op arg

theorem paramExp_scalar (x : Ext) (cfg : Cfg) (env : Env) (pe : PE) (ifs str : Str) (set : Bool)
    (hifs : ifsOf env = .ok ifs) (hp : Plain pe.name) (hidx : isAtStar pe.idx = false)
    (hun : (cfg.noUnset && !(env.get pe.name).set && !overridingUnset pe) = false)
    (hvi : varInd ifs (env.get pe.name) pe.idx = .ok (str, set)) :
    paramExp x cfg env pe = scalarExp x env ifs pe (env.get pe.name) str set := by
  have hl : pe.idx.lit ≠ ['*'] := by
    intro h; simp [isAtStar, h] at hidx
  -- both sides in `Except.bind` normal form; what is left differs in the names of the matchers only
  simp [paramExp, scalarExp, opExp, hifs, effIdx_plain hp, hidx, hun, hvi, hl, bind, pure, Except.pure, throw, throwThe,
    MonadExceptOf.throw, joinWith, ifsJoin, replaceElems_single, caseConvElems_single, removePatternElems_single,
    Sl.toList, bind_ok, bind_error, map_eq_bind, bind_bind]
  rfl

theorem varInd_scalar (ifs s : Str) : varInd ifs (Var.ofStr s) .none = .ok (s, true) := rfl

theorem paramExp_ofStr (x : Ext) (cfg : Cfg) (env : Env) (pe : PE) (ifs s : Str)
    (hifs : ifsOf env = .ok ifs) (hp : Plain pe.name) (hidx : pe.idx = .none) (hv : env.get pe.name = Var.ofStr s) :
    paramExp x cfg env pe = scalarExp x env ifs pe (Var.ofStr s) s true := by
  rw [paramExp_scalar x cfg env pe ifs s true hifs hp (by rw [hidx]; rfl) (by simp [hv])
    (by rw [hidx, hv, varInd_scalar]), hv]

theorem paramExp_zero (x : Ext) (env : Env) (pe : PE) (ifs : Str)
    (hifs : ifsOf env = .ok ifs) (hp : Plain pe.name) (hidx : pe.idx = .none) (hv : env.get pe.name = Var.zero) :
    paramExp x {} env pe = scalarExp x env ifs pe Var.zero [] false := by
  rw [paramExp_scalar x {} env pe ifs [] false hifs hp (by rw [hidx]; rfl) rfl (by rw [hidx, hv]; rfl), hv]

theorem opExp_elem (x : Ext) (env : Env) (pe : PE) (vr : Var) (str : Str) (set : Bool) (op : ExpOp) (arg : Str)
    (h : isRemove op = true ∨ isCase op = true) :
    opExp x env pe vr str set op arg =
      (if isRemove op then removePattern x.M str arg (op == .remSmallSuf || op == .remLargeSuf)
          (op == .remSmallPre || op == .remSmallSuf)
        else caseOne x.M op arg str).map (·, env) := by
  cases op <;> first | rfl | (cases h <;> rename_i h <;> cases h)

theorem isRemove_of_isCase {op : ExpOp} (h : isCase op = true) : isRemove op = false := by
  cases op <;> first | rfl | cases h

theorem slice_scalar_eq (x : Ext) (cfg : Cfg) (env : Env) (name s ifs : Str) (off len : Option Int)
    (hifs : ifsOf env = .ok ifs) (hp : Plain name) (hv : env.get name = Var.ofStr s) :
    paramExp x cfg env { name := name, slice := some (off, len) } = (sliceStr s off len).map (fun r => (r, env)) :=
  paramExp_ofStr x cfg env _ ifs s hifs hp rfl hv

theorem other_scalar_eq (x : Ext) (cfg : Cfg) (env : Env) (name s ifs arg : Str)
    (hifs : ifsOf env = .ok ifs) (hp : Plain name) (hv : env.get name = Var.ofStr s) :
    paramExp x cfg env { name := name, exp := some (.other, arg) }
      = (otherOp x name (Var.ofStr s) true s arg).map (fun r => (r, env)) :=
  paramExp_ofStr x cfg env _ ifs s hifs hp rfl hv

theorem remove_scalar_eq (x : Ext) (cfg : Cfg) (env : Env) (name s ifs arg : Str) (op : ExpOp)
    (m : Str → Bool) (hifs : ifsOf env = .ok ifs) (hp : Plain name) (hv : env.get name = Var.ofStr s)
    (hop : isRemove op = true) (hM : x.M arg = .ok m) :
    paramExp x cfg env { name := name, exp := some (op, arg) }
      = .ok (removeWith m s (op == .remSmallSuf || op == .remLargeSuf)
              (op == .remSmallPre || op == .remSmallSuf), env) := by
  rw [paramExp_ofStr x cfg env _ ifs s hifs hp rfl hv]
  show opExp _ _ _ _ _ _ op arg = _
  rw [opExp_elem _ _ _ _ _ _ _ _ (.inl hop), if_pos hop, removePattern, hM]
  rfl

theorem case_scalar_eq (x : Ext) (cfg : Cfg) (env : Env) (name s ifs arg : Str) (op : ExpOp)
    (m : Str → Bool) (hifs : ifsOf env = .ok ifs) (hp : Plain name) (hv : env.get name = Var.ofStr s)
    (hop : isCase op = true) (hM : x.M arg = .ok m) :
    paramExp x cfg env { name := name, exp := some (op, arg) }
      = .ok (convRunes (if op == .upperFirst || op == .upperAll then toUpper else toLower)
              (fun c => m [] || m [c]) (op == .upperAll || op == .lowerAll) s, env) := by
  rw [paramExp_ofStr x cfg env _ ifs s hifs hp rfl hv]
  show opExp _ _ _ _ _ _ op arg = _
  rw [opExp_elem _ _ _ _ _ _ _ _ (.inr hop), isRemove_of_isCase hop, if_neg Bool.false_ne_true, caseOne, hM]
  rfl

theorem repl_scalar_eq (x : Ext) (cfg : Cfg) (env : Env) (name s ifs : Str) (r : Repl)
    (m : Str → Bool) (hifs : ifsOf env = .ok ifs) (hp : Plain name) (hv : env.get name = Var.ofStr s)
    (hne : r.orig ≠ []) (hM : x.M r.orig = .ok m) :
    paramExp x cfg env { name := name, repl := some r }
      = .ok (spliceLocs s r.with_ 0 (findAll m s r.all), env) := by
  rw [paramExp_ofStr x cfg env _ ifs s hifs hp rfl hv]
  show (replOne x.M r s).map _ = _
  rw [replOne, List.isEmpty_eq_false_iff.mpr hne, hM]
  rfl

theorem plain_xN : Plain xN := by decide

theorem addElemsQuoted_cur (fs : List Str) (c : Str) (l : List Str) :
    ∀ b, (addElemsQuoted ⟨fs, [c], b⟩ false l).flush.fields = fs ++ c :: l := by
  induction l generalizing fs c with
  | nil => intro b; simp [addElemsQuoted, WF.flush]
  | cons e rest ih =>
    intro b
    have step : addElemsQuoted ⟨fs, [c], b⟩ false (e :: rest) = addElemsQuoted ⟨fs ++ [c], [e], b⟩ false rest := by
      simp [addElemsQuoted, WF.flush]
    rw [step, ih]; simp

theorem addElemsQuoted_fields (l : List Str) :
    (addElemsQuoted ⟨[], [], false⟩ true l).flush.fields = l := by
  cases l with
  | nil => simp [addElemsQuoted, WF.flush]
  | cons e rest =>
    have step : addElemsQuoted ⟨[], [], false⟩ true (e :: rest) = addElemsQuoted ⟨[], [e], false⟩ false rest := by
      simp [addElemsQuoted]
    rw [step, addElemsQuoted_cur]; simp

theorem listElems_indexed (env : Env) (pe : PE) (l : List Str) (star : Bool) (hp : Plain pe.name)
    (hv : env.get pe.name = Var.ofList l) (hidx : pe.idx = if star then .star else .at) (h3 : pe.slice = none) :
    listElems env pe = .ok (some (some l, star)) := by
  cases star <;> simp [listElems, hp.1, hp.2, hv, hidx, isAtStar, Idx.lit, sliceElems_none, h3, bind, Except.bind, pure, Except.pure]

theorem listElems_assoc (env : Env) (pe : PE) (m : List (Str × Str)) (star : Bool) (hp : Plain pe.name)
    (hv : env.get pe.name = Var.ofMap m) (hidx : pe.idx = if star then .star else .at) :
    listElems env pe = .ok (some (some (sortStrs (m.map (·.2))), star)) := by
  cases star <;> simp [listElems, hp.1, hp.2, hv, hidx, isAtStar, Idx.lit, pure, Except.pure]

theorem listElems_positional (env : Env) (pe : PE) (l : List Str) (star : Bool)
    (hn : pe.name = if star then ['*'] else ['@']) (hv : env.get (if star then ['*'] else ['@']) = Var.ofList l)
    (h3 : pe.slice = none) : listElems env pe = .ok (some (some l, star)) := by
  cases star <;> simp only [Bool.false_eq_true, if_true, if_false] at hn hv <;>
    simp [listElems, hv, hn, sliceElems_none, h3, bind, Except.bind, pure, Except.pure]

/-- The per-element operator of `pe` (`perElemOps`) on one string. -/
def elemOp (M : Str → Pat) (pe : PE) (s : Str) : Except Err Str :=
  match pe.repl with
  | some r => replOne M r s
  | none =>
    match pe.exp with
    | some (op, arg) =>
      if isRemove op then
        removePattern M s arg (op == .remSmallSuf || op == .remLargeSuf) (op == .remSmallPre || op == .remSmallSuf)
      else if isCase op then caseOne M op arg s
      else .ok s
    | none => .ok s

/-- The operators that apply element by element.  `caseConvElems` compiles its pattern before it
    looks at the elements, so a pattern on which `regexp.MustCompile` panics panics on an empty list
    too: that case is left out. -/
def PerElem (x : Ext) (pe : PE) (l : List Str) : Prop :=
  (∃ r, pe.repl = some r) ∨
  (pe.repl = none ∧ ∃ op arg, pe.exp = some (op, arg) ∧
    (isRemove op = true ∨ (isCase op = true ∧ (x.M arg = .panic → l ≠ [])))) ∨
  (pe.repl = none ∧ pe.exp = none)

theorem perElemOps_map (x : Ext) (pe : PE) (l : List Str) (hop : PerElem x pe l) :
    perElemOps x pe (some l) = (mapMExcept (elemOp x.M pe) l).map some := by
  unfold perElemOps elemOp
  rcases hop with ⟨r, h4⟩ | ⟨h4, op, arg, h5, hop | ⟨hop, hnp⟩⟩ | ⟨h4, h5⟩
  · simp only [h4]; exact replaceElems_map x.M r l
  · simp only [h4, h5, hop, if_true]; rfl
  · simp only [h4, h5, hop, isRemove_of_isCase hop, if_true, if_false, Bool.false_eq_true]
    exact caseConvElems_map x.M op arg l hnp
  · simp only [h4, h5]; rw [mapMExcept_pure]; rfl

theorem fields_quoted_list (x : Ext) (cfg : Cfg) (env : Env) (pe : PE) (ifs : Str) (l : List Str) (star : Bool)
    (hifs : ifsOf env = .ok ifs) (h1 : pe.excl = false) (h2 : pe.length = false)
    (hl : listElems env pe = .ok (some (some l, star))) (hop : PerElem x pe l) :
    fields x cfg env pe true
      = (mapMExcept (elemOp x.M pe) l).map fun ys => (if star then [ifsJoin ifs ys] else ys, env) := by
  simp only [fields, quotedElemFields, hifs, h1, h2, hl, perElemOps_map x pe l hop, bind, pure, Except.pure, bind_ok,
    if_true, if_false, Bool.false_eq_true, map_eq_bind, bind_bind]
  cases star <;> simp only [if_true, if_false, Bool.false_eq_true, bind_ok, addElemsQuoted_fields, Sl.toList]

theorem fields_quoted_plain (x : Ext) (cfg : Cfg) (env : Env) (pe : PE) (ifs : Str) (l : List Str) (star : Bool)
    (hifs : ifsOf env = .ok ifs) (h1 : pe.excl = false) (h2 : pe.length = false) (h4 : pe.repl = none)
    (h5 : pe.exp = none) (hl : listElems env pe = .ok (some (some l, star))) :
    fields x cfg env pe true = .ok (if star then [ifsJoin ifs l] else l, env) := by
  rw [fields_quoted_list x cfg env pe ifs l star hifs h1 h2 hl (.inr (.inr ⟨h4, h5⟩)),
    show elemOp x.M pe = fun s => .ok s by funext s; simp only [elemOp, h4, h5], mapMExcept_pure]
  rfl

@[simp] theorem ifsJoin_single (ifs a : Str) : ifsJoin ifs [a] = a := rfl
@[simp] theorem joinWith_single (sep a : Str) : joinWith sep [a] = a := rfl

/-- The operator of `pe` applied to one string as if it were the value of a scalar variable. -/
def scalarOp (x : Ext) (pe : PE) (s : Str) : Except Err Str :=
  (paramExp x {} [(pe.name, Var.ofStr s)] { pe with idx := .none }).map (·.1)

theorem get_single (n : Str) (v : Var) : Env.get [(n, v)] n = v := by
  simp [Env.get, List.find?]

theorem ifsOf_single (n s : Str) : ∃ ifs, ifsOf [(n, Var.ofStr s)] = .ok ifs := by
  unfold ifsOf
  by_cases h : n = sOf "IFS"
  · subst h; simp [get_single, Var.string]
  · have hb : (n == sOf "IFS") = false := beq_eq_false_iff_ne.mpr h
    have : Env.get [(n, Var.ofStr s)] (sOf "IFS") = Var.zero := by
      simp [Env.get, List.find?, hb]
    simp [this]

theorem map_fst {α β : Type} (r : Except Err α) (b : β) : (r.map (·, b)).map (·.1) = r := by
  cases r <;> rfl

theorem scalarOp_eq (x : Ext) (pe : PE) {l : List Str} (hp : Plain pe.name)
    (h1 : pe.excl = false) (h2 : pe.length = false) (h3 : pe.slice = none) (hop : PerElem x pe l) :
    scalarOp x pe = elemOp x.M pe := by
  funext s
  obtain ⟨ifs, hifs⟩ := ifsOf_single pe.name s
  unfold scalarOp
  rw [paramExp_ofStr x {} _ { pe with idx := .none } ifs s hifs hp rfl (get_single _ _)]
  unfold scalarExp elemOp
  rcases hop with ⟨r, h4⟩ | ⟨h4, op, arg, h5, hop | hop⟩ | ⟨h4, h5⟩
  · simp only [h1, h2, h3, h4]; exact map_fst _ _
  · simp only [h1, h2, h3, h4, h5, hop, opExp_elem _ _ _ _ _ _ _ _ (.inl hop)]; exact map_fst _ _
  · simp only [h1, h2, h3, h4, h5, hop.1, isRemove_of_isCase hop.1, opExp_elem _ _ _ _ _ _ _ _ (.inr hop.1)]
    exact map_fst _ _
  · simp only [h1, h2, h3, h4, h5]; rfl

def asX (pe : PE) : PE := { pe with name := xN, idx := .none }

theorem perElem_asX (x : Ext) (pe : PE) (l : List Str) (h : PerElem x pe l) : PerElem x (asX pe) l := h

theorem slicePos_nonneg (n : Nat) (k : Int) (h : 0 ≤ k) : slicePos n k = min k.toNat n := by
  obtain ⟨k, rfl⟩ := Int.eq_ofNat_of_zero_le h
  rw [slicePos, if_neg (Int.not_lt.mpr h), Int.toNat_natCast]
  by_cases h' : (k : Int) > n
  · rw [if_pos h', Nat.min_eq_right]; omega
  · rw [if_neg h', Nat.min_eq_left]; omega

theorem slicePos_neg (n : Nat) (k : Int) (h : k < 0) :
    slicePos n k = if (n : Int) + k < 0 then n else ((n : Int) + k).toNat := by
  rw [slicePos, if_pos h]

theorem slicePos_startOf (n : Nat) (o : Int) :
    slicePos n o ≤ n ∧ Spec.startOf n (some o) = slicePos n o := by
  simp only [slicePos, Spec.startOf]
  by_cases h0 : o < 0
  · rw [if_pos h0, if_neg (Int.not_le.mpr h0)]
    by_cases h1 : (n : Int) + o < 0
    · rw [if_pos h1, if_neg (Int.not_le.mpr h1)]; exact ⟨Nat.le_refl _, rfl⟩
    · rw [if_neg h1, if_pos (Int.not_lt.mp h1), Int.toNat_of_nonneg (Int.not_lt.mp h1), Int.toNat_le]
      exact ⟨by omega, rfl⟩
  · rw [if_neg h0, if_pos (Int.not_lt.mp h0)]
    by_cases h1 : o > n
    · rw [if_pos h1, Int.min_eq_right (Int.le_of_lt h1)]; exact ⟨Nat.le_refl _, rfl⟩
    · rw [if_neg h1, Int.min_eq_left (Int.not_lt.mp h1), Int.toNat_of_nonneg (Int.not_lt.mp h0), Int.toNat_le]
      exact ⟨Int.not_lt.mp h1, rfl⟩

theorem startOf_none (n : Int) : Spec.startOf n none = 0 := rfl

theorem substring_drop (s : Str) (off len : Option Int) :
    Spec.substring s off len = Spec.substring (s.drop (Spec.startOf s.length off).toNat) none len := by
  obtain ⟨a, han, ha⟩ : ∃ a : Nat, a ≤ s.length ∧ Spec.startOf s.length off = a := by
    cases off with
    | none => exact ⟨0, Nat.zero_le _, rfl⟩
    | some o => exact ⟨_, slicePos_startOf _ o⟩
  cases len with
  | none => rfl
  | some l =>
    simp only [Spec.substring, startOf_none, ha, Int.toNat_natCast, List.length_drop, Int.toNat_zero, List.drop_zero,
      Int.sub_zero]
    have e : (s.length : Int) - a + l = s.length + l - a := by omega
    rw [Int.ofNat_sub han, e]; simp only [Int.sub_lt_iff, Int.zero_add]

theorem sliceStr_none (t : Str) (len : Option Int) :
    sliceStr t none len =
      match Spec.substring t none len with
      | some r => .ok r
      | none => .error (.substr (len.getD 0)) := by
  cases len with
  | none => rfl
  | some l =>
    simp only [sliceStr, Spec.substring, startOf_none, Int.toNat_zero, List.drop_zero, Int.sub_zero]
    by_cases hl : 0 ≤ l
    · rw [if_pos hl, decide_eq_false (Int.not_lt.mpr hl), Bool.false_and, if_neg Bool.false_ne_true,
        slicePos_nonneg _ _ hl]
      exact congrArg Except.ok (List.take_eq_take_iff.mpr (by rw [Nat.min_assoc, Nat.min_self]))
    · rw [if_neg hl, decide_eq_true (Int.not_le.mp hl), Bool.true_and, slicePos_neg _ _ (Int.not_le.mp hl)]
      by_cases hb : (t.length : Int) + l < 0
      · rw [decide_eq_true hb, if_pos rfl, if_pos hb]; rfl
      · rw [decide_eq_false hb, if_neg Bool.false_ne_true, if_neg hb, if_neg hb]

/-- What the code returns for `${x:off:len}`, against bash's substring: its value where defined,
    the error `substring expression < 0` (with the length) where not. -/
theorem sliceStr_spec (s : Str) (off len : Option Int) :
    sliceStr s off len =
      match Spec.substring s off len with
      | some r => .ok r
      | none => .error (.substr (len.getD 0)) := by
  rw [substring_drop, ← sliceStr_none]
  cases off with
  | none => rfl
  | some o => rw [(slicePos_startOf _ o).2, Int.toNat_natCast]; cases len <;> rfl

theorem convRunes_eq (f : Char → Char) (hit : Char → Bool) (all : Bool) (s : Str) :
    convRunes f hit all s = Spec.caseConv f hit all s := by
  induction s with
  | nil => rfl
  | cons c cs ih => cases all <;> simp [convRunes, Spec.caseConv, ih]

theorem findrev_range'_some (p : Nat → Bool) (lo n k : Nat)
    (h : (List.range' lo n).reverse.find? p = some k) :
    lo ≤ k ∧ k < lo + n ∧ p k = true ∧ ∀ j, k < j → j < lo + n → p j = false := by
  induction n with
  | zero => simp at h
  | succ n ih =>
    rw [List.range'_concat, List.reverse_append] at h
    simp only [List.reverse_cons, List.reverse_nil, List.nil_append, List.singleton_append, List.find?_cons,
      Nat.one_mul] at h
    cases hp : p (lo + n) with
    | true =>
      rw [hp] at h; cases h
      exact ⟨by omega, by omega, hp, fun j h1 h2 => by omega⟩
    | false =>
      rw [hp] at h
      obtain ⟨a, b, c, d⟩ := ih h
      refine ⟨a, by omega, c, fun j h1 h2 => ?_⟩
      by_cases hj : j = lo + n
      · subst hj; exact hp
      · exact d j h1 (by omega)

theorem upTo_zero (n : Nat) : upTo 0 n = List.range' 0 (n + 1) := by simp [upTo]

theorem mem_upTo {lo hi j : Nat} : j ∈ upTo lo hi ↔ lo ≤ j ∧ j ≤ hi := by
  rw [upTo, List.mem_range'_1]; omega

theorem find_upTo_some (p : Nat → Bool) (lo hi k : Nat) (h : (upTo lo hi).find? p = some k) :
    lo ≤ k ∧ k ≤ hi ∧ p k = true ∧ ∀ j, lo ≤ j → j < k → p j = false := by
  obtain ⟨a, b, c⟩ := List.find?_range'_eq_some.mp h
  exact ⟨(mem_upTo.mp b).1, (mem_upTo.mp b).2, a, fun j h1 h2 => by simpa using c j h1 h2⟩

theorem find_upTo_none (p : Nat → Bool) (lo hi : Nat) (h : (upTo lo hi).find? p = none) :
    ∀ j, lo ≤ j → j ≤ hi → p j = false := by
  intro j h1 h2
  simpa using List.find?_eq_none.mp h j (mem_upTo.mpr ⟨h1, h2⟩)

theorem findrev_upTo_some (p : Nat → Bool) (lo hi k : Nat) (h : (upTo lo hi).reverse.find? p = some k) :
    lo ≤ k ∧ k ≤ hi ∧ p k = true ∧ ∀ j, k < j → j ≤ hi → p j = false := by
  obtain ⟨a, b, c, d⟩ := findrev_range'_some _ _ _ _ h
  exact ⟨a, by omega, c, fun j h1 h2 => d j h1 (by omega)⟩

theorem findrev_upTo_none (p : Nat → Bool) (lo hi : Nat) (h : (upTo lo hi).reverse.find? p = none) :
    ∀ j, lo ≤ j → j ≤ hi → p j = false := by
  intro j h1 h2
  simpa using List.find?_eq_none.mp h j (List.mem_reverse.mpr (mem_upTo.mpr ⟨h1, h2⟩))

theorem forall_prefix {s : Str} {P : Str → Prop} (h : ∀ j, j ≤ s.length → P (s.take j)) :
    ∀ u r, s = u ++ r → P u := by
  rintro u r rfl
  have := h u.length (by rw [List.length_append]; exact Nat.le_add_right _ _)
  rwa [List.take_left] at this

theorem forall_suffix {s : Str} {P : Str → Prop} (h : ∀ j, j ≤ s.length → P (s.drop j)) :
    ∀ u r, s = r ++ u → P u := by
  rintro u r rfl
  have := h r.length (by rw [List.length_append]; exact Nat.le_add_right _ _)
  rwa [List.drop_left] at this

/-- The full statement for one removal: what is removed matches, and it is the shortest / longest
    such prefix / suffix; nothing is removed only when no prefix / suffix matches. -/
def RemovalSpec (m : Str → Bool) (s : Str) (fromEnd shortest : Bool) (r : Str) : Prop :=
  (∃ u, Removes fromEnd s u r ∧ m u = true ∧
    ∀ u' r', Removes fromEnd s u' r' → m u' = true →
      (if shortest then u.length ≤ u'.length else u'.length ≤ u.length)) ∨
  (r = s ∧ ∀ u' r', Removes fromEnd s u' r' → m u' = false)

theorem removeWith_spec (m : Str → Bool) (s : Str) (fromEnd shortest : Bool) :
    RemovalSpec m s fromEnd shortest (removeWith m s fromEnd shortest) := by
  unfold removeWith RemovalSpec
  cases fromEnd <;> cases shortest <;> simp only [Bool.and_false, Bool.and_true, if_false, if_true,
    Bool.false_eq_true, Removes]
  · -- longest prefix
    cases h : (upTo 0 s.length).reverse.find? (fun k => m (s.take k)) with
    | some k =>
      obtain ⟨_, b, c, d⟩ := findrev_upTo_some _ _ _ _ h
      refine .inl ⟨s.take k, (List.take_append_drop k s).symm, c, forall_prefix fun j hj hm => ?_⟩
      rw [List.length_take, List.length_take, Nat.min_eq_left hj, Nat.min_eq_left b]
      exact Nat.le_of_not_lt fun hlt => by rw [d j hlt hj] at hm; cases hm
    | none => exact .inr ⟨rfl, forall_prefix fun j => findrev_upTo_none _ _ _ h j (Nat.zero_le _)⟩
  · -- shortest prefix
    cases h : (upTo 0 s.length).find? (fun k => m (s.take k)) with
    | some k =>
      obtain ⟨_, b, c, d⟩ := find_upTo_some _ _ _ _ h
      refine .inl ⟨s.take k, (List.take_append_drop k s).symm, c, forall_prefix fun j hj hm => ?_⟩
      rw [List.length_take, List.length_take, Nat.min_eq_left hj, Nat.min_eq_left b]
      exact Nat.le_of_not_lt fun hlt => by rw [d j (Nat.zero_le _) hlt] at hm; cases hm
    | none => exact .inr ⟨rfl, forall_prefix fun j => find_upTo_none _ _ _ h j (Nat.zero_le _)⟩
  · -- longest suffix: the smallest start
    cases h : (upTo 0 s.length).find? (fun j => m (s.drop j)) with
    | some k =>
      obtain ⟨_, b, c, d⟩ := find_upTo_some _ _ _ _ h
      refine .inl ⟨s.drop k, (List.take_append_drop k s).symm, c, forall_suffix fun j hj hm => ?_⟩
      rw [List.length_drop, List.length_drop]
      exact Nat.sub_le_sub_left (Nat.le_of_not_lt fun hlt => by rw [d j (Nat.zero_le _) hlt] at hm; cases hm) _
    | none => exact .inr ⟨rfl, forall_suffix fun j => find_upTo_none _ _ _ h j (Nat.zero_le _)⟩
  · -- shortest suffix: the largest start
    cases h : (upTo 0 s.length).reverse.find? (fun j => m (s.drop j)) with
    | some k =>
      obtain ⟨_, b, c, d⟩ := findrev_upTo_some _ _ _ _ h
      refine .inl ⟨s.drop k, (List.take_append_drop k s).symm, c, forall_suffix fun j hj hm => ?_⟩
      rw [List.length_drop, List.length_drop]
      exact Nat.sub_le_sub_left (Nat.le_of_not_lt fun hlt => by rw [d j hlt hj] at hm; cases hm) _
    | none => exact .inr ⟨rfl, forall_suffix fun j => findrev_upTo_none _ _ _ h j (Nat.zero_le _)⟩

theorem findSome_range'_some {α : Type} (f : Nat → Option α) (lo n : Nat) (v : α)
    (h : (List.range' lo n).findSome? f = some v) :
    ∃ i, lo ≤ i ∧ i < lo + n ∧ f i = some v ∧ ∀ j, lo ≤ j → j < i → f j = none := by
  induction n generalizing lo with
  | zero => simp at h
  | succ n ih =>
    rw [List.range'_succ, List.findSome?_cons] at h
    cases hf : f lo with
    | some v' =>
      rw [hf] at h; cases h
      exact ⟨lo, Nat.le_refl _, by omega, hf, fun j h1 h2 => by omega⟩
    | none =>
      rw [hf] at h
      obtain ⟨i, a, b, c, d⟩ := ih (lo + 1) h
      refine ⟨i, by omega, by omega, c, fun j h1 h2 => ?_⟩
      by_cases hj : j = lo
      · subst hj; exact hf
      · exact d j (by omega) h2

theorem findSome_upTo_some {α : Type} (f : Nat → Option α) (lo hi : Nat) (v : α)
    (h : (upTo lo hi).findSome? f = some v) :
    ∃ i, lo ≤ i ∧ i ≤ hi ∧ f i = some v ∧ ∀ j, lo ≤ j → j < i → f j = none := by
  obtain ⟨i, a, b, c, d⟩ := findSome_range'_some _ _ _ _ h
  exact ⟨i, a, by omega, c, d⟩

theorem findSome_upTo_none {α : Type} (f : Nat → Option α) (lo hi : Nat)
    (h : (upTo lo hi).findSome? f = none) : ∀ j, lo ≤ j → j ≤ hi → f j = none :=
  fun j h1 h2 => List.findSome?_eq_none_iff.mp h j (mem_upTo.mpr ⟨h1, h2⟩)

def NoMatchAt (m : Str → Bool) (t : Str) : Prop := ∀ k, 1 ≤ k → k ≤ t.length → m (t.take k) = false

def LongestAt (m : Str → Bool) (t : Str) (k : Nat) : Prop :=
  1 ≤ k ∧ k ≤ t.length ∧ m (t.take k) = true ∧ ∀ k', k < k' → k' ≤ t.length → m (t.take k') = false

/-- `${s//pat/w}` as a relation: scan left to right; where no non-empty prefix of the rest
    matches, copy one character; otherwise replace the longest matching prefix and go on behind it. -/
inductive ReplAll (m : Str → Bool) (w : Str) : Str → Str → Prop
  | nil : ReplAll m w [] []
  | skip (c : Char) (cs r : Str) : NoMatchAt m (c :: cs) → ReplAll m w cs r → ReplAll m w (c :: cs) (c :: r)
  | hit (t : Str) (k : Nat) (r : Str) : LongestAt m t k → ReplAll m w (t.drop k) r → ReplAll m w t (w ++ r)

/-- `${s/pat/w}` as a relation: the first position with a match, the longest match there. -/
def ReplFirst (m : Str → Bool) (w : Str) (t r : Str) : Prop :=
  ((∀ i, i ≤ t.length → NoMatchAt m (t.drop i)) ∧ r = t) ∨
  ∃ a k, (∀ i, i < a → NoMatchAt m (t.drop i)) ∧ LongestAt m (t.drop a) k ∧ r = t.take a ++ w ++ t.drop (a + k)

theorem sub_add (s : Str) (i k : Nat) : sub s i (i + k) = (s.drop i).take k := by
  rw [sub, Nat.add_sub_cancel_left]

/-- The inner search of `findFrom`: among the ends `j` of a match that starts at `i`, the largest. -/
theorem findEnd_none (m : Str → Bool) (s : Str) (i : Nat)
    (h : (upTo i s.length).reverse.find? (fun j => m (sub s i j)) = none) : NoMatchAt m (s.drop i) := by
  intro k h1 h2
  rw [List.length_drop] at h2
  have := findrev_upTo_none _ _ _ h (i + k) (Nat.le_add_right _ _) (by omega)
  rwa [sub_add] at this

theorem findEnd_some (m : Str → Bool) (s : Str) (i j : Nat) (hne : m [] = false)
    (h : (upTo i s.length).reverse.find? (fun j => m (sub s i j)) = some j) :
    i < j ∧ j ≤ s.length ∧ LongestAt m (s.drop i) (j - i) := by
  obtain ⟨a, b, c, d⟩ := findrev_upTo_some _ _ _ _ h
  obtain ⟨k, rfl⟩ := Nat.exists_eq_add_of_le a
  rw [sub_add] at c
  have hk : 0 < k := by
    cases k with
    | zero => rw [List.take_zero, hne] at c; cases c
    | succ k => exact Nat.succ_pos k
  rw [Nat.add_sub_cancel_left]
  refine ⟨Nat.lt_add_of_pos_right hk, b, hk, by rw [List.length_drop]; omega, c, fun k' h1 h2 => ?_⟩
  rw [List.length_drop] at h2
  have := d (i + k') (by omega) (by omega)
  rwa [sub_add] at this

theorem findFrom_none (m : Str → Bool) (s : Str) (pos : Nat) (h : findFrom m s pos = none) :
    ∀ i, pos ≤ i → i ≤ s.length → NoMatchAt m (s.drop i) := by
  intro i h1 h2
  have := findSome_upTo_none _ _ _ h i h1 h2
  rw [Option.map_eq_none_iff] at this
  exact findEnd_none m s i this

theorem findFrom_some (m : Str → Bool) (s : Str) (pos a b : Nat) (hne : m [] = false)
    (h : findFrom m s pos = some (a, b)) :
    pos ≤ a ∧ a < b ∧ b ≤ s.length ∧ (∀ i, pos ≤ i → i < a → NoMatchAt m (s.drop i)) ∧
      LongestAt m (s.drop a) (b - a) := by
  obtain ⟨i, h1, h2, h3, h4⟩ := findSome_upTo_some _ _ _ _ h
  simp only [Option.map_eq_some_iff, Prod.mk.injEq] at h3
  obtain ⟨j, hj, rfl, rfl⟩ := h3
  obtain ⟨e1, e2, e3⟩ := findEnd_some m s i j hne hj
  refine ⟨h1, e1, e2, fun i' g1 g2 => ?_, e3⟩
  have := h4 i' g1 g2
  rw [Option.map_eq_none_iff] at this
  exact findEnd_none m s i' this

theorem replAll_gap (m : Str → Bool) (w t r : Str) (g : Nat) (hg : g ≤ t.length)
    (h : ∀ i, i < g → NoMatchAt m (t.drop i)) (hr : ReplAll m w (t.drop g) r) :
    ReplAll m w t (t.take g ++ r) := by
  induction g generalizing t with
  | zero => simpa using hr
  | succ g ih =>
    cases t with
    | nil => simp at hg
    | cons c cs =>
      simp only [List.take_succ_cons, List.cons_append]
      refine .skip c cs _ (by simpa using h 0 (by omega)) ?_
      refine ih cs (by simpa using hg) (fun i hi => ?_) (by simpa using hr)
      simpa using h (i + 1) (by omega)

theorem replAll_nomatch (m : Str → Bool) (w t : Str)
    (h : ∀ i, i < t.length → NoMatchAt m (t.drop i)) : ReplAll m w t t := by
  have := replAll_gap m w t [] t.length (Nat.le_refl _) h (by rw [List.drop_length]; exact .nil)
  rwa [List.take_length, List.append_nil] at this

theorem spliceLocs_nil (s w : Str) (last : Nat) : spliceLocs s w last [] = s.drop last := rfl

theorem spliceLocs_one (s w : Str) (a b : Nat) : spliceLocs s w 0 [(a, b)] = s.take a ++ w ++ s.drop b := by
  rw [spliceLocs, spliceLocs_nil, sub, List.drop_zero, Nat.sub_zero]

theorem allMatches_stop (m : Str → Bool) (s : Str) (lim fuel pos cnt : Nat) (prev : Option Nat)
    (h : lim ≤ cnt ∨ s.length < pos) : allMatches m s lim fuel pos cnt prev = [] := by
  cases fuel with
  | zero => rfl
  | succ fuel =>
    rw [allMatches, if_neg (by
      rw [Bool.and_eq_true, decide_eq_true_eq, decide_eq_true_eq]
      exact fun ⟨h1, h2⟩ => h.elim (Nat.not_le_of_lt h1) (Nat.not_lt_of_le h2))]

theorem allMatches_none (m : Str → Bool) (s : Str) (lim fuel pos cnt : Nat) (prev : Option Nat)
    (hc : cnt < lim) (hp : pos ≤ s.length) (hf : findFrom m s pos = none) :
    allMatches m s lim (fuel + 1) pos cnt prev = [] := by
  rw [allMatches, if_pos (by rw [decide_eq_true hc, decide_eq_true hp]; rfl), hf]

theorem allMatches_hit (m : Str → Bool) (s : Str) (lim fuel pos cnt a b : Nat) (prev : Option Nat)
    (hc : cnt < lim) (hp : pos ≤ s.length) (hf : findFrom m s pos = some (a, b)) (hb : b ≠ pos) :
    allMatches m s lim (fuel + 1) pos cnt prev = (a, b) :: allMatches m s lim fuel b (cnt + 1) (some b) := by
  rw [allMatches, if_pos (by rw [decide_eq_true hc, decide_eq_true hp]; rfl), hf]
  simp only [beq_eq_false_iff_ne.mpr hb, Bool.false_eq_true, if_false]

theorem allMatches_empty (m : Str → Bool) (s : Str) (lim fuel pos cnt a : Nat) (prev : Option Nat)
    (hc : cnt < lim) (hp : pos ≤ s.length) (hf : findFrom m s pos = some (a, pos)) :
    allMatches m s lim (fuel + 1) pos cnt prev =
      if !(prev == some a) then (a, pos) :: allMatches m s lim fuel (pos + 1) (cnt + 1) (some pos)
      else allMatches m s lim fuel (pos + 1) cnt (some pos) := by
  rw [allMatches, if_pos (by rw [decide_eq_true hc, decide_eq_true hp]; rfl), hf]
  simp only [beq_self_eq_true, if_true]

/-- `cnt ≤ pos` keeps the count below the limit `s.length + 1` of "all" mode; the fuel covers the
    positions left. -/
theorem allMatches_replAll (m : Str → Bool) (s w : Str) (hne : m [] = false) :
    ∀ (fuel pos cnt : Nat) (prev : Option Nat), pos ≤ s.length → s.length - pos + 1 ≤ fuel → cnt ≤ pos →
      ReplAll m w (s.drop pos) (spliceLocs s w pos (allMatches m s (s.length + 1) fuel pos cnt prev)) := by
  intro fuel
  induction fuel with
  | zero => intro pos cnt prev h1 h2; omega
  | succ fuel ih =>
    intro pos cnt prev h1 h2 h3
    have hc : cnt < s.length + 1 := Nat.lt_succ_of_le (Nat.le_trans h3 h1)
    cases hf : findFrom m s pos with
    | none =>
      rw [allMatches_none m s _ fuel pos cnt prev hc h1 hf, spliceLocs_nil]
      apply replAll_nomatch
      intro i hi
      rw [List.length_drop] at hi
      rw [List.drop_drop]
      exact findFrom_none m s pos hf (pos + i) (Nat.le_add_right _ _) (Nat.add_le_of_le_sub' h1 (Nat.le_of_lt hi))
    | some ab =>
      obtain ⟨a, b⟩ := ab
      obtain ⟨g1, g2, g3, g4, g5⟩ := findFrom_some m s pos a b hne hf
      have hpb : pos < b := Nat.lt_of_le_of_lt g1 g2
      rw [allMatches_hit m s _ fuel pos cnt a b prev hc h1 hf (Nat.ne_of_gt hpb), spliceLocs]
      have ihb := ih b (cnt + 1) (some b) g3 (by omega) (Nat.lt_of_le_of_lt h3 hpb)
      rw [sub, List.append_assoc]
      apply replAll_gap m w (s.drop pos) _ (a - pos)
        (by rw [List.length_drop]; exact Nat.sub_le_sub_right (Nat.le_trans (Nat.le_of_lt g2) g3) pos)
      · intro i hi
        rw [List.drop_drop]
        exact g4 (pos + i) (Nat.le_add_right _ _) (Nat.add_lt_of_lt_sub' hi)
      · rw [List.drop_drop, Nat.add_sub_cancel' g1]
        refine .hit (s.drop a) (b - a) _ g5 ?_
        rw [List.drop_drop, Nat.add_sub_cancel' (Nat.le_of_lt g2)]; exact ihb

theorem findAll_replAll (m : Str → Bool) (s w : Str) (hne : m [] = false) :
    ReplAll m w s (spliceLocs s w 0 (findAll m s true)) := by
  have := allMatches_replAll m s w hne (s.length + 2) 0 0 none (Nat.zero_le _) (by omega) (Nat.le_refl _)
  simpa [findAll] using this

theorem findAll_replFirst (m : Str → Bool) (s w : Str) (hne : m [] = false) :
    ReplFirst m w s (spliceLocs s w 0 (findAll m s false)) := by
  unfold findAll
  rw [if_neg Bool.false_ne_true]
  cases hf : findFrom m s 0 with
  | none =>
    rw [allMatches_none m s 1 _ 0 0 none Nat.one_pos (Nat.zero_le _) hf]
    exact .inl ⟨fun i hi => findFrom_none m s 0 hf i (Nat.zero_le _) hi, rfl⟩
  | some ab =>
    obtain ⟨a, b⟩ := ab
    obtain ⟨g1, g2, g3, g4, g5⟩ := findFrom_some m s 0 a b hne hf
    rw [allMatches_hit m s 1 _ 0 0 a b none Nat.one_pos (Nat.zero_le _) hf (by omega),
      allMatches_stop m s 1 _ b 1 (some b) (.inl (Nat.le_refl 1))]
    refine .inr ⟨a, b - a, fun i hi => g4 i (Nat.zero_le _) hi, g5, ?_⟩
    rw [spliceLocs_one, Nat.add_sub_cancel' (Nat.le_of_lt g2)]

/-- A pattern that matches everything (such as `*`): one match, the whole string. -/
theorem findAll_everything (m : Str → Bool) (s w : Str) (all : Bool) (hall : ∀ u, m u = true) :
    spliceLocs s w 0 (findAll m s all) = w := by
  have hff : ∀ pos, pos ≤ s.length → findFrom m s pos = some (pos, s.length) := by
    intro pos hp
    have hup : upTo pos s.length = List.range' pos (s.length - pos + 1) := by rw [upTo, Nat.sub_add_comm hp]
    have : (upTo pos s.length).reverse.find? (fun j => m (sub s pos j)) = some s.length := by
      rw [hup, List.range'_concat, List.reverse_append, Nat.one_mul, Nat.add_sub_cancel' hp]
      exact List.find?_cons_of_pos (hall _)
    rw [findFrom, hup, List.range'_succ, List.findSome?_cons, this]
    rfl
  have hlim : 0 < if all = true then s.length + 1 else 1 := by cases all <;> exact Nat.succ_pos _
  have h0 := hff 0 (Nat.zero_le _)
  unfold findAll
  by_cases hs : s.length = 0
  · -- the empty string: one empty match
    rw [hs] at h0
    rw [allMatches_empty m s _ _ 0 0 0 none hlim (Nat.zero_le _) h0, allMatches_stop m s _ _ _ _ _ (.inr (by omega)),
      List.eq_nil_of_length_eq_zero hs, if_pos (by decide)]
    exact List.append_nil w
  · -- the whole string; "all" mode then finds an empty match at the end, which touches it and is dropped
    rw [allMatches_hit m s _ _ 0 0 0 s.length none hlim (Nat.zero_le _) h0 hs]
    have : allMatches m s (if all = true then s.length + 1 else 1) (s.length + 1) s.length (0 + 1) (some s.length)
        = [] := by
      cases all
      · exact allMatches_stop m s _ _ _ _ _ (.inl (Nat.le_refl 1))
      · rw [allMatches_empty m s _ _ _ _ _ _ (by rw [if_pos rfl]; omega) (Nat.le_refl _)
          (hff s.length (Nat.le_refl _)), beq_self_eq_true, Bool.not_true, if_neg Bool.false_ne_true]
        exact allMatches_stop m s _ _ _ _ _ (.inr (Nat.lt_succ_self _))
    rw [this, spliceLocs_one, List.drop_length, List.take_zero, List.nil_append, List.append_nil]

theorem longestAt_some (m : Str → Bool) (t : Str) (k : Nat) (h : Spec.longestAt m t = some k) :
    LongestAt m t k :=
  findrev_upTo_some _ _ _ _ h

theorem longestAt_none (m : Str → Bool) (t : Str) (h : Spec.longestAt m t = none) : NoMatchAt m t :=
  findrev_upTo_none _ _ _ h

theorem noMatch_longest_absurd {m : Str → Bool} {t : Str} {k : Nat} (h1 : NoMatchAt m t) (h2 : LongestAt m t k) :
    False := by
  have := h1 k h2.1 h2.2.1
  rw [h2.2.2.1] at this; cases this

theorem longest_unique {m : Str → Bool} {t : Str} {k1 k2 : Nat} (h1 : LongestAt m t k1) (h2 : LongestAt m t k2) :
    k1 = k2 := by
  by_cases h : k1 < k2
  · have := h1.2.2.2 k2 h h2.2.1; rw [h2.2.2.1] at this; cases this
  · by_cases h' : k2 < k1
    · have := h2.2.2.2 k1 h' h1.2.1; rw [h1.2.2.1] at this; cases this
    · omega

theorem specReplAll_rel (m : Str → Bool) (w : Str) :
    ∀ (fuel : Nat) (t : Str), t.length ≤ fuel → ReplAll m w t (Spec.replAll m w fuel t) := by
  intro fuel
  induction fuel with
  | zero =>
    intro t h
    have : t = [] := List.eq_nil_of_length_eq_zero (by omega)
    subst this; exact .nil
  | succ fuel ih =>
    intro t h
    cases t with
    | nil => exact .nil
    | cons c cs =>
      simp only [Spec.replAll]
      cases hl : Spec.longestAt m (c :: cs) with
      | some k =>
        have hk := longestAt_some m _ k hl
        exact .hit _ k _ hk (ih _ (by
          have h1 := hk.1
          simp only [List.length_drop, List.length_cons] at h ⊢; omega))
      | none =>
        exact .skip c cs _ (longestAt_none m _ hl) (ih cs (by simpa using h))

theorem replAll_functional (m : Str → Bool) (w t r1 r2 : Str) (h1 : ReplAll m w t r1) (h2 : ReplAll m w t r2) :
    r1 = r2 := by
  induction h1 generalizing r2 with
  | nil =>
    cases h2 with
    | nil => rfl
    | hit t k r hk _ => exact absurd hk.2.1 (by have := hk.1; simp; omega)
  | skip c cs r hn _ ih =>
    cases h2 with
    | skip _ _ r' _ hr => rw [ih r' hr]
    | hit t k r' hk _ => exact (noMatch_longest_absurd hn hk).elim
  | hit t k r hk _ ih =>
    cases h2 with
    | nil => exact absurd hk.2.1 (by have := hk.1; simp; omega)
    | skip c cs r' hn _ => exact (noMatch_longest_absurd hn hk).elim
    | hit _ k' r' hk' hr =>
      have := longest_unique hk hk'
      subst this
      rw [ih r' hr]

theorem specReplFirst_rel (m : Str → Bool) (w t : Str) : ReplFirst m w t (Spec.replFirst m w t) := by
  induction t with
  | nil =>
    left
    refine ⟨fun i hi k h1 h2 => ?_, rfl⟩
    simp at h2; omega
  | cons c cs ih =>
    simp only [Spec.replFirst]
    cases hl : Spec.longestAt m (c :: cs) with
    | some k =>
      right
      exact ⟨0, k, fun i hi => by omega, by simpa using longestAt_some m _ k hl, by simp⟩
    | none =>
      have hn := longestAt_none m _ hl
      rcases ih with ⟨h1, h2⟩ | ⟨a, k, h1, h2, h3⟩
      · left
        refine ⟨fun i hi => ?_, by simp only; rw [h2]⟩
        cases i with
        | zero => simpa using hn
        | succ j => simpa using h1 j (by simpa using hi)
      · right
        refine ⟨a + 1, k, fun i hi => ?_, by simpa using h2, by simp only; rw [h3]; simp [Nat.add_right_comm]⟩
        cases i with
        | zero => simpa using hn
        | succ j => simpa using h1 j (by omega)

theorem replFirst_functional (m : Str → Bool) (w t r1 r2 : Str) (h1 : ReplFirst m w t r1) (h2 : ReplFirst m w t r2) :
    r1 = r2 := by
  have key : ∀ a k, LongestAt m (t.drop a) k → a ≤ t.length := by
    intro a k hk
    have := hk.1; have := hk.2.1
    simp only [List.length_drop] at this; omega
  rcases h1 with ⟨a1, b1⟩ | ⟨a1, k1, c1, d1, e1⟩ <;> rcases h2 with ⟨a2, b2⟩ | ⟨a2, k2, c2, d2, e2⟩
  · rw [b1, b2]
  · exact (noMatch_longest_absurd (a1 a2 (key _ _ d2)) d2).elim
  · exact (noMatch_longest_absurd (a2 a1 (key _ _ d1)) d1).elim
  · have ha : a1 = a2 := by
      by_cases h : a1 < a2
      · exact (noMatch_longest_absurd (c2 a1 h) d1).elim
      · by_cases h' : a2 < a1
        · exact (noMatch_longest_absurd (c1 a2 h') d2).elim
        · omega
    subst ha
    have := longest_unique d1 d2
    subst this
    rw [e1, e2]

/-- The matcher hypothesis about patterns that match the empty string (true of shell patterns
    without extended operators: such a pattern consists of stars only). -/
def EmptyAll (m : Str → Bool) : Prop := m [] = true → ∀ u, m u = true

/-- The model and the executable specification both satisfy the relation (`ReplFirst`, `ReplAll`),
    which is functional. -/
theorem splice_eq_spec (m : Str → Bool) (w s : Str) (all : Bool) (hE : EmptyAll m) :
    spliceLocs s w 0 (findAll m s all) = Spec.replace m .none all w s := by
  unfold Spec.replace
  cases hne : m [] with
  | true => simp only [if_true]; exact findAll_everything m s w all (hE hne)
  | false =>
    simp only [Bool.false_eq_true, if_false]
    cases all
    · simp only [Bool.false_eq_true, if_false]
      exact replFirst_functional m w s _ _ (findAll_replFirst m s w hne) (specReplFirst_rel m w s)
    · simp only [if_true]
      exact replAll_functional m w s _ _ (findAll_replAll m s w hne) (specReplAll_rel m w s.length s (Nat.le_refl _))

end ShVerif.C21
