/-
  The client interface of the byte source as a signature: `Prim β` lists the operations of `Prog`
  by the type of their answer, with what each does on the chunked byte source (`Prim.run`), on the
  unchunked machine (`Prim.spec`) and when it panics whatever the schedule (`Prim.panics`).  `Prog`
  is the free monad over this signature: `Prim.bind` is the constructor of an operation, the three
  `_bind` equations say that `Prog.run`, `specRun`, `specRunF` run the operation and go on, and
  `Prog.ind` is induction over client programs as "return, or one operation and a continuation".
-/
import ShVerif.Model.C07
namespace ShVerif.C07
open ShVerif ShVerif.L2

inductive Prim : Type → Type where
  | rune : Prim Nat
  | peek : Prim Nat
  | peekTwo : Prim (Nat × Nat)
  | zshNum : Prim Bool
  | stopAt (r : Nat) : Prim Bool
  | newLit (r : Nat) : Prim Unit
  | endLit : Prim (List Byte)
  | pos : Prim (Int × Nat × Nat)
  | setBquotes (o d : Nat) : Prim Unit
  | getRW : Prim (Nat × Nat)
  | lastBq : Prim Nat
  | litGet : Prim (Option (List Byte))
  | litAppend (bs : List Byte) : Prim Unit
  | litDrop : Prim Unit
  | errPass : Prim Unit
  | errGet : Prim Bool

namespace Prim

def bind {α β : Type} : Prim β → (β → Prog α) → Prog α
  | .rune, k => .rune k
  | .peek, k => .peek k
  | .peekTwo, k => .peekTwo fun x y => k (x, y)
  | .zshNum, k => .zshNum k
  | .stopAt r, k => .stopAt r k
  | .newLit r, k => .newLit r (k ())
  | .endLit, k => .endLit k
  | .pos, k => .pos fun o l c => k (o, l, c)
  | .setBquotes o d, k => .setBquotes o d (k ())
  | .getRW, k => .getRW fun r w => k (r, w)
  | .lastBq, k => .lastBq k
  | .litGet, k => .litGet k
  | .litAppend bs, k => .litAppend bs (k ())
  | .litDrop, k => .litDrop (k ())
  | .errPass, k => .errPass (k ())
  | .errGet, k => .errGet k

def run {β : Type} : Prim β → St → M (β × St)
  | .rune, s => s.rune
  | .peek, s => s.peek
  | .peekTwo, s => do let (x, y, s) ← s.peekTwo; pure ((x, y), s)
  | .zshNum, s => s.zshNum
  | .stopAt r, s => s.stopAt r
  | .newLit r, s => do let s ← s.newLit r; pure ((), s)
  | .endLit, s => s.endLit
  | .pos, s => pure (s.nextPos, s)
  | .setBquotes o d, s => pure ((), { s with openBq := o, openBqDbl := d })
  | .getRW, s => pure ((s.r, s.w), s)
  | .lastBq, s => pure (s.lastBqEsc, s)
  | .litGet, s => pure (s.lit.map List.reverse, s)
  | .litAppend bs, s => pure ((), { s with lit := some (bs.reverse ++ s.lit.getD []) })
  | .litDrop, s => pure ((), { s with lit := none })
  | .errPass, s => pure ((), s.errPass .client)
  | .errGet, s => pure (s.err.isSome, s)

def spec {β : Type} : Prim β → LSt → β × LSt
  | .rune, a => a.rune
  | .peek, a => a.peek
  | .peekTwo, a => ((a.peekTwo.1, a.peekTwo.2.1), a.peekTwo.2.2)
  | .zshNum, a => a.zshNum
  | .stopAt r, a => a.stopAt r
  | .newLit r, a => ((), a.newLit r)
  | .endLit, a => a.endLit
  | .pos, a => a.pos
  | .setBquotes o d, a => ((), { a with openBq := o, openBqDbl := d })
  | .getRW, a => ((a.r, a.w), a)
  | .lastBq, a => (a.lastBqEsc, a)
  | .litGet, a => (a.lit.map List.reverse, a)
  | .litAppend bs, a => ((), { a with lit := some (bs.reverse ++ a.lit.getD []) })
  | .litDrop, a => ((), { a with lit := none })
  | .errPass, a => ((), a.errPass .client)
  | .errGet, a => (a.err.isSome, a)

/-- the two calls that Go panics on under every schedule: the tests of `specRunF` -/
def panics {β : Type} : Prim β → LSt → Bool
  | .zshNum, a => a.r == runeEOF && !a.halted
  | .endLit, a => !(a.r == runeEOF || a.r == escNewl) && decide (a.w > (a.lit.getD []).length)
  | _, _ => false

end Prim

theorem Prog.ind {α : Type} {motive : Prog α → Prop} (ret : ∀ x, motive (.ret x))
    (bind : ∀ {β : Type} (o : Prim β) (k : β → Prog α), (∀ v, motive (k v)) → motive (o.bind k)) :
    ∀ p, motive p := by
  intro p
  induction p with
  | ret x => exact ret x
  | rune k ih => exact bind .rune k ih
  | peek k ih => exact bind .peek k ih
  | peekTwo k ih => exact bind .peekTwo (fun v => k v.1 v.2) fun v => ih v.1 v.2
  | zshNum k ih => exact bind .zshNum k ih
  | stopAt r k ih => exact bind (.stopAt r) k ih
  | newLit r k ih => exact bind (.newLit r) (fun _ => k) fun _ => ih
  | endLit k ih => exact bind .endLit k ih
  | pos k ih => exact bind .pos (fun v => k v.1 v.2.1 v.2.2) fun v => ih v.1 v.2.1 v.2.2
  | setBquotes o d k ih => exact bind (.setBquotes o d) (fun _ => k) fun _ => ih
  | getRW k ih => exact bind .getRW (fun v => k v.1 v.2) fun v => ih v.1 v.2
  | lastBq k ih => exact bind .lastBq k ih
  | litGet k ih => exact bind .litGet k ih
  | litAppend bs k ih => exact bind (.litAppend bs) (fun _ => k) fun _ => ih
  | litDrop k ih => exact bind .litDrop (fun _ => k) fun _ => ih
  | errPass k ih => exact bind .errPass (fun _ => k) fun _ => ih
  | errGet k ih => exact bind .errGet k ih

theorem run_bind {α β : Type} (o : Prim β) (k : β → Prog α) (s : St) :
    (o.bind k).run s = o.run s >>= fun x => (k x.1).run x.2 := by
  cases o
  case peekTwo => show (s.peekTwo >>= _) = ((s.peekTwo >>= _) >>= _); cases s.peekTwo <;> rfl
  case newLit r => show (s.newLit r >>= _) = ((s.newLit r >>= _) >>= _); cases s.newLit r <;> rfl
  all_goals rfl

theorem specRun_bind {α β : Type} (o : Prim β) (k : β → Prog α) (a : LSt) :
    specRun (o.bind k) a = specRun (k (o.spec a).1) (o.spec a).2 := by
  cases o <;> rfl

theorem specRunF_bind {α β : Type} (o : Prim β) (k : β → Prog α) (a : LSt) :
    specRunF (o.bind k) a =
      if o.panics a = true then .panic a else specRunF (k (o.spec a).1) (o.spec a).2 := by
  cases o <;> rfl

end ShVerif.C07
