/-
  C07 — `rune` of the chunked byte source refines `rune` of the unchunked one.
-/
import ShVerif.Proofs.C07
namespace ShVerif.C07
open ShVerif ShVerif.L2

def StepR : St.Step → LSt.Step → Prop
  | .done s, .done a => R s a
  | .retry bq s, .retry bq' a => bq = bq' ∧ R s a
  | _, _ => False

theorem R.setCol {s a} (h : R s a) (k : Nat) :
    R { s with col := s.col + k } { a with col := a.col + k } :=
  { h with f_col := congrArg (· + k) h.f_col }

theorem R.setWR {s a} (h : R s a) (hal : a.err = none) (hcur : s.bsp = s.back.length)
    (w r : Nat) (hr : r ≠ runeEOF) : R { s with w := w, r := r } { a with w := w, r := r } :=
  { h with cursor := .inl hcur, dead := fun he => absurd hal he, eofR := fun _ hx => absurd hx hr,
           f_r := rfl, f_w := rfl }

theorem R.litPush {s a} (h : R s a) (bs : List Byte) : R (s.litPush bs) (a.litPush bs) := by
  unfold St.litPush LSt.litPush
  rw [h.f_lit]
  cases s.lit with
  | none => exact h
  | some l => exact { h with f_lit := rfl }

@[simp] theorem st_litPush_front (s : St) (bs : List Byte) : (s.litPush bs).front = s.front := by
  unfold St.litPush; split <;> rfl
@[simp] theorem st_litPush_back (s : St) (bs : List Byte) : (s.litPush bs).back = s.back := by
  unfold St.litPush; split <;> rfl
@[simp] theorem st_litPush_bsp (s : St) (bs : List Byte) : (s.litPush bs).bsp = s.bsp := by
  unfold St.litPush; split <;> rfl

theorem R.front_of_rest {s a} (h : R s a) (hal : a.err = none) (l : List Byte) {t : List Byte}
    (hr : a.rest = l ++ t) (hl : l.length ≤ a.look) : ∃ f, s.front = l ++ f := by
  have hrest := (h.alive hal).1
  have hk : l.length ≤ s.front.length := by
    rcases h.look hal with hk | hp
    · omega
    · rw [hp, List.append_nil] at hrest
      rw [← hrest, hr, List.length_append]; omega
  have e := (List.take_append_drop l.length s.front).symm
  rw [← List.take_append_of_le_length hk, ← hrest, hr, List.take_left' rfl] at e
  exact ⟨_, e⟩

theorem advance_front {s : St} {b f} (hf : s.front = b :: f) : s.advance.front = f := by
  simp [St.advance, hf]
@[simp] theorem advance_col (s : St) : s.advance.col = s.col := by
  unfold St.advance; split <;> rfl

theorem advance_refines {s a b f} (h : R s a) (hb : a.behind = none) (hf : s.front = b :: f) :
    R s.advance a.consume ∧ s.advance.bsp = s.advance.back.length ∧ a.consume.err = none := by
  obtain ⟨hal, hrest⟩ := h.head hf
  have hcur : s.bsp = s.back.length := h.cursor.resolve_right fun hc => List.cons_ne_nil b f (hf ▸ hc.1)
  have hlen : s.front.length = f.length + 1 := by rw [hf]; rfl
  unfold St.advance LSt.consume
  simp only [hf, hrest]
  exact ⟨{ h with
      blen_eq := show s.blen = (s.back.length + 1) + f.length by rw [h.blen_eq, hlen]; omega
      cursor := .inl (congrArg (· + 1) hcur)
      tot := show f.length + s.pending.length ≤ s.total by have := h.tot; omega
      alive := fun _ => ⟨rfl, congrArg (· + 1) (h.alive hal).2⟩
      dead := fun he => absurd hal he
      eofR := fun _ hr hh => absurd (hf ▸ (h.eofR hal hr hh).2.1) (List.cons_ne_nil b f)
      look := fun _ => (h.look hal).imp (fun hl => show a.look - 1 ≤ f.length by omega) id
      behind := fun _ hl => nomatch hb ▸ hl },
    congrArg (· + 1) hcur, hal⟩

theorem advanceN_refines (bs : List Byte) : ∀ {s a f}, R s a → a.behind = none → s.front = bs ++ f →
    a.err = none → s.bsp = s.back.length →
    R (St.advanceN bs.length s) (LSt.consumeN bs.length a) ∧
      (St.advanceN bs.length s).bsp = (St.advanceN bs.length s).back.length ∧
      (LSt.consumeN bs.length a).err = none ∧
      (St.advanceN bs.length s).back = bs.reverse ++ s.back := by
  induction bs with
  | nil =>
    intro s a f h hb hf hal hcur
    exact ⟨h, hcur, hal, by simp [St.advanceN]⟩
  | cons b bs ih =>
    intro s a f h hb hf hal hcur
    have hf' : s.front = b :: (bs ++ f) := hf
    obtain ⟨hRa, hcura, hala⟩ := advance_refines h hb hf'
    obtain ⟨h1, h2, h3, h4⟩ := ih hRa (by simpa using hb) (advance_front hf') hala hcura
    refine ⟨h1, h2, h3, ?_⟩
    simp only [List.length_cons, St.advanceN]
    rw [h4]
    simp [St.advance, hf']

theorem runeTail_refines {s a} (b : Byte) (bq : Nat) (h : R s a) (hal : a.err = none)
    (hcur : s.bsp = s.back.length) (hb7 : b.toNat < 0x80) :
    R (St.runeTail b bq s) (LSt.runeTail b bq a) := by
  have hne : b.toNat ≠ runeEOF := by simp [runeEOF]; omega
  have key {s1 a1} (h1 : R s1 a1) (hal1 : a1.err = none) (hcur1 : s1.bsp = s1.back.length) :
      R { s1.litPush [b] with w := 1, r := b.toNat } { a1.litPush [b] with w := 1, r := b.toNat } :=
    (h1.litPush [b]).setWR (by rw [litPush_err]; exact hal1)
      (by rw [st_litPush_bsp, st_litPush_back]; exact hcur1) 1 _ hne
  unfold St.runeTail LSt.runeTail
  by_cases h96 : (b == 96) = true
  · simp only [h96, if_true]
    exact key { h with f_lastBqEsc := rfl } hal hcur
  · simp only [h96]
    exact key h hal hcur

theorem runeAfterEsc_refines {s a} (b : Byte) (bq : Nat) (h : R s a) (hal : a.err = none)
    (hcur : s.bsp = s.back.length) (hb7 : b.toNat < 0x80)
    (hlk : 1 ≤ a.look ∨ a.rest = []) :
    StepR (St.runeAfterEsc b bq s) (LSt.runeAfterEsc b bq a) := by
  have h' : R { s with readEOF := false } a := { h with eofE := fun he => nomatch he }
  have hcur' : ({ s with readEOF := false } : St).bsp = ({ s with readEOF := false } : St).back.length := hcur
  unfold St.runeAfterEsc LSt.runeAfterEsc
  generalize ({ s with readEOF := false } : St) = s0 at h' hcur' ⊢
  have ht := runeTail_refines b bq h' hal hcur' hb7
  simp only [h'.f_openBq, h'.f_openBqDbl]
  cases hr : a.rest with
  | nil => rw [h'.front_nil hr]; exact ht
  | cons c t =>
    obtain ⟨f, hf⟩ : ∃ f, s0.front = c :: f :=
      h'.front_of_rest hal [c] hr (hlk.resolve_right (by simp [hr]))
    rw [hf]
    simp only
    split
    · have hc := h'.setCol 1
      rw [hf, hr, h'.f_openBq, h'.f_openBqDbl] at hc
      exact ⟨rfl, hc⟩
    · exact ht

theorem runeBackslash_refines {s a} (b : Byte) (bq : Nat) (h : R s a) (hal : a.err = none)
    (hr : a.r ≠ runeEOF) (hb7 : b.toNat < 0x80) (hh : a.halted = false) :
    ∃ st, St.runeBackslash b bq s = .ok st ∧ StepR st (LSt.runeBackslash b bq a) := by
  unfold LSt.runeBackslash St.runeBackslash
  obtain ⟨s1, hp1, hR1⟩ := peek_step h hh
  rw [peek_eq, h.f_r]
  simp only [hp1, bind_ok]
  -- the spec state after `peek`, under a name of its own: the terms stay small
  have hal1 : a.forget.peekEff0.err = none := hal
  have hr1 : a.forget.peekEff0.r ≠ runeEOF := hr
  have hh1 : a.forget.peekEff0.halted = false := hh
  have hb1 : a.forget.peekEff0.behind = none := rfl
  have hl1 : 1 ≤ a.forget.peekEff0.look := Nat.le_max_right _ _
  have hrest1 : a.forget.peekEff0.rest = a.rest := rfl
  generalize a.forget.peekEff0 = a1 at hR1 hal1 hr1 hh1 hb1 hl1 hrest1 ⊢
  by_cases h92 : (s.r == 92) = true
  · simp only [h92, if_true]
    exact ⟨_, rfl, runeAfterEsc_refines b bq hR1 hal1 (hR1.cursor_of_ne (hR1.f_r ▸ hr1)) hb7 (.inl hl1)⟩
  · simp only [h92]
    by_cases h10 : (pk1 a.rest == 10) = true
    · simp only [h10, if_true]
      obtain ⟨c, t, hrest⟩ := pk1_cons h10 (by decide)
      obtain ⟨f, hf⟩ : ∃ f, s1.front = c :: f := hR1.front_of_rest hal1 [c] (hrest1.trans hrest) hl1
      obtain ⟨hRa, hcur, hala⟩ := advance_refines hR1 hb1 hf
      exact ⟨_, rfl, hRa.setWR hala hcur 1 escNewl (by decide)⟩
    · simp only [h10]
      obtain ⟨s2, hp2, hR2⟩ := peekTwo_step hR1 hh1
      rw [peekTwo_eq]
      simp only [hp2, bind_ok]
      have hal2 : a1.forget.peekTwoEff0.err = none := hal1
      have hr2 : a1.forget.peekTwoEff0.r ≠ runeEOF := hr1
      have hb2 : a1.forget.peekTwoEff0.behind = none := rfl
      have hl2 : 2 ≤ a1.forget.peekTwoEff0.look := Nat.le_max_right _ _
      have hrest2 : a1.forget.peekTwoEff0.rest = a1.rest := rfl
      generalize a1.forget.peekTwoEff0 = a2 at hR2 hal2 hr2 hb2 hl2 hrest2 ⊢
      by_cases hcr : (pk1 a1.rest == 13 && pk2 a1.rest == 10) = true
      · simp only [hcr, if_true]
        obtain ⟨c, d, t, hrest⟩ : ∃ c d t, a1.rest = c :: d :: t := by
          rcases hrr : a1.rest with _ | ⟨c, _ | ⟨d, t⟩⟩
          · simp [hrr, pk1, runeSelf] at hcr
          · simp [hrr, pk2, runeSelf] at hcr
          · exact ⟨c, d, t, rfl⟩
        obtain ⟨f, hf⟩ : ∃ f, s2.front = c :: d :: f :=
          hR2.front_of_rest hal2 [c, d] (hrest2.trans hrest) hl2
        obtain ⟨hRa, _, hala⟩ := advance_refines hR2 hb2 hf
        obtain ⟨hRb, hcurb, halb⟩ := advance_refines hRa ((consume_behind a2).trans hb2) (advance_front hf)
        exact ⟨_, rfl,
          { hRb.setWR halb hcurb 2 escNewl (by decide) with f_col := congrArg (· + 1) hR2.f_col }⟩
      · simp only [hcr]
        exact ⟨_, rfl, runeAfterEsc_refines b bq hR2 hal2 (hR2.cursor_of_ne (hR2.f_r ▸ hr2)) hb7
          (.inl (Nat.le_trans (by decide) hl2))⟩

theorem runeAscii_refines {s a} (b : Byte) (f : List Byte) (bq : Nat) (h : R s a)
    (hb : a.behind = none) (hf : s.front = b :: f) (hb7 : b.toNat < 0x80)
    (hh : a.halted = false) :
    ∃ st, St.runeAscii b bq s = .ok st ∧ StepR st (LSt.runeAscii b bq a) := by
  obtain ⟨hRa, hcur, hala⟩ := advance_refines h hb hf
  have hra : a.consume.r ≠ runeEOF := (consume_r a).symm ▸ h.r_ne_of_front hf hh
  have hha : a.consume.halted = false := (consume_halted a).trans hh
  unfold LSt.runeAscii St.runeAscii
  simp only
  generalize a.consume = a' at hRa hala hra hha ⊢
  generalize s.advance = s' at hRa hcur ⊢
  by_cases h0 : (b == 0) = true
  · simp only [h0, if_true]
    exact ⟨_, rfl, rfl, hRa.setCol 1⟩
  · simp only [h0]
    by_cases h13 : (b == 13) = true
    · simp only [h13, if_true]
      obtain ⟨s1, hp1, hR1⟩ := peek_step hRa hha
      rw [peek_eq]
      simp only [hp1, bind_ok]
      by_cases h10 : (pk1 a'.rest == 10) = true
      · simp only [h10, if_true]
        exact ⟨_, rfl, rfl, hR1.setCol 1⟩
      · simp only [h10]
        exact ⟨_, rfl, runeTail_refines b bq hR1 hala (hR1.cursor_of_ne (hR1.f_r ▸ hra)) hb7⟩
    · simp only [h13]
      by_cases h92 : (b == 92) = true
      · simp only [h92, if_true]
        exact runeBackslash_refines b bq hRa hala hra hb7 hha
      · simp only [h92]
        exact ⟨_, rfl, runeTail_refines b bq hRa hala hcur hb7⟩

theorem decodeLoop_refines (fuel : Nat) : ∀ {s a}, R s a → a.err = none → a.behind = none →
    a.halted = false →
    s.front ≠ [] → a.r ≠ runeEOF → 5 ≤ s.front.length + fuel → 1 ≤ fuel →
    ∃ s', St.decodeLoop fuel s = .ok ((decodeRune a.rest).2, s') ∧ R s' (decodeSpec a) ∧
      (decodeRune a.rest).2 ≤ s'.front.length := by
  induction fuel with
  | zero =>
    intro s a h hal hb hh hne hr hlen h1
    omega
  | succ fuel ih =>
    intro s a h hal hb hh hne hr hlen _
    unfold St.decodeLoop
    have hcur := h.cursor_of_ne (h.f_r ▸ hr)
    have hle : ¬ s.bsp > s.blen := by rw [hcur, h.blen_eq]; omega
    simp only [hle, if_false]
    have hrest := (h.alive hal).1
    have hdl : (decodeRune s.front).1 ≠ runeEOF := Nat.ne_of_lt (decode_lt _)
    have hR1 : R { s with r := (decodeRune s.front).1 } { a with r := (decodeRune s.front).1 } :=
      { h with cursor := .inl hcur, dead := fun he => absurd hal he, eofR := fun _ hx => absurd hx hdl,
               f_r := rfl }
    by_cases hnm : needMore s.front = true
    · -- the bytes at hand are a proper prefix of an encoding: at most three, and `fill()`
      have hlen3 := needMore_length _ hnm
      have hcond : ((decodeRune s.front).1 == runeError && !fullRune s.front) = true := hnm
      simp only [hcond, if_true]
      obtain ⟨n, s', h1, h2, hc⟩ :=
        fill_refines hR1 hb hh (show s.front.length < bufSize by simp [bufSize]; omega)
      simp only [h1, bind_ok]
      rcases hc with ⟨hn, hf', hp⟩ | ⟨hn, hl⟩
      · have hd : decodeRune a.rest = decodeRune s.front := by
          rw [(h2.alive hal).1, hp hal, hf', List.append_nil]
        rw [hn, hd]
        exact ⟨s', rfl, by unfold decodeSpec; rw [hd]; exact h2, hf' ▸ (decode_width _ hne).2⟩
      · have hl' : s.front.length < s'.front.length := hl
        obtain ⟨s'', h3, h4, h5⟩ := ih h2 hal hb hh (fun hx => by rw [hx] at hl; exact Nat.not_lt_zero _ hl)
          hdl (by omega) (by omega)
        exact ⟨s'', by rw [if_pos hn]; exact h3, h4, h5⟩
    · have hnm' : needMore s.front = false := by simpa using hnm
      have hcond : ((decodeRune s.front).1 == runeError && !fullRune s.front) = false := hnm'
      simp only [hcond, Bool.false_eq_true, if_false]
      have hd1 := (decode_append s.front s.pending hne hnm').1
      rw [← hrest] at hd1
      refine ⟨_, by rw [hd1]; rfl, by unfold decodeSpec; rw [hd1]; exact hR1, ?_⟩
      rw [hd1]; exact (decode_width _ hne).2

theorem errPass_refines {s a} (h : R s a) (e : Err) : R (s.errPass e) (a.errPass e) := by
  unfold St.errPass LSt.errPass
  rw [h.f_err]
  cases he : s.err with
  | some e' => exact h
  | none =>
    exact { h with
      blen_eq := by rw [h.blen_eq]; simp only [List.length_append, List.length_reverse, List.length_nil]; omega
      cursor := .inr ⟨rfl, rfl, rfl⟩
      tot := Nat.le_trans (Nat.add_le_add_right (Nat.zero_le _) _) h.tot
      alive := fun hx => nomatch hx
      dead := fun _ => ⟨rfl, rfl, rfl, rfl⟩
      eofR := fun hx => nomatch hx
      f_r := rfl, f_w := rfl, f_err := rfl
      look := fun hx => nomatch hx
      behind := fun _ hl => nomatch hl }

theorem nextPos_eq {s a} (h : R s a) (hal : a.err = none) : s.nextPos = a.nextPos := by
  unfold St.nextPos LSt.nextPos
  rw [(h.alive hal).2, h.f_w, h.f_line, h.f_col]

/-- the end of the decode branch: `p.w = w`, and the invalid-encoding error -/
def decodeFin (w : Nat) (a : LSt) : LSt :=
  let a := { a with w := w }
  if a.r == runeError && w == 1 then
    let (o, l, c) := a.nextPos
    a.errPass (.utf8 o l c)
  else a

def stFin (w : Nat) (s : St) : St :=
  let s := { s with w := w }
  if s.r == runeError && w == 1 then
    let (o, l, c) := s.nextPos
    s.errPass (.utf8 o l c)
  else s

theorem fin_refines {s a} (w : Nat) (h : R s a) (hal : a.err = none) : R (stFin w s) (decodeFin w a) := by
  unfold stFin decodeFin
  have h' : R { s with w := w } { a with w := w } := { h with f_w := rfl }
  have hp := nextPos_eq h' hal
  simp only
  generalize ({ s with w := w } : St) = s1 at h' hp ⊢
  generalize ({ a with w := w } : LSt) = a1 at h' hp ⊢
  rw [h.f_r, hp]
  split
  · exact errPass_refines h' _
  · exact h'

theorem runeDecode_eq (a : LSt) : LSt.runeDecode a = decodeFin (decodeRune a.rest).2
    { LSt.consumeN (decodeRune a.rest).2 ((decodeSpec a).litPush (a.rest.take (decodeRune a.rest).2)) with
      behind := some (a.rest.take (decodeRune a.rest).2).reverse } := by
  unfold LSt.runeDecode decodeFin decodeSpec
  rcases decodeRune a.rest with ⟨r, w⟩
  rfl

theorem runeDecode_refines {s a b f} (h : R s a) (hb : a.behind = none) (hf : s.front = b :: f)
    (hh : a.halted = false) :
    ∃ s', St.runeDecode s = .ok s' ∧ R s' (LSt.runeDecode a) := by
  obtain ⟨hal, hrest⟩ := h.head hf
  have hr := h.r_ne_of_front hf hh
  obtain ⟨s1, h1, hR1, hw⟩ := decodeLoop_refines 4 h hal hb hh (by simp [hf]) hr (by simp [hf]) (by omega)
  have hw1 : 1 ≤ (decodeRune a.rest).2 := (decode_width a.rest (by simp [hrest])).1
  rw [runeDecode_eq]
  unfold St.runeDecode
  simp only [h1, bind_ok]
  generalize (decodeRune a.rest).2 = w at hw hw1 ⊢
  have hal1 : (decodeSpec a).err = none := hal
  have hb1 : (decodeSpec a).behind = none := hb
  have hrest0 : a.rest = (decodeSpec a).rest := rfl
  rw [hrest0]
  generalize decodeSpec a = a1 at hR1 hal1 hb1 ⊢
  have hcur1 : s1.bsp = s1.back.length :=
    hR1.cursor.resolve_right fun hc => by rw [hc.1] at hw; exact absurd hw (by simp; omega)
  have htake : a1.rest.take w = s1.front.take w := by
    rw [(hR1.alive hal1).1, List.take_append_of_le_length hw]
  have hlen : (s1.front.take w).length = w := by simp [List.length_take]; omega
  obtain ⟨hRa, hcura, hala, hback⟩ :=
    advanceN_refines (f := s1.front.drop w) (s1.front.take w) (hR1.litPush _) (by simpa using hb1)
      (by simp) (by simpa using hal1) (by simpa using hcur1)
  rw [hlen] at hRa hcura hala hback
  rw [htake]
  -- the bytes of the rune just read lie right before the cursor
  exact ⟨_, rfl, fin_refines w
    { hRa with behind := fun _ hl => Option.some.inj hl ▸ ⟨hcura, hback ▸ List.prefix_append _ _⟩ }
    hala⟩

theorem atEOF_refines {s a} (h : R s a) (hrest : a.rest = []) (hb0 : a.behind = none)
    (hh : a.halted = false) : R (St.runeAtEOF s) (LSt.runeAtEOF a) := by
  have hf := h.front_nil hrest
  have hp : a.err = none → s.pending = [] := fun hal => h.pending_nil hal hrest
  unfold St.runeAtEOF LSt.runeAtEOF
  by_cases hre : a.r = runeEOF
  · -- the cursor is already parked one past the buffer
    have hbsp : s.bsp = s.blen + 1 := by
      by_cases hal : a.err = none
      · exact (h.eofR hal (h.f_r ▸ hre) hh).2.2
      · exact (h.dead hal).2.2.1
    rw [if_pos (by simp [hre])]
    exact { h with
      cursor := .inr ⟨hf, rfl, rfl⟩
      alive := fun hal => ⟨(h.alive hal).1, hbsp ▸ (h.alive hal).2⟩
      dead := fun _ => ⟨hrest, hf, rfl, rfl⟩
      eofR := fun hal _ _ => ⟨hp hal, hf, rfl⟩
      f_r := hre, f_w := rfl
      behind := fun _ hl => nomatch hb0 ▸ hl }
  · have hre' : s.r ≠ runeEOF := h.f_r ▸ hre
    have hal := h.err_none hre'
    have hbsp : s.bsp = s.blen := by
      rw [h.cursor_of_ne hre', h.blen_eq, hf]; rfl
    rw [if_neg (by simp [hre])]
    exact { h with
      cursor := .inr ⟨hf, rfl, rfl⟩
      alive := fun _ => ⟨(h.alive hal).1, by rw [(h.alive hal).2, hbsp]; rfl⟩
      dead := fun he => absurd hal he
      eofR := fun _ _ _ => ⟨hp hal, hf, rfl⟩
      f_r := rfl, f_w := rfl
      behind := fun _ hl => nomatch hb0 ▸ hl }

theorem runeBody_refines {s a b f} (bq : Nat) (h : R s a) (hb : a.behind = none)
    (hh : a.halted = false) (hf : s.front = b :: f) :
    ∃ st, St.runeBody b bq s = .ok st ∧ StepR st (LSt.runeBody b bq a) := by
  have hRl : R s a.peekEff0 := h.raiseLook 1 fun _ => .inl (by rw [hf]; exact Nat.succ_pos _)
  rw [runeBody_eq]
  unfold St.runeBody
  split
  · next hb7 => exact runeAscii_refines b f bq hRl hb hf hb7 hh
  · obtain ⟨s2, h2, hR2⟩ := runeDecode_refines hRl hb hf hh
    exact ⟨.done s2, by rw [h2]; rfl, hR2⟩

theorem runeStep_refines {s a} (bq : Nat) (h : R s a) (hh : a.halted = false) :
    ∃ st, St.runeStep bq s = .ok st ∧ StepR st (LSt.runeStep bq a) := by
  have h0 := h.forget
  have hb0 := forget_behind a
  rw [runeStep_eq]
  unfold St.runeStep
  cases hf : s.front with
  | cons b f =>
    rw [show a.rest = _ from (h0.head hf).2]
    simpa [hf] using runeBody_refines bq h0 hb0 hh hf
  | nil =>
    obtain ⟨n, s', h1, h2, hc⟩ := ensure1 h0 hb0 hh hf
    simp only [List.isEmpty_nil, if_true, h1, bind_ok, pure_eq_ok]
    rcases hc with ⟨hn, _, hr⟩ | ⟨hn, hne⟩
    · rw [show a.rest = [] from hr]
      simp only [hn, beq_self_eq_true, if_true]
      exact ⟨_, rfl, atEOF_refines h2 hr hb0 hh⟩
    · have e0 : (n == 0) = false := by simp [hn]
      simp only [e0, Bool.false_eq_true, if_false]
      cases hf' : s'.front with
      | nil => exact absurd hf' hne
      | cons b f' =>
        rw [show a.rest = _ from (h2.head hf').2]
        simpa [hf'] using runeBody_refines bq h2 hb0 hh hf'

/-- the two machines run on budgets of their own (`s.total + 2`, `a.rest.length + 2`); either is
    enough, because a pass that ends in `goto retry` has consumed a byte -/
theorem runeLoop_refines (f1 : Nat) : ∀ (f2 bq : Nat) {s : St} {a : LSt}, R s a →
    a.rest.length + 1 ≤ f1 → a.rest.length + 1 ≤ f2 → (LSt.runeLoop f2 bq a).ok = true →
    ∃ s', St.runeLoop f1 bq s = .ok s' ∧ R s' (LSt.runeLoop f2 bq a) := by
  induction f1 with
  | zero => intro f2 bq s a _ h1; omega
  | succ n ih =>
    intro f2 bq s a h h1 h2 hok
    cases f2 with
    | zero => omega
    | succ m =>
      unfold LSt.runeLoop at hok ⊢
      unfold St.runeLoop
      have hoks : (LSt.runeStep bq a).st.ok = true := by
        cases hs : LSt.runeStep bq a with
        | done a' => rw [hs] at hok; exact hok
        | retry bq' a' => rw [hs] at hok; exact (keeps_loop m bq' a').ok_le hok
      obtain ⟨st, hst, hrel⟩ := runeStep_refines bq h (forget_ok_halted ((keeps_step bq a).ok_le hoks))
      simp only [hst, bind_ok]
      cases hs : LSt.runeStep bq a with
      | done a' =>
        rw [hs] at hrel
        cases st with
        | done s' => exact ⟨s', rfl, hrel⟩
        | retry _ _ => exact hrel.elim
      | retry bq' a' =>
        rw [hs] at hrel hok
        have hlt := step_retry_lt hs
        cases st with
        | done s' => exact hrel.elim
        | retry bq'' s' =>
          obtain ⟨hbq, hR'⟩ := hrel
          subst hbq
          exact ih m bq'' hR' (by omega) (by omega) hok

theorem runePre_refines {s a} (h : R s a) : R s.runePre a.runePre := by
  have key {s1 a1} (h1 : R s1 a1) : R { s1 with col := s1.col + s1.w } { a1 with col := a1.col + a1.w } :=
    { h1 with f_col := h1.f_col ▸ h1.f_w ▸ rfl }
  unfold St.runePre LSt.runePre
  by_cases hc : (s.r == 10 || s.r == escNewl) = true
  · rw [if_pos hc, if_pos (h.f_r ▸ hc)]
    exact key { h with f_line := congrArg (· + 1) h.f_line, f_col := rfl }
  · rw [if_neg hc, if_neg (h.f_r ▸ hc)]
    exact key h

theorem rune_refines {s a} (h : R s a) (hok : a.rune.2.ok = true) :
    ∃ s', s.rune = .ok (a.rune.1, s') ∧ R s' a.rune.2 := by
  unfold LSt.rune at hok ⊢
  unfold St.rune
  simp only at hok ⊢
  have hR0 := runePre_refines h
  generalize s.runePre = s0 at hR0 ⊢
  generalize a.runePre = a0 at hR0 hok ⊢
  obtain ⟨s', h1, h2⟩ := runeLoop_refines (s0.total + 2) (a0.rest.length + 2) 0 hR0
    (by have := hR0.rest_le; omega) (by omega) hok
  refine ⟨s', ?_, h2⟩
  simp only [h1, bind_ok, pure_eq_ok]
  rw [h2.f_r]

end ShVerif.C07
