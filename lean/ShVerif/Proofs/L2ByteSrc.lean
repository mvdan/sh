/-
  L2 byte source — helper lemmas (core Lean only): unicode/utf8 decoding on a prefix of the input,
  the reader loop of `fill`, `Except` bind equations.
-/
import ShVerif.Model.L2ByteSrc
namespace ShVerif.L2

@[simp] theorem bind_ok {α β : Type} (x : α) (f : α → M β) : (Except.ok x >>= f) = f x := rfl
@[simp] theorem bind_error {α β : Type} (e : Fault) (f : α → M β) :
    ((Except.error e : M α) >>= f) = Except.error e := rfl
@[simp] theorem pure_eq_ok {α : Type} (x : α) : (pure x : M α) = Except.ok x := rfl
@[simp] theorem map_ok {α β : Type} (x : α) (f : α → β) : (f <$> (Except.ok x : M α)) = Except.ok (f x) := rfl
@[simp] theorem throw_eq_error {α : Type} (e : Fault) : (throw e : M α) = Except.error e := rfl

theorem bind_eq_ok {α β : Type} {x : M α} {f : α → M β} {y : β} (h : (x >>= f) = .ok y) :
    ∃ z, x = .ok z ∧ f z = .ok y := by
  cases x with
  | error e => cases h
  | ok z => exact ⟨z, rfl, h⟩

/-- `p.r == utf8.RuneError && !utf8.FullRune(p.bs[p.bsp:])`: the bytes at hand are a proper prefix
    of an encoding -/
def needMore (p : List Byte) : Bool := (decodeRune p).1 == runeError && !fullRune p

theorem ite_eq_cases {α : Type} {c : Prop} [Decidable c] {a b v : α} (h : (if c then a else b) = v) :
    c ∧ a = v ∨ ¬c ∧ b = v := by
  by_cases hc : c
  · exact .inl ⟨hc, (if_pos hc).symm.trans h⟩
  · exact .inr ⟨hc, (if_neg hc).symm.trans h⟩

-- `lead` is a chain of seven tests: walk down it
theorem lead_sz {x sz lo hi} (h : lead x = some (sz, lo, hi)) : sz = 2 ∨ sz = 3 ∨ sz = 4 := by
  unfold lead at h
  iterate 7 (obtain ⟨_, h⟩ | ⟨_, h⟩ := ite_eq_cases h; · cases h; decide)
  cases h

theorem lead4 {x lo hi} (h : lead x = some (4, lo, hi)) :
    0xF0 ≤ x ∧ (x ≤ 0xF3 ∨ (x = 0xF4 ∧ hi = 0x8F ∧ lo = 0x80)) := by
  unfold lead at h
  iterate 7 (obtain ⟨_, h⟩ | ⟨_, h⟩ := ite_eq_cases h; · cases h <;> omega)
  cases h

theorem lead_none_of_lt {x : Nat} (h : x < 0x80) : lead x = none := by
  unfold lead
  repeat (rw [if_neg (by omega)])

theorem decode_append (p q : List Byte) (hp : p ≠ []) (h : needMore p = false) :
    decodeRune (p ++ q) = decodeRune p ∧ needMore (p ++ q) = false := by
  rcases p with _ | ⟨b0, p⟩
  · exact absurd rfl hp
  · unfold needMore at h ⊢
    simp only [List.cons_append]
    unfold decodeRune fullRune at h ⊢
    by_cases h0 : b0.toNat < 0x80
    · simp [h0, lead_none_of_lt h0]
    · cases hl : lead b0.toNat with
      | none => simp [h0, hl]
      | some t =>
        obtain ⟨sz, lo, hi⟩ := t
        have hsz := lead_sz hl
        simp only [h0, hl, if_false] at h ⊢
        rcases p with _ | ⟨b1, p⟩
        · simp [runeError] at h
        · simp only [List.cons_append]
          by_cases h1 : b1.toNat < lo ∨ hi < b1.toNat
          · simp [h1]
          · simp only [h1, if_false] at h ⊢
            rcases hsz with rfl | rfl | rfl
            · simp
            · simp at h ⊢
              rcases p with _ | ⟨b2, p⟩
              · simp [runeError] at h
              · simp
            · simp at h ⊢
              rcases p with _ | ⟨b2, p⟩
              · simp [runeError] at h
              · simp only [List.cons_append]
                by_cases h2 : isCont b2
                · simp [h2] at h ⊢
                  rcases p with _ | ⟨b3, p⟩
                  · simp [runeError] at h
                  · simp
                · simp [h2]

theorem needMore_length (p : List Byte) (h : needMore p = true) : p.length ≤ 3 := by
  rcases p with _ | ⟨b0, _ | ⟨b1, _ | ⟨b2, _ | ⟨b3, p⟩⟩⟩⟩ <;> simp at *
  -- four or more bytes: FullRune is true
  unfold needMore at h
  unfold fullRune at h
  cases hl : lead b0.toNat with
  | none => simp [hl] at h
  | some t =>
    obtain ⟨sz, lo, hi⟩ := t
    simp only [hl] at h
    revert h
    repeat' split
    all_goals simp

theorem decode_bounds (p : List Byte) :
    (decodeRune p).1 < runeEOF ∧ (p ≠ [] → 1 ≤ (decodeRune p).2 ∧ (decodeRune p).2 ≤ p.length) := by
  rcases p with _ | ⟨b0, p⟩
  · simp [decodeRune, runeError, runeEOF]
  · unfold decodeRune
    have := UInt8.toNat_lt b0
    by_cases h0 : b0.toNat < 0x80
    · simp [h0, runeEOF]; omega
    · cases hl : lead b0.toNat with
      | none => simp [h0, hl, runeError, runeEOF]
      | some t =>
        obtain ⟨sz, lo, hi⟩ := t
        have hsz := lead_sz hl
        simp only [h0, hl, if_false]
        rcases p with _ | ⟨b1, p⟩
        · simp [runeError, runeEOF]
        · have := UInt8.toNat_lt b1
          by_cases h1 : b1.toNat < lo ∨ hi < b1.toNat
          · simp [h1, runeError, runeEOF]
          · simp only [h1, if_false]
            rcases hsz with rfl | rfl | rfl
            · simp [runeEOF]; omega
            · rcases p with _ | ⟨b2, p⟩
              · simp [runeError, runeEOF]
              · by_cases h2 : isCont b2 <;> simp [h2, runeError, runeEOF]
                omega
            · rcases p with _ | ⟨b2, p⟩
              · simp [runeError, runeEOF]
              · by_cases h2 : isCont b2
                · rcases p with _ | ⟨b3, p⟩
                  · simp [h2, runeError, runeEOF]
                  · by_cases h3 : isCont b3 <;> simp [h2, h3, runeError, runeEOF]
                    have := lead4 hl
                    omega
                · simp [h2, runeError, runeEOF]

theorem decode_lt (p : List Byte) : (decodeRune p).1 < runeEOF := (decode_bounds p).1

theorem decode_width (p : List Byte) (hp : p ≠ []) :
    1 ≤ (decodeRune p).2 ∧ (decodeRune p).2 ≤ p.length := (decode_bounds p).2 hp

theorem readLoop_nil (cap : Nat) (ew : Bool) (sched : List Nat) :
    ∃ sc, readLoop cap ew [] sched = .ok ([], true, [], sc) := by
  cases sched <;> exact ⟨_, rfl⟩

/-- one round of the `readAgain` loop of `fill` when the buffer has room (`hcap`) -/
theorem readLoop_ok (cap : Nat) (hcap : 0 < cap) (ew : Bool) (pending : List Byte) (sched : List Nat) :
    ∃ chunk e rest sc, readLoop cap ew pending sched = .ok (chunk, e, rest, sc)
      ∧ chunk ++ rest = pending ∧ (chunk = [] → pending = []) ∧ (e = true → rest = [])
      ∧ chunk.length ≤ cap := by
  have take_ne (k : Nat) (hk : k ≠ 0) (b : Byte) (t : List Byte) : (b :: t).take k ≠ [] := by
    cases k with
    | zero => exact absurd rfl hk
    | succ k => exact List.cons_ne_nil _ _
  have eof_last (k : Nat) : (ew && (pending.drop k).isEmpty) = true → pending.drop k = [] :=
    fun h => List.isEmpty_iff.1 (Bool.and_eq_true_iff.1 h).2
  induction sched with
  | nil =>
    cases pending with
    | nil => exact ⟨[], true, [], [], rfl, rfl, fun _ => rfl, fun _ => rfl, Nat.zero_le _⟩
    | cons b t =>
      refine ⟨_, _, _, [], if_neg (Nat.ne_of_gt hcap), List.take_append_drop .., ?_, eof_last cap,
        List.length_take_le ..⟩
      exact fun h => absurd h (take_ne cap (Nat.ne_of_gt hcap) b t)
  | cons x es ih =>
    cases pending with
    | nil => exact ⟨[], true, [], es, rfl, rfl, fun _ => rfl, fun _ => rfl, Nat.zero_le _⟩
    | cons b t =>
      by_cases hk : min x cap = 0
      · obtain ⟨c, e, r, sc, h1, h2⟩ := ih
        exact ⟨c, e, r, sc, by rw [← h1]; exact if_pos hk, h2⟩
      · refine ⟨_, _, _, es, if_neg hk, List.take_append_drop .., ?_, eof_last _,
          Nat.le_trans (List.length_take_le ..) (Nat.min_le_right ..)⟩
        exact fun h => absurd h (take_ne _ hk b t)

end ShVerif.L2
