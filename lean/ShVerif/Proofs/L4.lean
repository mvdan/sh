/-
  L4, shared by Props/C01 and Props/C02.  The predicates on fragment trees that the statements speak
  of: well-formedness (`wf`), the line numbers of a tree in source order (`lines`, `posMono`),
  `noStale`, `noParenParen`.  The printer never reaches a Go panic on well-formed trees: `Inv`
  (`levelIncs` stays balanced), one lemma per printer function up to `Inv.stmt`/`command`/`stmtListLoop`.
-/
import ShVerif.Model.L4Syntax
namespace ShVerif.L4

/-- A hypothesis `(if c then x else y) = z` is taken apart one `if` at a time, so that no step has
    the whole body of a lexer or parser function in front of it. -/
theorem of_ite_eq {α : Type} {c : Prop} [Decidable c] {x y z : α} {P : Prop}
    (hx : c → x = z → P) (hy : ¬c → y = z → P) (h : (if c then x else y) = z) : P := by
  split at h
  · exact hx ‹_› h
  · exact hy ‹_› h

/-!
  `wf` describes the trees the fragment parser can produce, positions aside: non-empty words over
  the safe alphabet, non-empty calls whose first word is not a reserved word, non-empty lists,
  and the shapes the grammar gives to `!`, `&`, `&&`/`||` and `|` (left-associative, `|` binds
  tighter, `!` and `&` only on whole and-or lists / pipelines). -/

def WordPart.wf : WordPart → Bool
  | .lit _ _ v => !v.isEmpty && v.all isSafe
  | .sgl _ _ v => v.all isSglSafe

def Word.wf (w : Word) : Bool := !w.parts.isEmpty && w.parts.all WordPart.wf

def Word.litValue? (w : Word) : Option Bytes :=
  w.parts.foldr (fun p acc => match p, acc with
    | .lit _ _ v, some r => some (v ++ r)
    | _, _ => none) (some [])

def Word.cmdNameOK (w : Word) : Bool :=
  match w.litValue? with
  | some v => !isOutsideKeyword v
  | none => true

def Cmd.isAndOr : Cmd → Bool
  | .binary _ .andStmt _ _ => true
  | .binary _ .orStmt _ _ => true
  | _ => false

def Stmt.cmd : Stmt → Cmd
  | .mk _ _ _ _ c => c
def Stmt.bg : Stmt → Bool
  | .mk _ _ _ b _ => b

/-- an operand of a binary command: no terminator of its own -/
def Stmt.bare (s : Stmt) : Bool := !s.bg && !s.semi.valid

mutual
def Stmt.wf : Stmt → Bool
  | .mk _ _ neg _ cmd => cmd.wf && !(neg && cmd.isAndOr)
def Cmd.wf : Cmd → Bool
  | .call args =>
    match args with
    | [] => false
    | w :: _ => args.all Word.wf && w.cmdNameOK
  | .subshell _ _ ss => ss.length > 0 && ss.wf
  | .block _ _ ss => ss.length > 0 && ss.wf
  | .binary _ op x y =>
    x.wf && y.wf && x.bare && y.bare &&
    (match op with
     | .pipe => !x.negated && !y.negated && !x.cmd.isAndOr && !y.cmd.isBinary
     | _ => !y.cmd.isAndOr)
def Stmts.wf : Stmts → Bool
  | .nil => true
  | .cons s r => s.wf && r.wf
end

def File.wf (f : File) : Bool := f.stmts.wf

def partLines : WordPart → List Nat
  | .lit p e _ => [p.line, e.line]
  | .sgl l r _ => [l.line, r.line]

mutual
def Stmt.lines : Stmt → List Nat
  | .mk pos semi _ _ cmd => pos.line :: (cmd.lines ++ (if semi.valid then [semi.line] else []))
def Cmd.lines : Cmd → List Nat
  | .call args => args.flatMap fun w => w.parts.flatMap partLines
  | .subshell lp rp ss => lp.line :: (ss.lines ++ [rp.line])
  | .block lb rb ss => lb.line :: (ss.lines ++ [rb.line])
  | .binary opPos _ x y => x.lines ++ opPos.line :: y.lines
def Stmts.lines : Stmts → List Nat
  | .nil => []
  | .cons s r => s.lines ++ r.lines
end

theorem Stmt.lines_cons (s : Stmt) : ∃ t, s.lines = s.pos.line :: t := by
  obtain ⟨pos, semi, neg, bg, cmd⟩ := s
  exact ⟨_, rfl⟩

/-- positions as a parser assigns them: line numbers never decrease in source order.  (With
    arbitrary line numbers the printer writes `((a) )` for `( (a) )` when the inner statement
    claims an earlier line than the outer parenthesis: `subshellOpen` then expects a line break
    that `newlines` does not make.) -/
def posMono (f : File) : Prop := f.stmts.lines.Pairwise (· ≤ ·)

mutual
/-- the printer's `wroteSemi` flag after a statement, under SingleLine -/
def Stmt.endWS : Stmt → Bool
  | .mk _ _ _ bg c => bg || c.endWS
def Cmd.endWS : Cmd → Bool
  | .call _ => false
  | .subshell _ _ ss => ss.endWS
  | .block _ _ ss => ss.endWS
  | .binary _ _ _ y => y.endWS
def Stmts.endWS : Stmts → Bool
  | .nil => false
  | .cons s .nil => s.endWS
  | .cons _ r => r.endWS
end

mutual
/-- no statement that is followed by another one leaves `wroteSemi` set without having written
    a terminator itself (the shape of known finding C01-single-missing-semicolon) -/
def Stmt.noStale : Stmt → Bool
  | .mk _ _ _ _ c => c.noStale
def Cmd.noStale : Cmd → Bool
  | .call _ => true
  | .subshell _ _ ss => ss.noStale
  | .block _ _ ss => ss.noStale
  | .binary _ _ x y => x.noStale && y.noStale
def Stmts.noStale : Stmts → Bool
  | .nil => true
  | .cons s .nil => s.noStale
  | .cons s r => s.noStale && (s.bg || !s.endWS) && r.noStale
end

mutual
/-- no subshell whose single statement starts with a parenthesis (the shape of
    C02-subshell-trailing-blank) and none whose single statement ends with one
    (C02-closing-paren-space) -/
def Stmt.noParenParen : Stmt → Bool
  | .mk _ _ _ _ c => c.noParenParen
def Cmd.noParenParen : Cmd → Bool
  | .call _ => true
  | .subshell _ _ ss =>
    ss.noParenParen && (match ss with
      | .cons s .nil => !s.startsWithLparen && !s.endsWithRparen
      | _ => true)
  | .block _ _ ss => ss.noParenParen
  | .binary _ _ x y => x.noParenParen && y.noParenParen
def Stmts.noParenParen : Stmts → Bool
  | .nil => true
  | .cons s r => s.noParenParen && r.noParenParen
end

/-- `n` counts the open levels: `decLevel` panics on an empty `levelIncs` (the other panics, `Parts[0]` and
    `Args[0]`, are excluded by `wf`). -/
def Inv (n : Nat) (p : P) : Prop := p.panicked = false ∧ p.levelIncs.length = n

theorem Inv.tok {n p} (h : Inv n p) (b) : Inv n (p.tok b) := h
theorem Inv.gapw {n p} (h : Inv n p) (b) : Inv n (p.gapw b) := h
theorem Inv.space {n p} (h : Inv n p) : Inv n p.space := h
theorem Inv.advanceLine {n p} (h : Inv n p) (l) : Inv n (p.advanceLine l) := h
theorem Inv.newline {n p} (h : Inv n p) (l) : Inv n (p.newline l) := h

/-- the printer's `if`s are taken one at a time: updates of the other fields leave `Inv` as it is
    by definition, so a branch is closed by the hypothesis it started from -/
theorem Inv.ite {n : Nat} {c : Prop} [Decidable c] {x y : P} (hx : c → Inv n x) (hy : ¬c → Inv n y) :
    Inv n (if c then x else y) := by
  split
  · exact hx ‹_›
  · exact hy ‹_›

theorem Inv.spacePad {n p} (h : Inv n p) : Inv n p.spacePad := .ite (fun _ => h) fun _ => h
theorem Inv.indent {n p} (h : Inv n p) : Inv n p.indent :=
  .ite (fun _ => h) fun _ => .ite (fun _ => h) fun _ => .ite (fun _ => h) fun _ => h
theorem Inv.bslashNewl {n p} (h : Inv n p) : Inv n p.bslashNewl := by
  unfold P.bslashNewl
  dsimp only
  apply Inv.indent
  split <;> exact h
theorem Inv.spacedString {n p} (h : Inv n p) (s) : Inv n (p.spacedString s) := by
  unfold P.spacedString; exact (h.spacePad)
theorem Inv.spacedToken {n p} (h : Inv n p) (s) : Inv n (p.spacedToken s) := by
  unfold P.spacedToken; split
  · exact h
  · exact (h.spacePad)
theorem Inv.newlines {n p} (h : Inv n p) (l) : Inv n (p.newlines l) := by
  unfold P.newlines
  dsimp only
  split
  · exact h
  · split
    · exact h
    · apply Inv.indent
      split <;> exact h
theorem Inv.rightParen {n p} (h : Inv n p) (l) : Inv n (p.rightParen l) := by
  unfold P.rightParen
  dsimp only
  split
  · exact (h.newlines l)
  · exact h
theorem Inv.semiRsrv {n p} (h : Inv n p) (s l) : Inv n (p.semiRsrv s l) :=
  Inv.ite (x := p.newlines l) (fun _ => h.newlines l) fun _ =>
    have h1 : Inv n (if !p.wroteSemi then p.tok [59] else p) := .ite (fun _ => h) fun _ => h
    .ite (fun _ => h1.spacePad) fun _ => h1
theorem Inv.incLevel {n p} (h : Inv n p) : Inv (n + 1) p.incLevel := by
  unfold P.incLevel
  obtain ⟨h1, h2⟩ := h
  split
  · exact ⟨h1, by simp [h2]⟩
  · split
    · rename_i heq; exact ⟨h1, by simp [← h2, heq]⟩
    · exact ⟨h1, by simp [h2]⟩
theorem Inv.decLevel {n p} (h : Inv (n + 1) p) : Inv n p.decLevel := by
  unfold P.decLevel
  obtain ⟨h1, h2⟩ := h
  split
  · rename_i heq; simp [heq] at h2
  · rename_i heq; exact ⟨h1, by simp [heq] at h2; simpa using h2⟩

theorem Inv.wordPart {n p} (h : Inv n p) (wp) : Inv n (p.wordPart wp) := by
  unfold P.wordPart
  cases wp <;> exact h

theorem Inv.wordPartsLoop {n} (wps : List WordPart) : ∀ {p}, Inv n p → Inv n (p.wordPartsLoop wps) := by
  induction wps with
  | nil => intro p h; exact h
  | cons wp rest ih => intro p h; unfold P.wordPartsLoop; exact ih (h.wordPart wp)

theorem Inv.wordParts {n p} (h : Inv n p) (wps : List WordPart) (hne : wps ≠ []) : Inv n (p.wordParts wps) := by
  unfold P.wordParts
  cases wps with
  | nil => exact absurd rfl hne
  | cons wp rest =>
    dsimp only
    apply Inv.wordPartsLoop
    split
    · exact h.bslashNewl
    · exact h

theorem Word.wf_parts_ne {w : Word} (h : w.wf = true) : w.parts ≠ [] := by
  unfold Word.wf at h
  intro hn
  simp [hn] at h

theorem Inv.word {n p} (h : Inv n p) (w : Word) (hw : w.wf = true) : Inv n (p.word w) := by
  unfold P.word
  exact h.wordParts w.parts (Word.wf_parts_ne hw)

theorem Word.wf_pos {w : Word} (h : w.wf = true) : ∃ pos, w.pos? = some pos := by
  have := Word.wf_parts_ne h
  unfold Word.pos?
  cases hp : w.parts with
  | nil => exact absurd hp this
  | cons a r => exact ⟨a.pos, by simp⟩

/-- `wordJoinLoop` leaves one extra level open exactly when it reports `anyNewline` -/
theorem Inv.wordJoinLoop (ws : List Word) : ∀ {n p} (any : Bool), Inv (n + (if any then 1 else 0)) p →
    (∀ w ∈ ws, w.wf = true) →
    Inv (n + (if (p.wordJoinLoop any ws).2 then 1 else 0)) (p.wordJoinLoop any ws).1 := by
  induction ws with
  | nil => intro n p any h _; unfold P.wordJoinLoop; exact h
  | cons w rest ih =>
    intro n p any h hw
    unfold P.wordJoinLoop
    obtain ⟨pos, hpos⟩ := Word.wf_pos (hw w (by simp))
    rw [hpos]
    dsimp only
    have hrest : ∀ w ∈ rest, w.wf = true := fun w' hm => hw w' (by simp [hm])
    have hwf := hw w (by simp)
    split
    · rename_i hbr
      cases any with
      | true =>
        simp only [Bool.not_true, Bool.false_eq_true, ↓reduceIte] at *
        exact ih (n := n) true (by simpa using ((h.bslashNewl).spacePad).word w hwf) hrest
      | false =>
        simp only [Bool.not_false, ↓reduceIte] at *
        have h1 : Inv (n + 1) p.incLevel := by simpa using h.incLevel
        exact ih (n := n) true (by simpa using ((h1.bslashNewl).spacePad).word w hwf) hrest
    · exact ih (n := n) any ((h.spacePad).word w hwf) hrest

theorem Inv.wordJoin {n p} (h : Inv n p) (ws : List Word) (hw : ∀ w ∈ ws, w.wf = true) : Inv n (p.wordJoin ws) := by
  unfold P.wordJoin
  have := Inv.wordJoinLoop ws (n := n) (p := p) false (by simpa using h) hw
  revert this
  cases hres : p.wordJoinLoop false ws with
  | mk p' any =>
    intro this
    dsimp only at this ⊢
    cases any with
    | true => simp only [↓reduceIte] at this ⊢; exact this.decLevel
    | false => simpa using this

theorem Inv.closingParenSpace {n p} (h : Inv n p) (ss a b) : Inv n (p.closingParenSpace ss a b) := by
  unfold P.closingParenSpace
  dsimp only
  apply Inv.spacePad
  (repeat' split) <;> exact h

theorem Inv.stmtListWith {n p} (h : Inv n p) (ss : Stmts) (loop : P → P)
    (hl : ∀ q, Inv n q → Inv n (loop q)) : Inv n (p.stmtListWith ss loop) := by
  unfold P.stmtListWith
  dsimp only
  have := hl p h
  (repeat' split) <;> exact this

theorem Inv.nestedStmtsWith {n p} (h : Inv n p) (ss : Stmts) (closing : Pos) (loop : P → P)
    (hl : ∀ m q, Inv m q → Inv m (loop q)) : Inv n (p.nestedStmtsWith ss closing loop) := by
  unfold P.nestedStmtsWith
  dsimp only
  apply Inv.decLevel
  apply Inv.stmtListWith _ _ _ (hl (n + 1))
  have := h.incLevel
  (repeat' split) <;> exact this

theorem Stmts.wf_cons {s : Stmt} {r : Stmts} (h : (Stmts.cons s r).wf = true) : s.wf = true ∧ r.wf = true := by
  unfold Stmts.wf at h
  simpa using h

theorem Inv.stmtPre {n p} (h : Inv n p) (neg) : Inv n (p.stmtPre neg) := by
  unfold P.stmtPre
  dsimp only
  split
  · exact Inv.spacedString (p := { p with wroteSemi := false }) h _
  · exact h

theorem Inv.stmtEnd {n p} (h : Inv n p) (semi bg) : Inv n (p.stmtEnd semi bg) :=
  have h1 := h.incLevel
  have h2 {c : Prop} [Decidable c] : Inv (n + 1) (if c then p.incLevel.bslashNewl else if !p.incLevel.o.minify then p.incLevel.space else p.incLevel) :=
    .ite (fun _ => h1.bslashNewl) fun _ => .ite (fun _ => h1) fun _ => h1
  Inv.decLevel (.ite (fun _ => Inv.ite (x := P.tok _ [38]) (y := P.tok _ [59]) (fun _ => h2) fun _ => h2) fun _ => h1)

theorem Inv.subshellOpen {n p} (h : Inv n p) (lp ss) : Inv n (p.subshellOpen lp ss) := by
  unfold P.subshellOpen
  apply Inv.spacePad
  split
  · exact h
  · exact .ite (fun _ => .ite (fun _ => .ite (fun _ => h) fun _ => h) fun _ => h) fun _ => h

theorem Inv.incIf {n p} (h : Inv n p) (b : Bool) : Inv (n + if b then 1 else 0) (if b then p.incLevel else p) := by
  cases b
  · exact h
  · exact h.incLevel

/-- `binaryOp` opens one level exactly when it reports `indent` -/
theorem Inv.binaryOp {n p} (h : Inv n p) (opPos op yl yb) :
    Inv (n + (if (p.binaryOp opPos op yl yb).2.1 then 1 else 0)) (p.binaryOp opPos op yl yb).1 := by
  unfold P.binaryOp
  split
  · exact (h.spacedToken _).advanceLine _
  · have h1 := h.incIf (!p.nestedBinary)
    exact Inv.advanceLine (.ite (fun _ => h1.bslashNewl.spacedToken _)
      fun _ => (((h1.spacedToken _).advanceLine _).newline 0).indent) yl

theorem P.binaryOp_multi_false {p : P} {opPos op yl yb} (h : (p.binaryOp opPos op yl yb).2.2 = false) :
    (p.binaryOp opPos op yl yb).2.1 = false := by
  unfold P.binaryOp at h ⊢
  split
  · rfl
  · rename_i hc; rw [if_neg hc] at h; cases h

theorem Inv.binaryEnd {n p} (indent multi : Bool) (himp : multi = false → indent = false)
    (h : Inv (n + (if indent then 1 else 0)) p) : Inv n (p.binaryEnd indent multi) := by
  unfold P.binaryEnd
  cases multi with
  | false => simp only [himp rfl] at h; simpa using h
  | true =>
    cases indent with
    | true => simp only [↓reduceIte] at h ⊢; exact h.decLevel
    | false =>
      simp only [Bool.false_eq_true, ↓reduceIte, Nat.add_zero] at h ⊢
      exact h

theorem Inv.stmtSep {n p} (h : Inv n p) (first l) : Inv n (p.stmtSep first l) :=
  have h1 {c : Prop} [Decidable c] : Inv n (if c then { (p.tok [59]) with wantSpace := .required } else p) :=
    .ite (fun _ => h) fun _ => h
  Inv.advanceLine (.ite (fun _ => h1.newlines l) fun _ => h1) l

mutual
theorem Inv.stmt : ∀ (s : Stmt) (n : Nat) (p : P), Inv n p → s.wf = true → Inv n (p.stmt s)
  | .mk pos semi neg bg cmd, n, p, h, hw => by
    have hc : cmd.wf = true := by
      unfold Stmt.wf at hw
      simp only [Bool.and_eq_true] at hw
      exact hw.1
    unfold P.stmt
    exact (Inv.command cmd n _ (h.stmtPre neg) hc).stmtEnd semi bg
theorem Inv.command : ∀ (c : Cmd) (n : Nat) (p : P), Inv n p → c.wf = true → Inv n (p.command c)
  | .call args, n, p, h, hw => by
    unfold Cmd.wf at hw
    cases args with
    | nil => simp at hw
    | cons w rest =>
      simp only [Bool.and_eq_true, List.all_eq_true] at hw
      obtain ⟨hall, _⟩ := hw
      obtain ⟨pos, hpos⟩ := Word.wf_pos (hall w (by simp))
      unfold P.command
      simp only [hpos]
      have h0 : Inv n ((p.advanceLine pos.line).spacePad.incLevel.decLevel) :=
        (((h.advanceLine pos.line).spacePad).incLevel).decLevel
      have hw1 : ∀ x ∈ [w], x.wf = true := by
        intro x hx
        simp only [List.mem_singleton] at hx
        exact hx ▸ hall w (by simp)
      have hr : ∀ x ∈ rest, x.wf = true := fun x hx => hall x (by simp [hx])
      split
      · exact h0.wordJoin [w] hw1
      · exact (h0.wordJoin [w] hw1).wordJoin rest hr
  | .block lb rb ss, n, p, h, hw => by
    unfold Cmd.wf at hw
    simp only [Bool.and_eq_true] at hw
    unfold P.command
    dsimp only
    apply Inv.semiRsrv
    have hn : Inv n (P.nestedStmtsWith
        { ((p.advanceLine lb.line).spacePad.tok [123]) with
          wroteSemi := true, wantSpace := .required,
          wantNewline := ((p.advanceLine lb.line).spacePad.tok [123]).wantNewline ||
            ((p.advanceLine lb.line).spacePad.tok [123]).o.funcNextLine }
        ss rb (fun q => q.stmtListLoop true ss)) := by
      apply Inv.nestedStmtsWith
      · exact ((h.advanceLine lb.line).spacePad)
      · intro m q hq
        exact Inv.stmtListLoop ss m q true hq hw.2
    split
    · exact hn.space
    · exact hn
  | .subshell lp rp ss, n, p, h, hw => by
    unfold Cmd.wf at hw
    simp only [Bool.and_eq_true] at hw
    unfold P.command
    dsimp only
    apply Inv.rightParen
    apply Inv.closingParenSpace
    apply Inv.nestedStmtsWith
    · exact ((h.advanceLine lp.line).spacePad).subshellOpen lp ss
    · intro m q hq
      exact Inv.stmtListLoop ss m q true hq hw.2
  | .binary opPos op x y, n, p, h, hw => by
    unfold Cmd.wf at hw
    simp only [Bool.and_eq_true] at hw
    obtain ⟨⟨⟨⟨hx, hy⟩, _⟩, _⟩, _⟩ := hw
    unfold P.command
    dsimp only
    have h1 : Inv n (((p.advanceLine x.pos.line).spacePad).stmt x) :=
      Inv.stmt x n _ ((h.advanceLine x.pos.line).spacePad) hx
    apply Inv.binaryEnd _ _ (fun hm => P.binaryOp_multi_false hm)
    exact Inv.stmt y _ _ (h1.binaryOp _ _ _ _) hy
theorem Inv.stmtListLoop : ∀ (ss : Stmts) (n : Nat) (p : P) (first : Bool), Inv n p → ss.wf = true →
    Inv n (p.stmtListLoop first ss)
  | .nil, n, p, first, h, _ => by unfold P.stmtListLoop; exact h
  | .cons s rest, n, p, first, h, hw => by
    obtain ⟨hs, hr⟩ := Stmts.wf_cons hw
    unfold P.stmtListLoop
    dsimp only
    exact Inv.stmtListLoop rest n _ false (Inv.stmt s n _ (h.stmtSep first _) hs) hr
end

theorem Inv.stmtList {n p} (h : Inv n p) (ss : Stmts) (hw : ss.wf = true) : Inv n (p.stmtList ss) := by
  unfold P.stmtList
  exact h.stmtListWith ss _ (fun q hq => Inv.stmtListLoop ss n q true hq hw)

theorem Inv.init (o : Opts) : Inv 0 (P.init o) := ⟨rfl, rfl⟩

theorem Inv.finish {n p} (h : Inv n p) : p.finish = .ok (render p.out.reverse) := by
  unfold P.finish
  simp [h.1]

end ShVerif.L4
