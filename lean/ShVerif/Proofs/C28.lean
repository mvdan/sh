import ShVerif.Model.C28
/-
  Every index and slice helper of the model returns `.ok` under the guard the Go code writes in
  front of it (`getN_ok` … `setI_ok`).  A function is then shown panic-free by walking its branches
  and rewriting each helper call with its `_ok` lemma; the side condition is the branch's guard,
  usually closed by `omega`.  Loops carry the invariant that makes the guards true (`FP.curOK` for
  the flag parser, a non-empty directory stack, `i ≤ j ≤ len` for the binary search).
-/
namespace ShVerif.C28

theorem getN_ok {α : Type} (l : List α) (i : Nat) (h : i < l.length) : getN l i = .ok l[i] := by
  unfold getN
  rw [List.getElem?_eq_getElem h]

theorem getN_ne_panic {α : Type} (l : List α) (i : Nat) (h : i < l.length) : getN l i ≠ .panic := by
  rw [getN_ok l i h]; nofun

theorem getI_ok {α : Type} (l : List α) (i : Int) (h0 : 0 ≤ i) (h : i.toNat < l.length) :
    getI l i = .ok l[i.toNat] := by
  unfold getI
  rw [if_neg (by omega), getN_ok l _ h]

theorem sliceFromN_ok {α : Type} (l : List α) (i : Nat) (h : i ≤ l.length) :
    sliceFromN l i = .ok (l.drop i) := by
  unfold sliceFromN; rw [if_pos h]

theorem sliceToN_ok {α : Type} (l : List α) (i : Nat) (h : i ≤ l.length) :
    sliceToN l i = .ok (l.take i) := by
  unfold sliceToN; rw [if_pos h]

theorem sliceFromI_ok {α : Type} (l : List α) (i : Int) (h0 : 0 ≤ i) (h : i.toNat ≤ l.length) :
    sliceFromI l i = .ok (l.drop i.toNat) := by
  unfold sliceFromI
  rw [if_neg (by omega), sliceFromN_ok l _ h]

theorem sliceToI_ok {α : Type} (l : List α) (i : Int) (h0 : 0 ≤ i) (h : i.toNat ≤ l.length) :
    sliceToI l i = .ok (l.take i.toNat) := by
  unfold sliceToI
  rw [if_neg (by omega), sliceToN_ok l _ h]

theorem setI_ok {α : Type} (l : List α) (i : Int) (v : α) (h0 : 0 ≤ i) (h : i.toNat < l.length) :
    setI l i v = .ok (l.set i.toNat v) := by
  unfold setI
  rw [if_neg (by omega), if_pos h]

theorem shiftBy_no_panic (params : List Bytes) (n : Int) : shiftBy params n ≠ .panic := by
  unfold shiftBy
  by_cases h0 : n < 0
  · rw [if_pos h0]; nofun
  · rw [if_neg h0]
    by_cases hn : n ≥ (params.length : Int)
    · rw [if_pos hn]; nofun
    · rw [if_neg hn, sliceFromI_ok params n (by omega) (by omega)]
      nofun

theorem waitArgs_no_panic (nprocs : Nat) (args : List Bytes) (k : Nat) (acc : List Nat) :
    waitArgs nprocs args k acc ≠ .panic := by
  induction args generalizing k acc with
  | nil => simp [waitArgs]
  | cons a rest ih =>
    unfold waitArgs
    by_cases hc : !(waitCut a).1 ∨ atoiLoose (waitCut a).2 ≤ 0 ∨ atoiLoose (waitCut a).2 > (nprocs : Int)
    · rw [if_pos hc]; nofun
    · rw [if_neg hc]
      simp only [not_or, Int.not_le, Int.not_lt] at hc
      rw [getI_ok _ _ (by omega) (by simp; omega)]
      exact ih _ _

/-- `flag()` may be called: something is pending. -/
def FP.ready (p : FP) : Prop := p.current ≠ [] ∨ p.remaining ≠ []

/-- The pending rest of a `-abc` group always has at least two bytes. -/
def FP.curOK (p : FP) : Prop := p.current = [] ∨ 2 ≤ p.current.length

theorem FP.more_spec (p : FP) :
    ∃ b p', p.more = .ok (b, p') ∧ p'.current = p.current ∧ fpSize p' ≤ fpSize p ∧
      (b = true → p' = p ∧ p.ready ∧
        (p.current = [] → ∃ a rest, p.remaining = a :: rest ∧ 1 ≤ a.length ∧ (a.head? = some 45 ∨ a.head? = some 43))) := by
  unfold FP.more
  by_cases hc : p.current ≠ []
  · rw [if_pos hc]
    exact ⟨true, p, rfl, rfl, Nat.le_refl _, fun _ => ⟨rfl, Or.inl hc, fun h => absurd h hc⟩⟩
  · rw [if_neg hc]
    cases hr : p.remaining with
    | nil =>
      simp only [List.length_nil, if_true]
      refine ⟨false, _, rfl, rfl, ?_, fun h => by cases h⟩
      simp [fpSize, argsSize, hr]
    | cons a rest =>
      simp only [List.length_cons, Nat.add_one_ne_zero, if_false]
      rw [getN_ok _ 0 (by simp)]
      simp only [List.getElem_cons_zero]
      by_cases h2 : a = [45, 45]
      · rw [if_pos h2, sliceFromN_ok _ 1 (by simp)]
        refine ⟨false, _, rfl, rfl, ?_, fun h => by cases h⟩
        simp [fpSize, argsSize, hr]
      · rw [if_neg h2]
        cases a with
        | nil =>
          simp only [List.length_nil, if_true]
          exact ⟨false, p, rfl, rfl, Nat.le_refl _, fun h => by cases h⟩
        | cons c cs =>
          simp only [List.length_cons, Nat.add_one_ne_zero, if_false]
          rw [getN_ok _ 0 (by simp)]
          simp only [List.getElem_cons_zero]
          by_cases h3 : c ≠ 45 ∧ c ≠ 43
          · rw [if_pos h3]
            exact ⟨false, p, rfl, rfl, Nat.le_refl _, fun h => by cases h⟩
          · rw [if_neg h3]
            refine ⟨true, p, rfl, rfl, Nat.le_refl _, fun _ => ⟨rfl, Or.inr (by rw [hr]; simp), fun _ => ?_⟩⟩
            refine ⟨c :: cs, rest, rfl, by simp, ?_⟩
            simp only [List.head?_cons, Option.some.injEq]
            by_cases h45 : c = 45
            · exact Or.inl h45
            · by_cases h43 : c = 43
              · exact Or.inr h43
              · exact absurd ⟨h45, h43⟩ h3

theorem FP.more_no_panic (p : FP) : p.more ≠ .panic := by
  obtain ⟨b, p', h, _⟩ := p.more_spec
  rw [h]; nofun

/-- The second half of `flag()`: split `-abc` into `-a` and the pending `-bc`. -/
def FP.split (arg : Bytes) (p : FP) : Res (Bytes × FP) :=
  if arg.length > 2 then
    match sliceToN arg 1, sliceFromN arg 2, sliceToN arg 2 with
    | .ok h, .ok t, .ok f => .ok (f, { p with current := h ++ t })
    | _, _, _ => .panic
  else .ok (arg, p)

theorem FP.flag_of_current {p : FP} (h : p.current ≠ []) :
    p.flag = FP.split p.current { p with current := [] } := by
  unfold FP.flag; rw [if_neg h]; rfl

theorem FP.flag_of_remaining {p : FP} {a : Bytes} {rest : List Bytes} (h : p.current = [])
    (hr : p.remaining = a :: rest) : p.flag = FP.split a { p with remaining := rest, isNil := false } := by
  unfold FP.flag; rw [if_pos h, hr, getN_ok _ 0 (by simp), sliceFromN_ok _ 1 (by simp)]; rfl

theorem FP.split_spec (arg : Bytes) (p : FP) :
    ∃ f p', FP.split arg p = .ok (f, p') ∧ p'.remaining = p.remaining ∧
      (p'.current = p.current ∧ f = arg ∧ arg.length ≤ 2 ∨
       p'.current.length + 1 = arg.length ∧ f = arg.take 2 ∧ 2 < arg.length) := by
  unfold FP.split
  by_cases h2 : arg.length > 2
  · rw [if_pos h2, sliceToN_ok _ 1 (by omega), sliceFromN_ok _ 2 (by omega), sliceToN_ok _ 2 (by omega)]
    refine ⟨_, _, rfl, rfl, Or.inr ⟨?_, rfl, h2⟩⟩
    simp only [List.length_append, List.length_take, List.length_drop]; omega
  · rw [if_neg h2]
    exact ⟨_, _, rfl, rfl, Or.inl ⟨rfl, rfl, by omega⟩⟩

theorem FP.flag_spec (p : FP) (hc : p.curOK)
    (hrem : p.current = [] → ∃ a rest, p.remaining = a :: rest ∧ 1 ≤ a.length) :
    ∃ f p', p.flag = .ok (f, p') ∧ p'.curOK ∧ fpSize p' < fpSize p ∧
      (f.length = 2 ∨ (f.length = 1 ∧ p.current = [] ∧ p.remaining.head? = some f)) := by
  by_cases hcur : p.current = []
  · obtain ⟨a, rest, hrm, ha⟩ := hrem hcur
    obtain ⟨f, p', he, h1, h3⟩ := FP.split_spec a { p with remaining := rest, isNil := false }
    refine ⟨f, p', (FP.flag_of_remaining hcur hrm).trans he, ?_⟩
    simp only [FP.curOK, fpSize, h1, hrm, hcur, argsSize, List.map_cons, List.sum_cons, List.length_nil,
      List.head?_cons]
    rcases h3 with ⟨hc', hf, hl⟩ | ⟨h2, hf, hl⟩
    · subst hf
      rw [hc', hcur]
      exact ⟨.inl rfl, by simp only [List.length_nil]; omega, by simp only [and_self, and_true]; omega⟩
    · rw [hf, List.length_take]
      exact ⟨.inr (by omega), by omega, .inl (by omega)⟩
  · have hlen : 2 ≤ p.current.length := hc.resolve_left hcur
    obtain ⟨f, p', he, h1, h3⟩ := FP.split_spec p.current { p with current := [] }
    refine ⟨f, p', (FP.flag_of_current hcur).trans he, ?_⟩
    simp only [FP.curOK, fpSize, h1]
    rcases h3 with ⟨hc', hf, hl⟩ | ⟨h2, hf, hl⟩
    · rw [hc', hf]
      exact ⟨.inl rfl, by simp only [List.length_nil]; omega, .inl (by omega)⟩
    · rw [hf, List.length_take]
      exact ⟨.inr (by omega), by omega, .inl (by omega)⟩

theorem FP.flag_no_panic (p : FP) (hr : p.ready) : p.flag ≠ .panic := by
  by_cases hcur : p.current = []
  · obtain ⟨a, rest, hrm⟩ := List.exists_cons_of_ne_nil (hr.resolve_left (· hcur))
    obtain ⟨f, p', he, _⟩ := FP.split_spec a { p with remaining := rest, isNil := false }
    rw [FP.flag_of_remaining hcur hrm, he]; nofun
  · obtain ⟨f, p', he, _⟩ := FP.split_spec p.current { p with current := [] }
    rw [FP.flag_of_current hcur, he]; nofun

theorem FP.value_spec (p : FP) :
    ∃ v p', p.value = .ok (v, p') ∧ p'.current = p.current ∧ fpSize p' ≤ fpSize p := by
  unfold FP.value
  cases hrm : p.remaining with
  | nil => exact ⟨[], p, by simp, rfl, Nat.le_refl _⟩
  | cons a rest =>
    simp only [List.length_cons, Nat.add_one_ne_zero, if_false]
    rw [getN_ok _ 0 (by simp), sliceFromN_ok _ 1 (by simp)]
    refine ⟨_, _, rfl, rfl, ?_⟩
    simp [fpSize, argsSize, hrm]

theorem FP.value_no_panic (p : FP) : p.value ≠ .panic := by
  obtain ⟨v, p', h, _⟩ := p.value_spec
  rw [h]; nofun

theorem fpRun_safe (ops : List FOp) : ∀ (p : FP) (last : Bool), (last = true → p.ready) →
    fpObeys p last ops = true → (fpRun p ops).2 = false := by
  induction ops with
  | nil => intro p last _ _; rfl
  | cons op ops ih =>
    intro p last hl ho
    cases op with
    | more =>
      obtain ⟨b, p', hm, _, _, hb⟩ := p.more_spec
      simp only [fpRun, fpObeys, hm] at ho ⊢
      exact ih p' b (fun h => by obtain ⟨he, hr, _⟩ := hb h; rw [he]; exact hr) ho
    | flag =>
      simp only [fpObeys, Bool.and_eq_true] at ho
      have hr := hl ho.1
      cases hf : p.flag with
      | panic => exact absurd hf (p.flag_no_panic hr)
      | ok fp' =>
        obtain ⟨f, p'⟩ := fp'
        simp only [fpRun, hf]
        have h2 := ho.2
        simp only [hf] at h2
        exact ih p' false (fun h => by cases h) h2
    | value =>
      obtain ⟨v, p', hv, _, _⟩ := p.value_spec
      simp only [fpRun, fpObeys, hv] at ho ⊢
      exact ih p' false (fun h => by cases h) ho
    | args =>
      simp only [fpRun, fpObeys] at ho ⊢
      exact ih p false (fun h => by cases h) ho

theorem paramsLoop_safe : ∀ (fuel : Nat) (fp : FP) (st : PState), fpSize fp < fuel → fp.curOK →
    paramsLoop fuel true fp st ≠ .panic ∧ paramsLoop fuel true fp st ≠ .outOfFuel := by
  intro fuel
  induction fuel with
  | zero => intro fp st h; omega
  | succ fuel ih =>
    intro fp st hsz hc
    obtain ⟨b, fp1, hm, hcur1, hs1, hb⟩ := fp.more_spec
    unfold paramsLoop
    rw [hm]
    cases b with
    | false =>
      simp only
      split <;> exact ⟨nofun, nofun⟩
    | true =>
      simp only
      obtain ⟨he, _, hrem⟩ := hb rfl
      subst he
      obtain ⟨f, fp2, hf, hc2, hs2, hshape⟩ := fp1.flag_spec hc
        (fun h => by obtain ⟨a, rest, h1, h2, _⟩ := hrem h; exact ⟨a, rest, h1, h2⟩)
      rw [hf]
      simp only
      by_cases hdash : f = [45] ∨ f = [43]
      · rw [if_pos hdash]
        split <;> exact ⟨nofun, nofun⟩
      · rw [if_neg hdash]
        have hlen : f.length = 2 := by
          rcases hshape with h | ⟨h1, hcur, hhead⟩
          · exact h
          · exfalso
            obtain ⟨a, rest, hrm, _, hh⟩ := hrem hcur
            rw [hrm] at hhead
            simp only [List.head?_cons, Option.some.injEq] at hhead
            subst hhead
            match a, h1, hh with
            | [c], _, hh =>
              simp only [List.head?_cons, Option.some.injEq] at hh
              rcases hh with h | h <;> subst h <;> simp at hdash
        rw [getN_ok f 0 (by omega), getN_ok f 1 (by omega)]
        simp only
        by_cases ho : f[1] ≠ 111
        · rw [if_pos ho]
          split
          · exact ⟨nofun, nofun⟩
          · exact ih fp2 _ (by omega) hc2
        · rw [if_neg ho]
          obtain ⟨v, fp3, hv, hcur3, hs3⟩ := fp2.value_spec
          rw [hv]
          simp only
          have hc3 : fp3.curOK := by unfold FP.curOK; rw [hcur3]; exact hc2
          by_cases hve : v = []
          · rw [if_pos hve, if_pos trivial]
            exact ih fp3 _ (by omega) hc3
          · rw [if_neg hve]
            split
            · exact ⟨nofun, nofun⟩
            · exact ih fp3 _ (by omega) hc3

theorem fpSize_init (args : List Bytes) : fpSize (FP.init args) = argsSize args := by
  simp [fpSize, FP.init]

theorem gRuneIdx_lt (runeidx : Nat) (opts : List Nat) (h : 1 ≤ opts.length) :
    gRuneIdx runeidx opts < opts.length := by
  unfold gRuneIdx
  split <;> omega

theorem gstep_ok (g : GState) (optstr : List Nat) (args : List (List Nat)) (opts : List Nat)
    (hri : g.runeidx < opts.length) :
    ∃ g' o, gstep g optstr args opts = .ok (g', o) := by
  unfold gstep
  rw [getN_ok _ g.runeidx hri]
  simp only
  by_cases hna : needsArg optstr opts[g.runeidx] = true
  · rw [if_pos hna]
    by_cases ha : g.runeidx + 1 < opts.length
    · rw [if_pos ha, sliceFromN_ok _ _ (by omega)]
      exact ⟨_, _, rfl⟩
    · rw [if_neg ha]
      by_cases hb : g.argidx + 1 < args.length
      · rw [if_pos hb, getN_ok args (g.argidx + 1) hb]
        exact ⟨_, _, rfl⟩
      · rw [if_neg hb]
        exact ⟨_, _, rfl⟩
  · rw [if_neg hna]
    split
    · exact ⟨_, _, rfl⟩
    · exact ⟨_, _, rfl⟩

/-- `getopts.next` is total: for *every* cursor (argidx, runeidx), option string and argument
    vector.  No invariant on the cursor is needed: a stale rune cursor is repaired before it is used
    (`gRuneIdx`, fix 77cabce). -/
theorem gnext_total (g : GState) (optstr : List Nat) (args : List (List Nat)) :
    ∃ g' o, gnext g optstr args = .ok (g', o) := by
  unfold gnext
  by_cases h0 : args.length = 0 ∨ g.argidx ≥ args.length
  · rw [if_pos h0]; exact ⟨g, gDone, rfl⟩
  · rw [if_neg h0]
    have hlt : g.argidx < args.length := by omega
    rw [getN_ok args g.argidx hlt]
    simp only
    by_cases h1 : args[g.argidx].length < 2
    · rw [if_pos h1]; exact ⟨g, gDone, rfl⟩
    · rw [if_neg h1, getN_ok _ 0 (by omega)]
      simp only
      by_cases h2 : args[g.argidx][0] ≠ 45
      · rw [if_pos h2]; exact ⟨g, gDone, rfl⟩
      · rw [if_neg h2, getN_ok _ 1 (by omega)]
        simp only
        by_cases h3 : args[g.argidx][1] = 45
        · rw [if_pos h3]; exact ⟨g, gDone, rfl⟩
        · rw [if_neg h3, sliceFromN_ok _ 1 (by omega)]
          simp only
          exact gstep_ok _ optstr args _
            (gRuneIdx_lt _ _ (by rw [List.length_drop]; omega))

theorem grun_total (calls : List GCall) : ∀ (g : GState), grun g calls ≠ .panic := by
  induction calls with
  | nil => intro g h; cases h
  | cons c cs ih =>
    intro g
    obtain ⟨g', o, hg⟩ := gnext_total (gsync g c.optind) c.optstr c.args
    unfold grun gcall
    rw [hg]
    exact ih g'

theorem swapTop_spec (stack : List Bytes) (h : 2 ≤ stack.length) :
    ∃ st top, swapTop stack = .ok (st, top) ∧ st.length = stack.length := by
  unfold swapTop
  simp only
  rw [getI_ok _ _ (by omega) (by omega), getI_ok _ _ (by omega) (by omega)]
  simp only
  rw [setI_ok _ _ _ (by omega) (by omega)]
  simp only
  rw [setI_ok _ _ _ (by omega) (by simp only [List.length_set]; omega)]
  exact ⟨_, _, rfl, by simp⟩

theorem dstep_spec (fs : List Bytes) (s : DState) (op : DOp) (h : 1 ≤ s.stack.length) :
    ∃ s' code out, dstep fs s op = .ok (s', code, out) ∧ 1 ≤ s'.stack.length := by
  cases op with
  | dirs => exact ⟨s, 0, _, rfl, h⟩
  | cd path =>
    simp only [dstep]
    split
    · exact ⟨s, 1, [], rfl, h⟩
    · exact ⟨_, 0, [], rfl, h⟩
  | pushd n args =>
    simp only [dstep]
    match args with
    | [] =>
      simp only
      by_cases hn : (!(!n)) = true
      · rw [if_pos hn]; exact ⟨s, 0, [], rfl, h⟩
      · rw [if_neg hn]
        by_cases h2 : s.stack.length < 2
        · rw [if_pos h2]; exact ⟨s, 1, [], rfl, h⟩
        · rw [if_neg h2]
          obtain ⟨st, top, hs, hl⟩ := swapTop_spec s.stack (by omega)
          rw [hs]
          simp only
          split
          · exact ⟨_, 1, [], rfl, by simp only; omega⟩
          · exact ⟨_, 0, _, rfl, by simp only; omega⟩
    | [a] =>
      simp only
      by_cases hn : (!n) = true
      · rw [if_pos hn]
        split
        · exact ⟨s, 1, [], rfl, h⟩
        · exact ⟨_, 0, _, rfl, by simp⟩
      · rw [if_neg hn]
        obtain ⟨st, top, hs, hl⟩ := swapTop_spec (s.stack ++ [a]) (by simp; omega)
        rw [hs]
        exact ⟨_, 0, _, rfl, by simp only [hl, List.length_append, List.length_cons, List.length_nil]; omega⟩
    | _ :: _ :: _ => exact ⟨s, 2, [], rfl, h⟩
  | popd n args =>
    simp only [dstep]
    match args with
    | [] =>
      simp only
      by_cases h2 : s.stack.length < 2
      · rw [if_pos h2]; exact ⟨s, 1, [], rfl, h⟩
      · rw [if_neg h2]
        rw [getI_ok _ _ (by omega) (by omega), sliceToI_ok _ _ (by omega) (by omega)]
        simp only
        have hl : (List.take ((s.stack.length : Int) - 1).toNat s.stack).length = s.stack.length - 1 := by
          rw [List.length_take]; omega
        by_cases hn : (!n) = true
        · rw [if_pos hn, getI_ok _ _ (by omega) (by omega)]
          simp only
          split
          · exact ⟨_, 1, [], rfl, by simp only; omega⟩
          · exact ⟨_, 0, _, rfl, by simp only; omega⟩
        · rw [if_neg hn, setI_ok _ _ _ (by omega) (by omega)]
          exact ⟨_, 0, _, rfl, by simp only [List.length_set]; omega⟩
    | _ :: _ => exact ⟨s, 2, [], rfl, h⟩

theorem slicePos_bounds (len : Nat) (n : Int) : 0 ≤ slicePos len n ∧ slicePos len n ≤ (len : Int) := by
  unfold slicePos
  simp only
  split
  · split <;> omega
  · split <;> omega

theorem sliceOff_ok {α : Type} (l : List α) (off : Option Int) : ∃ r, sliceOff l off = .ok r := by
  cases off with
  | none => exact ⟨l, rfl⟩
  | some o =>
    obtain ⟨h0, h1⟩ := slicePos_bounds l.length o
    exact ⟨_, sliceFromI_ok l _ h0 (by omega)⟩

theorem sliceLen_ok {α : Type} (l : List α) (len : Option Int) : ∃ r, sliceLen l len = .ok r := by
  cases len with
  | none => exact ⟨l, rfl⟩
  | some n =>
    obtain ⟨h0, h1⟩ := slicePos_bounds l.length n
    exact ⟨_, sliceToI_ok l _ h0 (by omega)⟩

theorem bsearch_spec (x : List Int) (t : Int) : ∀ (fuel i j : Nat), i ≤ j → j ≤ x.length →
    ∃ r, bsearch x t fuel i j = .ok r ∧ r ≤ j := by
  intro fuel
  induction fuel with
  | zero => intro i j hij _; exact ⟨i, rfl, hij⟩
  | succ fuel ih =>
    intro i j hij hj
    unfold bsearch
    by_cases hlt : i < j
    · rw [if_pos hlt]
      simp only
      have hh : (i + j) / 2 < x.length := by omega
      rw [getN_ok x _ hh]
      simp only
      split
      · obtain ⟨r, hr, hle⟩ := ih ((i + j) / 2 + 1) j (by omega) hj
        exact ⟨r, hr, hle⟩
      · obtain ⟨r, hr, hle⟩ := ih i ((i + j) / 2) (by omega) (by omega)
        exact ⟨r, hr, by omega⟩
    · rw [if_neg hlt]; exact ⟨i, rfl, hij⟩

theorem sliceElemsOff_ok {α : Type} (elems : List α) (indexes : List Int) (off : Option Int)
    (h : indexes = [] ∨ indexes.length = elems.length) : ∃ r, sliceElemsOff elems indexes off = .ok r := by
  cases off with
  | none => exact ⟨elems, rfl⟩
  | some o =>
    simp only [sliceElemsOff]
    by_cases hi : indexes.length > 0
    · rw [if_pos hi, getI_ok _ _ (by omega) (by omega)]
      simp only
      have hlen : indexes.length = elems.length := by
        rcases h with h | h
        · rw [h] at hi; simp at hi
        · exact h
      obtain ⟨pos, hp, hle⟩ := bsearch_spec indexes
        (sparseOffset o (indexes[((indexes.length : Int) - 1).toNat]'(by omega)))
        (indexes.length + 1) 0 indexes.length (Nat.zero_le _) (Nat.le_refl _)
      rw [hp]
      simp only
      exact ⟨_, sliceFromN_ok elems pos (by omega)⟩
    · rw [if_neg hi]
      exact sliceOff_ok elems (some o)

theorem resolveLoop_not_nameref (env : Bytes → Var) : ∀ (fuel : Nat) (name : Bytes) (v : Var),
    (resolveLoop env fuel name v).2.kind ≠ .nameRef := by
  intro fuel
  induction fuel with
  | zero => intro name v h; cases h
  | succ fuel ih =>
    intro name v
    unfold resolveLoop
    by_cases hk : v.kind ≠ .nameRef
    · rw [if_pos hk]; exact hk
    · rw [if_neg hk]; exact ih _ _

theorem resolveLoop_kind (env : Bytes → Var) (P : VKind → Prop) (h0 : P .unknown)
    (henv : ∀ n, P (env n).kind) : ∀ (fuel : Nat) (name : Bytes) (v : Var), P v.kind →
    P (resolveLoop env fuel name v).2.kind := by
  intro fuel
  induction fuel with
  | zero => intro name v _; exact h0
  | succ fuel ih =>
    intro name v hv
    unfold resolveLoop
    by_cases hk : v.kind ≠ .nameRef
    · rw [if_pos hk]; exact hv
    · rw [if_neg hk]; exact ih _ _ (henv _)

end ShVerif.C28
