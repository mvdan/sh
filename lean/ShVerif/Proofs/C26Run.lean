import ShVerif.Model.C26
/-
  C26 — the interpreter model (`L5.run`) by itself: its equations construct by construct (every
  later proof goes through these, never through `run` itself), what a stopped runner does, and
  fuel monotonicity.  Core Lean only.
-/
namespace ShVerif.C26
open ShVerif.L5

/-- `Runner.stmt` at fuel `n`, the function the loops of the model are folded over. -/
abbrev runS (n : Nat) : Stmt → St → Option St := fun st => run n (.stmt st)

/- One step of the definition each.  `match a with | none => none | some x => k x` is restated as
   `a.bind k` (hence the `show (match …) = _; cases … <;> rfl`), the form `Rel.bind` and `OLe.bind`
   work on. -/

section equations
variable {n : Nat} {s : St}

theorem run_zero (t : Task) (s : St) : run 0 t s = none := rfl

/-- The end of `stmtSync` for a statement without `!`: the errexit test. -/
def stmtEnd (n : Nat) (c : Cmd) (s1 : St) : Option St :=
  if c.isAndOr then some { s1 with lastExit := s1.exit }
  else if !s1.exit.ok && !s1.noErrExit then
    (run n (.trap s1.callbackErr) s1).bind fun s2 =>
      if s2.errexit then
        some { s2 with exit := { s2.exit with exiting := true },
                       lastExit := { s2.exit with exiting := true } }
      else some { s2 with lastExit := s2.exit }
  else some { s1 with lastExit := s1.exit }

/-- The end of `stmtSync` for `! cmd`. -/
def negEnd (s1 : St) : St :=
  if s1.exit.ok then
    { s1 with exit := { s1.exit with code := 1 }, lastExit := { s1.exit with code := 1 } }
  else { s1 with exit := s1.exit.clear, lastExit := s1.exit.clear }

theorem run_stmt_pos (c : Cmd) (hs : stop s = false) :
    run (n+1) (.stmt (.mk false c)) s = (run n (.cmd c) { s with exit := {} }).bind (stmtEnd n c) :=
  (if_neg (ne_true_of_eq_false hs)).trans <| by
    cases run n (.cmd c) { s with exit := {} } with
    | none => rfl
    | some s1 =>
      show (if c.isAndOr = true then _ else if _ then
        (match run n (.trap s1.callbackErr) s1 with | none => none | some s2 => _) else _) =
        (if c.isAndOr = true then _ else if _ then Option.bind _ _ else _)
      cases run n (.trap s1.callbackErr) s1 <;> rfl

theorem run_stmt_neg (c : Cmd) (hs : stop s = false) :
    run (n+1) (.stmt (.mk true c)) s =
      (run n (.cmd c) { s with exit := {} }).bind fun s1 => some (negEnd s1) :=
  (if_neg (ne_true_of_eq_false hs)).trans <| by
    cases run n (.cmd c) { s with exit := {} } with
    | none => rfl
    | some s1 =>
      show (if s1.exit.ok = true then _ else _) = some (if s1.exit.ok = true then _ else _)
      cases s1.exit.ok <;> rfl

theorem run_trap (body : Prog) (hb : body.isNil = false) (ht : s.handlingTrap = false) :
    run (n+1) (.trap body) s =
      (foldStmts (runS n) body { s with handlingTrap := true, lastExit := s.exit }).bind fun s1 =>
        some { s1 with exit := s.exit, lastExit := s.lastExit, handlingTrap := false } :=
  (if_neg (ne_true_of_eq_false hb)).trans <| (if_neg (ne_true_of_eq_false ht)).trans <| by
    show (match foldStmts (runS n) body { s with handlingTrap := true, lastExit := s.exit } with
      | none => none | some s1 => _) = _
    cases foldStmts (runS n) body { s with handlingTrap := true, lastExit := s.exit } <;> rfl

theorem run_trap_skip (body : Prog) (h : body.isNil = true ∨ s.handlingTrap = true) :
    run (n+1) (.trap body) s = some s := by
  show (if body.isNil = true then some s else if s.handlingTrap = true then some s else _) = some s
  cases hb : body.isNil with
  | true => rfl
  | false => rw [if_neg Bool.false_ne_true, if_pos (h.resolve_left (by rw [hb]; exact Bool.false_ne_true))]

theorem run_whl (u : Bool) (c b : Prog) (hs : stop s = false) :
    run (n+1) (.whl u c b) s =
      (foldStmts (runS n) c { s with noErrExit := true }).bind fun s1 =>
        if (s1.exit.ok == u) then
          some { s1 with noErrExit := s.noErrExit, exit := s1.exit.clear }
        else
          (loopStmtsBroken (runS n) b
              { s1 with noErrExit := s.noErrExit, exit := s1.exit.clear }).bind fun r =>
            if r.2 then some r.1 else run n (.whl u c b) r.1 :=
  (if_neg (ne_true_of_eq_false hs)).trans <| by
    cases foldStmts (runS n) c { s with noErrExit := true } with
    | none => rfl
    | some s1 =>
      show (if (s1.exit.ok == u) = true then _ else
        (match loopStmtsBroken (runS n) b
            { s1 with noErrExit := s.noErrExit, exit := s1.exit.clear } with
         | none => none | some (s4, br) => _)) = (if _ then _ else Option.bind _ _)
      cases loopStmtsBroken (runS n) b
          { s1 with noErrExit := s.noErrExit, exit := s1.exit.clear } <;> rfl

theorem run_block (p : Prog) (hs : stop s = false) :
    run (n+1) (.cmd (.block p)) s = foldStmts (runS n) p s :=
  if_neg (ne_true_of_eq_false hs)

theorem run_subsh (p : Prog) (hs : stop s = false) :
    run (n+1) (.cmd (.subsh p)) s =
      (foldStmts (runS n) p (subshellOf s s.out)).bind fun r2 =>
        some { s with exit := { r2.exit with exiting := false }, out := r2.out } :=
  (if_neg (ne_true_of_eq_false hs)).trans <| by
    show (match foldStmts (runS n) p (subshellOf s s.out) with | none => none | some r2 => _) = _
    cases foldStmts (runS n) p (subshellOf s s.out) <;> rfl

theorem run_tru (hs : stop s = false) :
    run (n+1) (.cmd .tru) s = some { s with lastExpandExit := {}, exit := {} } :=
  if_neg (ne_true_of_eq_false hs)

theorem run_fls (hs : stop s = false) :
    run (n+1) (.cmd .fls) s = some { s with lastExpandExit := {}, exit := { code := 1 } } :=
  if_neg (ne_true_of_eq_false hs)

theorem run_exit (k : Option Nat) (hs : stop s = false) :
    run (n+1) (.cmd (.exit k)) s = some { s with lastExpandExit := {}, exit := builtinExit s k } :=
  if_neg (ne_true_of_eq_false hs)

theorem run_ret (k : Option Nat) (hs : stop s = false) :
    run (n+1) (.cmd (.ret k)) s = some { s with lastExpandExit := {}, exit := builtinRet s k } :=
  if_neg (ne_true_of_eq_false hs)

theorem run_brk (k : Option Int) (hs : stop s = false) (hl : s.inLoop = true) :
    run (n+1) (.cmd (.brk k)) s =
      some { s with lastExpandExit := {}, exit := {}, breakEnclosing := optInt k } :=
  (if_neg (ne_true_of_eq_false hs)).trans (if_neg (by rw [hl]; exact Bool.false_ne_true))

theorem run_cont (k : Option Int) (hs : stop s = false) (hl : s.inLoop = true) :
    run (n+1) (.cmd (.cont k)) s =
      some { s with lastExpandExit := {}, exit := {}, contnEnclosing := optInt k } :=
  (if_neg (ne_true_of_eq_false hs)).trans (if_neg (by rw [hl]; exact Bool.false_ne_true))

theorem run_setE (on : Bool) (hs : stop s = false) :
    run (n+1) (.cmd (.setE on)) s = some { s with lastExpandExit := {}, exit := {}, errexit := on } :=
  if_neg (ne_true_of_eq_false hs)

theorem run_setPF (on : Bool) (hs : stop s = false) :
    run (n+1) (.cmd (.setPF on)) s = some { s with lastExpandExit := {}, exit := {}, pipefail := on } :=
  if_neg (ne_true_of_eq_false hs)

theorem run_trapExit (b : Prog) (hs : stop s = false) :
    run (n+1) (.cmd (.trapExit b)) s =
      some { s with lastExpandExit := {}, exit := {}, callbackExit := b } :=
  if_neg (ne_true_of_eq_false hs)

theorem run_trapErr (b : Prog) (hs : stop s = false) :
    run (n+1) (.cmd (.trapErr b)) s =
      some { s with lastExpandExit := {}, exit := {}, callbackErr := b } :=
  if_neg (ne_true_of_eq_false hs)

theorem run_echo (w : Word) (hs : stop s = false) :
    run (n+1) (.cmd (.echo w)) s =
      some { s with lastExpandExit := {}, exit := {},
                    out := s.out ++ (expandWord s.vars s.lastExit.code w ++ [10]) } :=
  if_neg (ne_true_of_eq_false hs)

theorem run_test (x : Str) (neg : Bool) (v : Str) (hs : stop s = false) :
    run (n+1) (.cmd (.test x neg v)) s =
      some { s with lastExpandExit := {},
                    exit := { code := if (lookupVar s.vars x == v) != neg then 0 else 1 } } :=
  if_neg (ne_true_of_eq_false hs)

theorem run_assign (x : Str) (w : Word) (hs : stop s = false) :
    run (n+1) (.cmd (.assign x w)) s =
      some { s with lastExpandExit := {}, exit := {},
                    vars := (x, expandWord s.vars s.lastExit.code w) :: s.vars } :=
  if_neg (ne_true_of_eq_false hs)

theorem run_assignSub (x : Str) (p : Prog) (hs : stop s = false) :
    run (n+1) (.cmd (.assignSub x p)) s =
      (foldStmts (runS n) p (subshellOf s [])).bind fun r2 =>
        some { s with lastExpandExit := { r2.exit with exiting := false },
                      exit := { r2.exit with exiting := false },
                      vars := (x, stripNl r2.out) :: s.vars } :=
  (if_neg (ne_true_of_eq_false hs)).trans <| by
    show (match foldStmts (runS n) p (subshellOf s []) with | none => none | some r2 => _) = _
    cases foldStmts (runS n) p (subshellOf s []) <;> rfl

theorem run_echoSub (w1 : Word) (p : Prog) (w2 : Word) (hs : stop s = false) :
    run (n+1) (.cmd (.echoSub w1 p w2)) s =
      (foldStmts (runS n) p (subshellOf s [])).bind fun r2 =>
        some { s with lastExpandExit := { r2.exit with exiting := false }, exit := {},
                      out := s.out ++ (expandWord s.vars s.lastExit.code w1 ++ (stripNl r2.out ++
                        (expandWord s.vars s.lastExit.code w2 ++ [10]))) } :=
  (if_neg (ne_true_of_eq_false hs)).trans <| by
    show (match foldStmts (runS n) p (subshellOf s []) with | none => none | some r2 => _) = _
    cases foldStmts (runS n) p (subshellOf s []) <;> rfl

theorem run_call (f : Str) (hs : stop s = false) :
    run (n+1) (.cmd (.call f)) s =
      match lookupFn s.funcs f with
      | some body =>
        (run n (.stmt body) { s with lastExpandExit := {}, inFunc := true }).bind fun s1 =>
          some { s1 with inFunc := s.inFunc, exit := { s1.exit with returning := false } }
      | none => some { s with lastExpandExit := {}, exit := { code := 127 } } :=
  (if_neg (ne_true_of_eq_false hs)).trans <| by
    show (match lookupFn s.funcs f with | some body => _ | none => _) = _
    cases lookupFn s.funcs f with
    | none => rfl
    | some body =>
      show (match run n (.stmt body) { s with lastExpandExit := {}, inFunc := true } with
        | none => none | some s1 => _) = Option.bind _ _
      cases run n (.stmt body) { s with lastExpandExit := {}, inFunc := true } <;> rfl

theorem run_fn (f : Str) (body : Stmt) (hs : stop s = false) :
    run (n+1) (.cmd (.fn f body)) s = some { s with funcs := (f, body) :: s.funcs } :=
  if_neg (ne_true_of_eq_false hs)

theorem run_and (x y : Stmt) (hs : stop s = false) :
    run (n+1) (.cmd (.and x y)) s =
      (run n (.stmt x) { s with noErrExit := true }).bind fun s1 =>
        if s1.exit.ok then run n (.stmt y) { s1 with noErrExit := s.noErrExit }
        else some { s1 with noErrExit := s.noErrExit } :=
  (if_neg (ne_true_of_eq_false hs)).trans <| by
    show (match run n (.stmt x) { s with noErrExit := true } with | none => none | some s1 => _) = _
    cases run n (.stmt x) { s with noErrExit := true } <;> rfl

theorem run_or (x y : Stmt) (hs : stop s = false) :
    run (n+1) (.cmd (.or x y)) s =
      (run n (.stmt x) { s with noErrExit := true }).bind fun s1 =>
        if !s1.exit.ok then run n (.stmt y) { s1 with noErrExit := s.noErrExit }
        else some { s1 with noErrExit := s.noErrExit } :=
  (if_neg (ne_true_of_eq_false hs)).trans <| by
    show (match run n (.stmt x) { s with noErrExit := true } with | none => none | some s1 => _) = _
    cases run n (.stmt x) { s with noErrExit := true } <;> rfl

theorem run_pipe (x y : Stmt) (hs : stop s = false) :
    run (n+1) (.cmd (.pipe x y)) s =
      (run n (.stmt x) (subshellOf s [])).bind fun r2 =>
        (run n (.stmt y) s).bind fun s1 =>
          if s1.pipefail && r2.exit.code != 0 && s1.exit.ok then
            some { s1 with exit := { r2.exit with exiting := false } }
          else some s1 :=
  (if_neg (ne_true_of_eq_false hs)).trans <| by
    show (match run n (.stmt x) (subshellOf s []) with | none => none | some r2 => _) = _
    cases run n (.stmt x) (subshellOf s []) with
    | none => rfl
    | some r2 =>
      show (match run n (.stmt y) s with | none => none | some s1 => _) = Option.bind _ _
      cases run n (.stmt y) s <;> rfl

theorem run_ifc (c t : Prog) (e : Else) (hs : stop s = false) :
    run (n+1) (.cmd (.ifc c t e)) s =
      (foldStmts (runS n) c { s with noErrExit := true }).bind fun s1 =>
        if s1.exit.ok then foldStmts (runS n) t { s1 with noErrExit := s.noErrExit }
        else
          match e with
          | .none => some { s1 with noErrExit := s.noErrExit, exit := s1.exit.clear }
          | .els p => run n (.cmd (.ifc .nil p .none))
              { s1 with noErrExit := s.noErrExit, exit := s1.exit.clear }
          | .elif c2 t2 e2 => run n (.cmd (.ifc c2 t2 e2))
              { s1 with noErrExit := s.noErrExit, exit := s1.exit.clear } :=
  (if_neg (ne_true_of_eq_false hs)).trans <| by
    show (match foldStmts (runS n) c { s with noErrExit := true } with
      | none => none | some s1 => _) = _
    cases foldStmts (runS n) c { s with noErrExit := true } with
    | none => rfl
    | some s1 => cases e <;> rfl

theorem run_cmd_whl (u : Bool) (c b : Prog) (hs : stop s = false) :
    run (n+1) (.cmd (.whl u c b)) s = run n (.whl u c b) s :=
  if_neg (ne_true_of_eq_false hs)

theorem run_forc (x : Str) (items : List Str) (b : Prog) (hs : stop s = false) :
    run (n+1) (.cmd (.forc x items b)) s = forLoop (runS n) x b items s :=
  if_neg (ne_true_of_eq_false hs)

theorem run_case (w : Word) (is : Items) (hs : stop s = false) :
    run (n+1) (.cmd (.case w is)) s =
      caseLoop (runS n) (expandWord s.vars s.lastExit.code w) false is s :=
  if_neg (ne_true_of_eq_false hs)

end equations

theorem runFile_eq (fuel : Nat) (p : Prog) :
    runFile fuel p =
      (foldStmts (runS fuel) p {}).bind fun s =>
        (run fuel (.trap s.callbackExit) { s with lastExit := s.exit }).bind fun s2 =>
          some (s2.out, s2.exit.code) := by
  show (match foldStmts (runS fuel) p {} with | none => none | some s => _) = _
  cases foldStmts (runS fuel) p {} with
  | none => rfl
  | some s =>
    show (match run fuel (.trap s.callbackExit) { s with lastExit := s.exit } with
      | none => none | some s2 => _) = Option.bind (run _ _ _) _
    cases run fuel (.trap s.callbackExit) { s with lastExit := s.exit } <;> rfl

theorem foldStmts_cons (f : Stmt → St → Option St) (st : Stmt) (rest : Prog) (s : St) :
    foldStmts f (.cons st rest) s = (f st s).bind (foldStmts f rest) := by
  show (match f st s with | none => none | some s1 => _) = _
  cases f st s <;> rfl

theorem foldStmts_single (f : Stmt → St → Option St) (st : Stmt) (s : St) :
    foldStmts f (.cons st .nil) s = f st s := by
  rw [foldStmts_cons]; cases f st s <;> rfl

theorem foldBody_cons (f : Stmt → St → Option St) (st : Stmt) (rest : Prog) (s : St) :
    foldBody f (.cons st rest) s = (f st s).bind fun s1 =>
      if s1.contnEnclosing > 0 then
        some ({ s1 with contnEnclosing := s1.contnEnclosing - 1 }, decide (s1.contnEnclosing - 1 > 0))
      else if s1.breakEnclosing > 0 then
        some ({ s1 with breakEnclosing := s1.breakEnclosing - 1 }, true)
      else foldBody f rest s1 := by
  show (match f st s with | none => none | some s1 => _) = _
  cases f st s <;> rfl

theorem loopStmtsBroken_eq (f : Stmt → St → Option St) (b : Prog) (s : St) :
    loopStmtsBroken f b s =
      (foldBody f b { s with inLoop := true }).bind fun r =>
        some ({ r.1 with inLoop := s.inLoop }, r.2) := by
  show (match foldBody f b { s with inLoop := true } with | none => none | some (s1, br) => _) = _
  cases foldBody f b { s with inLoop := true } <;> rfl

theorem forLoop_cons (f : Stmt → St → Option St) (x : Str) (b : Prog) (it : Str) (rest : List Str)
    (s : St) (hs : stop s = false) :
    forLoop f x b (it :: rest) s =
      (loopStmtsBroken f b { s with vars := (x, it) :: s.vars }).bind fun r =>
        if r.2 then some r.1 else forLoop f x b rest r.1 :=
  (if_neg (ne_true_of_eq_false hs)).trans <| by
    show (match loopStmtsBroken f b { s with vars := (x, it) :: s.vars } with
      | none => none | some (s1, br) => _) = _
    cases loopStmtsBroken f b { s with vars := (x, it) :: s.vars } <;> rfl

theorem caseLoop_cons (f : Stmt → St → Option St) (str : Str) (rn : Bool) (pats : List Pat)
    (body : Prog) (op : CaseOp) (rest : Items) (s : St) :
    caseLoop f str rn (.cons pats body op rest) s =
      if !rn && !pats.any (patMatches str) then caseLoop f str rn rest s
      else (foldStmts f body s).bind fun s1 =>
        match op with
        | .fall => caseLoop f str true rest s1
        | .resume => caseLoop f str false rest s1
        | .brk => some s1 := by
  show (if _ then _ else match foldStmts f body s with | none => none | some s1 => _) = _
  cases foldStmts f body s <;> rfl

theorem run_pos {n : Nat} {t : Task} {s s' : St} (h : run n t s = some s') : 1 ≤ n :=
  match n, h with
  | _ + 1, _ => Nat.succ_le_succ (Nat.zero_le _)

theorem run_stmt_ge2 {n : Nat} {st : Stmt} {s s' : St} (h : run n (.stmt st) s = some s')
    (hs : stop s = false) : 2 ≤ n :=
  match n, st, h with
  | 1, .mk false c, h => nomatch (run_stmt_pos (n := 0) c hs).symm.trans h
  | 1, .mk true c, h => nomatch (run_stmt_neg (n := 0) c hs).symm.trans h
  | _ + 2, _, _ => Nat.le_add_left 2 _

theorem foldStmts_pos {n : Nat} {p : Prog} {s s' : St} (hp : p.isNil = false)
    (h : foldStmts (runS n) p s = some s') : 1 ≤ n :=
  match p, hp with
  | .cons st rest, _ => by
    rw [foldStmts_cons] at h
    cases hr : run n (.stmt st) s with
    | none => rw [show runS n st s = none from hr] at h; cases h
    | some s1 => exact run_pos hr

theorem stop_of_exiting {s : St} (h1 : s.exit.exiting = true) (h2 : s.handlingTrap = false) :
    stop s = true := by
  simp only [stop, h1, h2, Bool.not_false, Bool.or_true, Bool.and_self]

theorem stop_of_returning {s : St} (h1 : s.exit.returning = true) (h2 : s.handlingTrap = false) :
    stop s = true := by
  simp only [stop, h1, h2, Bool.not_false, Bool.true_or, Bool.and_self]

theorem stop_false_of_exit {s : St} (hx : s.exit = {}) : stop s = false := by
  simp only [stop, hx, Bool.or_self, Bool.and_false]

theorem run_stmt_stopped {n : Nat} (hn : 1 ≤ n) (st : Stmt) (s : St) (hs : stop s = true) :
    run n (.stmt st) s = some s :=
  match n, hn, st with
  | _ + 1, _, .mk _ _ => if_pos hs

theorem run_cmd_stopped {n : Nat} (hn : 1 ≤ n) (c : Cmd) (s : St) (hs : stop s = true) :
    run n (.cmd c) s = some s :=
  match n, hn with
  | _ + 1, _ => if_pos hs

theorem run_whl_stopped {n : Nat} (hn : 1 ≤ n) (u : Bool) (c b : Prog) (s : St)
    (hs : stop s = true) : run n (.whl u c b) s = some s :=
  match n, hn with
  | _ + 1, _ => if_pos hs

theorem foldStmts_fixed (f : Stmt → St → Option St) (s : St) (hf : ∀ st, f st s = some s) :
    ∀ p : Prog, foldStmts f p s = some s
  | .nil => rfl
  | .cons st rest => by rw [foldStmts_cons, hf]; exact foldStmts_fixed f s hf rest

theorem foldStmts_stopped {n : Nat} (hn : 1 ≤ n) (p : Prog) (s : St) (hs : stop s = true) :
    foldStmts (runS n) p s = some s :=
  foldStmts_fixed _ s (fun st => run_stmt_stopped hn st s hs) p

theorem foldBody_fixed (f : Stmt → St → Option St) (s : St) (hf : ∀ st, f st s = some s)
    (hb : s.breakEnclosing = 0) (hc : s.contnEnclosing = 0) :
    ∀ p : Prog, foldBody f p s = some (s, false)
  | .nil => rfl
  | .cons st rest => by
    rw [foldBody_cons, hf]
    show (if _ then _ else if _ then _ else _) = _
    rw [if_neg (by rw [hc]; decide), if_neg (by rw [hb]; decide)]
    exact foldBody_fixed f s hf hb hc rest

theorem loopStmtsBroken_stopped {n : Nat} (hn : 1 ≤ n) (b : Prog) (s : St) (hs : stop s = true)
    (hb : s.breakEnclosing = 0) (hc : s.contnEnclosing = 0) :
    loopStmtsBroken (runS n) b s = some (s, false) := by
  rw [loopStmtsBroken_eq, foldBody_fixed _ { s with inLoop := true }
    (fun st => run_stmt_stopped hn st _ hs) hb hc b]
  rfl

theorem forLoop_stopped (f : Stmt → St → Option St) (x : Str) (b : Prog) (items : List Str) (s : St)
    (hs : stop s = true) : forLoop f x b items s = some s :=
  match items with
  | [] => rfl
  | _ :: _ => if_pos hs

theorem caseLoop_stopped {n : Nat} (hn : 1 ≤ n) (str : Str) :
    ∀ (items : Items) (rn : Bool) (s : St), stop s = true →
      caseLoop (runS n) str rn items s = some s
  | .nil, _, _, _ => rfl
  | .cons pats body op rest, rn, s, hs => by
    rw [caseLoop_cons, foldStmts_stopped hn body s hs]
    have ih := fun rn => caseLoop_stopped hn str rest rn s hs
    cases op <;> simp only [Option.bind_some, ih, ite_self]

def OLe {α : Type} (a b : Option α) : Prop := ∀ r, a = some r → b = some r

theorem OLe.refl {α : Type} {a : Option α} : OLe a a := fun _ h => h

theorem OLe.of_eq {α : Type} {a b : Option α} {x : α} (ha : a = some x) (hb : b = some x) :
    OLe a b := by
  rw [ha, hb]; exact .refl

theorem OLe.bind {α β : Type} {a a' : Option α} {k k' : α → Option β} (ha : OLe a a')
    (hk : ∀ x, OLe (k x) (k' x)) : OLe (a.bind k) (a'.bind k') := by
  intro r h
  cases a with
  | none => cases h
  | some x => rw [ha x rfl]; exact hk x r h

theorem OLe.ite {α : Type} {c : Prop} [Decidable c] {a a' b b' : Option α} (ha : OLe a a')
    (hb : OLe b b') : OLe (if c then a else b) (if c then a' else b') := by
  split <;> assumption

section mono
variable {f g : Stmt → St → Option St} (hfg : ∀ st s, OLe (f st s) (g st s))
include hfg

theorem foldStmts_mono : ∀ (p : Prog) (s : St), OLe (foldStmts f p s) (foldStmts g p s)
  | .nil, _ => .refl
  | .cons st rest, s => by
    rw [foldStmts_cons, foldStmts_cons]
    exact .bind (hfg st s) (foldStmts_mono rest)

theorem foldBody_mono : ∀ (p : Prog) (s : St), OLe (foldBody f p s) (foldBody g p s)
  | .nil, _ => .refl
  | .cons st rest, s => by
    rw [foldBody_cons, foldBody_cons]
    exact .bind (hfg st s) fun s1 => .ite .refl (.ite .refl (foldBody_mono rest s1))

theorem loopStmtsBroken_mono (b : Prog) (s : St) :
    OLe (loopStmtsBroken f b s) (loopStmtsBroken g b s) := by
  rw [loopStmtsBroken_eq, loopStmtsBroken_eq]
  exact .bind (foldBody_mono hfg b _) fun _ => .refl

theorem forLoop_mono (x : Str) (b : Prog) :
    ∀ (items : List Str) (s : St), OLe (forLoop f x b items s) (forLoop g x b items s)
  | [], _ => .refl
  | it :: rest, s => by
    cases hs : stop s with
    | true => rw [forLoop_stopped f _ _ _ _ hs, forLoop_stopped g _ _ _ _ hs]; exact .refl
    | false =>
      rw [forLoop_cons _ _ _ _ _ _ hs, forLoop_cons _ _ _ _ _ _ hs]
      exact .bind (loopStmtsBroken_mono hfg b _) fun r => .ite .refl (forLoop_mono x b rest r.1)

theorem caseLoop_mono (str : Str) :
    ∀ (items : Items) (rn : Bool) (s : St), OLe (caseLoop f str rn items s) (caseLoop g str rn items s)
  | .nil, _, _ => .refl
  | .cons pats body op rest, rn, s => by
    rw [caseLoop_cons, caseLoop_cons]
    refine .ite (caseLoop_mono str rest rn s) (.bind (foldStmts_mono hfg body s) fun s1 => ?_)
    cases op
    · exact .refl
    · exact caseLoop_mono str rest true s1
    · exact caseLoop_mono str rest false s1

end mono

theorem run_mono : ∀ (n : Nat) (t : Task) (s : St), OLe (run n t s) (run (n+1) t s)
  | 0, t, s => fun _ h => nomatch (run_zero t s).symm.trans h
  | n + 1, t, s => by
    have ih := run_mono n
    have hm : ∀ st s, OLe (runS n st s) (runS (n+1) st s) := fun st => ih (.stmt st)
    have pos : ∀ {m : Nat}, 1 ≤ m + 1 := Nat.succ_pos _
    cases t with
    | trap body =>
      cases hb : body.isNil with
      | true => exact .of_eq (run_trap_skip body (.inl hb)) (run_trap_skip body (.inl hb))
      | false =>
        cases ht : s.handlingTrap with
        | true => exact .of_eq (run_trap_skip body (.inr ht)) (run_trap_skip body (.inr ht))
        | false =>
          rw [run_trap body hb ht, run_trap body hb ht]
          exact .bind (foldStmts_mono hm body _) fun _ => .refl
    | stmt st =>
      obtain ⟨neg, c⟩ := st
      cases hs : stop s with
      | true => exact .of_eq (run_stmt_stopped pos _ s hs) (run_stmt_stopped pos _ s hs)
      | false =>
        cases neg with
        | true =>
          rw [run_stmt_neg c hs, run_stmt_neg c hs]
          exact .bind (ih _ _) fun _ => .refl
        | false =>
          rw [run_stmt_pos c hs, run_stmt_pos c hs]
          exact .bind (ih _ _) fun s1 => .ite .refl (.ite (.bind (ih _ _) fun _ => .refl) .refl)
    | whl u c b =>
      cases hs : stop s with
      | true => exact .of_eq (run_whl_stopped pos u c b s hs) (run_whl_stopped pos u c b s hs)
      | false =>
        rw [run_whl u c b hs, run_whl u c b hs]
        exact .bind (foldStmts_mono hm c _) fun s1 =>
          .ite .refl (.bind (loopStmtsBroken_mono hm b _) fun r => .ite .refl (ih _ _))
    | cmd c =>
      cases hs : stop s with
      | true => exact .of_eq (run_cmd_stopped pos c s hs) (run_cmd_stopped pos c s hs)
      | false =>
        cases c with
        | block p => rw [run_block p hs, run_block p hs]; exact foldStmts_mono hm p s
        | subsh p =>
          rw [run_subsh p hs, run_subsh p hs]; exact .bind (foldStmts_mono hm p _) fun _ => .refl
        | assignSub x p =>
          rw [run_assignSub x p hs, run_assignSub x p hs]
          exact .bind (foldStmts_mono hm p _) fun _ => .refl
        | echoSub w1 p w2 =>
          rw [run_echoSub w1 p w2 hs, run_echoSub w1 p w2 hs]
          exact .bind (foldStmts_mono hm p _) fun _ => .refl
        | call f =>
          rw [run_call f hs, run_call f hs]
          cases lookupFn s.funcs f with
          | none => exact .refl
          | some body => exact .bind (ih _ _) fun _ => .refl
        | and x y =>
          rw [run_and x y hs, run_and x y hs]
          exact .bind (ih _ _) fun _ => .ite (ih _ _) .refl
        | or x y =>
          rw [run_or x y hs, run_or x y hs]
          exact .bind (ih _ _) fun _ => .ite (ih _ _) .refl
        | pipe x y =>
          rw [run_pipe x y hs, run_pipe x y hs]
          exact .bind (ih _ _) fun _ => .bind (ih _ _) fun _ => .refl
        | ifc c t e =>
          rw [run_ifc c t e hs, run_ifc c t e hs]
          refine .bind (foldStmts_mono hm c _) fun s1 => .ite (foldStmts_mono hm t _) ?_
          cases e
          · exact .refl
          · exact ih _ _
          · exact ih _ _
        | whl u c b => rw [run_cmd_whl u c b hs, run_cmd_whl u c b hs]; exact ih _ _
        | forc x items b =>
          rw [run_forc x items b hs, run_forc x items b hs]; exact forLoop_mono hm x b items s
        | case w is =>
          rw [run_case w is hs, run_case w is hs]; exact caseLoop_mono hm _ is false s
        -- the remaining commands do not call back into `run`
        | _ => exact fun _ h => h

theorem run_mono_le {n m : Nat} (hnm : n ≤ m) {t : Task} {s r : St} (h : run n t s = some r) :
    run m t s = some r := by
  induction hnm with
  | refl => exact h
  | step _ ih => exact run_mono _ _ _ _ ih

theorem runFile_mono (n : Nat) (p : Prog) (r : Str × Nat) (h : runFile n p = some r) :
    runFile (n+1) p = some r := by
  rw [runFile_eq] at h ⊢
  exact OLe.bind (foldStmts_mono (fun st => run_mono n (.stmt st)) p _)
    (fun _ => .bind (run_mono n _ _) fun _ => .refl) r h

end ShVerif.C26
