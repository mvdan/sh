import ShVerif.Proofs.C05
/-
  C05, the induction over the printer.  `ns…`/`NoReorderSites` is the syntactic condition under
  which the printer never takes a state-dependent reordering branch (`lossD` stays 0).  `Piece`
  bundles what the three properties say of one piece of printing, so that one induction over the
  printing functions (`piece_item … piece_caseItems`) serves `Step` (conservation), `MStep` (Minify)
  and `LStep` (no reordering branch).
-/
namespace ShVerif.C05

mutual
  def nsItem : Item → Bool
    | .li _ => true
    | .bslw _ => true
    | .tnl _ => true
    | .sub kind _ _ _ _ stmts last =>
      !(kind == .backquote && stmts.isEmpty && last.length == 1) && nsStmts stmts
    | .arr _ elems _ => nsElems elems
  def nsItems : List Item → Bool
    | [] => true
    | i :: is => nsItem i && nsItems is
  def nsElems : List Elem → Bool
    | [] => true
    | .mk _ _ items :: es => nsItems items && nsElems es
  def nsStmt : Stmt → Bool
    | .mk _ _ _ _ _ cmd redirs => nsCmd cmd && nsRedirs redirs
  def nsRedirs : List Redir → Bool
    | [] => true
    | .mk _ _ word :: rs => nsItems word && nsRedirs rs
  def nsStmts : List Stmt → Bool
    | [] => true
    | s :: ss => nsStmt s && nsStmts ss
  def nsCmd : Cmd → Bool
    | .none => true
    | .flat items => nsItems items
    | .block _ _ stmts _ => nsStmts stmts
    | .subshell _ _ _ _ _ stmts _ => nsStmts stmts
    | .ifc _ ic => nsIf ic
    | .whilec _ _ _ cond _ _ body _ => nsStmts cond && nsStmts body
    | .forc _ _ loop _ body _ => nsItems loop && nsStmts body
    | .binary _ x y => (y.coms.isEmpty || (acStmt y).isEmpty) && nsStmt x && nsStmt y
    | .func body => nsStmt body
    | .casec _ _ word items _ => nsItems word && nsCaseItems items
    | .wrap pre none => nsItems pre
    | .wrap pre (some s) => nsItems pre && nsStmt s
  def nsIf : IfC → Bool
    | .mk _ _ _ _ cond _ _ thn _ _ none => nsStmts cond && nsStmts thn
    | .mk _ _ _ _ cond _ _ thn _ _ (some e) => nsStmts cond && nsStmts thn && nsIf e
  def nsCaseItems : List CaseItem → Bool
    | [] => true
    | .mk _ _ _ _ _ pats stmts _ :: rest => nsItems pats && nsStmts stmts && nsCaseItems rest
end

/-- The tree has no reordering site: every `BinaryCmd` has `Y.Comments` empty or no comment
    inside `Y`, and there is no backquoted substitution consisting of a single comment. -/
def NoReorderSites (f : File) : Bool := nsStmts f.stmts

theorem and_assoc3 (a b c d : Bool) : (a && b && c && d) = (a && (b && c && d)) := by
  rw [Bool.and_assoc, Bool.and_assoc, ← Bool.and_assoc b]

theorem and_swap (a b c d : Bool) : (a && (b && c && d)) = (b && (a && (c && d))) := by
  rw [Bool.and_assoc b, Bool.and_left_comm]

/-- Everything the three properties say of one piece of printing, from `σ` to `τ`: without Minify,
    if the piece of tree is well-formed (`w`), it is a `Step` handing over `cs`; with Minify it is
    an `MStep`; if the piece of tree has no reordering site (`n`), it is an `LStep`. -/
def Piece (o : Opts) (σ τ : St) (w n : Bool) (cs : List Com) : Prop :=
  (o.minify = false → w = true → Step σ τ cs) ∧ (o.minify = true → MStep σ τ) ∧ (n = true → LStep σ τ)

section
variable {o : Opts} {a b c σ τ : St} {w n w' n' : Bool} {cs cs' : List Com}

theorem Piece.refl (σ : St) : Piece o σ σ true true [] :=
  ⟨fun _ _ => Step.refl σ, fun _ => MStep.refl σ, fun _ => LStep.refl σ⟩

theorem Piece.seq {w2 n2 : Bool} {cs2 : List Com} (h1 : Piece o a b w n cs) (h2 : Piece o b c w2 n2 cs2) :
    Piece o a c (w && w2) (n && n2) (cs ++ cs2) :=
  ⟨fun hm hw => have hw := (Bool.and_eq_true _ _).mp hw; (h1.1 hm hw.1).andThen (h2.1 hm hw.2),
   fun hm => (h1.2.1 hm).andThen (h2.2.1 hm),
   fun hn => have hn := (Bool.and_eq_true _ _).mp hn; (h1.2.2 hn.1).andThen (h2.2.2 hn.2)⟩

/-- the tree may satisfy more than the printing needs; the comments need only be the right ones
    where they are claimed -/
theorem Piece.mono (h : Piece o σ τ w n cs) (hw : w' = true → w = true ∧ cs' = cs)
    (hn : n' = true → n = true) : Piece o σ τ w' n' cs' :=
  ⟨fun hm hw' => (hw hw').2 ▸ h.1 hm (hw hw').1, h.2.1, fun hn' => h.2.2 (hn hn')⟩

theorem Piece.congr (h : Piece o σ τ w n cs) (hw : w' = w) (hn : n' = n) (hcs : cs' = cs) :
    Piece o σ τ w' n' cs' :=
  h.mono (fun h' => ⟨hw ▸ h', hcs⟩) (fun h' => hn ▸ h')

/-- where a condition `b` on the tree is what makes the comments handed over those of the tree -/
theorem Piece.reindex (h : Piece o σ τ w n cs) (b : Bool) (e : b = true → cs' = cs) :
    Piece o σ τ (b && w) n cs' :=
  h.mono (fun h' => have h' := (Bool.and_eq_true _ _).mp h'; ⟨h'.2, e h'.1⟩) id

theorem Piece.andN (h : Piece o σ τ w n cs) (b : Bool) : Piece o σ τ w (b && n) cs :=
  h.mono (fun h' => ⟨h', rfl⟩) (fun h' => ((Bool.and_eq_true _ _).mp h').2)

theorem Piece.ite (p : Prop) [Decidable p] (h1 : p → Piece o σ a w n cs) (h2 : ¬p → Piece o σ b w n cs) :
    Piece o σ (if p then a else b) w n cs :=
  ite_cases (P := fun τ => Piece o σ τ w n cs) h1 h2

theorem Keeps.piece (h : Keeps σ τ) : Piece o σ τ true true [] :=
  ⟨fun _ _ => h.step, fun _ => h.mstep, fun _ => h.lstep⟩

theorem Piece.afterK (k : Keeps a b) (h : Piece o b c w n cs) : Piece o a c w n cs :=
  k.piece.seq h

theorem Piece.thenK (h : Piece o a b w n cs) (k : Keeps b c) : Piece o a c w n cs :=
  (h.seq k.piece).congr (Bool.and_true _).symm (Bool.and_true _).symm (List.append_nil _).symm

theorem Piece.ofComments (cs : List Com) (σ : St) : Piece o σ (comments o cs σ) true true cs :=
  ⟨fun hm _ => comments_step o hm cs σ, fun hm => comments_mstep o hm cs σ, fun _ => comments_lstep o cs σ⟩

theorem Piece.afterC (cs0 : List Com) (h : Piece o (comments o cs0 a) c w n cs) : Piece o a c w n (cs0 ++ cs) :=
  (Piece.ofComments cs0 a).seq h

theorem Piece.thenC (h : Piece o a b w n cs) (cs' : List Com) : Piece o a (comments o cs' b) w n (cs ++ cs') :=
  (h.seq (Piece.ofComments cs' b)).congr (Bool.and_true _).symm (Bool.and_true _).symm rfl

/-- `nestedStmts` around a statement loop -/
theorem Piece.thenNested {w2 n2 req : Bool} {stmts : List Stmt} (h : Piece o a σ w n cs)
    (hl : ∀ τ, Piece o τ (prStmtLoop o req stmts τ) w2 n2 (acStmts stmts))
    (last : List Com) (endLine : Nat) (closing : Pos) :
    Piece o a
      (nestedPost o closing
        (listPost o stmts.length (sepOf stmts (nestedPre stmts.length endLine closing σ)) last
          (prStmtLoop o req stmts (nestedPre stmts.length endLine closing σ))))
      (w && w2) (n && n2) (cs ++ acStmts stmts ++ last) :=
  ((((h.thenK (nestedPre_keeps _ _ _ σ)).seq (hl _)).thenK (Keeps.optional _ Keeps.frame)).thenC last).thenK
    (nestedPost_keeps o _ _)

end

variable (o : Opts)

mutual
  theorem piece_item : ∀ (i : Item) (σ : St), Piece o σ (prItem o i σ) (wfItem i) (nsItem i) (acItem i)
    | .li x, σ => (runL_same o x σ).keeps.piece
    | .bslw p, σ => (Keeps.optional _ (bslashNewl_keeps σ)).piece
    | .tnl p, σ => (Keeps.optional _ (newlines_keeps o p σ)).piece
    | .sub kind swl endLine left right stmts last, σ => by
      have nest := fun req =>
        (Piece.refl σ).thenNested (piece_loop req stmts) last endLine right
      cases kind with
      | tempFile => exact (nest true).thenK (semiRsrv_keeps o right _)
      | replyVar => exact (nest false).thenK (semiRsrv_keeps o right _)
      | proc => exact (nest false).thenK (rightParen_keeps o right _)
      | dollar => exact (nest swl).thenK (rightParen_keeps o right _)
      | backquote =>
        show Piece o σ (match inlineCand o stmts.isEmpty last right σ with
          | some c => emitInline c σ
          | none => _) _ _ _
        cases hc : inlineCand o stmts.isEmpty last right σ with
        | some c =>
          -- the "`# inline comment`" form: a reordering site; not taken with Minify
          obtain ⟨h1, rfl, hm⟩ := inlineCand_some hc
          obtain rfl : stmts = [] := List.isEmpty_iff.1 h1
          exact ⟨fun _ _ => emitInline_step c σ, fun hm' => absurd (hm.symm.trans hm') Bool.false_ne_true, fun hn => nomatch hn⟩
        | none => exact ((nest swl).thenK (rightParen_keeps o right _)).andN _
    | .arr rparen elems last, σ => by
      have h := piece_elems elems σ
      refine Piece.thenK (b := if last.isEmpty = true then _ else _) ?_ (rightParen_keeps o rparen _)
      exact Piece.ite _
        (fun hl => h.congr rfl rfl (by rw [List.isEmpty_iff.1 hl]; exact List.append_nil _))
        (fun _ => h |>.thenC last |>.thenK (flushComments_keeps o _))

  theorem piece_items : ∀ (is : List Item) (σ : St), Piece o σ (prItems o is σ) (wfItems is) (nsItems is) (acItems is)
    | [], σ => Piece.refl σ
    | i :: is, σ => (piece_item i σ).seq (piece_items is _)

  theorem piece_elems : ∀ (es : List Elem) (σ : St), Piece o σ (prElems o es σ) (wfElems es) (nsElems es) (acElems es)
    | [], σ => Piece.refl σ
    | .mk pos coms items :: es, σ =>
      Piece.ofComments (splitLeft pos coms).1 σ
        |>.thenK (Keeps.optional _ (newlines_keeps o pos _))
        |>.seq (piece_items items _)
        |>.thenC (splitLeft pos coms).2.1
        |>.seq (piece_elems es _)
        |>.reindex _ (fun h => by rw [splitLeft_of_onlyLast pos coms h]; rfl)
        |>.congr (Bool.and_assoc _ _ _) rfl rfl

  theorem piece_stmt : ∀ (s : Stmt) (σ : St), Piece o σ (prStmt o s σ) (wfStmt s) (nsStmt s) (acStmt s)
    | .mk pos cmdPos cmdEnd semi coms cmd redirs, σ => by
      refine Piece.seq (b := if cmd.isNone = true then σ else _) ?_ (piece_redirs redirs _)
        |>.thenK (Keeps.optional _ (bslashNewl_keeps _))
      exact Piece.ite _
        (fun h => by cases cmd with | none => exact Piece.refl σ | _ => cases h)
        (fun _ => Piece.afterK (advLine_keeps _ σ) (piece_cmd cmd _))

  theorem piece_redirs : ∀ (rs : List Redir) (σ : St), Piece o σ (prRedirs o rs σ) (wfRedirs rs) (nsRedirs rs) (acRedirs rs)
    | [], σ => Piece.refl σ
    | .mk opPos hd word :: rs, σ => by
      have h3 : ∀ τ : St, Keeps τ (match hd with
          | some h => { τ with hdocs := τ.hdocs ++ [h] }
          | none => τ) := fun τ => by cases hd <;> exact Keeps.frame
      exact Piece.afterK (Keeps.optional _ (bslashNewl_keeps σ)) (piece_items word _)
        |>.thenK (h3 _)
        |>.seq (piece_redirs rs _)

  theorem piece_loop : ∀ (req : Bool) (ss : List Stmt) (σ : St),
      Piece o σ (prStmtLoop o req ss σ) (wfStmts ss) (nsStmts ss) (acStmts ss)
    | _, [], σ => Piece.refl σ
    | req, s :: ss, σ =>
      have hk : ∀ τ : St, Keeps τ { τ with wantNewline := true } := fun _ => Keeps.frame
      Piece.ofComments (classify s.pos s.cmdEnd s.hasCmd s.coms).1 σ
        |>.thenK (Keeps.optional _ (newlines_keeps o s.pos _))
        |>.thenK (advLine_keeps s.pos.line _)
        |>.thenC (classify s.pos s.cmdEnd s.hasCmd s.coms).2.1
        |>.seq (piece_stmt s _)
        |>.thenC (classify s.pos s.cmdEnd s.hasCmd s.coms).2.2.1
        |>.thenK (hk _)
        |>.seq (piece_loop true ss _)
        |>.reindex _ (fun h => by rw [classify_of_onlyLast s.pos s.cmdEnd s.hasCmd s.coms h]; rfl)
        |>.congr (Bool.and_assoc _ _ _) rfl rfl

  theorem piece_cmd : ∀ (c : Cmd) (σ : St), Piece o σ (prCmd o c σ) (wfCmd c) (nsCmd c) (acCmd c)
    | .none, σ => Piece.refl σ
    | .flat items, σ => piece_items items σ
    | .block rbrace endLine stmts last, σ =>
      (Keeps.frame : Keeps σ { σ with wantNewline := σ.wantNewline || o.funcNextLine }).piece
        |>.thenNested (piece_loop true stmts) last endLine rbrace
        |>.thenK (semiRsrv_keeps o rbrace _)
    | .subshell swl firstLine lparen rparen endLine stmts last, σ =>
      (Keeps.optional _ (Keeps.frame : Keeps σ { σ with mustNewline := true })).piece
        |>.thenNested (piece_loop false stmts) last endLine rparen
        |>.thenK (rightParen_keeps o rparen _)
    | .ifc fi ic, σ => piece_if fi ic σ
    | .whilec doPos donePos condEnd cond condLast doEnd body doLast, σ =>
      Piece.refl σ
        |>.thenNested (piece_loop true cond) condLast condEnd Pos.none
        |>.thenK (semiOrNewl_keeps o doPos _)
        |>.thenNested (piece_loop true body) doLast doEnd donePos
        |>.thenK (semiRsrv_keeps o donePos _)
    | .forc doPos donePos loop doEnd body doLast, σ =>
      piece_items loop σ
        |>.thenK (semiOrNewl_keeps o doPos _)
        |>.thenNested (piece_loop true body) doLast doEnd donePos
        |>.thenK (semiRsrv_keeps o donePos _)
    | .binary opPos x y, σ => by
      have sx := piece_stmt x σ
      have sy := fun τ => Piece.afterK (advLine_keeps y.pos.line τ) (piece_stmt y _)
      show Piece o σ (if (o.minify || o.singleLine || decide (y.pos.line ≤ (prStmt o x σ).line)) = true then _ else _)
        (x.coms.isEmpty && wfStmt x && wfStmt y) ((y.coms.isEmpty || (acStmt y).isEmpty) && nsStmt x && nsStmt y)
        (x.coms ++ acStmt x ++ y.coms ++ acStmt y)
      refine Piece.ite _ (fun _ => ?_) (fun _ => ?_)
      · -- printed on one line: `Y.Comments` is queued after `Y`, out of field order if `Y` holds comments
        cases hc : (y.coms.isEmpty || (acStmt y).isEmpty) with
        | true =>
          refine sx |>.seq (sy _) |>.thenC y.coms |>.reindex _ (fun h => ?_) |>.congr (Bool.and_assoc _ _ _) rfl rfl
          rw [List.isEmpty_iff.1 h]
          -- one of `y.coms`, `acStmt y` is empty, so their order does not matter
          rcases Bool.or_eq_true_iff.1 hc with h | h <;> simp [List.isEmpty_iff.1 h]
        | false =>
          -- the reordering site: the counter goes up, which is all `Step` asks for
          have rest := (sy { prStmt o x σ with lossD := (prStmt o x σ).lossD + 1 }).thenC y.coms
          refine ⟨fun hm hw => ?_, fun hm => ?_, fun hn => nomatch hn⟩
          · have hw := (Bool.and_eq_true _ _).mp hw
            exact Step.ofLt _ (sx.1 hm ((Bool.and_eq_true _ _).mp hw.1).2) (Nat.lt_succ_self _) (rest.1 hm hw.2)
          · exact ((sx.2.1 hm).andThen (fun hp => ⟨hp, fun _ hc => Or.inl hc⟩)).andThen (rest.2.1 hm)
      · have k : ∀ τ : St, Keeps τ (if τ.hdocs.isEmpty = true then bslashNewl τ else τ) :=
          fun τ => Keeps.optional _ (bslashNewl_keeps τ)
        refine Piece.seq (w := wfStmt x) (n := nsStmt x) (cs := acStmt x ++ y.coms) ?_ (sy _)
          |>.reindex _ (fun h => ?_) |>.andN _ |>.congr (Bool.and_assoc _ _ _) (Bool.and_assoc _ _ _) rfl
        · refine Piece.ite _ (fun _ => ?_) (fun _ =>
            sx |>.thenK (advLine_keeps opPos.line _) |>.thenC y.coms |>.thenK (newline_keeps o _ _))
          exact Piece.ite _
            (fun hy => (sx.thenK (k _)).congr rfl rfl (by rw [List.isEmpty_iff.1 hy, List.append_nil]))
            (fun _ => sx |>.thenK (k _) |>.thenK (newline_keeps o _ _) |>.thenC y.coms |>.thenK (newline_keeps o _ _))
        · rw [List.isEmpty_iff.1 h]; rfl
    | .func body, σ =>
      (Keeps.optional _ (newline_keeps o Pos.none σ)).piece
        |>.thenK (advLine_keeps body.pos.line _)
        |>.thenC body.coms
        |>.seq (piece_stmt body _)
    | .casec inLine esac word items last, σ =>
      have hk : ∀ τ : St, Keeps τ (if items.isEmpty = true then { τ with mustNewline := true } else τ) :=
        fun _ => Keeps.optional _ Keeps.frame
      piece_items word σ
        |>.thenK (advLine_keeps inLine _)
        |>.thenK (hk _)
        |>.seq (piece_caseItems items _)
        |>.thenC last
        |>.thenK (Keeps.optional _ (flushComments_keeps o _))
        |>.thenK (semiRsrv_keeps o esac _)
    | .wrap pre none, σ => (piece_items pre σ).congr (Bool.and_true _) rfl (List.append_nil _)
    | .wrap pre (some s), σ =>
      piece_items pre σ |>.seq (piece_stmt s _) |>.thenC s.coms |>.congr rfl rfl (List.append_assoc _ _ _).symm

  theorem piece_if : ∀ (fi : Pos) (ic : IfC) (σ : St), Piece o σ (prIf o fi ic σ) (wfIf ic) (nsIf ic) (acIf ic)
    | fi, .mk position hasThen thenPos condEnd cond condLast thenEnd thn thenLast last none, σ =>
      Piece.refl σ
        |>.thenNested (piece_loop true cond) condLast condEnd Pos.none
        |>.thenK (semiOrNewl_keeps o thenPos _)
        |>.thenNested (piece_loop true thn) thenLast thenEnd fi
        |>.thenC last
        |>.thenK (semiRsrv_keeps o fi _)
        |>.congr (Bool.and_true _) rfl (List.append_nil _)
    | fi, .mk position hasThen thenPos condEnd cond condLast thenEnd thn thenLast last (some e), σ => by
      have h0 := Piece.refl σ
        |>.thenNested (piece_loop true cond) condLast condEnd Pos.none
        |>.thenK (semiOrNewl_keeps o thenPos _)
        |>.thenNested (piece_loop true thn) thenLast thenEnd e.position
      show Piece o σ (if e.hasThen = true then _ else _)
        (wfStmts cond && wfStmts thn &&
          ((e.hasThen || (onlyLast (fun c => c.pos.after e.position) last && e.elseShape)) && wfIf e)) _ _
      cases e.hasThen with
      | true => exact h0 |>.thenC last |>.thenK (semiRsrv_keeps o e.position _) |>.seq (piece_if fi e _)
      | false =>
        -- `else`: the comments of `Last` before it are queued at once, the one after it later
        exact h0
          |>.thenC (splitLeft e.position last).1
          |>.thenK (semiRsrv_keeps o e.position _)
          |>.thenC (splitLeft e.position last).2.1
          |>.seq (piece_else fi e _)
          |>.thenK (semiRsrv_keeps o fi _)
          |>.reindex _ (fun h => by
            rw [splitLeft_of_onlyLast _ _ h, List.append_assoc _ (List.filter _ _) (List.filter _ _),
              onlyLast_split _ _ h]
            rfl)
          |>.congr (and_swap _ _ _ _) rfl rfl

  theorem piece_else : ∀ (fi : Pos) (e : IfC) (σ : St),
      Piece o σ (prElse o fi e σ) (e.elseShape && wfIf e) (nsIf e) (acIf e)
    | fi, .mk position hasThen thenPos condEnd cond condLast thenEnd thn thenLast last els, σ => by
      have h := Piece.refl σ
        |>.thenNested (piece_loop true thn) thenLast thenEnd fi
        |>.thenC last
      cases els with
      | none =>
        refine h.mono (fun hw => ?_) (fun hn => ((Bool.and_eq_true _ _).mp hn).2)
        -- the `else` pseudo clause has no condition
        simp only [IfC.elseShape, wfIf, Bool.and_eq_true, List.isEmpty_iff, Bool.and_true] at hw
        obtain ⟨⟨⟨rfl, rfl⟩, _⟩, _, hw⟩ := hw
        exact ⟨hw, List.append_nil _⟩
      | some e =>
        exact h.mono (fun hw => nomatch ((Bool.and_eq_true _ _).mp ((Bool.and_eq_true _ _).mp hw).1).2)
          (fun hn => ((Bool.and_eq_true _ _).mp ((Bool.and_eq_true _ _).mp hn).1).2)

  theorem piece_caseItems : ∀ (cis : List CaseItem) (σ : St),
      Piece o σ (prCaseItems o cis σ) (wfCaseItems cis) (nsCaseItems cis) (acCaseItems cis)
    | [], σ => Piece.refl σ
    | .mk pos opPos opBreak endLine coms pats stmts last :: rest, σ =>
      have hop : ∀ τ : St, Keeps τ
          (if (!o.minify || !rest.isEmpty || !opBreak) = true then
            advLine opPos.line (if wantsNewline o τ opPos false = true then { newlines o opPos τ with wantNewline := true } else τ)
           else τ) := fun τ =>
        Keeps.optional _ ((Keeps.optional _ ((newlines_keeps o opPos τ).trans
          (Keeps.frame : Keeps _ { newlines o opPos τ with wantNewline := true }))).trans (advLine_keeps _ _))
      Piece.afterC (splitCase pos coms).1 (Piece.afterK (newlines_keeps o pos _) (piece_items pats _))
        |>.thenNested (piece_loop false stmts) last endLine opPos
        |>.thenK (hop _)
        |>.thenC (splitCase pos coms).2
        |>.thenK (flushComments_keeps o _)
        |>.seq (piece_caseItems rest _)
        |>.reindex _ (fun h => by rw [splitCase_of_monotone pos coms h]; rfl)
        |>.congr (and_assoc3 _ _ _ _) rfl rfl
end

section
variable (hm : o.minify = false)
include hm

theorem step_item : ∀ (i : Item) (σ : St), wfItem i = true → Step σ (prItem o i σ) (acItem i) :=
  fun i σ hw => (piece_item o i σ).1 hm hw

theorem step_items : ∀ (is : List Item) (σ : St), wfItems is = true → Step σ (prItems o is σ) (acItems is) :=
  fun is σ hw => (piece_items o is σ).1 hm hw

theorem step_elems : ∀ (es : List Elem) (σ : St), wfElems es = true → Step σ (prElems o es σ) (acElems es) :=
  fun es σ hw => (piece_elems o es σ).1 hm hw

theorem step_stmt : ∀ (s : Stmt) (σ : St), wfStmt s = true → Step σ (prStmt o s σ) (acStmt s) :=
  fun s σ hw => (piece_stmt o s σ).1 hm hw

theorem step_redirs : ∀ (rs : List Redir) (σ : St), wfRedirs rs = true → Step σ (prRedirs o rs σ) (acRedirs rs) :=
  fun rs σ hw => (piece_redirs o rs σ).1 hm hw

theorem step_if : ∀ (fi : Pos) (ic : IfC) (σ : St), wfIf ic = true → Step σ (prIf o fi ic σ) (acIf ic) :=
  fun fi ic σ hw => (piece_if o fi ic σ).1 hm hw

theorem step_else : ∀ (fi : Pos) (e : IfC) (σ : St), wfIf e = true → e.elseShape = true →
      Step σ (prElse o fi e σ) (acIf e) :=
  fun fi e σ hw hs => (piece_else o fi e σ).1 hm ((Bool.and_eq_true _ _).mpr ⟨hs, hw⟩)

theorem step_caseItems : ∀ (cis : List CaseItem) (σ : St), wfCaseItems cis = true →
      Step σ (prCaseItems o cis σ) (acCaseItems cis) :=
  fun cis σ hw => (piece_caseItems o cis σ).1 hm hw

end

section
variable (hm : o.minify = true)
include hm

theorem mstep_item : ∀ (i : Item) (σ : St), MStep σ (prItem o i σ) :=
  fun i σ => (piece_item o i σ).2.1 hm

theorem mstep_items : ∀ (is : List Item) (σ : St), MStep σ (prItems o is σ) :=
  fun is σ => (piece_items o is σ).2.1 hm

theorem mstep_elems : ∀ (es : List Elem) (σ : St), MStep σ (prElems o es σ) :=
  fun es σ => (piece_elems o es σ).2.1 hm

theorem mstep_stmt : ∀ (s : Stmt) (σ : St), MStep σ (prStmt o s σ) :=
  fun s σ => (piece_stmt o s σ).2.1 hm

theorem mstep_redirs : ∀ (rs : List Redir) (σ : St), MStep σ (prRedirs o rs σ) :=
  fun rs σ => (piece_redirs o rs σ).2.1 hm

theorem mstep_cmd : ∀ (c : Cmd) (σ : St), MStep σ (prCmd o c σ) :=
  fun c σ => (piece_cmd o c σ).2.1 hm

theorem mstep_if : ∀ (fi : Pos) (ic : IfC) (σ : St), MStep σ (prIf o fi ic σ) :=
  fun fi ic σ => (piece_if o fi ic σ).2.1 hm

theorem mstep_else : ∀ (fi : Pos) (e : IfC) (σ : St), MStep σ (prElse o fi e σ) :=
  fun fi e σ => (piece_else o fi e σ).2.1 hm

theorem mstep_caseItems : ∀ (cis : List CaseItem) (σ : St), MStep σ (prCaseItems o cis σ) :=
  fun cis σ => (piece_caseItems o cis σ).2.1 hm

end

theorem lstep_item : ∀ (i : Item) (σ : St), nsItem i = true → LStep σ (prItem o i σ) :=
  fun i σ hn => (piece_item o i σ).2.2 hn

theorem lstep_items : ∀ (is : List Item) (σ : St), nsItems is = true → LStep σ (prItems o is σ) :=
  fun is σ hn => (piece_items o is σ).2.2 hn

theorem lstep_elems : ∀ (es : List Elem) (σ : St), nsElems es = true → LStep σ (prElems o es σ) :=
  fun es σ hn => (piece_elems o es σ).2.2 hn

theorem lstep_stmt : ∀ (s : Stmt) (σ : St), nsStmt s = true → LStep σ (prStmt o s σ) :=
  fun s σ hn => (piece_stmt o s σ).2.2 hn

theorem lstep_redirs : ∀ (rs : List Redir) (σ : St), nsRedirs rs = true → LStep σ (prRedirs o rs σ) :=
  fun rs σ hn => (piece_redirs o rs σ).2.2 hn

theorem lstep_cmd : ∀ (c : Cmd) (σ : St), nsCmd c = true → LStep σ (prCmd o c σ) :=
  fun c σ hn => (piece_cmd o c σ).2.2 hn

theorem lstep_if : ∀ (fi : Pos) (ic : IfC) (σ : St), nsIf ic = true → LStep σ (prIf o fi ic σ) :=
  fun fi ic σ hn => (piece_if o fi ic σ).2.2 hn

theorem lstep_else : ∀ (fi : Pos) (e : IfC) (σ : St), nsIf e = true → LStep σ (prElse o fi e σ) :=
  fun fi e σ hn => (piece_else o fi e σ).2.2 hn

theorem lstep_caseItems : ∀ (cis : List CaseItem) (σ : St), nsCaseItems cis = true → LStep σ (prCaseItems o cis σ) :=
  fun cis σ hn => (piece_caseItems o cis σ).2.2 hn

/-- The whole of `Print(*File)` from the initial state. -/
theorem printFile_piece (o : Opts) (f : File) :
    Piece o (initSt o) (printFile o f) (WFComments f) (NoReorderSites f) (allComments f) :=
  ((((piece_loop o false f.stmts (initSt o)).thenK (Keeps.optional _ Keeps.frame)).thenC f.last).thenK
    (newline_keeps o Pos.none _)).thenK ((flushHeredocs_keeps o _).trans (flushComments_keeps o _))

end ShVerif.C05
