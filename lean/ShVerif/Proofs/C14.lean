import ShVerif.Model.C14
/-
  C14 — lemmas for Props/C14.lean (core Lean only).

  The helpers of `walk` are read as operations on the children of one slot (`walkSel_eq` …), so
  that the three parts of a `case` body walk three consecutive pieces of each slot's children
  (`body_parts`).  From there a property of event lists that is closed under concatenation holds
  of a whole walk as soon as it holds around a node (`good_tree`: no panic, balanced brackets), and
  the entered ids are those of the children regrouped by slot (`prune_tree`).
-/
namespace ShVerif.C14

theorem perm_flatMap_congr {α β} {l : List α} {f g : α → List β}
    (h : ∀ x ∈ l, (f x).Perm (g x)) : (l.flatMap f).Perm (l.flatMap g) := by
  induction l with
  | nil => exact .refl _
  | cons a l ih =>
    simp only [List.flatMap_cons]
    exact (h a (by simp)).append (ih fun x hx => h x (by simp [hx]))

theorem flatMap_append_perm {α β} (l : List α) (f g : α → List β) :
    (l.flatMap f ++ l.flatMap g).Perm (l.flatMap fun x => f x ++ g x) := by
  induction l with
  | nil => exact .refl _
  | cons a l ih =>
    simp only [List.flatMap_cons]
    -- (f a ++ F) ++ (g a ++ G) ~ (f a ++ g a) ++ FG
    have h1 : (f a ++ l.flatMap f ++ (g a ++ l.flatMap g)).Perm
        (f a ++ g a ++ (l.flatMap f ++ l.flatMap g)) := by
      simp only [List.append_assoc]
      refine List.Perm.append_left _ ?_
      simp only [← List.append_assoc]
      exact List.Perm.append_right _ List.perm_append_comm
    exact h1.trans (List.Perm.append_left _ ih)

theorem flatMap_range_ite {β} (a : Nat) (v : List β) (n : Nat) :
    (List.range n).flatMap (fun s => if a = s then v else []) = if a < n then v else [] := by
  induction n with
  | zero => simp
  | succ n ih =>
    rw [List.range_succ, List.flatMap_append, ih]
    by_cases h1 : a < n <;> by_cases h2 : a = n <;> simp [h1, h2] <;> omega

theorem flatMap_range_filter {α β} (key : α → Nat) (g : α → List β) (n : Nat) (l : List α)
    (hb : ∀ x ∈ l, key x < n) :
    ((List.range n).flatMap fun s => (l.filter fun x => key x = s).flatMap g).Perm (l.flatMap g) := by
  induction l with
  | nil => simp
  | cons a l ih =>
    have ha : key a < n := hb a (by simp)
    have hl : ∀ x ∈ l, key x < n := fun x hx => hb x (by simp [hx])
    have e : (fun s => ((a :: l).filter fun x => key x = s).flatMap g)
        = fun s => (if key a = s then g a else []) ++ (l.filter fun x => key x = s).flatMap g := by
      funext s
      by_cases h : key a = s <;> simp [h]
    rw [e]
    refine (flatMap_append_perm _ _ _).symm.trans ?_
    rw [flatMap_range_ite, if_pos ha, List.flatMap_cons]
    exact List.Perm.append_left _ (ih hl)

theorem enters_append (a b : List Ev) : enters (a ++ b) = enters a ++ enters b := by
  induction a with
  | nil => rfl
  | cons e a ih => cases e <;> simp [enters, ih]

theorem enters_flatMap {α} (l : List α) (f : α → List Ev) :
    enters (l.flatMap f) = l.flatMap fun x => enters (f x) := by
  induction l with
  | nil => rfl
  | cons a l ih => simp [List.flatMap_cons, enters_append, ih]

theorem visibleList_eq (keep : Nat → Bool) (ks : List Tree) :
    visibleList keep ks = ks.flatMap (visible keep) := by
  induction ks with
  | nil => simp [visibleList]
  | cons k ks ih => simp [visibleList, ih]

mutual
  theorem visible_true : ∀ t : Tree, visible (fun _ => true) t = allIds t
    | .node _ id _ _ kids => by
      simp only [visible, allIds, if_true]
      rw [visibleList_true kids]
  theorem visibleList_true : ∀ ks : List Tree, visibleList (fun _ => true) ks = allIdsList ks
    | [] => by simp [visibleList, allIdsList]
    | k :: ks => by
      simp only [visibleList, allIdsList]
      rw [visible_true k, visibleList_true ks]
end

section helpers
variable (tbl : Table) (keep : Nat → Bool) (s : Nat)

theorem walkSel_eq (kids : List Tree) :
    walkSel tbl keep s kids = (kids.filter (·.slot = s)).flatMap (walk tbl keep) := by
  induction kids with
  | nil => rfl
  | cons k ks ih => by_cases h : k.slot = s <;> simp [walkSel, h, ih]

theorem walkReq_eq (kids : List Tree) :
    walkReq tbl keep s kids =
      match kids.filter (·.slot = s) with
      | [] => [.panic]
      | k :: _ => walk tbl keep k := by
  induction kids with
  | nil => rfl
  | cons k ks ih => by_cases h : k.slot = s <;> simp [walkReq, h, ih]

theorem walkLead_eq (kids : List Tree) :
    walkLead tbl keep s kids =
      ((kids.filter (·.slot = s)).takeWhile (!·.flag)).flatMap (walk tbl keep) := by
  induction kids with
  | nil => rfl
  | cons k ks ih =>
    by_cases h : k.slot = s
    · cases hf : k.flag <;> simp [walkLead, h, hf, ih]
    · simp [walkLead, h, ih]

theorem walkTrail_eq (kids : List Tree) :
    walkTrail tbl keep s kids =
      ((kids.filter (·.slot = s)).dropWhile (!·.flag)).flatMap (walk tbl keep) := by
  induction kids with
  | nil => rfl
  | cons k ks ih =>
    by_cases h : k.slot = s
    · cases hf : k.flag <;> simp [walkTrail, walkSel_eq, h, hf, ih]
    · simp [walkTrail, h, ih]

end helpers

/-- events of instruction `i` in the main sequence -/
def bodyA (tbl : Table) (keep : Nat → Bool) (kids : List Tree) (i : Instr) : List Ev :=
  match i.op with
  | .walk => walkReq tbl keep i.slot kids
  | .nilable => walkSel tbl keep i.slot kids
  | .list => walkSel tbl keep i.slot kids
  | .comments => walkSel tbl keep i.slot kids
  | .split _ => walkLead tbl keep i.slot kids

/-- trailing comment before `f(nil)` -/
def bodyB (tbl : Table) (keep : Nat → Bool) (kids : List Tree) (i : Instr) : List Ev :=
  match i.op with
  | .split false => walkTrail tbl keep i.slot kids
  | _ => []

/-- trailing comment after `f(nil)` (deferred) -/
def bodyC (tbl : Table) (keep : Nat → Bool) (kids : List Tree) (i : Instr) : List Ev :=
  match i.op with
  | .split true => walkTrail tbl keep i.slot kids
  | _ => []

/-- the side condition `wf` imposes on the children for one instruction -/
def instrOk (kids : List Tree) (i : Instr) : Bool :=
  match i.op with
  | .walk => slotCount i.slot kids == 1
  | .nilable => slotCount i.slot kids ≤ 1
  | .split _ => splitOk i.slot kids
  | _ => true

theorem walk_node (tbl : Table) (keep : Nat → Bool) (ty id sl : Nat) (fl : Bool) (kids : List Tree) :
    walk tbl keep (.node ty id sl fl kids) =
      if !keep id then [.enter id] else
      match tbl ty with
      | none => [.enter id, .panic]
      | some instrs =>
        .enter id :: instrs.flatMap (bodyA tbl keep kids) ++ instrs.flatMap (bodyB tbl keep kids)
          ++ [.leave id] ++ instrs.flatMap (bodyC tbl keep kids) := by
  rw [walk]; rfl

theorem wf_node_iff (tbl : Table) (ty id sl : Nat) (fl : Bool) (kids : List Tree) :
    wf tbl (.node ty id sl fl kids) = true ↔
      (∃ instrs, tbl ty = some instrs ∧ ∀ i ∈ instrs, instrOk kids i = true) ∧ wfList tbl kids = true := by
  have e : wf tbl (.node ty id sl fl kids) =
      ((match tbl ty with
        | none => false
        | some instrs => instrs.all (instrOk kids)) && wfList tbl kids) := by rw [wf]; rfl
  rw [e]
  cases h : tbl ty with
  | none => simp
  | some instrs => simp [List.all_eq_true]

theorem body_parts (tbl : Table) (keep : Nat → Bool) (kids : List Tree) (i : Instr)
    (hok : instrOk kids i = true) :
    ∃ la lb lc, la ++ lb ++ lc = kids.filter (·.slot = i.slot) ∧
      bodyA tbl keep kids i = la.flatMap (walk tbl keep) ∧
      bodyB tbl keep kids i = lb.flatMap (walk tbl keep) ∧
      bodyC tbl keep kids i = lc.flatMap (walk tbl keep) := by
  unfold instrOk at hok
  unfold bodyA bodyB bodyC
  cases hop : i.op with
  | walk =>
    simp only [hop, beq_iff_eq, slotCount] at hok
    obtain ⟨k, hk⟩ := List.length_eq_one_iff.mp hok
    exact ⟨[k], [], [], by simp [hk], by simp [walkReq_eq, hk], rfl, rfl⟩
  | nilable => exact ⟨_, [], [], by simp, walkSel_eq .., rfl, rfl⟩
  | list => exact ⟨_, [], [], by simp, walkSel_eq .., rfl, rfl⟩
  | comments => exact ⟨_, [], [], by simp, walkSel_eq .., rfl, rfl⟩
  | split b =>
    cases b
    · exact ⟨_, _, [], by simp [List.takeWhile_append_dropWhile], walkLead_eq .., walkTrail_eq .., rfl⟩
    · exact ⟨_, [], _, by simp [List.takeWhile_append_dropWhile], walkLead_eq .., rfl, walkTrail_eq ..⟩

theorem wfList_iff (tbl : Table) (ks : List Tree) :
    wfList tbl ks = true ↔ ∀ k ∈ ks, wf tbl k = true := by
  induction ks with
  | nil => simp [wfList]
  | cons k ks ih => simp [wfList, ih]

theorem boundedList_iff (nslots : Nat → Nat) (ks : List Tree) :
    boundedList nslots ks = true ↔ ∀ k ∈ ks, bounded nslots k = true := by
  induction ks with
  | nil => simp [boundedList]
  | cons k ks ih => simp [boundedList, ih]

theorem bounded_node_iff (nslots : Nat → Nat) (ty id sl : Nat) (fl : Bool) (kids : List Tree) :
    bounded nslots (.node ty id sl fl kids) = true ↔
      (∀ k ∈ kids, k.slot < nslots ty) ∧ boundedList nslots kids = true := by
  simp [bounded, List.all_eq_true]

mutual
  theorem wf_induct (tbl : Table) (P : Tree → Prop)
      (step : ∀ ty id sl fl kids instrs, tbl ty = some instrs → (∀ i ∈ instrs, instrOk kids i = true) →
        (∀ k ∈ kids, wf tbl k = true) → (∀ k ∈ kids, P k) → P (.node ty id sl fl kids)) :
      ∀ t : Tree, wf tbl t = true → P t
    | .node ty id sl fl kids, h => by
      obtain ⟨⟨instrs, htbl, hok⟩, hk⟩ := (wf_node_iff ..).mp h
      exact step ty id sl fl kids instrs htbl hok ((wfList_iff tbl kids).mp hk)
        (wf_induct_list tbl P step kids hk)
  theorem wf_induct_list (tbl : Table) (P : Tree → Prop)
      (step : ∀ ty id sl fl kids instrs, tbl ty = some instrs → (∀ i ∈ instrs, instrOk kids i = true) →
        (∀ k ∈ kids, wf tbl k = true) → (∀ k ∈ kids, P k) → P (.node ty id sl fl kids)) :
      ∀ ks : List Tree, wfList tbl ks = true → ∀ k ∈ ks, P k
    | [], _ => nofun
    | k :: ks, h => by
      simp only [wfList, Bool.and_eq_true] at h
      intro x hx
      rcases List.mem_cons.mp hx with e | hx
      · exact e ▸ wf_induct tbl P step k h.1
      · exact wf_induct_list tbl P step ks h.2 x hx
end

theorem instr_perm (tbl : Table) (keep : Nat → Bool) (kids : List Tree) (i : Instr)
    (hok : instrOk kids i = true)
    (H : ∀ k ∈ kids, (enters (walk tbl keep k)).Perm (visible keep k)) :
    (enters (bodyA tbl keep kids i) ++ enters (bodyB tbl keep kids i) ++ enters (bodyC tbl keep kids i)).Perm
      ((kids.filter fun k => k.slot = i.slot).flatMap (visible keep)) := by
  obtain ⟨la, lb, lc, hl, hA, hB, hC⟩ := body_parts tbl keep kids i hok
  rw [hA, hB, hC, ← enters_append, ← enters_append, ← List.flatMap_append, ← List.flatMap_append, hl,
    enters_flatMap]
  exact perm_flatMap_congr fun k hk => H k (List.mem_filter.mp hk).1

theorem node_perm (tbl : Table) (keep : Nat → Bool) (n : Nat) (instrs : List Instr) (kids : List Tree)
    (hp : (instrs.map (·.slot)).Perm (List.range n))
    (hok : ∀ i ∈ instrs, instrOk kids i = true)
    (hb : ∀ k ∈ kids, k.slot < n)
    (H : ∀ k ∈ kids, (enters (walk tbl keep k)).Perm (visible keep k)) (id : Nat) :
    (enters (instrs.flatMap (bodyA tbl keep kids) ++ instrs.flatMap (bodyB tbl keep kids)
          ++ [.leave id] ++ instrs.flatMap (bodyC tbl keep kids))).Perm
      (visibleList keep kids) := by
  simp only [enters_append, enters_flatMap, enters, List.append_nil, visibleList_eq]
  refine (List.Perm.append_right _ (flatMap_append_perm _ _ _)).trans ?_
  refine (flatMap_append_perm _ _ _).trans ?_
  refine (perm_flatMap_congr (g := fun i => (kids.filter fun k => k.slot = i.slot).flatMap (visible keep))
    fun i hi => instr_perm tbl keep kids i (hok i hi) H).trans ?_
  have e : (instrs.flatMap fun i => (kids.filter fun k => k.slot = i.slot).flatMap (visible keep))
      = (instrs.map (·.slot)).flatMap fun s => (kids.filter fun k => k.slot = s).flatMap (visible keep) := by
    rw [List.flatMap_map]
  rw [e]
  exact (List.Perm.flatMap_right _ hp).trans (flatMap_range_filter Tree.slot (visible keep) n kids hb)

theorem prune_tree (tbl : Table) (nslots : Nat → Nat) (hc : TableComplete tbl nslots)
    (keep : Nat → Bool) : ∀ t : Tree, wf tbl t = true → bounded nslots t = true →
      (enters (walk tbl keep t)).Perm (visible keep t) := by
  refine wf_induct tbl _ ?_
  intro ty id sl fl kids instrs htbl hok _ H hb
  obtain ⟨hbk, hbl⟩ := (bounded_node_iff ..).mp hb
  rw [walk_node, visible]
  cases hk : keep id with
  | false => simp [enters]
  | true =>
    simp only [Bool.not_true, Bool.false_eq_true, if_false, if_true, htbl, List.cons_append, enters]
    exact List.Perm.cons _ (node_perm tbl keep (nslots ty) instrs kids (hc ty instrs htbl) hok hbk
      (fun k hk => H k hk ((boundedList_iff nslots kids).mp hbl k hk)) id)

theorem prune_list (tbl : Table) (nslots : Nat → Nat) (hc : TableComplete tbl nslots)
      (keep : Nat → Bool) : ∀ ks : List Tree, wfList tbl ks = true → boundedList nslots ks = true →
        ∀ k ∈ ks, (enters (walk tbl keep k)).Perm (visible keep k) :=
  fun ks hwf hb k hk => prune_tree tbl nslots hc keep k ((wfList_iff tbl ks).mp hwf k hk)
    ((boundedList_iff nslots ks).mp hb k hk)

section good
variable (tbl : Table) (keep : Nat → Bool) (G : List Ev → Prop)
  (h0 : G []) (happ : ∀ a b, G a → G b → G (a ++ b))
include h0 happ

theorem good_flatMap {α} (l : List α) (f : α → List Ev) (h : ∀ x ∈ l, G (f x)) : G (l.flatMap f) := by
  induction l with
  | nil => exact h0
  | cons a l ih =>
    rw [List.flatMap_cons]
    exact happ _ _ (h a (by simp)) (ih fun x hx => h x (by simp [hx]))

theorem body_good (kids : List Tree) (i : Instr) (hok : instrOk kids i = true)
    (H : ∀ k ∈ kids, G (walk tbl keep k)) :
    G (bodyA tbl keep kids i) ∧ G (bodyB tbl keep kids i) ∧ G (bodyC tbl keep kids i) := by
  obtain ⟨la, lb, lc, hl, hA, hB, hC⟩ := body_parts tbl keep kids i hok
  have hm : ∀ k ∈ la ++ lb ++ lc, G (walk tbl keep k) := fun k hk =>
    H k (List.mem_filter.mp (hl ▸ hk)).1
  rw [hA, hB, hC]
  exact ⟨good_flatMap G h0 happ _ _ fun k hk => hm k (by simp [hk]),
    good_flatMap G h0 happ _ _ fun k hk => hm k (by simp [hk]),
    good_flatMap G h0 happ _ _ fun k hk => hm k (by simp [hk])⟩

variable (hleaf : ∀ id, keep id = false → G [.enter id])
  (hnode : ∀ ty id kids instrs, keep id = true → tbl ty = some instrs →
    G (instrs.flatMap (bodyA tbl keep kids)) → G (instrs.flatMap (bodyB tbl keep kids)) →
    G (instrs.flatMap (bodyC tbl keep kids)) →
    G (.enter id :: instrs.flatMap (bodyA tbl keep kids) ++ instrs.flatMap (bodyB tbl keep kids)
          ++ [.leave id] ++ instrs.flatMap (bodyC tbl keep kids)))
include hleaf hnode

theorem good_tree : ∀ t : Tree, wf tbl t = true → G (walk tbl keep t) := by
  refine wf_induct tbl _ ?_
  intro ty id sl fl kids instrs htbl hok _ H
  have hb := fun i hi => body_good tbl keep G h0 happ kids i (hok i hi) H
  rw [walk_node]
  cases hk : keep id with
  | false => simpa using hleaf id hk
  | true =>
    simp only [Bool.not_true, Bool.false_eq_true, if_false, htbl]
    exact hnode ty id kids instrs hk htbl
      (good_flatMap G h0 happ _ _ fun i hi => (hb i hi).1)
      (good_flatMap G h0 happ _ _ fun i hi => (hb i hi).2.1)
      (good_flatMap G h0 happ _ _ fun i hi => (hb i hi).2.2)

theorem good_list : ∀ ks : List Tree, wfList tbl ks = true → ∀ k ∈ ks, G (walk tbl keep k) :=
  fun ks h k hk => good_tree tbl keep G h0 happ hleaf hnode k ((wfList_iff tbl ks).mp h k hk)

end good

theorem nopanic_tree (tbl : Table) (keep : Nat → Bool) (t : Tree) (hwf : wf tbl t = true) :
    Ev.panic ∉ walk tbl keep t := by
  refine good_tree tbl keep (fun evs => Ev.panic ∉ evs) (by simp) ?_ ?_ ?_ t hwf
  · intro a b ha hb; simp [ha, hb]
  · intro id _; simp
  · intro ty id kids instrs _ _ hA hB hC
    simp [hA, hB, hC]

def run (keep : Nat → Bool) (st : Option (List Nat)) (evs : List Ev) : Option (List Nat) :=
  evs.foldl (fun st e => bracketStep st e (fun i => !keep i)) st

theorem run_append (keep : Nat → Bool) (st : Option (List Nat)) (a b : List Ev) :
    run keep st (a ++ b) = run keep (run keep st a) b := by
  simp [run, List.foldl_append]

def Balanced (keep : Nat → Bool) (evs : List Ev) : Prop :=
  ∀ stack, run keep (some stack) evs = some stack

theorem balanced_tree (tbl : Table) (hnd : NoDefer tbl) (keep : Nat → Bool) (t : Tree)
    (hwf : wf tbl t = true) : Balanced keep (walk tbl keep t) := by
  refine good_tree tbl keep (Balanced keep) ?_ ?_ ?_ ?_ t hwf
  · intro st; rfl
  · intro a b ha hb st; rw [run_append, ha, hb]
  · intro id hk st; simp [run, bracketStep, hk]
  · intro ty id kids instrs hk htbl hA hB _ st
    have hC : instrs.flatMap (bodyC tbl keep kids) = [] := by
      rw [List.flatMap_eq_nil_iff]
      intro i hi
      have := hnd ty instrs htbl i hi
      unfold bodyC
      split
      · next h => exact absurd h this
      · rfl
    rw [hC, List.append_nil, ← List.singleton_append, List.append_assoc, List.append_assoc,
      run_append, run_append, run_append]
    have h1 : run keep (some st) [Ev.enter id] = some (id :: st) := by
      simp [run, bracketStep, hk]
    rw [h1, hA, hB]
    simp [run, bracketStep]

theorem mapM_some_mem {α β} (f : α → Option β) (l : List α) (r : List β) (h : l.mapM f = some r) :
    ∀ i ∈ r, ∃ x ∈ l, f x = some i := by
  induction l generalizing r with
  | nil =>
    cases h
    nofun
  | cons a l ih =>
    simp only [List.mapM_cons, Option.bind_eq_bind, Option.bind_eq_some_iff, Option.pure_def,
      Option.some.injEq] at h
    obtain ⟨y, hy, ys, hys, rfl⟩ := h
    intro i hi
    rcases List.mem_cons.mp hi with rfl | hi
    · exact ⟨a, List.mem_cons_self, hy⟩
    · obtain ⟨x, hx, hfx⟩ := ih ys hys i hi
      exact ⟨x, List.mem_cons_of_mem _ hx, hfx⟩

theorem opOfString_defer (op : String) (h : opOfString op = some (.split true)) : op = "split-defer" := by
  unfold opOfString at h
  split at h <;> simp_all

theorem tableOf_some (sch : List TypeInfo) (ty : Nat) (instrs : List Instr)
    (h : tableOf sch ty = some instrs) :
    ∃ ti l, sch[ty]? = some ti ∧ ti ∈ sch ∧ ti.instrs = some l ∧ resolve ti = some instrs := by
  unfold tableOf at h
  cases hs : sch[ty]? with
  | none => simp [hs] at h
  | some ti =>
    simp only [hs] at h
    cases hl : ti.instrs with
    | none => simp [resolve, hl] at h
    | some l => exact ⟨ti, l, rfl, List.mem_of_getElem? hs, hl, h⟩

end ShVerif.C14
