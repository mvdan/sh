import ShVerif.Model.C36
/-
  The run is a stack of layers, `outcome` ← `formatBytes` ← `formatPath` ← `visit` ← `collect`.  What
  a step lists, writes and reports is read off `outcome` (`outcome_eq` gives it field by field) and
  carried up layer by layer: each layer either hands on to the one below or ends without listing or
  writing anything (`formatBytes_cases`; `formatPath_passes`, `formatPath_stops`).
-/
namespace ShVerif.C36

/-- The tail of `formatBytes`, field by field.  `ch`: the formatter changed something; `refused`: `-w`
    on something that is not a regular file; the result goes to stdout when no mode flag is given. -/
theorem outcome_eq (list : Tri) (w d : Bool) (path src res dt : Bytes) (reg : Bool) :
    outcome list w d path src res dt reg =
      let ch := decide (res ≠ src)
      let refused := w && !reg
      { stdout := (if ch then listLine list path else []) ++
          (if ch && !refused && d then dt else if list == .off && !w && !d then res else [])
        errLine := if ch && refused then some (refuseMsg path) else none
        write := if ch && w && reg then some res else none
        listed := ch && list != .off
        diffed := ch && !refused && d
        fail := ch && (refused || d || (list != .off && !w)) } := by
  unfold outcome
  by_cases h : src = res
  · subst h
    cases list <;> cases w <;> cases d <;> simp
  · have h' : res ≠ src := fun e => h e.symm
    rw [if_pos h, decide_eq_true h']
    cases list <;> cases w <;> cases d <;> cases reg <;> simp

theorem outcome_listed (list : Tri) (w d : Bool) (path src res dt : Bytes) (reg : Bool) :
    (outcome list w d path src res dt reg).listed = true ↔ (list ≠ .off ∧ res ≠ src) := by
  rw [outcome_eq]
  simp [and_comm]

theorem outcome_fail_iff (list : Tri) (d : Bool) (path src res dt : Bytes) (reg : Bool) (hl : list ≠ .off) :
    (outcome list false d path src res dt reg).fail = true ↔
      ((outcome list false d path src res dt reg).listed = true ∨
        (outcome list false d path src res dt reg).errLine.isSome = true) := by
  rw [outcome_eq]
  simp [hl]

theorem outcome_write (list : Tri) (w d : Bool) (path src res dt : Bytes) (reg : Bool) (r : Bytes)
    (h : (outcome list w d path src res dt reg).write = some r) : r = res ∧ res ≠ src ∧ w = true := by
  rw [outcome_eq] at h
  simp only at h
  split at h
  · simp_all
  · cases h

theorem formatBytes_ok {F : Fmt} {D : Dif} {f : Flags} {e : Entry} {path src : Bytes} {l : Lang}
    {o : Opts} {b : Bool} {res : Bytes} (hro : resolveOpts f e l = some (o, b)) (hF : F o path src = .ok res) :
    formatBytes F D f e path src l =
      outcome f.list f.write f.diff path src res (D path src res) (e.kind == .reg) := by
  simp only [formatBytes, hro, hF]

theorem formatBytes_cases (F : Fmt) (D : Dif) (f : Flags) (e : Entry) (path src : Bytes) (l : Lang) :
    (∃ o b res, resolveOpts f e l = some (o, b) ∧ F o path src = .ok res ∧
      formatBytes F D f e path src l =
        outcome f.list f.write f.diff path src res (D path src res) (e.kind == .reg)) ∨
    ((formatBytes F D f e path src l).listed = false ∧ (formatBytes F D f e path src l).write = none ∧
      (formatBytes F D f e path src l).fail = (formatBytes F D f e path src l).errLine.isSome) := by
  cases hro : resolveOpts f e l with
  | none => right; simp [formatBytes, hro]
  | some ob =>
    obtain ⟨o, b⟩ := ob
    cases hF : F o path src with
    | ok res => exact .inl ⟨o, b, res, rfl, hF, formatBytes_ok hro hF⟩
    | _ => right; simp [formatBytes, hro, hF]

theorem formatBytes_fail_iff (F : Fmt) (D : Dif) (f : Flags) (e : Entry) (path src : Bytes) (l : Lang)
    (hl : f.list ≠ .off) (hw : f.write = false) :
    (formatBytes F D f e path src l).fail = true ↔
      ((formatBytes F D f e path src l).listed = true ∨ (formatBytes F D f e path src l).errLine.isSome = true) := by
  rcases formatBytes_cases F D f e path src l with ⟨_, _, _, _, _, h⟩ | ⟨h1, _, h3⟩
  · rw [h, hw]; exact outcome_fail_iff _ _ _ _ _ _ _ hl
  · rw [h1, h3]; simp

theorem formatBytes_write (F : Fmt) (D : Dif) (f : Flags) (e : Entry) (path src : Bytes) (l : Lang) (r : Bytes)
    (h : (formatBytes F D f e path src l).write = some r) :
    ∃ o b, resolveOpts f e l = some (o, b) ∧ F o path src = .ok r ∧ src ≠ r := by
  rcases formatBytes_cases F D f e path src l with ⟨o, b, res, h1, h2, h3⟩ | ⟨_, hw, _⟩
  · rw [h3] at h
    obtain ⟨rfl, hne, _⟩ := outcome_write _ _ _ _ _ _ _ _ _ h
    exact ⟨o, b, h1, h2, hne.symm⟩
  · rw [hw] at h; cases h

theorem formatBytes_listed (F : Fmt) (D : Dif) (f : Flags) (e : Entry) (path src : Bytes) (l : Lang)
    (h : (formatBytes F D f e path src l).listed = true) :
    ∃ o b r, resolveOpts f e l = some (o, b) ∧ F o path src = .ok r ∧ r ≠ src := by
  rcases formatBytes_cases F D f e path src l with ⟨o, b, res, h1, h2, h3⟩ | ⟨hl, _, _⟩
  · rw [h3] at h
    exact ⟨o, b, res, h1, h2, ((outcome_listed _ _ _ _ _ _ _ _).mp h).2⟩
  · rw [hl] at h; cases h

theorem headOf_short_iff (src : Bytes) : (headOf src).length < 9 ↔ sniffOf src ≠ .window := by
  unfold sniffOf headOf
  rw [List.length_take]
  split
  · simp [*]
  · split <;> simp <;> omega

/-- `formatPath` gets as far as `formatBytes`: the shebang check, if asked for, finds one, and `-f`
    is not given. -/
def Passes (find : Tri) (src : Bytes) (cs : Bool) : Prop :=
  (cs && (headOf src).length < 9) = false ∧ (cs && shebang (headOf src) = []) = false ∧ find = .off

theorem formatPath_passes {F : Fmt} {D : Dif} {f : Flags} {e : Entry} {cs : Bool}
    (h : Passes f.find e.src cs) :
    formatPath F D f e cs = formatBytes F D f e e.path e.src (fileLang f e.path e.src) := by
  obtain ⟨h1, h2, h3⟩ := h
  simp [formatPath, h1, h2, h3]

theorem formatPath_stops {F : Fmt} {D : Dif} {f : Flags} {e : Entry} {cs : Bool}
    (hp : ¬ Passes f.find e.src cs) : ∃ out, formatPath F D f e cs = { stdout := out } := by
  unfold formatPath
  simp only
  split
  · exact ⟨_, rfl⟩
  · split
    · exact ⟨_, rfl⟩
    · split
      · exact ⟨_, rfl⟩
      · exact ⟨_, rfl⟩
      · exact absurd ⟨Bool.eq_false_iff.mpr ‹_›, Bool.eq_false_iff.mpr ‹_›, ‹_›⟩ hp

theorem formatPath_fail_iff (F : Fmt) (D : Dif) (f : Flags) (e : Entry) (cs : Bool)
    (hl : f.list ≠ .off) (hw : f.write = false) :
    (formatPath F D f e cs).fail = true ↔
      ((formatPath F D f e cs).listed = true ∨ (formatPath F D f e cs).errLine.isSome = true) := by
  by_cases hp : Passes f.find e.src cs
  · rw [formatPath_passes hp]; exact formatBytes_fail_iff F D f e _ _ _ hl hw
  · obtain ⟨_, h⟩ := formatPath_stops (F := F) (D := D) hp
    rw [h]; simp

theorem formatPath_write {F : Fmt} {D : Dif} {f : Flags} {e : Entry} {cs : Bool} {r : Bytes}
    (h : (formatPath F D f e cs).write = some r) :
    ∃ o b, resolveOpts f e (fileLang f e.path e.src) = some (o, b) ∧ F o e.path e.src = .ok r ∧ e.src ≠ r := by
  by_cases hp : Passes f.find e.src cs
  · rw [formatPath_passes hp] at h; exact formatBytes_write _ _ _ _ _ _ _ _ h
  · obtain ⟨_, h'⟩ := formatPath_stops (F := F) (D := D) hp
    rw [h'] at h; cases h

theorem formatPath_listed {F : Fmt} {D : Dif} {f : Flags} {e : Entry} {cs : Bool}
    (h : (formatPath F D f e cs).listed = true) :
    Passes f.find e.src cs ∧
      ∃ o b r, resolveOpts f e (fileLang f e.path e.src) = some (o, b) ∧ F o e.path e.src = .ok r ∧ r ≠ e.src := by
  by_cases hp : Passes f.find e.src cs
  · rw [formatPath_passes hp] at h; exact ⟨hp, formatBytes_listed _ _ _ _ _ _ _ h⟩
  · obtain ⟨_, h'⟩ := formatPath_stops (F := F) (D := D) hp
    rw [h'] at h; cases h

theorem visit_fail_iff (F : Fmt) (D : Dif) (f : Flags) (e : Entry)
    (hl : f.list ≠ .off) (hw : f.write = false) :
    visitFails (visit F D f e) = true ↔
      (listedV (visit F D f e) = true ∨ errorV (visit F D f e) = true) := by
  unfold visit
  cases visitDecision f e with
  | format cs => exact formatPath_fail_iff F D f e cs hl hw
  | _ => simp [visitFails, listedV, errorV]

theorem visits_mem (F : Fmt) (D : Dif) (f : Flags) (es : List Entry) (sk : Option Bytes)
    (e : Entry) (v : Visit) (h : (e, v) ∈ visits F D f es sk) : v = visit F D f e := by
  induction es generalizing sk with
  | nil => simp [visits] at h
  | cons x rest ih =>
    unfold visits at h
    simp only at h
    split at h
    · split at h
      · exact ih _ h
      · rcases List.mem_cons.mp h with h1 | h1
        · cases h1; rfl
        · exact ih _ h1
    · rcases List.mem_cons.mp h with h1 | h1
      · cases h1; rfl
      · exact ih _ h1

theorem collect_status (vs : List (Entry × Visit)) (o : Out)
    (hp : (collect vs o).panicked = false) :
    (collect vs o).status ≠ 0 ↔ (o.status ≠ 0 ∨ ∃ ev ∈ vs, visitFails ev.2 = true) := by
  induction vs generalizing o with
  | nil => simp [collect]
  | cons ev rest ih =>
    obtain ⟨e, v⟩ := ev
    simp only [List.mem_cons, exists_eq_or_imp]
    cases v with
    | panic => simp [collect] at hp
    | skip | skipDir | error =>
      simp only [collect] at hp ⊢
      rw [ih _ hp]; simp [visitFails]
    | step s =>
      simp only [collect] at hp ⊢
      by_cases hsp : s.panicked = true
      · simp [hsp] at hp
      · simp only [hsp, Bool.false_eq_true, ↓reduceIte] at hp ⊢
        rw [ih _ hp]
        by_cases hf : s.fail = true <;> simp [visitFails, hf]

theorem fileLang_lFlags (f : Flags) (p s : Bytes) : fileLang (lFlags f) p s = fileLang f p s := rfl

theorem resolveOpts_lFlags (f : Flags) (e : Entry) (src : Bytes) (l : Lang) :
    resolveOpts (lFlags f) { e with src := src } l = resolveOpts f e l := rfl

theorem visitDecision_lFlags (f : Flags) (e : Entry) (src : Bytes) :
    visitDecision (lFlags f) { e with src := src } = visitDecision f e := rfl

theorem matchName_mem (s : Bytes) (ns : List Bytes) : matchName s ns = [] ∨ matchName s ns ∈ ns := by
  induction ns with
  | nil => exact .inl rfl
  | cons n rest ih =>
    have ih' := ih.imp_right (List.mem_cons_of_mem n)
    unfold matchName
    split
    · split
      · exact .inr List.mem_cons_self
      · split
        · exact .inr List.mem_cons_self
        · exact ih'
    · exact ih'

theorem shebang_mem (bs : Bytes) : shebang bs = [] ∨ shebang bs ∈ shellNames := by
  unfold shebang
  split
  · left; rfl
  · split
    · left; rfl
    · simp only
      split
      · left; rfl
      · exact matchName_mem _ _

theorem langFromShebang_ne_auto (hd : Bytes) : langFromShebang hd ≠ .auto := by
  unfold langFromShebang
  rcases shebang_mem hd with h | h
  · rw [h]; decide
  · have : ∀ n ∈ shellNames, (langOfName n).getD .bash ≠ .auto := by decide
    exact this _ h

/-- `fileLang` and `stdinLang` take the first of three candidates that is set; the last always is. -/
theorem firstSet_ne_auto {a b c : Lang} (hc : c ≠ .auto) :
    (if a != .auto then a else if b != .auto then b else c) ≠ .auto := by
  split
  next h => simpa using h
  split
  next h => simpa using h
  exact hc

theorem stdinLang_eq_fileLang (f : Flags) (n s : Bytes)
    (h : lnVal f ≠ .auto ∨ langFromFilename n ≠ .auto ∨ langFromShebang s = langFromShebang (headOf s)) :
    stdinLang f n s = fileLang f n s := by
  unfold stdinLang fileLang
  rcases h with h | h | h <;> simp [h]

theorem fileLang_ln {f : Flags} (h : lnVal f ≠ .auto) (p s : Bytes) : fileLang f p s = lnVal f := by
  unfold fileLang; simp [h]

theorem stdinLang_ln {f : Flags} (h : lnVal f ≠ .auto) (n s : Bytes) : stdinLang f n s = lnVal f := by
  unfold stdinLang; simp [h]

theorem propsOptions_ne_none (l : Lang) (p : Props) (hl : l ≠ .auto) :
    propsOptions l p ≠ none := by
  unfold propsOptions
  cases h : langOfName (pget p (asc "shell_variant")) with
  | none => simp [hl]
  | some v => cases v <;> simp [hl]

theorem resolveOpts_flags (f : Flags) (e : Entry) (l : Lang) (h : useEC f = false) :
    resolveOpts f e l = some (optsOfFlags f l, false) := by
  unfold resolveOpts; simp [h]

theorem commonPrefix_le (a b : List Bytes) : commonPrefix a b ≤ a.length := by
  induction a generalizing b with
  | nil => simp [commonPrefix]
  | cons x xs ih =>
    cases b with
    | nil => simp [commonPrefix]
    | cons y ys =>
      simp only [commonPrefix]
      split
      · simp only [List.length_cons]; exact Nat.succ_le_succ (ih ys)
      · exact Nat.zero_le _

theorem commonPrefix_take (a b : List Bytes) :
    a.take (commonPrefix a b) = b.take (commonPrefix a b) := by
  induction a generalizing b with
  | nil => simp [commonPrefix]
  | cons x xs ih =>
    cases b with
    | nil => simp [commonPrefix]
    | cons y ys =>
      simp only [commonPrefix]
      split
      · rename_i h; subst h
        simp only [List.take_succ_cons]
        rw [ih ys]
      · simp

end ShVerif.C36
