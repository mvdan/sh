/-
  L4: the position the parser gives a statement is the position of its first token (`!` included);
  the left operand of a negated pipeline (`! a | b`, whose `!` belongs to the whole pipeline) keeps
  the position of the `!`.  `Stmt.pk` / `parse_pk`, inside subshells and blocks as well; by induction
  over the rules of the grammar (L4Gram), like `GStmts.flat`.
-/
import ShVerif.Proofs.L4Flat
namespace ShVerif.L4

mutual
/-- `ctx = some bp`: the statement is the left operand chain of a negated pipeline with `!` at `bp` -/
def Stmt.pk : Stmt → Option Pos → Prop
  | .mk pos _ neg _ cmd, ctx =>
    (match ctx with
     | none => neg = false → ∃ tp rest, cmd.ftoks = tp :: rest ∧ tp.2 = pos
     | some bp => pos = bp ∧ neg = false) ∧
    cmd.pk (match ctx with
      | none => if neg then some pos else none
      | some bp => some bp)
def Cmd.pk : Cmd → Option Pos → Prop
  | .binary _ op x y, ctx => (if op = .pipe then x.pk ctx else x.pk none) ∧ y.pk none
  | .call _, _ => True
  | .subshell _ _ ss, _ => ss.pkAll
  | .block _ _ ss, _ => ss.pkAll
def Stmts.pkAll : Stmts → Prop
  | .nil => True
  | .cons s r => s.pk none ∧ r.pkAll
end

theorem ofList_pkAll : ∀ l : List Stmt, (∀ s ∈ l, s.pk none) → (Stmts.ofList l).pkAll
  | [], _ => by simp [Stmts.ofList, Stmts.pkAll]
  | s :: r, h => by
    simp only [Stmts.ofList, Stmts.pkAll]
    exact ⟨h s (by simp), ofList_pkAll r (fun x hx => h x (by simp [hx]))⟩

def HeadC (c : Cmd) (q : Pos) : Prop := ∃ tp rest, c.ftoks = tp :: rest ∧ tp.2 = q

theorem mk_pk_none (pos : Pos) (c : Cmd) (hh : HeadC c pos) (hc : c.pk none) : (mkStmt pos false c).pk none := by
  obtain ⟨tp, rest, e1, e2⟩ := hh
  simp only [mkStmt, Stmt.pk, Bool.false_eq_true, ↓reduceIte]
  exact ⟨fun _ => ⟨tp, rest, e1, e2⟩, hc⟩

theorem pk_head {s : Stmt} (h : s.pk none) : ∃ tp rest, s.ftoks = tp :: rest ∧ tp.2 = s.pos := by
  obtain ⟨pos, semi, neg, bg, cmd⟩ := s
  simp only [Stmt.pk] at h
  cases neg with
  | true => exact ⟨_, _, by simp [Stmt.ftoks]; exact ⟨rfl, rfl⟩, rfl⟩
  | false =>
    obtain ⟨tp, r, e1, e2⟩ := h.1 rfl
    exact ⟨tp, _, by simp [Stmt.ftoks, e1]; rfl, e2⟩

theorem setEnd_pk (s : Stmt) (q : Pos) (bg : Bool) (h : s.pk none) : (s.setEnd q bg).pk none := by
  obtain ⟨pos, semi, neg, b, cmd⟩ := s
  exact h

theorem HeadC.append {c c' : Cmd} {q : Pos} (h : HeadC c q) (l : List TokPos) (hc : c'.ftoks = c.ftoks ++ l) :
    HeadC c' q := by
  obtain ⟨tp, r, e1, e2⟩ := h
  exact ⟨tp, r ++ l, by rw [hc, e1]; rfl, e2⟩

/-- In a pipeline the left operands are at `pos`: the `!` of a negated pipeline (`ctx = some pos`),
    else its first token. -/
theorem GStmts.pk {ps : PS} {ss : List Stmt} {ps' : PS} (h : GStmts ps ss ps') :
    AllOK2 ps → AllOK2 ps' ∧ ∀ s ∈ ss, s.pk none := by
  refine GStmts.rec
    (motive_1 := fun ps c ps' _ => AllOK2 ps → AllOK2 ps' ∧ HeadC c ps.pos ∧ ∀ ctx, c.pk ctx)
    (motive_2 := fun pos ps c ps' _ => AllOK2 ps →
      AllOK2 ps' ∧ HeadC c ps.pos ∧ ∀ ctx, ctx = some pos ∨ (ctx = none ∧ pos = ps.pos) → c.pk ctx)
    (motive_3 := fun ps s ps' _ => AllOK2 ps → AllOK2 ps' ∧ s.pk none)
    (motive_4 := fun ps s ps' _ => AllOK2 ps → AllOK2 ps' ∧ s.pk none)
    (motive_5 := fun ps s ps' _ => AllOK2 ps → AllOK2 ps' ∧ s.pk none)
    (motive_6 := fun ps ss ps' _ => AllOK2 ps → AllOK2 ps' ∧ ∀ s ∈ ss, s.pk none)
    ?call ?subshell ?block ?first ?pipe ?neg ?one ?op ?bare ?term ?nil ?cons h
  case call =>
    intro ps w ws ps' ha hok
    cases ha with
    | cons hp ha' =>
      exact ⟨(ha'.flat (hok.of_toks rfl).2).1, ⟨_, _, rfl, (congrArg Prod.snd (ok2_word (hok.of_toks rfl).1 hp)).symm⟩,
        fun _ => trivial⟩
  case subshell =>
    intro lp rest ss rp rest' _ _ ih hok
    obtain ⟨r1, r2⟩ := ih (hok.of_toks rfl).2
    exact ⟨(r1.of_toks rfl).2, ⟨_, _, rfl, rfl⟩, fun _ => ofList_pkAll _ r2⟩
  case block =>
    intro w lb rest ss w' rb rest' _ _ ih hok
    obtain ⟨r1, r2⟩ := ih (hok.of_toks rfl).2
    exact ⟨(r1.of_toks rfl).2, ⟨_, _, rfl, rfl⟩, fun _ => ofList_pkAll _ r2⟩
  case first =>
    intro pos ps c ps' _ ih hok
    obtain ⟨r1, r2, r3⟩ := ih hok
    exact ⟨r1, r2, fun ctx _ => r3 ctx⟩
  case pipe =>
    intro pos ps c q rest cy ps' _ _ ihx ihy hok
    obtain ⟨x1, x2, x3⟩ := ihx hok
    obtain ⟨y1, y2, y3⟩ := ihy ((dropNl_gotNewl ⟨rest⟩).2 (x1.of_toks rfl).2)
    refine ⟨y1, x2.append ((Tok.pipe, q) :: cy.ftoks) (by simp [Cmd.ftoks, mkStmt_ftoks, BinOp.tok]),
      fun ctx hctx => ⟨?_, mk_pk_none _ _ y2 (y3 _)⟩⟩
    rw [if_pos rfl]
    rcases hctx with rfl | ⟨rfl, rfl⟩
    · exact ⟨⟨rfl, rfl⟩, x3 _ (.inl rfl)⟩
    · exact mk_pk_none _ _ x2 (x3 _ (.inr ⟨rfl, rfl⟩))
  case neg =>
    intro ps c ps' _ ih hok
    obtain ⟨r1, r2, r3⟩ := ih (by split; exact hok.next; exact hok)
    refine ⟨r1, ?_⟩
    cases hneg : ps.tok.isLit [33] with
    | true => exact ⟨nofun, r3 _ (.inl rfl)⟩
    | false =>
      rw [hneg, if_neg Bool.false_ne_true] at r2 r3
      exact mk_pk_none _ _ r2 (r3 _ (.inr ⟨rfl, rfl⟩))
  case one =>
    intro ps s ps' _ ih
    exact ih
  case op =>
    intro ps x op q rest y ps' hop _ _ ihx ihy hok
    obtain ⟨x1, x2⟩ := ihx hok
    obtain ⟨y1, y2⟩ := ihy ((dropNl_gotNewl ⟨rest⟩).2 (x1.of_toks rfl).2)
    obtain ⟨tp, r, e1, e2⟩ := pk_head x2
    exact ⟨y1, mk_pk_none _ _ ⟨tp, r ++ (op.tok, q) :: y.ftoks, by simp [Cmd.ftoks, e1], e2⟩
      ⟨by rw [if_neg hop]; exact x2, y2⟩⟩
  case bare =>
    intro ps s ps' _ ih
    exact ih
  case term =>
    intro ps s bg q rest _ ih hok
    obtain ⟨r1, r2⟩ := ih hok
    exact ⟨(r1.of_toks rfl).2, setEnd_pk s q bg r2⟩
  case nil =>
    intro ps ps' h hok
    rcases h with rfl | rfl
    · exact ⟨hok, nofun⟩
    · exact ⟨(dropNl_gotNewl ps).2 hok, nofun⟩
  case cons =>
    intro ps s ps2 ss ps' _ _ ihs ihr hok
    obtain ⟨s1, s2⟩ := ihs ((dropNl_gotNewl ps).2 hok)
    obtain ⟨r1, r2⟩ := ihr s1
    refine ⟨r1, fun x hx => ?_⟩
    rcases List.mem_cons.mp hx with rfl | hx
    · exact s2
    · exact r2 x hx

theorem parse_pk (l : Lang) (src : Bytes) (f : File) (h : parse l src = .ok f) : f.stmts.pkAll := by
  obtain ⟨ss, ps', rfl, hg, _⟩ := parse_gram h
  exact ofList_pkAll ss (hg.pk (lexAll_ok2 src)).2

end ShVerif.L4
