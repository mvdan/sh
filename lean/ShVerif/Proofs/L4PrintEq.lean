/-
  L4 model printer: equations of its functions on the shapes of input the proofs use, and the
  frame facts every proof about it needs — no step changes the options, most steps leave the line
  counter alone.  Stated once here, next to the model.
-/
import ShVerif.Model.L4Syntax
import ShVerif.Model.L4Transcript
namespace ShVerif.L4

/-! ## Equations -/

theorem Stmt.norm_mk (pos semi : Pos) (neg bg : Bool) (c : Cmd) : (Stmt.mk pos semi neg bg c).norm = .mk neg bg c.norm := rfl
theorem Cmd.norm_call (args : List Word) : (Cmd.call args).norm = .call (args.map Word.norm) := rfl
theorem Cmd.norm_subshell (a b : Pos) (ss : Stmts) : (Cmd.subshell a b ss).norm = .subshell ss.norm := rfl
theorem Cmd.norm_block (a b : Pos) (ss : Stmts) : (Cmd.block a b ss).norm = .block ss.norm := rfl
theorem Cmd.norm_binary (o : Pos) (op : BinOp) (x y : Stmt) : (Cmd.binary o op x y).norm = .binary op x.norm y.norm := rfl
theorem Stmts.norm_nil : Stmts.nil.norm = .nil := rfl
theorem Stmts.norm_cons (s : Stmt) (r : Stmts) : (Stmts.cons s r).norm = .cons s.norm r.norm := rfl

theorem stmt_mk (p : P) (pos semi : Pos) (neg bg : Bool) (cmd : Cmd) :
    p.stmt (.mk pos semi neg bg cmd) = ((p.stmtPre neg).command cmd).stmtEnd semi bg := rfl

theorem command_binary (p : P) (opPos : Pos) (op : BinOp) (x y : Stmt) :
    p.command (.binary opPos op x y) =
      (((((p.advanceLine x.pos.line).spacePad).stmt x).binaryOp opPos op y.pos.line y.isBinaryCmd).1.stmt y).binaryEnd
        ((((p.advanceLine x.pos.line).spacePad).stmt x).binaryOp opPos op y.pos.line y.isBinaryCmd).2.1
        ((((p.advanceLine x.pos.line).spacePad).stmt x).binaryOp opPos op y.pos.line y.isBinaryCmd).2.2 := rfl

theorem stmtListLoop_nil (p : P) (first : Bool) : p.stmtListLoop first .nil = p := rfl

theorem wordPartsLoop_eq (p : P) (ps : List WordPart) :
    p.wordPartsLoop ps = { p with line := max p.line (partsMax ps) } := by
  induction ps generalizing p with
  | nil => simp [P.wordPartsLoop, partsMax]
  | cons wp r ih =>
    rw [P.wordPartsLoop, ih]
    cases wp with
    | lit a e v => simp [P.wordPart, P.advanceLine, partsMax, WordPart.endMax, Nat.max_assoc]
    | sgl a e v => simp [P.wordPart, P.advanceLine, partsMax, WordPart.endMax, Nat.max_assoc]

/-- a word with parts: after the optional continuation line (`preWord`) one piece is written and
    the line counter moves to the last line of the word -/
theorem word_eq (p : P) (w : Word) (hne : w.parts ≠ []) :
    p.word w = { p.preWord w with out := Piece.word w.parts :: (p.preWord w).out,
                                  line := max (p.preWord w).line (partsMax w.parts), wantSpace := .required } := by
  unfold P.word P.wordParts P.preWord
  cases hw : w.parts with
  | nil => exact absurd hw hne
  | cons wp r => simp only [wordPartsLoop_eq]

theorem preWord_cases (p : P) (w : Word) : p.preWord w = p.bslashNewl ∨ p.preWord w = p := by
  unfold P.preWord
  split
  · exact Or.inr rfl
  · split
    · exact Or.inl rfl
    · exact Or.inr rfl

/-- when `preWord` writes the escaped newline, the first part's line is ahead -/
theorem preWord_ahead (p : P) (w : Word) : p.preWord w = p ∨
    (p.preWord w = p.bslashNewl ∧ ∃ wp r, w.parts = wp :: r ∧ wp.pos.line > p.line) := by
  unfold P.preWord
  split
  · exact Or.inl rfl
  · rename_i wp r hw
    split
    · rename_i c
      exact Or.inr ⟨rfl, wp, r, hw, by simpa using (Bool.and_eq_true_iff.mp c).2⟩
    · exact Or.inl rfl

theorem wordJoinLoop_cons (p : P) (any : Bool) (w : Word) (rest : List Word) (pos : Pos)
    (hp : w.pos? = some pos) :
    p.wordJoinLoop any (w :: rest) =
      ((p.joinStep any pos).1.spacePad.word w).wordJoinLoop (p.joinStep any pos).2 rest := by
  rw [P.wordJoinLoop]
  simp only [hp, P.joinStep]

theorem wordJoin_nil (p : P) : p.wordJoin [] = p := by
  simp [P.wordJoin, P.wordJoinLoop]

theorem command_call (p : P) (w : Word) (rest : List Word) (pos : Pos) (hp : w.pos? = some pos) :
    p.command (.call (w :: rest)) =
      (((p.advanceLine pos.line).spacePad.incLevel.decLevel).wordJoin [w]).wordJoin rest := by
  rw [P.command]
  simp only [hp]
  cases rest with
  | nil => simp [wordJoin_nil]
  | cons a r => simp

theorem stmtListLoop_cons (p : P) (first : Bool) (s : Stmt) (rest : Stmts) :
    p.stmtListLoop first (.cons s rest) =
      P.stmtListLoop { ((p.stmtSep first s.pos.line).stmt s) with wantNewline := true } false rest := by
  rw [P.stmtListLoop]

/-- the multi-line layout of a binary operator -/
def P.opMulti (p : P) (opPos : Pos) (s : Bytes) (yLine : Nat) : P :=
  (if p.o.binNextLine then p.bslashNewl.spacedToken s
   else (((p.spacedToken s).advanceLine opPos.line).newline 0).indent).advanceLine yLine

theorem binaryOp_eq (p : P) (opPos : Pos) (op : BinOp) (yLine : Nat) (yb : Bool) :
    p.binaryOp opPos op yLine yb =
      if p.o.minify || p.o.singleLine || yLine ≤ p.line then
        (((p.spacedToken op.str).advanceLine yLine), false, false)
      else
        ({ ((if !p.nestedBinary then p.incLevel else p).opMulti opPos op.str yLine) with nestedBinary := yb },
          !p.nestedBinary, true) := by
  unfold P.binaryOp P.opMulti
  rfl

/-- the terminator of a statement: `;` or `&` after a continuation line (`sep`), else `&` after a
    blank or directly; with no terminator only the flag is cleared -/
def P.term (q : P) (sep bg : Bool) : P :=
  if sep || bg then
    { ((if sep then q.bslashNewl else if !q.o.minify then q.space else q).tok (if bg then [38] else [59])) with
      wroteSemi := true, wantSpace := .required }
  else { q with wroteSemi := false }

theorem term_sep (q : P) (bg : Bool) : q.term true bg =
    { (q.bslashNewl.tok (if bg then [38] else [59])) with wroteSemi := true, wantSpace := .required } := rfl
theorem term_bg (q : P) : q.term false true =
    { ((if !q.o.minify then q.space else q).tok [38]) with wroteSemi := true, wantSpace := .required } := rfl
theorem term_none (q : P) : q.term false false = { q with wroteSemi := false } := rfl

/-- the decisions of `subshellOpen`: is a blank due after `(`, is a newline forced -/
def openBlank (o : Opts) (lp : Pos) : Stmts → Bool
  | .nil => true
  | .cons s rest => s.startsWithLparen && !((lp.line != s.pos.line || decide (rest.length > 0)) && !o.singleLine)
def openMust (o : Opts) (lp : Pos) : Stmts → Bool
  | .nil => false
  | .cons s rest => s.startsWithLparen && ((lp.line != s.pos.line || decide (rest.length > 0)) && !o.singleLine) && o.minify

theorem subshellOpen_eq (p : P) (lp : Pos) (ss : Stmts) :
    p.subshellOpen lp ss =
      ({ (p.tok [40]) with wantSpace := if openBlank p.o lp ss then .required else .notRequired,
                           mustNewline := openMust p.o lp ss || p.mustNewline } : P).spacePad := by
  unfold P.subshellOpen
  cases ss with
  | nil => rfl
  | cons s rest =>
    have ho : (p.tok [40]).o = p.o := rfl
    simp only [openBlank, openMust, ho]
    by_cases h1 : s.startsWithLparen = true
    · by_cases h2 : ((lp.line != s.pos.line || decide (rest.length > 0)) && !p.o.singleLine) = true
      · by_cases h3 : p.o.minify = true
        · simp only [h1, h2, h3, ↓reduceIte, Bool.not_true, Bool.and_false, Bool.false_eq_true, Bool.and_self, Bool.true_or]
        · simp only [h1, h2, h3, ↓reduceIte, Bool.not_true, Bool.and_false, Bool.false_eq_true, Bool.true_and, Bool.false_or]
          rfl
      · rw [Bool.not_eq_true] at h2
        simp only [h1, h2, ↓reduceIte, Bool.not_false, Bool.and_self, Bool.false_eq_true]
        rfl
    · simp only [h1, ↓reduceIte, Bool.false_and, Bool.false_eq_true, Bool.false_or]
      rfl

theorem binaryEnd_ff (q : P) : q.binaryEnd false false = q := by
  unfold P.binaryEnd
  simp

theorem wantsNewline_eq (p : P) (l : Nat) (hsl : p.o.singleLine = false) :
    p.wantsNewline l false = (p.mustNewline || (p.wantNewline || decide (l > p.line))) := by
  unfold P.wantsNewline
  cases p.mustNewline <;> simp [hsl]

/-- the state after the first newline of `newlines` -/
def P.nl (p : P) : P := { p.gapw [10] with wantSpace := .written, wantNewline := false, mustNewline := false }

theorem newlines_eq (p : P) (l : Nat) :
    p.newlines l =
      if p.firstLine then { p with firstLine := false }
      else if !p.wantsNewline l false then p
      else ((if l > p.line + 1 && !p.o.minify then p.nl.gapw [10] else p.nl).advanceLine l).indent := by
  unfold P.newlines
  rfl

/-- the separator before the first statement of a list: the condition under which `newlines` runs -/
def P.sepCond (p : P) : Bool := p.mustNewline || !p.o.minify || decide (p.wantSpace = .required)

/-- the `;` SingleLine writes between two statements when none was written -/
def P.sepSemi (p : P) (first : Bool) : P :=
  if !first && p.o.singleLine && p.wantNewline && !p.wroteSemi then { (p.tok [59]) with wantSpace := .required } else p

theorem stmtSep_eq (p : P) (first : Bool) (l : Nat) :
    p.stmtSep first l =
      (if (p.sepSemi first).sepCond then (p.sepSemi first).newlines l else p.sepSemi first).advanceLine l := by
  unfold P.stmtSep P.sepCond P.sepSemi
  simp only [Bool.or_eq_true, decide_eq_true_eq]

theorem sepSemi_first (p : P) : p.sepSemi true = p := rfl
theorem sepSemi_multi (p : P) (first : Bool) (h : p.o.singleLine = false) : p.sepSemi first = p := by
  unfold P.sepSemi; simp [h]

theorem stmtSep_first_eq (p : P) (l : Nat) :
    p.stmtSep true l = (if p.sepCond then p.newlines l else p).advanceLine l := by
  rw [stmtSep_eq, sepSemi_first]

theorem rightParen_eq (p : P) (l : Nat) : p.rightParen l = { ((p.rparenPre l).tok [41]) with wantSpace := .required } := by
  unfold P.rightParen P.rparenPre
  cases p.o.minify <;> rfl
theorem nestedStmtsWith_eq2 (p : P) (ss : Stmts) (c : Pos) (loop : P → P) :
    p.nestedStmtsWith ss c loop = ((p.nestPre ss c).stmtListWith ss loop).decLevel := rfl

theorem stmtListWith_eq2 (p : P) (ss : Stmts) (loop : P → P) :
    p.stmtListWith ss loop = (if ss.single && !p.listSep ss then { loop p with wantNewline := false } else loop p) := by
  unfold P.stmtListWith P.listSep
  cases ss with
  | nil => simp [Stmts.single]
  | cons s r => cases r <;> simp [Stmts.single]

theorem command_block2 (p : P) (lb rb : Pos) (ss : Stmts) :
    p.command (.block lb rb ss) = (p.blkBody lb rb ss).semiRsrv [125] rb.line := by
  rw [P.command]; rfl

theorem semiRsrv_eq2 (p : P) (s : Bytes) (l : Nat) :
    p.semiRsrv s l = { ((p.semiPre l).tok s) with wantSpace := .required } := rfl

theorem command_subshell2 (p : P) (lp rp : Pos) (ss : Stmts) :
    p.command (.subshell lp rp ss) = (p.subClose lp rp ss).rightParen rp.line := by
  rw [P.command]; rfl

theorem closingParenSpace_eq2 (x : P) (tt : Stmts) (a b : Nat) : x.closingParenSpace tt a b =
    (if tt.singleRparen && (x.o.singleLine || a == b) then { x with wantSpace := .required }
     else { x with wantSpace := .notRequired }).spacePad := by
  unfold P.closingParenSpace
  cases tt with
  | nil => rfl
  | cons s r =>
    cases r with
    | nil => rfl
    | cons _ _ => rfl

theorem indent_advanceLine (p : P) (l : Nat) : (p.indent).advanceLine l = (p.advanceLine l).indent := by
  unfold P.indent P.advanceLine
  simp only []
  split
  · rfl
  · split
    · rfl
    · split <;> rfl


/-! ## Steps that write nothing -/

/-- fields a step leaves alone (everything the token bookkeeping reads, except `wantNewline`) -/
structure Flds (p q : P) : Prop where
  out : q.out = p.out
  ws : q.wantSpace = p.wantSpace
  o : q.o = p.o
  wsemi : q.wroteSemi = p.wroteSemi
  first : q.firstLine = p.firstLine
  must : q.mustNewline = p.mustNewline
  line : q.line = p.line

theorem Flds.rfl' (p : P) : Flds p p := ⟨rfl, rfl, rfl, rfl, rfl, rfl, rfl⟩
theorem Flds.trans {a b c : P} (h1 : Flds a b) (h2 : Flds b c) : Flds a c :=
  ⟨h2.out.trans h1.out, h2.ws.trans h1.ws, h2.o.trans h1.o, h2.wsemi.trans h1.wsemi, h2.first.trans h1.first,
    h2.must.trans h1.must, h2.line.trans h1.line⟩
theorem Flds.cur {p q : P} (h : Flds p q) : q.cur = p.cur := by
  unfold P.cur; rw [h.out]

theorem Flds.incLevel (p : P) : Flds p p.incLevel := by
  unfold P.incLevel
  (repeat' split) <;> exact ⟨rfl, rfl, rfl, rfl, rfl, rfl, rfl⟩

theorem Flds.decLevel (p : P) (h : p.levelIncs ≠ []) : Flds p p.decLevel := by
  unfold P.decLevel
  split
  · rename_i e; exact absurd e h
  · exact ⟨rfl, rfl, rfl, rfl, rfl, rfl, rfl⟩

/-- `decLevel` apart from the panic flag -/
theorem Flds.decLevel' (p : P) : Flds p p.decLevel := by
  unfold P.decLevel
  split <;> exact ⟨rfl, rfl, rfl, rfl, rfl, rfl, rfl⟩

theorem Flds.binaryEnd (p : P) (i m : Bool) : Flds p (p.binaryEnd i m) := by
  unfold P.binaryEnd
  cases m
  · exact .rfl' p
  · cases i
    · exact ⟨rfl, rfl, rfl, rfl, rfl, rfl, rfl⟩
    · exact (Flds.decLevel' p).trans ⟨rfl, rfl, rfl, rfl, rfl, rfl, rfl⟩

theorem nestPre_flds (p : P) (ss : Stmts) (closing : Pos) :
    Flds p (p.nestPre ss closing) ∧ (ss.length > 1 → (p.nestPre ss closing).wantNewline = true) ∧
      (p.wantNewline = true → (p.nestPre ss closing).wantNewline = true) := by
  have hi := Flds.incLevel p
  have hwn : p.incLevel.wantNewline = p.wantNewline := by
    unfold P.incLevel
    (repeat' split) <;> rfl
  unfold P.nestPre
  dsimp only
  split
  · exact ⟨hi.trans ⟨rfl, rfl, rfl, rfl, rfl, rfl, rfl⟩, fun _ => rfl, fun _ => rfl⟩
  · rename_i h1
    split
    · exact ⟨hi.trans ⟨rfl, rfl, rfl, rfl, rfl, rfl, rfl⟩, fun _ => rfl, fun _ => rfl⟩
    · exact ⟨hi, fun h => absurd h h1, fun h => by rw [hwn]; exact h⟩

theorem stmtListWith_flds (q : P) (ss : Stmts) (loop : P → P) : Flds (loop q) (q.stmtListWith ss loop) := by
  rw [stmtListWith_eq2]
  split <;> exact ⟨rfl, rfl, rfl, rfl, rfl, rfl, rfl⟩

/-- `nestedStmts` is its statement loop as far as the written pieces and the flags we track go -/
theorem nested_flds (p : P) (ss : Stmts) (closing : Pos) (loop : P → P) :
    Flds (loop (p.nestPre ss closing)) (p.nestedStmtsWith ss closing loop) := by
  rw [nestedStmtsWith_eq2]
  exact (stmtListWith_flds _ ss loop).trans (Flds.decLevel' _)

theorem incLevel_line (p : P) : p.incLevel.line = p.line := (Flds.incLevel p).line
theorem incLevel_o (p : P) : p.incLevel.o = p.o := (Flds.incLevel p).o
theorem incLevel_o' (p : P) : p.incLevel.o = p.o := incLevel_o p
theorem decLevel_o (p : P) : p.decLevel.o = p.o := (Flds.decLevel' p).o
theorem decLevel_line (p : P) : p.decLevel.line = p.line := (Flds.decLevel' p).line
theorem binaryEnd_o (p : P) (i m : Bool) : (p.binaryEnd i m).o = p.o := (Flds.binaryEnd p i m).o
theorem line_binaryEnd (p : P) (i m : Bool) : (p.binaryEnd i m).line = p.line := (Flds.binaryEnd p i m).line
theorem nestPre_o (p : P) (ss : Stmts) (c : Pos) : (p.nestPre ss c).o = p.o := (nestPre_flds p ss c).1.o
theorem nestPre_line (p : P) (ss : Stmts) (c : Pos) : (p.nestPre ss c).line = p.line := (nestPre_flds p ss c).1.line
theorem stmtListWith_o (p : P) (ss : Stmts) (loop : P → P) : (p.stmtListWith ss loop).o = (loop p).o :=
  (stmtListWith_flds p ss loop).o

theorem stmtEnd_eq (p : P) (semi : Pos) (bg : Bool) :
    p.stmtEnd semi bg =
      (p.incLevel.term (semi.valid && decide (semi.line > p.line) && !p.o.singleLine) bg).decLevel := by
  unfold P.stmtEnd P.term
  simp only [incLevel_line, incLevel_o]
  cases bg <;> rfl


/-! ## No step changes the options -/

theorem spacePad_o (p : P) : p.spacePad.o = p.o := by
  unfold P.spacePad; split <;> rfl

theorem indent_o (p : P) : p.indent.o = p.o := by
  unfold P.indent
  split
  · rfl
  · simp only
    split
    · rfl
    · split <;> rfl
theorem bslashNewl_o (p : P) : p.bslashNewl.o = p.o := by
  unfold P.bslashNewl
  simp only
  rw [indent_o]
  show (P.gapw _ [92, 10]).o = _
  split <;> rfl
theorem spacedString_o (p : P) (s : Bytes) : (p.spacedString s).o = p.o := spacePad_o p
theorem spacedToken_o (p : P) (s : Bytes) : (p.spacedToken s).o = p.o := by
  unfold P.spacedToken
  split
  · rfl
  · exact spacePad_o p
theorem word_o (p : P) (w : Word) : (p.word w).o = p.o := by
  by_cases hne : w.parts = []
  · unfold P.word P.wordParts; rw [hne]; rfl
  · rw [word_eq p w hne]
    show (p.preWord w).o = p.o
    rcases preWord_cases p w with e | e <;> rw [e]
    exact bslashNewl_o p
theorem joinStep_o (p : P) (any : Bool) (pos : Pos) : (p.joinStep any pos).1.o = p.o := by
  unfold P.joinStep
  split
  · show (P.bslashNewl _).o = _
    rw [bslashNewl_o]
    split
    · exact incLevel_o p
    · rfl
  · rfl
theorem wordJoinLoop_o : ∀ (ws : List Word) (p : P) (any : Bool), (p.wordJoinLoop any ws).1.o = p.o
  | [] => fun p any => by simp [P.wordJoinLoop]
  | w :: rest => fun p any => by
    cases hp : w.pos? with
    | none => rw [P.wordJoinLoop]; simp only [hp]; rfl
    | some pos =>
      rw [wordJoinLoop_cons p any w rest pos hp, wordJoinLoop_o rest, word_o, spacePad_o, joinStep_o]
theorem wordJoin_o (ws : List Word) (p : P) : (p.wordJoin ws).o = p.o := by
  unfold P.wordJoin
  simp only
  split
  · rw [decLevel_o]; exact wordJoinLoop_o ws p false
  · exact wordJoinLoop_o ws p false
theorem newlines_o (p : P) (l : Nat) : (p.newlines l).o = p.o := by
  rw [newlines_eq]
  split
  · rfl
  · split
    · rfl
    · rw [indent_o]
      show (if _ then _ else _ : P).o = _
      split <;> rfl
theorem sepSemi_o (p : P) (first : Bool) : (p.sepSemi first).o = p.o := by
  unfold P.sepSemi; split <;> rfl
theorem stmtSep_o (p : P) (first : Bool) (l : Nat) : (p.stmtSep first l).o = p.o := by
  rw [stmtSep_eq]
  show (if _ then _ else _ : P).o = _
  split
  · rw [newlines_o, sepSemi_o]
  · exact sepSemi_o p first
theorem stmtPre_o (p : P) (neg : Bool) : (p.stmtPre neg).o = p.o := by
  unfold P.stmtPre
  cases neg
  · rfl
  · exact spacedString_o _ _
theorem term_o (q : P) (sep bg : Bool) : (q.term sep bg).o = q.o := by
  cases sep with
  | true => exact bslashNewl_o q
  | false =>
    cases bg with
    | false => rfl
    | true =>
      show (if _ then q.space else q : P).o = q.o
      split <;> rfl
theorem stmtEnd_o (p : P) (semi : Pos) (bg : Bool) : (p.stmtEnd semi bg).o = p.o := by
  rw [stmtEnd_eq, decLevel_o, term_o, incLevel_o]
theorem opMulti_o (p : P) (opPos : Pos) (s : Bytes) (y : Nat) : (p.opMulti opPos s y).o = p.o := by
  unfold P.opMulti
  show (if _ then _ else _ : P).o = _
  split
  · rw [spacedToken_o, bslashNewl_o]
  · rw [indent_o]
    exact spacedToken_o p s
theorem binaryOp_o (p : P) (opPos : Pos) (op : BinOp) (y : Nat) (yb : Bool) : (p.binaryOp opPos op y yb).1.o = p.o := by
  rw [binaryOp_eq]
  split
  · exact spacedToken_o p _
  · show (P.opMulti _ opPos op.str y).o = _
    rw [opMulti_o]
    split
    · exact incLevel_o p
    · rfl
theorem subshellOpen_o (p : P) (lp : Pos) (ss : Stmts) : (p.subshellOpen lp ss).o = p.o := by
  rw [subshellOpen_eq, spacePad_o]
  rfl
theorem closingParenSpace_o (p : P) (ss : Stmts) (a b : Nat) : (p.closingParenSpace ss a b).o = p.o := by
  rw [closingParenSpace_eq2, spacePad_o]
  split <;> rfl
theorem rparenPre_o (p : P) (l : Nat) : (p.rparenPre l).o = p.o := by
  unfold P.rparenPre
  split
  · rfl
  · exact newlines_o p l
theorem rightParen_o (p : P) (l : Nat) : (p.rightParen l).o = p.o := by
  unfold P.rightParen
  simp only
  show (if _ then _ else _ : P).o = _
  split
  · exact newlines_o p l
  · rfl
theorem blkOpen_o (p : P) (lb : Pos) : (p.blkOpen lb).o = p.o := by
  unfold P.blkOpen
  simp only
  show ((p.advanceLine lb.line).spacePad).o = _
  rw [spacePad_o]; rfl
theorem semiPre_o (p : P) (l : Nat) : (p.semiPre l).o = p.o := by
  unfold P.semiPre
  split
  · exact newlines_o p l
  · simp only
    have e : ∀ x : P, (if (!x.o.minify) = true then x.spacePad else x).o = x.o := by
      intro x
      split
      · exact spacePad_o x
      · rfl
    rw [e]
    split <;> rfl

mutual
theorem stmt_oN : ∀ (s : Stmt) (p : P), (p.stmt s).o = p.o
  | .mk _ semi neg bg cmd => fun p => by
    rw [P.stmt, stmtEnd_o, command_oN cmd, stmtPre_o]
theorem command_oN : ∀ (c : Cmd) (p : P), (p.command c).o = p.o
  | .call args => fun p => by
    cases args with
    | nil => simp [P.command, P.panic]
    | cons w rest =>
      cases hp : w.pos? with
      | none => simp [P.command, hp, P.panic]
      | some pos =>
        rw [command_call p w rest pos hp, wordJoin_o, wordJoin_o, decLevel_o, incLevel_o, spacePad_o]; rfl
  | .binary opPos op x y => fun p => by
    rw [P.command, binaryEnd_o, stmt_oN y, binaryOp_o, stmt_oN x, spacePad_o]; rfl
  | .subshell lp rp ss => fun p => by
    rw [command_subshell2, rightParen_o]
    unfold P.subClose
    rw [closingParenSpace_o, nestedStmtsWith_eq2, decLevel_o, stmtListWith_o, loop_oN ss, nestPre_o, subshellOpen_o,
      spacePad_o]; rfl
  | .block lb rb ss => fun p => by
    rw [command_block2, semiRsrv_eq2]
    show ((p.blkBody lb rb ss).semiPre rb.line).o = _
    rw [semiPre_o]
    unfold P.blkBody
    have e : ((p.blkOpen lb).nestedStmtsWith ss rb (fun q => q.stmtListLoop true ss)).o = p.o := by
      rw [nestedStmtsWith_eq2, decLevel_o, stmtListWith_o, loop_oN ss, nestPre_o, blkOpen_o]
    split
    · exact e
    · exact e
theorem loop_oN : ∀ (ss : Stmts) (p : P) (first : Bool), (p.stmtListLoop first ss).o = p.o
  | .nil => fun p first => by rw [P.stmtListLoop]
  | .cons s rest => fun p first => by
    rw [P.stmtListLoop, loop_oN rest]
    show ((p.stmtSep first s.pos.line).stmt s).o = _
    rw [stmt_oN s, stmtSep_o]
end


/-! ## The line counter and other fields most steps leave alone -/

theorem spacePad_line (p : P) : p.spacePad.line = p.line := by
  unfold P.spacePad; split <;> rfl
theorem line_indent (p : P) : p.indent.line = p.line := by
  unfold P.indent
  split
  · rfl
  · dsimp only
    split
    · rfl
    · split <;> rfl

theorem line_bslashNewl (p : P) : p.bslashNewl.line = p.line + 1 := by
  unfold P.bslashNewl
  dsimp only
  rw [line_indent]
  split <;> rfl

theorem line_spacedString (p : P) (s : Bytes) : (p.spacedString s).line = p.line := by
  unfold P.spacedString
  exact spacePad_line p

theorem line_spacedToken (p : P) (s : Bytes) : (p.spacedToken s).line = p.line := by
  unfold P.spacedToken
  split
  · rfl
  · exact spacePad_line p

theorem line_subshellOpen (p : P) (lp : Pos) (ss : Stmts) : (p.subshellOpen lp ss).line = p.line := by
  rw [subshellOpen_eq, spacePad_line]
  rfl

theorem line_closingParenSpace (p : P) (ss : Stmts) (a b : Nat) : (p.closingParenSpace ss a b).line = p.line := by
  unfold P.closingParenSpace
  dsimp only
  rw [spacePad_line]
  (repeat' split) <;> rfl

theorem line_stmtPre (p : P) (neg : Bool) : (p.stmtPre neg).line = p.line := by
  unfold P.stmtPre
  dsimp only
  split
  · rw [line_spacedString]
  · rfl

theorem stmtPre_wsemi (p : P) (neg : Bool) : (p.stmtPre neg).wroteSemi = false := by
  unfold P.stmtPre
  dsimp only
  split
  · unfold P.spacedString P.spacePad
    split <;> rfl
  · rfl

theorem P.stmtListWith_out (p : P) (ss : Stmts) (loop : P → P) :
    (p.stmtListWith ss loop).out = (loop p).out ∧ (p.stmtListWith ss loop).panicked = (loop p).panicked := by
  unfold P.stmtListWith
  dsimp only
  (repeat' split) <;> exact ⟨rfl, rfl⟩


end ShVerif.L4
