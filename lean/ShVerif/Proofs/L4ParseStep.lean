/-
  L4 parser, one call at a time.  For each function of the model parser: its defining equation
  with the result wrappers named (`…_eq`); what a successful call consists of (`…_inv`: the tokens
  it read and the calls it made); and the converse (`callArgs_word`, `firstCmdF_call`, `pipeF_more`,
  `stmtsF_stop` …): what it answers once the tokens and the inner calls are known.  Inductions over
  every accepted input use the `…_inv` lemmas, the theorems about the tokens of a given tree
  (L4Parse) the converse; only the fuel bound (L4Fuel), which speaks of every outcome, walks
  through the parser's body again.
-/
import ShVerif.Proofs.L4
namespace ShVerif.L4

theorem PS.pos_cons (t : Tok) (p : Pos) (ts : List TokPos) : (PS.mk ((t, p) :: ts)).pos = p := rfl
theorem PS.tok_cons (t : Tok) (p : Pos) (ts : List TokPos) : (PS.mk ((t, p) :: ts)).tok = t := rfl
theorem PS.next_cons (t : Tok) (p : Pos) (ts : List TokPos) : (PS.mk ((t, p) :: ts)).next = ⟨ts⟩ := rfl

theorem PS.tok_toks {ps : PS} {t : Tok} (h : ps.tok = t) (hne : t ≠ .eof) :
    ∃ p rest, ps.toks = (t, p) :: rest ∧ ps.pos = p ∧ ps.next = ⟨rest⟩ := by
  obtain ⟨toks⟩ := ps
  cases toks with
  | nil => simp only [PS.tok] at h; exact absurd h.symm hne
  | cons tp rest =>
    obtain ⟨t', p⟩ := tp
    simp only [PS.tok] at h
    subst h
    exact ⟨p, rest, rfl, rfl, rfl⟩

theorem PS.isLit_toks {ps : PS} {v : Bytes} (h : ps.tok.isLit v = true) :
    ∃ w p rest, ps.toks = (Tok.word w (some v), p) :: rest ∧ ps.pos = p ∧ ps.next = ⟨rest⟩ := by
  obtain ⟨toks⟩ := ps
  cases toks with
  | nil => simp [PS.tok, Tok.isLit] at h
  | cons tp rest =>
    obtain ⟨t, p⟩ := tp
    cases t with
    | word w lit =>
      cases lit with
      | none => simp [PS.tok, Tok.isLit] at h
      | some v' =>
        simp only [PS.tok, Tok.isLit, beq_iff_eq] at h
        subst h
        exact ⟨w, p, rest, rfl, rfl, rfl⟩
    | _ => simp [PS.tok, Tok.isLit] at h

/-- a word token that is not one of the reserved words `{`, `}`, `!` -/
def plainLit (lit : Option Bytes) : Prop := ∀ v, lit = some v → ¬(v = [123] ∨ v = [125] ∨ v = [33])

theorem callArgs_inv {n : Nat} {inSub : Bool} {ps : PS} {acc args : List Word} {ps' : PS}
    (h : callArgs (n + 1) inSub ps acc = .ok (args, ps')) :
    (args = acc.reverse ∧ ps' = ps) ∨
    ∃ w lit p rest, ps.toks = (.word w lit, p) :: rest ∧ plainLit lit ∧
      callArgs n inSub ⟨rest⟩ (w :: acc) = .ok (args, ps') := by
  have stop : (.ok (acc.reverse, ps) : Except ParseErr (List Word × PS)) = .ok (args, ps') →
      (args = acc.reverse ∧ ps' = ps) ∨ ∃ w lit p rest, ps.toks = (.word w lit, p) :: rest ∧ plainLit lit ∧
        callArgs n inSub ⟨rest⟩ (w :: acc) = .ok (args, ps') := fun e => by cases e; exact .inl ⟨rfl, rfl⟩
  rw [callArgs] at h
  generalize ht : ps.tok = t at h
  cases t with
  | eof | newl | semi | amp | andAnd | orOr | pipe => exact stop h
  | lparen | outside | unclosedQuote => cases h
  | rparen => exact of_ite_eq (fun _ => stop) (fun _ h => by cases h) h
  | word w lit =>
    obtain ⟨p, rest, e1, _, e3⟩ := PS.tok_toks ht (by simp)
    rw [e3] at h
    cases lit with
    | none => exact .inr ⟨w, _, p, rest, e1, (fun v hv => by cases hv), h⟩
    | some v =>
      refine of_ite_eq (fun _ h => by cases h) (fun hv h => .inr ⟨w, _, p, rest, e1, ?_, h⟩) h
      intro v' hv' hc
      cases hv'
      apply hv
      rcases hc with rfl | rfl | rfl <;> rfl

theorem callArgs_word {n : Nat} {inSub : Bool} {w : Word} {lit : Option Bytes} {p : Pos} {rest : List TokPos}
    {acc : List Word} (hp : plainLit lit) :
    callArgs (n + 1) inSub ⟨(.word w lit, p) :: rest⟩ acc = callArgs n inSub ⟨rest⟩ (w :: acc) := by
  rw [callArgs]
  cases lit with
  | none => rfl
  | some v =>
    have : ¬(v == [123] || v == [125] || v == [33]) = true := by
      intro h
      simp only [Bool.or_eq_true, beq_iff_eq] at h
      exact hp v rfl (by rcases h with (h | h) | h <;> simp [h])
    exact if_neg this

theorem callArgs_done {n : Nat} {inSub : Bool} {ps : PS} {acc : List Word} (h : ps.tok.isStop = true)
    (hr : ps.tok = .rparen → inSub = true) : callArgs (n + 1) inSub ps acc = .ok (acc.reverse, ps) := by
  rw [callArgs]
  generalize ps.tok = t at h hr
  cases t with
  | rparen => exact if_pos (hr rfl)
  | eof | newl | semi | amp | andAnd | orOr | pipe => rfl
  | lparen | word | outside | unclosedQuote => cases h

inductive FirstCmd (n : Nat) (inSub : Bool) (pos : Pos) (neg : Bool) : PS → Stmt → PS → Prop
  | call {w : Word} {lit : Option Bytes} {p : Pos} {rest : List TokPos} {args : List Word} {ps' : PS} :
      plainLit lit → (∀ v, lit = some v → isOutsideKeyword v = false) →
      callArgs (n + 1) inSub ⟨rest⟩ [w] = .ok (args, ps') →
      FirstCmd n inSub pos neg ⟨(.word w lit, p) :: rest⟩ (mkStmt pos neg (.call args)) ps'
  | subshell {lp : Pos} {rest : List TokPos} {ss : List Stmt} {rp : Pos} {rest' : List TokPos} :
      stmtsF n true false true ⟨rest⟩ [] = .ok (ss, ⟨(.rparen, rp) :: rest'⟩) → ss ≠ [] →
      FirstCmd n inSub pos neg ⟨(.lparen, lp) :: rest⟩ (mkStmt pos neg (.subshell lp rp (Stmts.ofList ss))) ⟨rest'⟩
  | block {w : Word} {lb : Pos} {rest : List TokPos} {ss : List Stmt} {w' : Word} {rb : Pos} {rest' : List TokPos} :
      stmtsF n inSub true true ⟨rest⟩ [] = .ok (ss, ⟨(.word w' (some [125]), rb) :: rest'⟩) → ss ≠ [] →
      FirstCmd n inSub pos neg ⟨(.word w (some [123]), lb) :: rest⟩ (mkStmt pos neg (.block lb rb (Stmts.ofList ss))) ⟨rest'⟩

theorem firstCmdF_inv {n : Nat} {inSub : Bool} {pos : Pos} {neg : Bool} {ps : PS} {s : Stmt} {ps' : PS}
    (h : firstCmdF (n + 1) inSub pos neg ps = .ok (some s, ps')) : FirstCmd n inSub pos neg ps s ps' := by
  rw [firstCmdF] at h
  split at h
  · rename_i w lit ht
    obtain ⟨p, rest, e1, e2, e3⟩ := PS.tok_toks ht (by simp)
    obtain ⟨toks⟩ := ps
    cases e1
    have call : ∀ (hp : plainLit lit) (hk : ∀ v, lit = some v → isOutsideKeyword v = false),
        (match callArgs (n + 1) inSub ⟨rest⟩ [w] with
          | .error e => (.error e : Except ParseErr (Option Stmt × PS))
          | .ok (args, ps) => .ok (some (mkStmt pos neg (.call args)), ps)) = .ok (some s, ps') →
        FirstCmd n inSub pos neg ⟨(.word w lit, p) :: rest⟩ s ps' := by
      intro hp hk e
      split at e
      · cases e
      · cases e; exact .call hp hk ‹_›
    cases lit with
    | none => exact call (fun v hv => by cases hv) (fun v hv => by cases hv) h
    | some v =>
      dsimp only at h
      refine of_ite_eq (fun h123 h => ?_) (fun h123 h => ?_) h
      · cases eq_of_beq h123
        refine of_ite_eq (fun _ h => by cases h) (fun _ h => ?_) h
        split at h
        · cases h
        · rename_i ss q hst
          refine of_ite_eq (fun _ h => by cases h) (fun hne h => ?_) h
          refine of_ite_eq (fun hcl h => ?_) (fun _ h => by split at h <;> cases h) h
          obtain ⟨w', rb, rest', e1, e2, e3⟩ := PS.isLit_toks hcl
          obtain ⟨qt⟩ := q
          cases e1
          cases h
          exact .block hst (by intro e; subst e; exact hne rfl)
      · refine of_ite_eq (fun _ h => by cases h) (fun h125 h => ?_) h
        refine of_ite_eq (fun _ h => by split at h <;> cases h) (fun h33 h => ?_) h
        refine of_ite_eq (fun _ h => by cases h) (fun hkw h => ?_) h
        refine call ?_ ?_ h
        · intro v' hv' hc
          cases hv'
          rcases hc with rfl | rfl | rfl
          · exact h123 rfl
          · exact h125 rfl
          · exact h33 rfl
        · intro v' hv'
          cases hv'
          simpa using hkw
  · rename_i ht
    obtain ⟨lp, rest, e1, e2, e3⟩ := PS.tok_toks ht (by simp)
    obtain ⟨toks⟩ := ps
    cases e1
    dsimp only at h
    refine of_ite_eq (fun _ h => by cases h) (fun _ h => ?_) h
    split at h
    · cases h
    · rename_i ss q hst
      refine of_ite_eq (fun _ h => by cases h) (fun hne h => ?_) h
      split at h
      · rename_i hcl
        obtain ⟨rp, rest', e1, e2, e3⟩ := PS.tok_toks hcl (by simp)
        obtain ⟨qt⟩ := q
        cases e1
        cases h
        exact .subshell hst (by intro e; subst e; exact hne rfl)
      · cases h
      · cases h
  · cases h
  · cases h
  · cases h

theorem firstCmdF_call {n : Nat} {inSub : Bool} {pos : Pos} {neg : Bool} {w : Word} {lit : Option Bytes} {p : Pos}
    {rest : List TokPos} {args : List Word} {ps' : PS} (hp : plainLit lit)
    (hk : ∀ v, lit = some v → isOutsideKeyword v = false) (hca : callArgs (n + 1) inSub ⟨rest⟩ [w] = .ok (args, ps')) :
    firstCmdF (n + 1) inSub pos neg ⟨(.word w lit, p) :: rest⟩ = .ok (some (mkStmt pos neg (.call args)), ps') := by
  rw [firstCmdF]
  cases lit with
  | none => dsimp only [PS.tok_cons, PS.next_cons]; rw [hca]
  | some v =>
    have h := hp v rfl
    dsimp only [PS.tok_cons, PS.next_cons]
    rw [if_neg (by simpa using fun e => h (.inl e)), if_neg (by simpa using fun e => h (.inr (.inl e))),
      if_neg (by simpa using fun e => h (.inr (.inr e))), if_neg (by rw [hk v rfl]; exact Bool.false_ne_true), hca]

theorem firstCmdF_subshell {n : Nat} {inSub : Bool} {pos : Pos} {neg : Bool} {lp : Pos} {rest : List TokPos}
    {ss : List Stmt} {rp : Pos} {rest' : List TokPos} (hsemi : ((PS.mk rest).tok == .semi) = false)
    (hst : stmtsF n true false true ⟨rest⟩ [] = .ok (ss, ⟨(.rparen, rp) :: rest'⟩)) (hne : ss ≠ []) :
    firstCmdF (n + 1) inSub pos neg ⟨(.lparen, lp) :: rest⟩ =
      .ok (some (mkStmt pos neg (.subshell lp rp (Stmts.ofList ss))), ⟨rest'⟩) := by
  rw [firstCmdF]
  dsimp only [PS.tok_cons, PS.next_cons, PS.pos_cons]
  rw [if_neg (by rw [hsemi]; exact Bool.false_ne_true), hst]
  dsimp only
  rw [if_neg (mt List.isEmpty_iff.mp hne)]
  rfl

theorem firstCmdF_block {n : Nat} {inSub : Bool} {pos : Pos} {neg : Bool} {w : Word} {lb : Pos} {rest : List TokPos}
    {ss : List Stmt} {w' : Word} {rb : Pos} {rest' : List TokPos} (hsemi : ((PS.mk rest).tok == .semi) = false)
    (hst : stmtsF n inSub true true ⟨rest⟩ [] = .ok (ss, ⟨(.word w' (some [125]), rb) :: rest'⟩)) (hne : ss ≠ []) :
    firstCmdF (n + 1) inSub pos neg ⟨(.word w (some [123]), lb) :: rest⟩ =
      .ok (some (mkStmt pos neg (.block lb rb (Stmts.ofList ss))), ⟨rest'⟩) := by
  rw [firstCmdF]
  dsimp only [PS.tok_cons, PS.next_cons, PS.pos_cons]
  rw [if_pos (by decide), if_neg (by rw [hsemi]; exact Bool.false_ne_true), hst]
  dsimp only
  rw [if_neg (mt List.isEmpty_iff.mp hne), if_pos (by simp [PS.tok, Tok.isLit])]
  rfl

theorem firstCmdF_tok {n : Nat} {inSub : Bool} {pos : Pos} {neg : Bool} {ps : PS} {s : Stmt} {ps' : PS}
    (h : firstCmdF n inSub pos neg ps = .ok (some s, ps')) : ∃ t p rest, ps.toks = (t, p) :: rest ∧ t ≠ .newl := by
  cases n with
  | zero => cases h
  | succ m => cases firstCmdF_inv h <;> exact ⟨_, _, _, rfl, by simp⟩

def pipeWrap (r : Except ParseErr (Stmt × PS)) : Except ParseErr (Option Stmt × PS) :=
  match r with
  | .error e => .error e
  | .ok (s, ps) => .ok (some s, ps)

def endWrap (readEnd : Bool) (r : Except ParseErr (Stmt × PS)) : Except ParseErr (Option Stmt × PS) :=
  match r with
  | .error e => .error e
  | .ok (s, ps) =>
    if readEnd then
      match ps.tok with
      | .semi => .ok (some (s.setEnd ps.pos false), ps.next)
      | .amp => .ok (some (s.setEnd ps.pos true), ps.next)
      | _ => .ok (some s, ps)
    else .ok (some s, ps)

theorem gotStmtPipeF_eq (fuel : Nat) (inSub : Bool) (pos : Pos) (neg binCmd : Bool) (ps : PS) :
    gotStmtPipeF (fuel + 1) inSub pos neg binCmd ps =
      match firstCmdF fuel inSub pos neg ps with
      | .error e => .error e
      | .ok (none, ps) => .ok (none, ps)
      | .ok (some s, ps) => pipeWrap (pipeF fuel inSub binCmd s ps) := by
  rw [gotStmtPipeF]
  rfl

theorem gotStmtPipeF_inv {n : Nat} {inSub : Bool} {pos : Pos} {neg binCmd : Bool} {ps : PS} {s : Stmt} {ps' : PS}
    (h : gotStmtPipeF (n + 1) inSub pos neg binCmd ps = .ok (some s, ps')) :
    ∃ s1 ps1, firstCmdF n inSub pos neg ps = .ok (some s1, ps1) ∧ pipeF n inSub binCmd s1 ps1 = .ok (s, ps') := by
  rw [gotStmtPipeF_eq] at h
  split at h
  · cases h
  · cases h
  · rename_i s1 ps1 hf
    refine ⟨s1, ps1, hf, ?_⟩
    unfold pipeWrap at h
    split at h
    · cases h
    · cases h; assumption

theorem gotStmtPipeF_tok {n : Nat} {inSub : Bool} {pos : Pos} {neg binCmd : Bool} {ps : PS} {s : Stmt} {ps' : PS}
    (h : gotStmtPipeF n inSub pos neg binCmd ps = .ok (some s, ps')) :
    ∃ t p rest, ps.toks = (t, p) :: rest ∧ t ≠ .newl := by
  cases n with
  | zero => cases h
  | succ m =>
    obtain ⟨_, _, hf, _⟩ := gotStmtPipeF_inv h
    exact firstCmdF_tok hf

theorem pipeF_eq (fuel : Nat) (inSub binCmd : Bool) (s : Stmt) (ps : PS) :
    pipeF (fuel + 1) inSub binCmd s ps =
      (if ps.tok == .pipe then
         if binCmd then .ok (s, ps)
         else
           let opPos := ps.pos
           let ps := ps.next
           let ps := ps.gotNewl.2
           match gotStmtPipeF fuel inSub ps.pos false true ps with
           | .error e => .error e
           | .ok (none, ps') =>
             match ps'.tok with
             | .outside => .error .outside
             | _ => .error (.syntax "must be followed by a statement")
           | .ok (some y, ps') =>
             pipeF fuel inSub binCmd (mkStmt s.pos s.negated (.binary opPos .pipe (s.setNeg false) y)) ps'
       else .ok (s, ps)) := by
  rw [pipeF]
  rfl

def BinOp.tok : BinOp → Tok
  | .andStmt => .andAnd
  | .orStmt => .orOr
  | .pipe => .pipe

theorem pipeF_inv {n : Nat} {inSub binCmd : Bool} {s : Stmt} {ps : PS} {s' : Stmt} {ps' : PS}
    (h : pipeF (n + 1) inSub binCmd s ps = .ok (s', ps')) :
    (s' = s ∧ ps' = ps) ∨
    (binCmd = false ∧ ∃ q rest y ps2, ps.toks = (.pipe, q) :: rest ∧
      gotStmtPipeF n inSub (PS.mk rest).gotNewl.2.pos false true (PS.mk rest).gotNewl.2 = .ok (some y, ps2) ∧
      pipeF n inSub binCmd (mkStmt s.pos s.negated (.binary q .pipe (s.setNeg false) y)) ps2 = .ok (s', ps')) := by
  rw [pipeF_eq] at h
  refine of_ite_eq (fun hp h => ?_) (fun _ h => by cases h; exact .inl ⟨rfl, rfl⟩) h
  refine of_ite_eq (fun _ h => by cases h; exact .inl ⟨rfl, rfl⟩) (fun hb h => ?_) h
  obtain ⟨q, rest, e1, e2, e3⟩ := PS.tok_toks (eq_of_beq hp) (by simp)
  rw [e3, e2] at h
  dsimp only at h
  split at h
  · cases h
  · split at h <;> cases h
  · exact .inr ⟨by simpa using hb, q, rest, _, _, e1, ‹_›, h⟩

theorem pipeF_done {n : Nat} {inSub binCmd : Bool} {s : Stmt} {ps : PS} (h : (ps.tok == .pipe) = false ∨ binCmd = true) :
    pipeF (n + 1) inSub binCmd s ps = .ok (s, ps) := by
  rw [pipeF_eq]
  rcases h with h | h
  · rw [if_neg (by rw [h]; exact Bool.false_ne_true)]
  · rw [h]; split <;> rfl

theorem pipeF_more {n : Nat} {inSub : Bool} {s : Stmt} {q : Pos} {rest : List TokPos} {y : Stmt} {ps2 : PS}
    (hy : gotStmtPipeF n inSub (PS.mk rest).gotNewl.2.pos false true (PS.mk rest).gotNewl.2 = .ok (some y, ps2)) :
    pipeF (n + 1) inSub false s ⟨(.pipe, q) :: rest⟩ =
      pipeF n inSub false (mkStmt s.pos s.negated (.binary q .pipe (s.setNeg false) y)) ps2 := by
  rw [pipeF_eq]
  simp only [PS.tok_cons, PS.next_cons, PS.pos_cons, beq_self_eq_true, ↓reduceIte, Bool.false_eq_true]
  rw [hy]

theorem getStmtF_eq (fuel : Nat) (inSub readEnd binCmd : Bool) (ps : PS) :
    getStmtF (fuel + 1) inSub readEnd binCmd ps =
      (let pos := ps.pos
       let neg := ps.tok.isLit [33]
       let ps := if neg then ps.next else ps
       if neg && ps.tok.isStop then .error (.syntax "`!` cannot form a statement alone")
       else if neg && ps.tok.isLit [33] then
         .error (.syntax "cannot negate a command multiple times")
       else
         match gotStmtPipeF fuel inSub pos neg false ps with
         | .error e => .error e
         | .ok (none, ps) => .ok (none, ps)
         | .ok (some s, ps) => endWrap readEnd (andOrF fuel inSub binCmd s ps)) := by
  rw [getStmtF]
  rfl

theorem getStmtF_inv {n : Nat} {inSub readEnd binCmd : Bool} {ps : PS} {s : Stmt} {ps' : PS}
    (h : getStmtF (n + 1) inSub readEnd binCmd ps = .ok (some s, ps')) :
    ∃ s1 ps2 s2 ps3,
      gotStmtPipeF n inSub ps.pos (ps.tok.isLit [33]) false (if ps.tok.isLit [33] then ps.next else ps) =
        .ok (some s1, ps2) ∧
      andOrF n inSub binCmd s1 ps2 = .ok (s2, ps3) ∧
      ((s = s2 ∧ ps' = ps3) ∨
       (readEnd = true ∧ ∃ bg q rest, ps3.toks = ((if bg then Tok.amp else Tok.semi), q) :: rest ∧
          s = s2.setEnd q bg ∧ ps' = ⟨rest⟩)) := by
  rw [getStmtF_eq] at h
  dsimp only at h
  refine of_ite_eq (fun _ h => by cases h) (fun _ h => ?_) h
  refine of_ite_eq (fun _ h => by cases h) (fun _ h => ?_) h
  split at h
  · cases h
  · cases h
  · rename_i s1 ps2 hg
    unfold endWrap at h
    split at h
    · cases h
    · rename_i s2 ps3 ha
      refine ⟨s1, ps2, s2, ps3, hg, ha, ?_⟩
      refine of_ite_eq (fun hre h => ?_) (fun _ h => by cases h; exact .inl ⟨rfl, rfl⟩) h
      split at h
      · rename_i ht
        obtain ⟨q, rest, e1, e2, e3⟩ := PS.tok_toks ht (by simp)
        cases h
        exact .inr ⟨hre, false, q, rest, e1, by rw [e2], e3⟩
      · rename_i ht
        obtain ⟨q, rest, e1, e2, e3⟩ := PS.tok_toks ht (by simp)
        cases h
        exact .inr ⟨hre, true, q, rest, e1, by rw [e2], e3⟩
      · cases h; exact .inl ⟨rfl, rfl⟩

theorem andOrF_eq (fuel : Nat) (inSub binCmd : Bool) (s : Stmt) (ps : PS) :
    andOrF (fuel + 1) inSub binCmd s ps =
      (let op? : Option BinOp := match ps.tok with
         | .andAnd => some .andStmt
         | .orOr => some .orStmt
         | _ => none
       match op? with
       | none => .ok (s, ps)
       | some op =>
         if binCmd then .ok (s, ps)
         else
           let opPos := ps.pos
           let ps := ps.next
           let ps := ps.gotNewl.2
           match getStmtF fuel inSub false true ps with
           | .error e => .error e
           | .ok (none, ps') =>
             match ps'.tok with
             | .outside => .error .outside
             | _ => .error (.syntax "must be followed by a statement")
           | .ok (some y, ps') =>
             andOrF fuel inSub binCmd (mkStmt s.pos false (.binary opPos op s y)) ps') := by
  rw [andOrF]
  rfl

theorem andOrF_inv {n : Nat} {inSub binCmd : Bool} {s : Stmt} {ps : PS} {s' : Stmt} {ps' : PS}
    (h : andOrF (n + 1) inSub binCmd s ps = .ok (s', ps')) :
    (s' = s ∧ ps' = ps) ∨
    (binCmd = false ∧ ∃ op q rest y ps2, op ≠ .pipe ∧ ps.toks = (op.tok, q) :: rest ∧
      getStmtF n inSub false true (PS.mk rest).gotNewl.2 = .ok (some y, ps2) ∧
      andOrF n inSub binCmd (mkStmt s.pos false (.binary q op s y)) ps2 = .ok (s', ps')) := by
  rw [andOrF_eq] at h
  dsimp only at h
  have step : ∀ op : BinOp, op ≠ .pipe → ps.tok = op.tok →
      (if binCmd = true then (.ok (s, ps) : Except ParseErr (Stmt × PS))
        else
          match getStmtF n inSub false true ps.next.gotNewl.2 with
          | .error e => .error e
          | .ok (none, ps') =>
            match ps'.tok with
            | .outside => .error .outside
            | _ => .error (.syntax "must be followed by a statement")
          | .ok (some y, ps') => andOrF n inSub binCmd (mkStmt s.pos false (.binary ps.pos op s y)) ps') = .ok (s', ps') →
      (s' = s ∧ ps' = ps) ∨
      (binCmd = false ∧ ∃ op q rest y ps2, op ≠ .pipe ∧ ps.toks = (op.tok, q) :: rest ∧
        getStmtF n inSub false true (PS.mk rest).gotNewl.2 = .ok (some y, ps2) ∧
        andOrF n inSub binCmd (mkStmt s.pos false (.binary q op s y)) ps2 = .ok (s', ps')) := by
    intro op hop ht h
    refine of_ite_eq (fun _ h => by cases h; exact .inl ⟨rfl, rfl⟩) (fun hb h => ?_) h
    obtain ⟨q, rest, e1, e2, e3⟩ := PS.tok_toks ht (by cases op <;> simp [BinOp.tok])
    rw [e3, e2] at h
    split at h
    · cases h
    · split at h <;> cases h
    · exact .inr ⟨by simpa using hb, op, q, rest, _, _, hop, e1, ‹_›, h⟩
  generalize ht : ps.tok = t at h
  cases t with
  | andAnd => exact step .andStmt (by simp) ht h
  | orOr => exact step .orStmt (by simp) ht h
  | _ => cases h; exact .inl ⟨rfl, rfl⟩

theorem andOrF_done {n : Nat} {inSub binCmd : Bool} {s : Stmt} {ps : PS}
    (h : (ps.tok ≠ .andAnd ∧ ps.tok ≠ .orOr) ∨ binCmd = true) : andOrF (n + 1) inSub binCmd s ps = .ok (s, ps) := by
  rw [andOrF_eq]
  dsimp only
  rcases h with ⟨h1, h2⟩ | h
  · generalize ps.tok = t at h1 h2
    cases t with
    | andAnd => exact absurd rfl h1
    | orOr => exact absurd rfl h2
    | _ => rfl
  · rw [h]; split <;> rfl

theorem andOrF_more {n : Nat} {inSub : Bool} {s : Stmt} {op : BinOp} (hop : op ≠ .pipe) {q : Pos} {rest : List TokPos}
    {y : Stmt} {ps2 : PS} (hy : getStmtF n inSub false true (PS.mk rest).gotNewl.2 = .ok (some y, ps2)) :
    andOrF (n + 1) inSub false s ⟨(op.tok, q) :: rest⟩ =
      andOrF n inSub false (mkStmt s.pos false (.binary q op s y)) ps2 := by
  rw [andOrF_eq]
  cases op with
  | pipe => exact absurd rfl hop
  | andStmt | orStmt =>
    dsimp only [PS.tok_cons, PS.next_cons, PS.pos_cons, BinOp.tok]
    rw [if_neg Bool.false_ne_true, hy]

theorem getStmtF_more {n : Nat} {inSub readEnd binCmd : Bool} {ps : PS} {s1 : Stmt} {ps2 : PS}
    (hstop : ps.tok.isLit [33] = true → ps.next.tok.isStop = false ∧ ps.next.tok.isLit [33] = false)
    (hg : gotStmtPipeF n inSub ps.pos (ps.tok.isLit [33]) false (if ps.tok.isLit [33] then ps.next else ps) =
      .ok (some s1, ps2)) :
    getStmtF (n + 1) inSub readEnd binCmd ps = endWrap readEnd (andOrF n inSub binCmd s1 ps2) := by
  rw [getStmtF_eq]
  dsimp only
  cases hneg : ps.tok.isLit [33] with
  | false =>
    rw [hneg] at hg
    rw [if_neg (by simp), if_neg (by simp), hg]
  | true =>
    rw [hneg] at hg
    obtain ⟨h1, h2⟩ := hstop hneg
    rw [if_pos rfl] at hg ⊢
    rw [if_neg (by simp [h1]), if_neg (by simp [h2]), hg]

theorem stmtsF_eq (fuel : Nat) (inSub stopBrace gotEnd : Bool) (ps : PS) (acc : List Stmt) :
    stmtsF (fuel + 1) inSub stopBrace gotEnd ps acc =
      (if ps.tok == .eof then .ok (acc.reverse, ps)
       else
         let (newLine, ps) := ps.gotNewl
         if ps.tok.isLit [125] then
           if stopBrace then .ok (acc.reverse, ps)
           else .error (.syntax "`}` can only be used to close a block")
         else if ps.tok == .rparen && inSub then .ok (acc.reverse, ps)
         else if !newLine && !gotEnd then .error (.syntax "statements must be separated by &, ; or a newline")
         else if ps.tok == .eof then .ok (acc.reverse, ps)
         else
           match getStmtF fuel inSub true false ps with
           | .error e => .error e
           | .ok (none, ps') =>
             match ps'.tok with
             | .outside => .error .outside
             | .unclosedQuote => .error (.syntax "reached EOF without closing quote '")
             | _ => .error (.syntax "not a valid start for a statement")
           | .ok (some s, ps') => stmtsF fuel inSub stopBrace s.semi.valid ps' (s :: acc)) := by
  rw [stmtsF]
  rfl

theorem stmtsF_inv {n : Nat} {inSub stopBrace gotEnd : Bool} {ps : PS} {acc ss : List Stmt} {ps' : PS}
    (h : stmtsF (n + 1) inSub stopBrace gotEnd ps acc = .ok (ss, ps')) :
    (ss = acc.reverse ∧ (ps' = ps ∨ ps' = ps.gotNewl.2)) ∨
    ∃ s ps2, getStmtF n inSub true false ps.gotNewl.2 = .ok (some s, ps2) ∧
      stmtsF n inSub stopBrace s.semi.valid ps2 (s :: acc) = .ok (ss, ps') := by
  rw [stmtsF_eq] at h
  refine of_ite_eq (fun _ h => by cases h; exact .inl ⟨rfl, .inl rfl⟩) (fun _ h => ?_) h
  have stop : (.ok (acc.reverse, ps.gotNewl.2) : Except ParseErr (List Stmt × PS)) = .ok (ss, ps') →
      (ss = acc.reverse ∧ (ps' = ps ∨ ps' = ps.gotNewl.2)) ∨
      ∃ s ps2, getStmtF n inSub true false ps.gotNewl.2 = .ok (some s, ps2) ∧
        stmtsF n inSub stopBrace s.semi.valid ps2 (s :: acc) = .ok (ss, ps') := fun e => by
    cases e; exact .inl ⟨rfl, .inr rfl⟩
  rw [show ps.gotNewl = (ps.gotNewl.1, ps.gotNewl.2) from rfl] at h
  dsimp only at h
  refine of_ite_eq (fun _ h => of_ite_eq (fun _ => stop) (fun _ h => by cases h) h) (fun _ h => ?_) h
  refine of_ite_eq (fun _ => stop) (fun _ h => ?_) h
  refine of_ite_eq (fun _ h => by cases h) (fun _ h => ?_) h
  refine of_ite_eq (fun _ => stop) (fun _ h => ?_) h
  split at h
  · cases h
  · split at h <;> cases h
  · exact .inr ⟨_, _, ‹_›, h⟩

theorem stmtsF_stop {n : Nat} {inSub stopBrace gotEnd : Bool} {ps : PS} {acc : List Stmt}
    (h : (ps.gotNewl.2.tok = .eof ∧ (ps.tok = .eof ∨ ps.gotNewl.1 = true ∨ gotEnd = true)) ∨
      (ps.gotNewl.2.tok = .rparen ∧ inSub = true) ∨ (ps.gotNewl.2.tok.isLit [125] = true ∧ stopBrace = true)) :
    stmtsF (n + 1) inSub stopBrace gotEnd ps acc = .ok (acc.reverse, ps.gotNewl.2) := by
  rw [stmtsF_eq]
  by_cases h0 : (ps.tok == .eof) = true
  · rw [if_pos h0, PS.gotNewl, if_neg (by rw [eq_of_beq h0]; decide)]
  · rw [if_neg h0, show ps.gotNewl = (ps.gotNewl.1, ps.gotNewl.2) from rfl]
    dsimp only
    rcases h with ⟨h1, h2⟩ | ⟨h1, h2⟩ | ⟨h1, h2⟩
    · have hsep : ¬(!ps.gotNewl.1 && !gotEnd) = true := by
        rcases h2 with h2 | h2 | h2
        · exact absurd (by rw [h2]; rfl) h0
        · rw [h2]; simp
        · rw [h2]; simp
      rw [if_neg (by rw [h1]; decide), if_neg (by rw [h1]; simp), if_neg hsep, if_pos (by rw [h1]; rfl)]
    · rw [if_neg (by rw [h1]; decide), if_pos (by rw [h1, h2]; rfl)]
    · rw [if_pos h1, if_pos h2]

theorem stmtsF_more {n : Nat} {inSub stopBrace gotEnd : Bool} {ps : PS} {acc : List Stmt} {s : Stmt} {ps2 : PS}
    (h0 : (ps.tok == .eof) = false) (hsep : ps.gotNewl.1 = true ∨ gotEnd = true)
    (h125 : ps.gotNewl.2.tok.isLit [125] = false) (hrp : (ps.gotNewl.2.tok == .rparen) = false)
    (heof : (ps.gotNewl.2.tok == .eof) = false) (hg : getStmtF n inSub true false ps.gotNewl.2 = .ok (some s, ps2)) :
    stmtsF (n + 1) inSub stopBrace gotEnd ps acc = stmtsF n inSub stopBrace s.semi.valid ps2 (s :: acc) := by
  have hsep' : ¬(!ps.gotNewl.1 && !gotEnd) = true := by rcases hsep with h | h <;> simp [h]
  rw [stmtsF_eq, if_neg (by rw [h0]; exact Bool.false_ne_true), show ps.gotNewl = (ps.gotNewl.1, ps.gotNewl.2) from rfl]
  dsimp only
  rw [if_neg (by rw [h125]; exact Bool.false_ne_true), if_neg (by rw [hrp]; simp), if_neg hsep',
    if_neg (by rw [heof]; exact Bool.false_ne_true), hg]

theorem parseToksF_inv {fuel : Nat} {toks : List TokPos} {f : File} (h : parseToksF fuel toks = .ok f) :
    ∃ ss ps, stmtsF fuel false false true ⟨toks⟩ [] = .ok (ss, ps) ∧ ps.tok = .eof ∧ f = ⟨Stmts.ofList ss⟩ := by
  unfold parseToksF at h
  split at h
  · cases h
  · rename_i ss ps hst
    split at h
    · rename_i heof
      cases h
      exact ⟨ss, ps, hst, heof, rfl⟩
    · cases h
    · cases h

end ShVerif.L4
