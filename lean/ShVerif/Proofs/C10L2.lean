import ShVerif.Proofs.C07Spec
/-
  The positions of the unchunked byte source stay inside the input (C09's upper bound and C10's
  error offsets on the byte-source layer): one invariant over every primitive.  `consumed` counts
  raw bytes, so before any error `nextPos` never points past the end of the input; and the only
  error a primitive raises by itself is `rune`'s "invalid UTF-8 encoding" (in `runeDecode`), whose
  recorded offset is that of the invalid byte.  Everything else leaves `err` alone, or (`errPass`
  of the client) sets the client's own error.
-/
namespace ShVerif.C07
open ShVerif ShVerif.L2

def U (n : Nat) (a : LSt) : Prop :=
  ∀ o l c, a.err = some (.utf8 o l c) → o ≤ (n : Int)

/-- mid-input: every raw byte is either consumed or still to come -/
def Inv1 (n : Nat) (a : LSt) : Prop := (a.err = none → a.consumed + a.rest.length = n) ∧ U n a

/-- … or the end-of-input rune has been delivered (one past the end, width 1) -/
def Inv (n : Nat) (a : LSt) : Prop :=
  (a.err = none → a.consumed + a.rest.length = n ∨
    (a.consumed = n + 1 ∧ a.rest = [] ∧ a.w = 1 ∧ a.r = runeEOF)) ∧ U n a

theorem Inv1.toInv {n a} (h : Inv1 n a) : Inv n a := ⟨fun he => .inl (h.1 he), h.2⟩

theorem Inv.toInv1 {n a} (h : Inv n a) (hne : a.rest ≠ []) : Inv1 n a :=
  ⟨fun he => (h.1 he).resolve_right fun h1 => hne h1.2.1, h.2⟩

theorem Adv.inv1 {n a b} (h : Adv a b) (hi : Inv1 n a) : Inv1 n b :=
  ⟨fun he => h.pos.trans (hi.1 (h.err ▸ he)), fun o l c he => hi.2 o l c (h.err ▸ he)⟩

/-- `errPass` keeps the first error; a new one of the byte source's own must lie inside the input -/
theorem inv1_errPass {n} {a : LSt} (e : Err) (h : U n a)
    (ho : ∀ o l c, e = .utf8 o l c → a.err = none → o ≤ (n : Int)) : Inv1 n (a.errPass e) := by
  unfold LSt.errPass
  cases he : a.err with
  | some x => exact ⟨fun hx => absurd (he ▸ hx) (Option.some_ne_none x), h⟩
  | none => exact ⟨fun hx => (nomatch hx), fun o l c hx => ho o l c (Option.some.inj hx) he⟩

theorem inv1_decode {n a} (h : Inv1 n a) : Inv1 n (LSt.runeDecode a) := by
  unfold LSt.runeDecode
  rcases decodeRune a.rest with ⟨r, w⟩
  simp only
  have h1 : Inv1 n (LSt.consumeN w (({ a with r := r } : LSt).litPush (a.rest.take w))) :=
    ((adv_litPush _ _).trans (adv_consumeN w _)).inv1 (show Inv1 n { a with r := r } from h)
  generalize LSt.consumeN w (LSt.litPush { a with r := r } (List.take w a.rest)) = a1 at h1 ⊢
  split
  · -- the offset recorded is `nextPos`, and `consumed ≤ n` as long as no error has been raised
    refine inv1_errPass _ h1.2 fun o l c ho he => ?_
    cases ho
    have := h1.1 he
    simp only [LSt.nextPos]
    omega
  · exact h1

theorem atEOF_err (a : LSt) : (LSt.runeAtEOF a).err = a.err := by
  unfold LSt.runeAtEOF; split <;> rfl

theorem inv_atEOF {n a} (h : Inv n a) (hrest : a.rest = []) : Inv n (LSt.runeAtEOF a) := by
  refine ⟨?_, fun o l c he => h.2 o l c (atEOF_err a ▸ he)⟩
  unfold LSt.runeAtEOF
  by_cases hr : a.r = runeEOF
  · rw [if_pos (by simp [hr])]
    exact fun he => (h.1 he).imp id fun h1 => ⟨h1.1, h1.2.1, rfl, hr⟩
  · rw [if_neg (by simp [hr])]
    intro he
    have h1 := (h.1 he).resolve_right fun h1 => hr h1.2.2.2
    rw [hrest] at h1
    exact .inr ⟨congrArg (· + 1) h1, hrest, rfl, rfl⟩

theorem inv_step {n a} (bq : Nat) (h : Inv n a) : Inv n (LSt.runeStep bq a).st := by
  rw [runeStep_eq]
  split
  · next hr => exact inv_atEOF (a := a.forget) h hr
  · next b t hr =>
    have h1 : Inv1 n a.forget.peekEff0 := Inv.toInv1 h (hr ▸ List.cons_ne_nil b t)
    rw [runeBody_eq]
    split
    · exact (((adv_consume _).trans (adv_ascii b bq _)).inv1 h1).toInv
    · exact (inv1_decode h1).toInv

theorem inv_loop {n} (fuel : Nat) : ∀ (bq : Nat) {a : LSt}, Inv n a → Inv n (LSt.runeLoop fuel bq a) := by
  induction fuel with
  | zero => exact fun _ _ h => h
  | succ fuel ih =>
    intro bq a h
    unfold LSt.runeLoop
    have hs := inv_step bq h
    split
    · next a' hst => rw [hst] at hs; exact hs
    · next bq' a' hst => rw [hst] at hs; exact ih bq' hs

theorem runePre_err (a : LSt) : a.runePre.err = a.err := by
  unfold LSt.runePre; simp only; split <;> rfl

theorem inv_runePre {n a} (h : Inv n a) : Inv n a.runePre := by
  unfold LSt.runePre
  simp only
  split <;> exact h

theorem inv_rune {n a} (h : Inv n a) : Inv n a.rune.2 := inv_loop _ 0 (inv_runePre h)

theorem stopAt_err (a : LSt) (r : Nat) : (a.stopAt r).2.err = a.err := by
  unfold LSt.stopAt
  simp only
  generalize (if r ≤ 0x10FFFF then encodeRune r else []) = enc
  split <;> rfl

theorem inv_stopAt {n a} (r : Nat) (h : Inv n a) : Inv n (a.stopAt r).2 := by
  unfold LSt.stopAt
  simp only
  generalize (if r ≤ 0x10FFFF then encodeRune r else []) = enc
  split
  · next hc => exact ⟨fun he => .inl ((h.1 he).resolve_right fun h1 => hc.2.2.2.1 h1.2.2.2), h.2⟩
  · exact h

theorem newLit_err (a : LSt) (r : Nat) : (a.newLit r).err = a.err := by
  unfold LSt.newLit
  split
  · rfl
  · split <;> rfl

theorem inv_newLit {n a} (r : Nat) (h : Inv n a) : Inv n (a.newLit r) := by
  unfold LSt.newLit
  split
  · exact h
  · split <;> exact h

theorem endLit_err (a : LSt) : a.endLit.2.err = a.err := by
  unfold LSt.endLit
  simp only
  split <;> rfl

theorem inv_endLit {n a} (h : Inv n a) : Inv n a.endLit.2 := by
  unfold LSt.endLit
  simp only
  split <;> exact h

theorem Prim.inv {n : Nat} {β : Type} (o : Prim β) (a : LSt) (h : Inv n a) : Inv n (o.spec a).2 := by
  cases o with
  | rune => exact inv_rune h
  | peek => exact show Inv n a.peek.2 by rw [peek_eq]; exact h
  | peekTwo => exact show Inv n a.peekTwo.2.2 by rw [peekTwo_eq]; exact h
  | stopAt r => exact inv_stopAt r h
  | newLit r => exact inv_newLit r h
  | endLit => exact inv_endLit h
  | errPass => exact (inv1_errPass .client h.2 fun _ _ _ ho => nomatch ho).toInv
  | _ => exact h

theorem inv_specRun {n} {α : Type} (p : Prog α) : ∀ {a : LSt}, Inv n a → Inv n (specRun p a).2 := by
  induction p using Prog.ind with
  | ret x => exact fun h => h
  | bind o k ih => exact fun h => specRun_bind o k _ ▸ ih _ (o.inv _ h)

theorem inv_init (input stop : List Byte) : Inv input.length (LSt.init input stop) :=
  ⟨fun _ => .inl (Nat.zero_add _), fun _ _ _ h => nomatch h⟩

theorem nextPos_le {α : Type} (p : Prog α) (input stop : List Byte)
    (he : (specRun p (LSt.init input stop)).2.err = none) :
    (specRun p (LSt.init input stop)).2.nextPos.1 ≤ input.length := by
  have h := (inv_specRun (n := input.length) p (inv_init input stop)).1
  unfold LSt.nextPos
  rcases h he with h1 | h1
  · simp only; omega
  · simp only; rw [h1.1, h1.2.2.1]; omega

theorem utf8_err_offset_le {α : Type} (p : Prog α) (input stop : List Byte) (o : Int) (l c : Nat)
    (he : (specRun p (LSt.init input stop)).2.err = some (.utf8 o l c)) : o ≤ (input.length : Int) :=
  (inv_specRun (n := input.length) p (inv_init input stop)).2 o l c he

end ShVerif.C07
