/-
  L4 lexer lemmas.  On any input: the successful runs of `lexWord` as a relation (`LexW`); what a run
  has read is the parts it returns, laid end to end from where it started (`Laid`, `LexW.lay`); the
  shapes of what `nextTok` answers (`NextTok`, a word token being `Laid` out from its position) and the
  induction over the token stream in these terms (`lexAllF_ind`); token positions are valid.  On what the
  printer writes: a well-formed word comes back modulo positions and the merging of adjacent
  literals, and a piece list without glue lexes to the expected tokens on the expected lines
  (`lexAllF_printed`).
-/
import ShVerif.Proofs.L4
import ShVerif.Model.L4Transcript
namespace ShVerif.L4

/-- With this, that a special byte is none of the safe ones is one evaluation of the class at that
    byte (`rfl`), not a check over the 256 bytes. -/
theorem beq_false_of_class (f : UInt8 → Bool) {b c : UInt8} (hb : f b = true) (hc : f c = false) : (b == c) = false := by
  cases h : b == c
  · rfl
  · rw [eq_of_beq h, hc] at hb; cases hb

theorem safe_facts : ∀ b : UInt8, isSafe b = true →
    isDelim b = false ∧ (b == 39) = false ∧ (b == 92) = false ∧ (b == 10) = false ∧ (b == 32) = false ∧
    (b == 9) = false ∧ (b == 59) = false ∧ (b == 38) = false ∧ (b == 124) = false ∧ (b == 40) = false ∧
    (b == 41) = false ∧ (b == 123) = false ∧ (b == 125) = false ∧ (b == 33) = false := by
  intro b hb
  have ne : ∀ c, isSafe c = false → (b == c) = false := fun c => beq_false_of_class isSafe hb
  have h32 := ne 32 rfl
  have h9 := ne 9 rfl
  have h10 := ne 10 rfl
  have h59 := ne 59 rfl
  have h38 := ne 38 rfl
  have h124 := ne 124 rfl
  have h41 := ne 41 rfl
  refine ⟨?_, ne 39 rfl, ne 92 rfl, h10, h32, h9, h59, h38, h124, ne 40 rfl, h41, ne 123 rfl, ne 125 rfl, ne 33 rfl⟩
  simp only [isDelim, h32, h9, h10, h59, h38, h124, h41, Bool.or_self]

theorem sglSafe_facts : ∀ b : UInt8, isSglSafe b = true → (b == 39) = false :=
  fun _ hb => beq_false_of_class isSglSafe hb rfl

theorem delim_facts : ∀ b : UInt8, isDelim b = true → isSafe b = false ∧ (b == 39) = false := by
  intro b hb
  refine ⟨?_, beq_false_of_class isDelim hb rfl⟩
  cases h : isSafe b
  · rfl
  · rw [(safe_facts b h).1] at hb; cases hb

def WordPart.erase : WordPart → NPart
  | .lit _ _ v => .lit v
  | .sgl _ _ v => .sgl v

def mergeN : List NPart → List NPart
  | [] => []
  | .sgl v :: rest => .sgl v :: mergeN rest
  | .lit v :: rest =>
    match mergeN rest with
    | .lit v' :: r => .lit (v ++ v') :: r
    | r => .lit v :: r

theorem normParts_eq (ps : List WordPart) : normParts ps = mergeN (ps.map WordPart.erase) := by
  induction ps with
  | nil => rfl
  | cons p rest ih =>
    cases p with
    | lit a b v =>
      simp only [normParts, List.map, WordPart.erase, mergeN]
      rw [ih]
      cases mergeN (List.map WordPart.erase rest) with
      | nil => rfl
      | cons h t => cases h <;> rfl
    | sgl a b v => simp only [normParts, List.map, WordPart.erase, mergeN, ih]

theorem mergeN_lit_lit (xs : List NPart) (a b : Bytes) (ys : List NPart) :
    mergeN (xs ++ .lit a :: .lit b :: ys) = mergeN (xs ++ .lit (a ++ b) :: ys) := by
  induction xs with
  | nil =>
    simp only [List.nil_append, mergeN]
    cases mergeN ys with
    | nil => rfl
    | cons h t => cases h <;> simp [List.append_assoc]
  | cons x rest ih =>
    cases x with
    | lit v => simp only [List.cons_append, mergeN, ih]
    | sgl v => simp only [List.cons_append, mergeN, ih]

def Pos.advs (p : Pos) (bs : Bytes) : Pos := bs.foldl Pos.adv p

/-- the literal being accumulated, as a part -/
def pend : LexMode → List NPart
  | .lit _ a => [.lit a.reverse]
  | _ => []

def LexMode.notSgl : LexMode → Prop
  | .sgl _ _ => False
  | _ => True

theorem lexWord_lit_safe (b : UInt8) (rest : Bytes) (pos st : Pos) (a : Bytes) (acc : List WordPart)
    (hb : isSafe b = true) :
    lexWord (b :: rest) pos (.lit st a) acc = lexWord rest (pos.adv b) (.lit st (b :: a)) acc := by
  rw [lexWord]; simp only [hb, if_true]

theorem lexWord_idle_safe (b : UInt8) (rest : Bytes) (pos : Pos) (acc : List WordPart) (hb : isSafe b = true) :
    lexWord (b :: rest) pos .idle acc = lexWord rest (pos.adv b) (.lit pos [b]) acc := by
  rw [lexWord]; simp only [hb, if_true]

theorem lexWord_sgl_safe (b : UInt8) (rest : Bytes) (pos left : Pos) (a : Bytes) (acc : List WordPart)
    (hb : isSglSafe b = true) :
    lexWord (b :: rest) pos (.sgl left a) acc = lexWord rest (pos.adv b) (.sgl left (b :: a)) acc := by
  rw [lexWord]; simp only [sglSafe_facts b hb, hb, if_true, Bool.false_eq_true, if_false]

theorem lexWord_sgl_close (rest : Bytes) (pos left : Pos) (a : Bytes) (acc : List WordPart) :
    lexWord (39 :: rest) pos (.sgl left a) acc = lexWord rest (pos.adv 39) .idle (.sgl left pos a.reverse :: acc) := by
  rw [lexWord]; simp

theorem lexWord_idle_quote (rest : Bytes) (pos : Pos) (acc : List WordPart) :
    lexWord (39 :: rest) pos .idle acc = lexWord rest (pos.adv 39) (.sgl pos []) acc := by
  rw [lexWord]; simp [isSafe]

theorem lexWord_lit_quote (rest : Bytes) (pos st : Pos) (a : Bytes) (acc : List WordPart) :
    lexWord (39 :: rest) pos (.lit st a) acc =
      lexWord rest (pos.adv 39) (.sgl pos []) (.lit st pos a.reverse :: acc) := by
  rw [lexWord]; simp [isSafe]

theorem lexWord_idle_delim (d : UInt8) (rest : Bytes) (pos : Pos) (acc : List WordPart) (hd : isDelim d = true) :
    lexWord (d :: rest) pos .idle acc = .done acc.reverse pos (d :: rest) := by
  rw [lexWord]; simp only [(delim_facts d hd).1, (delim_facts d hd).2, hd, if_true, Bool.false_eq_true, if_false]

theorem lexWord_lit_delim (d : UInt8) (rest : Bytes) (pos st : Pos) (a : Bytes) (acc : List WordPart)
    (hd : isDelim d = true) :
    lexWord (d :: rest) pos (.lit st a) acc = .done (WordPart.lit st pos a.reverse :: acc).reverse pos (d :: rest) := by
  rw [lexWord]; simp only [(delim_facts d hd).1, (delim_facts d hd).2, hd, if_true, Bool.false_eq_true, if_false]

theorem lexWord_safe (v : Bytes) (hv : ∀ b ∈ v, isSafe b = true) (k : Bytes) :
    ∀ (pos st : Pos) (a : Bytes) (acc : List WordPart),
      lexWord (v ++ k) pos (.lit st a) acc = lexWord k (pos.advs v) (.lit st (v.reverse ++ a)) acc := by
  induction v with
  | nil => intro pos st a acc; rfl
  | cons b rest ih =>
    intro pos st a acc
    have hb := hv b (by simp)
    have hr : ∀ x ∈ rest, isSafe x = true := fun x hx => hv x (by simp [hx])
    rw [List.cons_append, lexWord_lit_safe _ _ _ _ _ _ hb, ih hr]
    simp [Pos.advs, List.foldl]

theorem lexWord_sgl_body (v : Bytes) (hv : ∀ b ∈ v, isSglSafe b = true) (k : Bytes) :
    ∀ (pos left : Pos) (a : Bytes) (acc : List WordPart),
      lexWord (v ++ 39 :: k) pos (.sgl left a) acc =
        lexWord k ((pos.advs v).adv 39) .idle (.sgl left (pos.advs v) (v.reverse ++ a).reverse :: acc) := by
  induction v with
  | nil =>
    intro pos left a acc
    rw [List.nil_append, lexWord_sgl_close]
    simp [Pos.advs]
  | cons b rest ih =>
    intro pos left a acc
    have hb := hv b (by simp)
    have hr : ∀ x ∈ rest, isSglSafe x = true := fun x hx => hv x (by simp [hx])
    rw [List.cons_append, lexWord_sgl_safe _ _ _ _ _ _ hb, ih hr]
    simp [Pos.advs, List.foldl]

theorem WordPart.wf_lit_bytes {a e : Pos} {v : Bytes} (h : (WordPart.lit a e v).wf = true) :
    (WordPart.lit a e v).bytes = v ∧ v ≠ [] ∧ ∀ b ∈ v, isSafe b = true := by
  unfold WordPart.wf at h
  simp only [Bool.and_eq_true, Bool.not_eq_true', List.isEmpty_eq_false_iff, List.all_eq_true] at h
  refine ⟨?_, h.1, h.2⟩
  have hno : ∀ b ∈ v, (b == 92) = false := fun b hb => (safe_facts b (h.2 b hb)).2.2.1
  have : trailingBackslashes v = 0 := by
    unfold trailingBackslashes
    cases hrev : v.reverse with
    | nil => simp
    | cons x xs =>
      have hx : x ∈ v := by
        have : x ∈ v.reverse := by rw [hrev]; simp
        simpa using this
      simp [List.takeWhile, hno x hx]
  simp [WordPart.bytes, this]

/-- Lexing the bytes of well-formed parts continues the word: the result, once the word ends,
    has the same norm as what was read before followed by the parts. -/
theorem lexWord_parts (parts : List WordPart) (hw : ∀ p ∈ parts, p.wf = true) (k : Bytes) (hk : eofOrDelim k = true) :
    ∀ (pos : Pos) (mode : LexMode) (acc : List WordPart), mode.notSgl →
      ∃ res stop, lexWord (wordBytes parts ++ k) pos mode acc = .done res stop k ∧
        mergeN (res.map WordPart.erase) =
          mergeN (acc.reverse.map WordPart.erase ++ pend mode ++ parts.map WordPart.erase) := by
  induction parts with
  | nil =>
    intro pos mode acc hm
    simp only [wordBytes, List.flatMap_nil, List.nil_append, List.map_nil, List.append_nil]
    cases mode with
    | sgl l a => exact absurd hm (by simp [LexMode.notSgl])
    | idle =>
      cases k with
      | nil => exact ⟨acc.reverse, pos, by rw [lexWord], by simp [pend]⟩
      | cons d rest =>
        have hd : isDelim d = true := by simpa [eofOrDelim] using hk
        exact ⟨acc.reverse, pos, lexWord_idle_delim d rest pos acc hd, by simp [pend]⟩
    | lit st a =>
      cases k with
      | nil => exact ⟨_, pos, by rw [lexWord], by simp [pend, WordPart.erase]⟩
      | cons d rest =>
        have hd : isDelim d = true := by simpa [eofOrDelim] using hk
        exact ⟨_, pos, lexWord_lit_delim d rest pos st a acc hd, by simp [pend, WordPart.erase]⟩
  | cons p rest ih =>
    intro pos mode acc hm
    have hp := hw p (by simp)
    have hrest : ∀ q ∈ rest, q.wf = true := fun q hq => hw q (by simp [hq])
    cases p with
    | lit a e v =>
      obtain ⟨hbytes, hne, hsafe⟩ := WordPart.wf_lit_bytes hp
      have hwb : wordBytes (WordPart.lit a e v :: rest) ++ k = v ++ (wordBytes rest ++ k) := by
        simp [wordBytes, hbytes]
      rw [hwb]
      cases mode with
      | sgl l x => exact absurd hm (by simp [LexMode.notSgl])
      | lit st x =>
        rw [lexWord_safe v hsafe]
        obtain ⟨res, stop, h1, h2⟩ := ih hrest (pos.advs v) (.lit st (v.reverse ++ x)) acc (by simp [LexMode.notSgl])
        refine ⟨res, stop, h1, ?_⟩
        rw [h2]
        simp only [pend, List.reverse_append, List.reverse_reverse, List.map_cons, WordPart.erase,
          List.append_assoc, List.cons_append, List.nil_append]
        exact (mergeN_lit_lit _ _ _ _).symm
      | idle =>
        cases v with
        | nil => exact absurd rfl hne
        | cons b v' =>
          have hb := hsafe b (by simp)
          have hv' : ∀ x ∈ v', isSafe x = true := fun x hx => hsafe x (by simp [hx])
          rw [List.cons_append, lexWord_idle_safe _ _ _ _ hb, lexWord_safe v' hv']
          obtain ⟨res, stop, h1, h2⟩ := ih hrest ((pos.adv b).advs v') (.lit pos (v'.reverse ++ [b])) acc (by simp [LexMode.notSgl])
          refine ⟨res, stop, h1, ?_⟩
          rw [h2]
          simp [pend, WordPart.erase]
    | sgl l r v =>
      have hsafe : ∀ b ∈ v, isSglSafe b = true := by
        unfold WordPart.wf at hp
        simpa using hp
      have hwb : wordBytes (WordPart.sgl l r v :: rest) ++ k = 39 :: (v ++ 39 :: (wordBytes rest ++ k)) := by
        simp [wordBytes, WordPart.bytes]
      rw [hwb]
      cases mode with
      | sgl l' x => exact absurd hm (by simp [LexMode.notSgl])
      | idle =>
        rw [lexWord_idle_quote, lexWord_sgl_body v hsafe]
        obtain ⟨res, stop, h1, h2⟩ := ih hrest (((pos.adv 39).advs v).adv 39) .idle
          (.sgl pos ((pos.adv 39).advs v) (v.reverse ++ []).reverse :: acc) (by simp [LexMode.notSgl])
        refine ⟨res, stop, h1, ?_⟩
        rw [h2]
        simp [pend, WordPart.erase]
      | lit st x =>
        rw [lexWord_lit_quote, lexWord_sgl_body v hsafe]
        obtain ⟨res, stop, h1, h2⟩ := ih hrest (((pos.adv 39).advs v).adv 39) .idle
          (.sgl pos ((pos.adv 39).advs v) (v.reverse ++ []).reverse :: .lit st pos x.reverse :: acc) (by simp [LexMode.notSgl])
        refine ⟨res, stop, h1, ?_⟩
        rw [h2]
        simp [pend, WordPart.erase]

theorem nls_nil : nls [] = 0 := rfl

theorem nls_cons (b : UInt8) (bs : Bytes) : nls (b :: bs) = (if b == 10 then 1 else 0) + nls bs := by
  unfold nls
  rw [List.count_cons]
  exact Nat.add_comm _ _

theorem nls_app (a b : Bytes) : nls (a ++ b) = nls a + nls b := by simp [nls, List.count_append]

theorem adv_line_eq (p : Pos) (b : UInt8) : (p.adv b).line = p.line + (if b == 10 then 1 else 0) := by
  unfold Pos.adv
  split <;> simp

theorem Pos.adv_line (p : Pos) (b : UInt8) : (p.adv b).line ≥ p.line := by
  rw [adv_line_eq]; exact Nat.le_add_right _ _

theorem Pos.advs_line (bs : Bytes) : ∀ p : Pos, (p.advs bs).line = p.line + nls bs := by
  induction bs with
  | nil => intro p; rfl
  | cons b r ih => intro p; rw [nls_cons, ← Nat.add_assoc, ← adv_line_eq]; exact ih (p.adv b)

/-- The successful runs of `lexWord`, one rule per step.  What holds of every word the lexer reads
    is proved by induction over this relation. -/
inductive LexW : Bytes → Pos → LexMode → List WordPart → List WordPart → Pos → Bytes → Prop
  | nilIdle {pos acc} : LexW [] pos .idle acc acc.reverse pos []
  | nilLit {pos st a acc} : LexW [] pos (.lit st a) acc (WordPart.lit st pos a.reverse :: acc).reverse pos []
  | idleSafe {b rest pos acc res stop r} : isSafe b = true →
      LexW rest (pos.adv b) (.lit pos [b]) acc res stop r → LexW (b :: rest) pos .idle acc res stop r
  | idleQuote {rest pos acc res stop r} :
      LexW rest (pos.adv 39) (.sgl pos []) acc res stop r → LexW (39 :: rest) pos .idle acc res stop r
  | idleDelim {b rest pos acc} : isDelim b = true → LexW (b :: rest) pos .idle acc acc.reverse pos (b :: rest)
  | litSafe {b rest pos st a acc res stop r} : isSafe b = true →
      LexW rest (pos.adv b) (.lit st (b :: a)) acc res stop r → LexW (b :: rest) pos (.lit st a) acc res stop r
  | litQuote {rest pos st a acc res stop r} :
      LexW rest (pos.adv 39) (.sgl pos []) (.lit st pos a.reverse :: acc) res stop r →
      LexW (39 :: rest) pos (.lit st a) acc res stop r
  | litDelim {b rest pos st a acc} : isDelim b = true →
      LexW (b :: rest) pos (.lit st a) acc (WordPart.lit st pos a.reverse :: acc).reverse pos (b :: rest)
  | sglClose {rest pos left a acc res stop r} :
      LexW rest (pos.adv 39) .idle (.sgl left pos a.reverse :: acc) res stop r →
      LexW (39 :: rest) pos (.sgl left a) acc res stop r
  | sglSafe {b rest pos left a acc res stop r} : isSglSafe b = true →
      LexW rest (pos.adv b) (.sgl left (b :: a)) acc res stop r → LexW (b :: rest) pos (.sgl left a) acc res stop r

theorem lexWord_run : ∀ (src : Bytes) {pos : Pos} {mode : LexMode} {acc res : List WordPart} {stop : Pos} {r : Bytes},
    lexWord src pos mode acc = .done res stop r → LexW src pos mode acc res stop r := by
  intro src
  induction src with
  | nil =>
    intro pos mode acc res stop r h
    cases mode <;> rw [lexWord] at h <;> cases h
    · exact .nilIdle
    · exact .nilLit
  | cons b rest ih =>
    intro pos mode acc res stop r h
    cases mode with
    | idle =>
      rw [lexWord] at h
      refine of_ite_eq (fun hb h => .idleSafe hb (ih h)) (fun _ h => ?_) h
      refine of_ite_eq (fun hq h => by cases eq_of_beq hq; exact .idleQuote (ih h)) (fun _ h => ?_) h
      exact of_ite_eq (fun hd h => by cases h; exact .idleDelim hd) (fun _ h => by cases h) h
    | lit st a =>
      rw [lexWord] at h
      refine of_ite_eq (fun hb h => .litSafe hb (ih h)) (fun _ h => ?_) h
      refine of_ite_eq (fun hq h => by cases eq_of_beq hq; exact .litQuote (ih h)) (fun _ h => ?_) h
      exact of_ite_eq (fun hd h => by cases h; exact .litDelim hd) (fun _ h => by cases h) h
    | sgl l a =>
      rw [lexWord] at h
      refine of_ite_eq (fun hq h => by cases eq_of_beq hq; exact .sglClose (ih h)) (fun _ h => ?_) h
      exact of_ite_eq (fun hb h => .sglSafe hb (ih h)) (fun _ h => by cases h) h

def WordPart.isLit : WordPart → Bool
  | .lit _ _ _ => true
  | .sgl _ _ _ => false

def hasSgl (l : List WordPart) : Bool := l.any (fun p => !p.isLit)

theorem Pos.advs_append (p : Pos) (a b : Bytes) : p.advs (a ++ b) = (p.advs a).advs b := List.foldl_append

/-- `Laid p c parts q`: the bytes `c`, read from `p`, are `parts` written one after the other, each part
    with the positions the lexer gives it; they end at `q`.  What holds of every word token is read off
    this.  That a literal is never followed by a literal is kept in the form `Tok.ok` asks for. -/
inductive Laid : Pos → Bytes → List WordPart → Pos → Prop
  | nil {p} : Laid p [] [] p
  | lit {p v c rest q} : v ≠ [] → (∀ b ∈ v, isSafe b = true) → (rest ≠ [] → hasSgl rest = true) →
      Laid (p.advs v) c rest q → Laid p (v ++ c) (.lit p (p.advs v) v :: rest) q
  | sgl {p v c rest q} : (∀ b ∈ v, isSglSafe b = true) → Laid (((p.adv 39).advs v).adv 39) c rest q →
      Laid p (39 :: (v ++ 39 :: c)) (.sgl p ((p.adv 39).advs v) v :: rest) q

/-- the same from the middle of a part, of which `a` (reversed) has been read -/
def Lay : LexMode → Pos → Bytes → List WordPart → Pos → Prop
  | .idle, pos, c, new, q => Laid pos c new q
  | .lit st a, pos, c, new, q => ∃ v c' rest, c = v ++ c' ∧ new = .lit st (pos.advs v) (a.reverse ++ v) :: rest ∧
      (∀ b ∈ v, isSafe b = true) ∧ (rest ≠ [] → hasSgl rest = true) ∧ Laid (pos.advs v) c' rest q
  | .sgl l a, pos, c, new, q => ∃ v c' rest, c = v ++ 39 :: c' ∧ new = .sgl l (pos.advs v) (a.reverse ++ v) :: rest ∧
      (∀ b ∈ v, isSglSafe b = true) ∧ Laid ((pos.advs v).adv 39) c' rest q

/-- The induction over the runs of `lexWord`.  No hypothesis on the state is needed: a literal is
    put together (`Laid.lit`) only where it starts, in `idleSafe`, and there all its bytes are in sight.
    Witnesses: the bytes read and the new parts; for a part in progress (`Lay`) its further bytes, the
    bytes after it and the parts after it. -/
theorem LexW.lay {src pos mode acc res stop r} (h : LexW src pos mode acc res stop r) :
    ∃ c new, src = c ++ r ∧ res = acc.reverse ++ new ∧ Lay mode pos c new stop ∧ eofOrDelim r = true := by
  induction h with
  | nilIdle => exact ⟨[], [], rfl, by simp, .nil, rfl⟩
  | idleDelim hd => exact ⟨[], [], rfl, by simp, .nil, hd⟩
  | @nilLit pos st a _ =>
    exact ⟨[], [.lit st pos a.reverse], rfl, by simp, ⟨[], [], [], rfl, by simp [Pos.advs], by simp, by simp, .nil⟩, rfl⟩
  | @litDelim _ _ pos st a _ hd =>
    exact ⟨[], [.lit st pos a.reverse], rfl, by simp, ⟨[], [], [], rfl, by simp [Pos.advs], by simp, by simp, .nil⟩, hd⟩
  | @idleSafe b _ pos _ _ _ _ hb _ ih =>
    obtain ⟨_, new, rfl, e, ⟨v, c', rest, rfl, rfl, hv, h2, hl⟩, hd⟩ := ih
    exact ⟨b :: (v ++ c'), _, rfl, e, Laid.lit (v := b :: v) (by simp) (List.forall_mem_cons.mpr ⟨hb, hv⟩) h2 hl, hd⟩
  | idleQuote _ ih =>
    obtain ⟨_, new, rfl, e, ⟨v, c', rest, rfl, rfl, hv, hl⟩, hd⟩ := ih
    exact ⟨39 :: (v ++ 39 :: c'), _, rfl, e, Laid.sgl hv hl, hd⟩
  | @litSafe b _ pos st a _ _ _ _ hb _ ih =>
    obtain ⟨_, new, rfl, e, ⟨v, c', rest, rfl, rfl, hv, h2, hl⟩, hd⟩ := ih
    exact ⟨b :: (v ++ c'), _, rfl, e, ⟨b :: v, c', rest, rfl, by simp [Pos.advs], List.forall_mem_cons.mpr ⟨hb, hv⟩, h2, hl⟩, hd⟩
  | @sglSafe b _ pos l a _ _ _ _ hb _ ih =>
    obtain ⟨_, new, rfl, e, ⟨v, c', rest, rfl, rfl, hv, hl⟩, hd⟩ := ih
    exact ⟨b :: (v ++ 39 :: c'), _, rfl, e, ⟨b :: v, c', rest, rfl, by simp [Pos.advs], List.forall_mem_cons.mpr ⟨hb, hv⟩, hl⟩, hd⟩
  | @litQuote _ pos st a _ _ _ _ _ ih =>
    obtain ⟨_, new, rfl, e, ⟨v, c', rest, rfl, rfl, hv, hl⟩, hd⟩ := ih
    exact ⟨39 :: (v ++ 39 :: c'), _, rfl, by simpa using e,
      ⟨[], _, _, rfl, by simp [Pos.advs], by simp, fun _ => by simp [hasSgl, WordPart.isLit], Laid.sgl hv hl⟩, hd⟩
  | @sglClose _ pos l a _ _ _ _ _ ih =>
    obtain ⟨c, new, rfl, e, hl, hd⟩ := ih
    exact ⟨39 :: c, _, rfl, by simpa using e, ⟨[], c, new, rfl, by simp [Pos.advs], by simp, hl⟩, hd⟩

theorem lexWord_laid {src : Bytes} {p : Pos} {parts : List WordPart} {stop : Pos} {r : Bytes}
    (h : lexWord src p .idle [] = .done parts stop r) : ∃ c, src = c ++ r ∧ Laid p c parts stop ∧ eofOrDelim r = true := by
  obtain ⟨c, new, e1, e2, hl, hd⟩ := (lexWord_run _ h).lay
  cases (List.nil_append new ▸ e2 : parts = new)
  exact ⟨c, e1, hl, hd⟩

/-- a word that starts with a safe byte or a quote is not empty -/
theorem lexWord_start {b : UInt8} {rest : Bytes} {p : Pos} {parts : List WordPart} {stop : Pos} {r : Bytes}
    (hb : (isSafe b || b == 39) = true) (h : lexWord (b :: rest) p .idle [] = .done parts stop r) :
    ∃ c, b :: rest = c ++ r ∧ Laid p c parts stop ∧ parts ≠ [] := by
  obtain ⟨c, e, hl, hd⟩ := lexWord_laid h
  refine ⟨c, e, hl, fun hn => ?_⟩
  -- nothing read: `b` would be a delimiter
  subst hn
  cases hl
  cases e
  obtain ⟨h1, h2⟩ := delim_facts b hd
  simp [h1, h2] at hb

theorem lit_wf (st e : Pos) (a : Bytes) (hne : a ≠ []) (hs : ∀ b ∈ a, isSafe b = true) :
    (WordPart.lit st e a.reverse).wf = true := by
  simp only [WordPart.wf, Bool.and_eq_true, Bool.not_eq_true', List.isEmpty_eq_false_iff, List.all_eq_true]
  exact ⟨by simpa using hne, fun b hb => hs b (by simpa using hb)⟩

theorem sgl_wf (l r : Pos) (a : Bytes) (hs : ∀ b ∈ a, isSglSafe b = true) : (WordPart.sgl l r a.reverse).wf = true := by
  simp only [WordPart.wf, List.all_eq_true]
  exact fun b hb => hs b (by simpa using hb)

theorem Laid.wf {p c parts q} (h : Laid p c parts q) : ∀ x ∈ parts, x.wf = true := by
  induction h with
  | nil => exact fun _ hx => nomatch hx
  | @lit p v _ _ _ hne hv _ _ ih =>
    exact List.forall_mem_cons.mpr ⟨by simpa using lit_wf p (p.advs v) v.reverse (by simpa using hne) (by simpa using hv), ih⟩
  | @sgl p v _ _ _ hv _ ih =>
    exact List.forall_mem_cons.mpr ⟨by simpa using sgl_wf p ((p.adv 39).advs v) v.reverse (by simpa using hv), ih⟩

theorem Laid.bytes {p c parts q} (h : Laid p c parts q) : wordBytes parts = c ∧ q = p.advs c := by
  induction h with
  | nil => exact ⟨rfl, rfl⟩
  | @lit p v _ _ _ hne hv _ hl ih =>
    have hb := (WordPart.wf_lit_bytes (hl.lit hne hv ‹_› |>.wf _ List.mem_cons_self)).1
    exact ⟨by rw [← ih.1]; simp [wordBytes, hb], by rw [Pos.advs_append]; exact ih.2⟩
  | @sgl p v _ _ _ hv _ ih =>
    exact ⟨by rw [← ih.1]; simp [wordBytes, WordPart.bytes], by rw [ih.2]; simp [Pos.advs]⟩

theorem Laid.le {p c parts q} (h : Laid p c parts q) : p.line ≤ q.line := by
  rw [h.bytes.2, Pos.advs_line]; exact Nat.le_add_right _ _

theorem sgl_endMax (l r : Pos) (v : Bytes) : (WordPart.sgl l r v).endMax = r.line := by
  simp only [WordPart.endMax, WordPart.stop]
  split <;> simp

theorem partsMax_le (l : List WordPart) (M : Nat) (h : ∀ x ∈ l, x.endMax ≤ M) : partsMax l ≤ M := by
  induction l with
  | nil => simp [partsMax]
  | cons a r ih =>
    simp only [partsMax]
    have := h a (by simp)
    have := ih (fun x hx => h x (by simp [hx]))
    omega

theorem partsMax_ge (l : List WordPart) (x : WordPart) (h : x ∈ l) : x.endMax ≤ partsMax l := by
  induction l with
  | nil => cases h
  | cons a r ih =>
    simp only [partsMax]
    rcases List.mem_cons.mp h with rfl | h
    · omega
    · have := ih h; omega

theorem partsMax_eq (l : List WordPart) (M : Nat) (h : ∀ x ∈ l, x.endMax ≤ M) (h2 : ∃ x ∈ l, x.endMax = M) :
    partsMax l = M := by
  obtain ⟨x, hx, he⟩ := h2
  have := partsMax_le l M h
  have := partsMax_ge l x hx
  omega

/-- the last part ends on the line of `q`, and no part ends later -/
theorem Laid.max {p c parts q} (h : Laid p c parts q) (hne : parts ≠ []) : partsMax parts = q.line := by
  induction h with
  | nil => exact absurd rfl hne
  | lit _ _ _ hl ih =>
    have hle := hl.le
    rw [partsMax, WordPart.endMax]
    cases hl with
    | nil => exact Nat.max_eq_left (Nat.zero_le _)
    | _ => rw [ih (List.cons_ne_nil _ _)]; exact Nat.max_eq_right hle
  | sgl _ hl ih =>
    have hle := hl.le
    rw [partsMax, sgl_endMax]
    cases hl with
    | nil => exact Nat.max_eq_left (Nat.zero_le _)
    | _ => rw [ih (List.cons_ne_nil _ _)]; exact Nat.max_eq_right hle

theorem Laid.two {p c parts q} (h : Laid p c parts q) (hl : parts.length ≥ 2) : hasSgl parts = true := by
  cases h with
  | nil => cases hl
  | lit _ _ h2 _ =>
    have := h2 (by intro e; subst e; simp at hl)
    simpa [hasSgl] using Or.inr this
  | sgl _ _ => simp [hasSgl, WordPart.isLit]

theorem Laid.first {p c parts q} (h : Laid p c parts q) (hne : parts ≠ []) : (Word.mk parts).pos? = some p := by
  cases h with
  | nil => exact absurd rfl hne
  | lit _ _ _ _ => rfl
  | sgl _ _ => rfl

theorem Laid.wordWf {p c parts q} (h : Laid p c parts q) (hne : parts ≠ []) : (Word.mk parts).wf = true := by
  simp only [Word.wf, Bool.and_eq_true, Bool.not_eq_true', List.isEmpty_eq_false_iff, List.all_eq_true]
  exact ⟨hne, h.wf⟩

theorem skipSpace_nil (sk : Bool) (p : Pos) : skipSpace sk [] p = ([], p) := by
  rw [skipSpace]

theorem skipSpace_blank (sk : Bool) (c : UInt8) (hc : c = 32 ∨ c = 9) (r : Bytes) (p : Pos) :
    skipSpace sk (c :: r) p = skipSpace sk r (p.adv c) := by
  rw [skipSpace.eq_def]; rcases hc with rfl | rfl <;> simp

theorem skipSpace_bsnl (sk : Bool) (r : Bytes) (p : Pos) :
    skipSpace sk (92 :: 10 :: r) p = skipSpace sk r ⟨p.offs + 2, p.line + 1, 1⟩ := by
  rw [skipSpace.eq_def]; simp

theorem skipSpace_nl_skip (r : Bytes) (p : Pos) : skipSpace true (10 :: r) p = skipSpace true r (p.adv 10) := by
  rw [skipSpace.eq_def]; simp

theorem skipSpace_nl_stop (r : Bytes) (p : Pos) : skipSpace false (10 :: r) p = (10 :: r, p) := by
  rw [skipSpace.eq_def]; simp

def tokStart (b : UInt8) : Bool :=
  isSafe b || b == 39 || b == 59 || b == 38 || b == 124 || b == 40 || b == 41 || b == 123 || b == 125 || b == 33

theorem skipSpace_tok (sk : Bool) (b : UInt8) (r : Bytes) (p : Pos) (hb : tokStart b = true) :
    skipSpace sk (b :: r) p = (b :: r, p) := by
  have ne : ∀ c, tokStart c = false → (b == c) = false := fun c => beq_false_of_class tokStart hb
  rw [skipSpace.eq_def]; simp [ne 32 rfl, ne 9 rfl, ne 10 rfl, ne 92 rfl]

theorem skipSpace_blanks (sk : Bool) (b : Bytes) (hb : ∀ c ∈ b, c = 32 ∨ c = 9) (r : Bytes) :
    ∀ p : Pos, ∃ p', skipSpace sk (b ++ r) p = skipSpace sk r p' ∧ p'.line = p.line := by
  induction b with
  | nil => intro p; exact ⟨p, rfl, rfl⟩
  | cons c t ih =>
    intro p
    have hc := hb c List.mem_cons_self
    obtain ⟨p', h, hl⟩ := ih (fun x hx => hb x (List.mem_cons_of_mem _ hx)) (p.adv c)
    refine ⟨p', by rw [List.cons_append, skipSpace_blank sk c hc, h], ?_⟩
    rw [hl, adv_line_eq]
    rcases hc with rfl | rfl <;> rfl

theorem skipSpace_line (sk : Bool) (src : Bytes) (p : Pos) : (skipSpace sk src p).2.line ≥ p.line := by
  induction src, p using skipSpace.induct (skipNl := sk) with
  | case1 p => rw [skipSpace_nil]; exact Nat.le_refl _
  | case2 b rest p hb ih => rw [skipSpace.eq_def]; simp only [if_pos hb]; exact Nat.le_trans (Pos.adv_line p b) ih
  | case3 b rest p hb hn ih =>
    rw [skipSpace.eq_def]; simp only [if_neg hb, if_pos hn]; exact Nat.le_trans (Pos.adv_line p b) ih
  | case4 b p hb hn h92 rest' ih =>
    rw [skipSpace.eq_def]; simp only [if_neg hb, if_neg hn, if_pos h92]; exact Nat.le_trans (Nat.le_succ _) ih
  | case5 b rest p hb hn h92 hr =>
    rw [skipSpace.eq_def]; simp only [if_neg hb, if_neg hn, if_pos h92]; exact Nat.le_refl _
  | case6 b rest p hb hn h92 =>
    rw [skipSpace.eq_def]; simp only [if_neg hb, if_neg hn, if_neg h92]; exact Nat.le_refl _

def Tok.notWord : Tok → Prop
  | .word _ _ => False
  | _ => True

/-- What `nextTok` answers when the blanks end at `p` with `r` unread.  `one` and `two` are the
    operators, and `outside` / `unclosedQuote`, which stop the lexer; a word is its parts laid out from `p`. -/
inductive NextTok (p : Pos) : Bytes → Lexed → Prop
  | eof : NextTok p [] ⟨.eof, p, [], p⟩
  | one {b : UInt8} {rest : Bytes} {t : Tok} : t.notWord → NextTok p (b :: rest) ⟨t, p, rest, p.adv b⟩
  | two {b c : UInt8} {r : Bytes} {t : Tok} : t.notWord → NextTok p (b :: c :: r) ⟨t, p, r, (p.adv b).adv b⟩
  | rsrv {b : UInt8} {rest : Bytes} : b = 123 ∨ b = 125 ∨ b = 33 →
      NextTok p (b :: rest) ⟨.word ⟨[.lit p (p.adv b) [b]]⟩ (some [b]), p, rest, p.adv b⟩
  | word {c r : Bytes} {parts : List WordPart} {stop : Pos} : parts ≠ [] → Laid p c parts stop →
      NextTok p (c ++ r) ⟨.word ⟨parts⟩ (litWord? parts), p, r, stop⟩

theorem NextTok.ite {p : Pos} {r : Bytes} {c : Prop} [Decidable c] {x y : Lexed}
    (hx : c → NextTok p r x) (hy : ¬c → NextTok p r y) : NextTok p r (if c then x else y) := by
  split
  · exact hx ‹_›
  · exact hy ‹_›

/-- Every general fact about `nextTok` goes through this: the `if`s of `nextTok` are taken one at
    a time (`NextTok.ite`), so that no step has the whole body in its goal. -/
theorem nextTok_spec (sk : Bool) (src : Bytes) (spos : Pos) :
    NextTok (skipSpace sk src spos).2 (skipSpace sk src spos).1 (nextTok sk src spos) := by
  unfold nextTok
  cases skipSpace sk src spos with
  | mk r p =>
    cases r with
    | nil => exact .eof
    | cons b rest =>
      dsimp only
      -- in the order of the `if`s of `nextTok`: newline, `;`, `&`, `|`, `(`, `)`, `{ } !`, a word
      refine .ite (fun _ => .one trivial) fun _ => ?_
      refine .ite (fun _ => by split <;> exact .one trivial) fun _ => ?_
      refine .ite (fun _ => by split <;> first | exact .one trivial | exact .two trivial) fun _ => ?_
      refine .ite (fun _ => by split <;> first | exact .one trivial | exact .two trivial) fun _ => ?_
      refine .ite (fun _ => by split <;> exact .one trivial) fun _ => ?_
      refine .ite (fun _ => .one trivial) fun _ => ?_
      refine .ite (fun hb => .ite (fun _ => .rsrv (by simpa [or_assoc] using hb)) fun _ => .one trivial) fun _ => ?_
      refine .ite (fun hb => ?_) fun _ => .one trivial
      split
      · obtain ⟨c, e, hl, hne⟩ := lexWord_start hb ‹_›
        exact e ▸ .word hne hl
      · exact .one trivial
      · exact .one trivial

theorem NextTok.line {p : Pos} {r : Bytes} {l : Lexed} (h : NextTok p r l) : l.pos = p ∧ p.line ≤ l.rpos.line := by
  cases h with
  | eof => exact ⟨rfl, Nat.le_refl _⟩
  | one _ => exact ⟨rfl, Pos.adv_line _ _⟩
  | two _ => exact ⟨rfl, Nat.le_trans (Pos.adv_line _ _) (Pos.adv_line _ _)⟩
  | rsrv _ => exact ⟨rfl, Pos.adv_line _ _⟩
  | word _ hl => exact ⟨rfl, hl.le⟩

/-- the tokens after which `lexAllF` stops -/
def Tok.last : Tok → Bool
  | .eof | .outside | .unclosedQuote => true
  | _ => false

theorem lexAllF_cons {fuel : Nat} {sk : Bool} {src : Bytes} {pos : Pos} {t : Tok} {tp : Pos} {r : Bytes} {rp : Pos}
    (h : nextTok sk src pos = ⟨t, tp, r, rp⟩) (ht : t.last = false) :
    lexAllF (fuel + 1) sk src pos = (t, tp) :: lexAllF fuel (t == .newl) r rp := by
  rw [lexAllF, h]
  cases t <;> first | rfl | cases ht

theorem lexAllF_of_skip {sk : Bool} {src src' : Bytes} {p p' : Pos} (fuel : Nat)
    (h : skipSpace sk src p = skipSpace sk src' p') : lexAllF fuel sk src p = lexAllF fuel sk src' p' := by
  cases fuel with
  | zero => rfl
  | succ n => rw [lexAllF, lexAllF, nextTok, nextTok, h]

/-- Induction over the token stream: what holds of the empty stream, from any position, and is kept
    when a token as `NextTok` describes it is put in front, holds of `lexAllF`.  The fuel, the blanks
    (`s` is where they start, `p` where they end) and the three tokens that stop the lexer are dealt
    with here. -/
theorem lexAllF_ind {S : Pos → List TokPos → Prop} (nil : ∀ p, S p [])
    (cons : ∀ {s p : Pos} {r : Bytes} {l : Lexed} {rest : List TokPos}, s.line ≤ p.line → NextTok p r l →
      S l.rpos rest → S s ((l.tok, l.pos) :: rest)) :
    ∀ (fuel : Nat) (sk : Bool) (src : Bytes) (spos : Pos), S spos (lexAllF fuel sk src spos) := by
  intro fuel
  induction fuel with
  | zero => exact fun _ _ p => nil p
  | succ n ih =>
    intro sk src spos
    have step := fun rest => cons (rest := rest) (skipSpace_line sk src spos) (nextTok_spec sk src spos)
    rw [lexAllF]
    split
    · rename_i he; exact he ▸ step [] (nil _)
    · rename_i he; exact he ▸ step [] (nil _)
    · rename_i he; exact he ▸ step [] (nil _)
    · exact step _ (ih _ _ _)

/-- for what holds of each token by itself; lines start at 1 and only grow -/
theorem lexAll_forall {Q : TokPos → Prop}
    (step : ∀ {p : Pos} {r : Bytes} {l : Lexed}, 1 ≤ p.line → NextTok p r l → Q (l.tok, p)) (src : Bytes) :
    ∀ tp ∈ lexAll src, Q tp :=
  lexAllF_ind (S := fun s toks => 1 ≤ s.line → ∀ tp ∈ toks, Q tp) (fun _ _ _ h => nomatch h)
    (fun hs hn ih h1 => List.forall_mem_cons.mpr
      ⟨hn.line.1 ▸ step (Nat.le_trans h1 hs) hn, ih (Nat.le_trans (Nat.le_trans h1 hs) hn.line.2)⟩)
    _ _ _ _ (Nat.le_refl 1)

theorem Pos.valid_of_line {p : Pos} (h : p.line ≥ 1) : p.valid = true := by
  unfold Pos.valid
  have : p.line ≠ 0 := by omega
  simp [this]

theorem lexAll_line (src : Bytes) : ∀ tp ∈ lexAll src, tp.2.valid = true :=
  lexAll_forall (fun h1 _ => Pos.valid_of_line h1) src

theorem nextTok_eof (sk : Bool) (p : Pos) : nextTok sk [] p = ⟨.eof, p, [], p⟩ := by
  unfold nextTok; rw [skipSpace_nil]

theorem nextTok_newl (r : Bytes) (p : Pos) : nextTok false (10 :: r) p = ⟨.newl, p, r, p.adv 10⟩ := by
  unfold nextTok; rw [skipSpace_nl_stop]; simp

/-!
  `lexChain ps` is the local condition under which lexing `render ps` gives one token per word
  and operator piece and one newline token per run of newline gaps: every piece has one of the
  shapes the printer writes, and no piece glues with the first byte of the next one. -/

inductive ATok
  | word (n : List NPart)
  | newl | semi | amp | andAnd | orOr | pipe | lparen | rparen | lbrace | rbrace | bang | eof
deriving DecidableEq, Repr, Inhabited

def opTok (b : Bytes) : Option ATok :=
  if b = [59] then some .semi else if b = [38] then some .amp else if b = [38, 38] then some .andAnd
  else if b = [124, 124] then some .orOr else if b = [124] then some .pipe else if b = [40] then some .lparen
  else if b = [41] then some .rparen else if b = [123] then some .lbrace else if b = [125] then some .rbrace
  else if b = [33] then some .bang else none

/-- `opTok` is a lookup in this table -/
def opTable : List (Bytes × ATok) :=
  [([59], .semi), ([38], .amp), ([38, 38], .andAnd), ([124, 124], .orOr), ([124], .pipe), ([40], .lparen),
   ([41], .rparen), ([123], .lbrace), ([125], .rbrace), ([33], .bang)]

def tableGet : List (Bytes × ATok) → Bytes → Option ATok
  | [], _ => none
  | (k, v) :: r, b => if b = k then some v else tableGet r b

theorem tableGet_mem {b : Bytes} {a : ATok} : ∀ {t : List (Bytes × ATok)}, tableGet t b = some a → (b, a) ∈ t
  | [] => fun h => by cases h
  | (k, v) :: r => fun h => by
    unfold tableGet at h
    split at h
    · cases h; subst_vars; exact List.mem_cons_self
    · exact List.mem_cons_of_mem _ (tableGet_mem h)

theorem opTok_mem {b : Bytes} {a : ATok} (h : opTok b = some a) : (b, a) ∈ opTable :=
  tableGet_mem (t := opTable) h

/-- layout the printer writes: a blank, a newline, an escaped newline, a run of tabs or blanks -/
inductive GapKind
  | blanks | newline | bsnl

def gapKind (b : Bytes) : Option GapKind :=
  if b = [10] then some .newline
  else if b = [92, 10] then some .bsnl
  else if b ≠ [] ∧ (b.all (· == 32) ∨ b.all (· == 9)) then some .blanks
  else none

def Piece.shapeOK : Piece → Bool
  | .word parts => !parts.isEmpty && parts.all WordPart.wf
  | .op b => (opTok b).isSome
  | .gap b => (gapKind b).isSome

def optAll (f : UInt8 → Bool) : Option UInt8 → Bool
  | none => true
  | some b => f b

/-- what may directly follow a piece, after the lookahead of `nextTok` (`next` is the next byte of
    the output, if any) -/
def followOK (p : Piece) (next : Option UInt8) : Bool :=
  match p with
  | .word _ => optAll isDelim next
  | .gap _ => true
  | .op b =>
    if b = [59] then optAll (fun c => c != 59 && c != 38 && c != 124) next
    else if b = [38] then optAll (fun c => c != 38 && c != 62 && c != 124 && c != 33) next
    else if b = [124] then optAll (fun c => c != 124 && c != 38) next
    else if b = [40] then optAll (fun c => c != 40 && c != 41) next
    else if b = [123] ∨ b = [125] ∨ b = [33] then optAll isDelim next
    else true

def lexChain : List Piece → Bool
  | [] => true
  | p :: rest => p.shapeOK && followOK p (render rest).head? && lexChain rest

/-- the tokens the lexer gives for the pieces; `sk` says whether the previous token was a newline -/
def expect (sk : Bool) : List Piece → List ATok
  | [] => [.eof]
  | .word parts :: rest => .word (mergeN (parts.map WordPart.erase)) :: expect false rest
  | .op b :: rest => (match opTok b with | some t => [t] | none => []) ++ expect false rest
  | .gap b :: rest =>
    match gapKind b with
    | some .newline => if sk then expect true rest else .newl :: expect true rest
    | _ => expect sk rest

def tokMatch : ATok → Tok → Prop
  | .word n, t => ∃ w lit, t = .word w lit ∧ mergeN (w.parts.map WordPart.erase) = n ∧ ∀ v, lit = some v → n = [.lit v]
  | .newl, t => t = .newl
  | .semi, t => t = .semi
  | .amp, t => t = .amp
  | .andAnd, t => t = .andAnd
  | .orOr, t => t = .orOr
  | .pipe, t => t = .pipe
  | .lparen, t => t = .lparen
  | .rparen, t => t = .rparen
  | .lbrace, t => ∃ w, t = .word w (some [123])
  | .rbrace, t => ∃ w, t = .word w (some [125])
  | .bang, t => ∃ w, t = .word w (some [33])
  | .eof, t => t = .eof

def toksMatch : List ATok → List TokPos → Prop
  | [], [] => True
  | a :: as, (t, _) :: ts => tokMatch a t ∧ toksMatch as ts
  | _, _ => False

theorem litWord?_some {res : List WordPart} {v : Bytes} (h : litWord? res = some v) :
    mergeN (res.map WordPart.erase) = [.lit v] := by
  unfold litWord? at h
  split at h
  · rename_i a e v'
    simp only [Option.some.injEq] at h
    subst h
    simp [WordPart.erase, mergeN]
  · cases h

theorem all_eq_replicate (b : Bytes) (c : UInt8) (h : b.all (· == c) = true) : b = List.replicate b.length c := by
  induction b with
  | nil => rfl
  | cons x t ih =>
    simp only [List.all_cons, Bool.and_eq_true, beq_iff_eq] at h
    rw [List.length_cons, List.replicate_succ, ← ih h.2, h.1]

theorem eofOrDelim_of_head {k : Bytes} (h : optAll isDelim k.head? = true) : eofOrDelim k = true := by
  cases k with
  | nil => rfl
  | cons d t => simpa [optAll, eofOrDelim] using h

theorem nextTok_semi (sk : Bool) (r : Bytes) (p : Pos) (h : followOK (.op [59]) r.head? = true) :
    nextTok sk (59 :: r) p = ⟨.semi, p, r, p.adv 59⟩ := by
  unfold nextTok; rw [skipSpace_tok sk 59 r p (by decide)]
  cases r with
  | nil => rfl
  | cons c t =>
    replace h : (c != 59 && c != 38 && c != 124) = true := h
    simp only [Bool.and_eq_true, bne_iff_ne, ne_eq] at h
    simp [h]

theorem nextTok_amp (sk : Bool) (r : Bytes) (p : Pos) (h : followOK (.op [38]) r.head? = true) :
    nextTok sk (38 :: r) p = ⟨.amp, p, r, p.adv 38⟩ := by
  unfold nextTok; rw [skipSpace_tok sk 38 r p (by decide)]
  cases r with
  | nil => rfl
  | cons c t =>
    replace h : (c != 38 && c != 62 && c != 124 && c != 33) = true := h
    simp only [Bool.and_eq_true, bne_iff_ne, ne_eq] at h
    simp [h]

theorem nextTok_andAnd (sk : Bool) (r : Bytes) (p : Pos) :
    nextTok sk (38 :: 38 :: r) p = ⟨.andAnd, p, r, (p.adv 38).adv 38⟩ := by
  unfold nextTok; rw [skipSpace_tok sk 38 _ p (by decide)]; simp

theorem nextTok_orOr (sk : Bool) (r : Bytes) (p : Pos) :
    nextTok sk (124 :: 124 :: r) p = ⟨.orOr, p, r, (p.adv 124).adv 124⟩ := by
  unfold nextTok; rw [skipSpace_tok sk 124 _ p (by decide)]; simp

theorem nextTok_pipe (sk : Bool) (r : Bytes) (p : Pos) (h : followOK (.op [124]) r.head? = true) :
    nextTok sk (124 :: r) p = ⟨.pipe, p, r, p.adv 124⟩ := by
  unfold nextTok; rw [skipSpace_tok sk 124 r p (by decide)]
  cases r with
  | nil => rfl
  | cons c t =>
    replace h : (c != 124 && c != 38) = true := h
    simp only [Bool.and_eq_true, bne_iff_ne, ne_eq] at h
    simp [h]

theorem nextTok_lparen (sk : Bool) (r : Bytes) (p : Pos) (h : followOK (.op [40]) r.head? = true) :
    nextTok sk (40 :: r) p = ⟨.lparen, p, r, p.adv 40⟩ := by
  unfold nextTok; rw [skipSpace_tok sk 40 r p (by decide)]
  cases r with
  | nil => rfl
  | cons c t =>
    replace h : (c != 40 && c != 41) = true := h
    simp only [Bool.and_eq_true, bne_iff_ne, ne_eq] at h
    simp [h]

theorem nextTok_rparen (sk : Bool) (r : Bytes) (p : Pos) :
    nextTok sk (41 :: r) p = ⟨.rparen, p, r, p.adv 41⟩ := by
  unfold nextTok; rw [skipSpace_tok sk 41 r p (by decide)]; simp

theorem nextTok_rsrv (sk : Bool) (b : UInt8) (hb : b = 123 ∨ b = 125 ∨ b = 33) (r : Bytes) (p : Pos)
    (h : followOK (.op [b]) r.head? = true) :
    nextTok sk (b :: r) p = ⟨.word ⟨[.lit p (p.adv b) [b]]⟩ (some [b]), p, r, p.adv b⟩ := by
  have hd : eofOrDelim r = true := by
    apply eofOrDelim_of_head
    rcases hb with rfl | rfl | rfl <;> exact h
  unfold nextTok
  rcases hb with rfl | rfl | rfl
  · rw [skipSpace_tok sk 123 r p (by decide)]; simp [hd]
  · rw [skipSpace_tok sk 125 r p (by decide)]; simp [hd]
  · rw [skipSpace_tok sk 33 r p (by decide)]; simp [hd]

theorem Word.wf_parts {w : Word} (h : w.wf = true) : ∀ p ∈ w.parts, p.wf = true := by
  unfold Word.wf at h
  simp only [Bool.and_eq_true, List.all_eq_true] at h
  exact h.2

theorem wordBytes_head (parts : List WordPart) (hne : parts ≠ []) (hw : ∀ p ∈ parts, p.wf = true) :
    ∃ b t, wordBytes parts = b :: t ∧ (isSafe b = true ∨ b = 39) := by
  cases parts with
  | nil => exact absurd rfl hne
  | cons p rest =>
    have hp := hw p (by simp)
    cases p with
    | lit a e v =>
      obtain ⟨hb, hne', hs⟩ := WordPart.wf_lit_bytes hp
      cases v with
      | nil => exact absurd rfl hne'
      | cons b v' => exact ⟨b, v' ++ wordBytes rest, by simp [wordBytes, hb], Or.inl (hs b (by simp))⟩
    | sgl l r v => exact ⟨39, v ++ [39] ++ wordBytes rest, by simp [wordBytes, WordPart.bytes], Or.inr rfl⟩

theorem wordStart_facts : ∀ b : UInt8, (isSafe b = true ∨ b = 39) →
    tokStart b = true ∧ (b == 10) = false ∧ (b == 59) = false ∧ (b == 38) = false ∧ (b == 124) = false ∧
    (b == 40) = false ∧ (b == 41) = false ∧ (b == 123) = false ∧ (b == 125) = false ∧ (b == 33) = false ∧
    (isSafe b || b == 39) = true := by
  intro b hb
  rcases hb with hb | rfl
  · obtain ⟨_, _, _, f10, _, _, f59, f38, f124, f40, f41, f123, f125, f33⟩ := safe_facts b hb
    exact ⟨by simp only [tokStart, hb, Bool.true_or], f10, f59, f38, f124, f40, f41, f123, f125, f33,
      by simp only [hb, Bool.true_or]⟩
  · decide

theorem nextTok_word (sk : Bool) (parts : List WordPart) (hne : parts ≠ []) (hw : ∀ p ∈ parts, p.wf = true)
    (k : Bytes) (hk : eofOrDelim k = true) (p : Pos) :
    ∃ res stop, nextTok sk (wordBytes parts ++ k) p = ⟨.word ⟨res⟩ (litWord? res), p, k, stop⟩ ∧
      mergeN (res.map WordPart.erase) = mergeN (parts.map WordPart.erase) ∧
      stop.line = p.line + nls (wordBytes parts) := by
  obtain ⟨b, t, hbt, hb⟩ := wordBytes_head parts hne hw
  obtain ⟨res, stop, h1, h2⟩ := lexWord_parts parts hw k hk p .idle [] (by simp [LexMode.notSgl])
  refine ⟨res, stop, ?_, by simpa [pend] using h2, ?_⟩
  · obtain ⟨f0, f1, f2, f3, f4, f5, f6, f7, f8, f9, f10⟩ := wordStart_facts b hb
    unfold nextTok
    rw [hbt] at h1 ⊢
    rw [List.cons_append, skipSpace_tok sk b _ p f0]
    rw [List.cons_append] at h1
    simp only [f1, f2, f3, f4, f5, f6, f7, f8, f9, f10, Bool.false_eq_true, ↓reduceIte, Bool.or_self, h1]
  · obtain ⟨c, e1, hl, _⟩ := lexWord_laid h1
    rw [hl.bytes.2, ← List.append_cancel_right e1, Pos.advs_line]

theorem gapKind_newline {b : Bytes} (h : gapKind b = some .newline) : b = [10] := by
  unfold gapKind at h
  split at h
  · assumption
  · split at h
    · cases h
    · split at h <;> cases h

theorem gapKind_bsnl {b : Bytes} (h : gapKind b = some .bsnl) : b = [92, 10] := by
  unfold gapKind at h
  split at h
  · cases h
  · split at h
    · assumption
    · split at h <;> cases h

theorem gapKind_blanks {b : Bytes} (h : gapKind b = some .blanks) :
    b ≠ [] ∧ (b.all (· == 32) = true ∨ b.all (· == 9) = true) := by
  unfold gapKind at h
  split at h
  · cases h
  · split at h
    · cases h
    · split at h
      · assumption
      · cases h

theorem lexAllF_op {b : Bytes} {a : ATok} (ha : opTok b = some a) (k : Bytes) (hf : followOK (.op b) k.head? = true)
    (n : Nat) (sk : Bool) (pos : Pos) :
    ∃ t rp, lexAllF (n + 1) sk (b ++ k) pos = (t, pos) :: lexAllF n false k rp ∧ tokMatch a t ∧ rp.line = pos.line := by
  have fin : ∀ {t : Tok} {rp : Pos}, nextTok sk (b ++ k) pos = ⟨t, pos, k, rp⟩ → t.last = false → (t == .newl) = false →
      tokMatch a t → rp.line = pos.line →
      ∃ t rp, lexAllF (n + 1) sk (b ++ k) pos = (t, pos) :: lexAllF n false k rp ∧ tokMatch a t ∧ rp.line = pos.line :=
    fun h h1 h2 h3 h4 => ⟨_, _, h2 ▸ lexAllF_cons h h1, h3, h4⟩
  have hmem := opTok_mem ha
  simp only [opTable, List.mem_cons, Prod.mk.injEq, List.not_mem_nil, or_false] at hmem
  rcases hmem with ⟨rfl, rfl⟩ | ⟨rfl, rfl⟩ | ⟨rfl, rfl⟩ | ⟨rfl, rfl⟩ | ⟨rfl, rfl⟩ | ⟨rfl, rfl⟩ | ⟨rfl, rfl⟩ |
    ⟨rfl, rfl⟩ | ⟨rfl, rfl⟩ | ⟨rfl, rfl⟩
  · exact fin (nextTok_semi sk k pos hf) rfl rfl rfl rfl
  · exact fin (nextTok_amp sk k pos hf) rfl rfl rfl rfl
  · exact fin (nextTok_andAnd sk k pos) rfl rfl rfl rfl
  · exact fin (nextTok_orOr sk k pos) rfl rfl rfl rfl
  · exact fin (nextTok_pipe sk k pos hf) rfl rfl rfl rfl
  · exact fin (nextTok_lparen sk k pos hf) rfl rfl rfl rfl
  · exact fin (nextTok_rparen sk k pos) rfl rfl rfl rfl
  · exact fin (nextTok_rsrv sk 123 (.inl rfl) k pos hf) rfl rfl ⟨_, rfl⟩ rfl
  · exact fin (nextTok_rsrv sk 125 (.inr (.inl rfl)) k pos hf) rfl rfl ⟨_, rfl⟩ rfl
  · exact fin (nextTok_rsrv sk 33 (.inr (.inr rfl)) k pos hf) rfl rfl ⟨_, rfl⟩ rfl

/-- the lines of the tokens the lexer gives for the pieces (newline tokens and the final `eof`
    included), when the first piece starts on line `L` -/
def expectLines (sk : Bool) (L : Nat) : List Piece → List Nat
  | [] => [L]
  | .word parts :: rest => L :: expectLines false (L + nls (wordBytes parts)) rest
  | .op b :: rest => (match opTok b with | some _ => [L] | none => []) ++ expectLines false L rest
  | .gap b :: rest =>
    match gapKind b with
    | some .newline => if sk then expectLines true (L + 1) rest else L :: expectLines true (L + 1) rest
    | some .bsnl => expectLines sk (L + 1) rest
    | _ => expectLines sk L rest

theorem lexAllF_printed (ps : List Piece) : lexChain ps = true → ∀ (sk : Bool) (pos : Pos) (fuel : Nat),
    fuel ≥ (render ps).length + 1 →
    toksMatch (expect sk ps) (lexAllF fuel sk (render ps) pos) ∧
    (lexAllF fuel sk (render ps) pos).map (fun tp => tp.2.line) = expectLines sk pos.line ps := by
  induction ps with
  | nil =>
    intro _ sk pos fuel hf
    cases fuel with
    | zero => cases hf
    | succ n => rw [show render [] = [] from rfl, lexAllF, nextTok_eof]; exact ⟨⟨rfl, trivial⟩, rfl⟩
  | cons pc rest ih =>
    intro hc sk pos fuel hf
    simp only [lexChain, Bool.and_eq_true] at hc
    obtain ⟨⟨hshape, hfollow⟩, hrest⟩ := hc
    rw [show render (pc :: rest) = pc.bytes ++ render rest from by simp [render]] at hf ⊢
    rw [List.length_append] at hf
    cases pc with
    | word parts =>
      simp only [Piece.shapeOK, Bool.and_eq_true, Bool.not_eq_true', List.isEmpty_eq_false_iff, List.all_eq_true] at hshape
      obtain ⟨hne, hwf⟩ := hshape
      obtain ⟨res, stop, hnt, hm, hstop⟩ := nextTok_word sk parts hne hwf (render rest) (eofOrDelim_of_head hfollow) pos
      obtain ⟨b, t, hbt, _⟩ := wordBytes_head parts hne hwf
      cases fuel with
      | zero => cases hf
      | succ n =>
        obtain ⟨i1, i2⟩ := ih hrest false stop n (by simp only [Piece.bytes, hbt, List.length_cons] at hf; omega)
        rw [Piece.bytes, lexAllF_cons hnt rfl]
        exact ⟨⟨⟨⟨res⟩, _, rfl, hm, fun v hv => hm ▸ litWord?_some hv⟩, i1⟩,
          by rw [expectLines, ← hstop]; exact congrArg (pos.line :: ·) i2⟩
    | op b =>
      cases hop : opTok b with
      | none => simp [Piece.shapeOK, hop] at hshape
      | some a =>
        have : b.length ≥ 1 := by
          cases b with
          | nil => cases hop
          | cons _ _ => exact Nat.le_add_left _ _
        cases fuel with
        | zero => cases hf
        | succ n =>
          obtain ⟨t, rp, h1, h2, h3⟩ := lexAllF_op hop (render rest) hfollow n sk pos
          obtain ⟨i1, i2⟩ := ih hrest false rp n (by simp only [Piece.bytes] at hf; omega)
          rw [Piece.bytes, h1, expect, expectLines, hop]
          exact ⟨⟨h2, i1⟩, by rw [h3] at i2; exact congrArg (pos.line :: ·) i2⟩
    | gap b =>
      rw [Piece.bytes] at hf ⊢
      cases hgk : gapKind b with
      | none => simp [Piece.shapeOK, hgk] at hshape
      | some g =>
        rw [expect, expectLines, hgk]
        cases g with
        | newline =>
          cases gapKind_newline hgk
          have hl : (pos.adv 10).line = pos.line + 1 := rfl
          cases sk with
          | true =>
            rw [List.singleton_append, lexAllF_of_skip fuel (skipSpace_nl_skip _ pos), ← hl]
            exact ih hrest true _ fuel (by simp only [List.length_singleton] at hf; omega)
          | false =>
            cases fuel with
            | zero => cases hf
            | succ n =>
              obtain ⟨i1, i2⟩ := ih hrest true (pos.adv 10) n (by simp only [List.length_singleton] at hf; omega)
              rw [List.singleton_append, lexAllF_cons (nextTok_newl _ pos) rfl]
              exact ⟨⟨rfl, i1⟩, by rw [hl] at i2; exact congrArg (pos.line :: ·) i2⟩
        | bsnl =>
          cases gapKind_bsnl hgk
          rw [show ([92, 10] : Bytes) ++ render rest = 92 :: 10 :: render rest from rfl,
            lexAllF_of_skip fuel (skipSpace_bsnl sk _ pos)]
          exact ih hrest sk ⟨pos.offs + 2, pos.line + 1, 1⟩ fuel (by omega)
        | blanks =>
          obtain ⟨_, hall⟩ := gapKind_blanks hgk
          obtain ⟨p', hp', hl'⟩ := skipSpace_blanks sk b (by
            intro c hc
            rcases hall with hall | hall
            · exact .inl (by simpa using List.all_eq_true.mp hall c hc)
            · exact .inr (by simpa using List.all_eq_true.mp hall c hc)) (render rest) pos
          rw [lexAllF_of_skip fuel hp', ← hl']
          exact ih hrest sk p' fuel (by omega)

theorem lexAll_pieces (ps : List Piece) (h : lexChain ps = true) :
    toksMatch (expect false ps) (lexAll (render ps)) :=
  (lexAllF_printed ps h false _ _ (Nat.le_refl _)).1

theorem lexAll_pieces_lines (ps : List Piece) (h : lexChain ps = true) :
    (lexAll (render ps)).map (fun tp => tp.2.line) = expectLines false 1 ps :=
  (lexAllF_printed ps h false _ _ (Nat.le_refl _)).2

end ShVerif.L4
