/-
  L4: what the model parser builds from the token stream is well-formed and carries non-decreasing
  line numbers (`parse_WF`), for every input.  The parser only copies the positions of the tokens
  into the tree, in order (so the sorted lines of the stream, `lexAll_ok`, stay sorted), and the
  constructors it uses give the shapes `wf` asks for.
-/
import ShVerif.Proofs.L4Parse
import ShVerif.Proofs.L4LexLines
import ShVerif.Proofs.L4Gram
namespace ShVerif.L4

/-- proves `l₁ <+ l₂` for lists built with `++` and `::` from the same segments, `l₂` having extra ones -/
macro "sub_tac" : tactic => `(tactic| (
  try simp only [List.append_assoc, List.cons_append, List.nil_append, List.singleton_append, List.append_nil]
  repeat (first
    | exact List.Sublist.refl _
    | exact List.nil_sublist _
    | apply List.Sublist.append_left
    | apply List.Sublist.cons_cons
    | apply List.Sublist.cons
    | apply List.Sublist.trans _ (List.sublist_append_right _ _))))

theorem Sorted.dup_mid {A B : List Nat} {x : Nat} (h : Sorted (A ++ x :: B)) : Sorted (A ++ x :: x :: B) := by
  unfold Sorted at h ⊢
  rw [List.pairwise_append] at h ⊢
  obtain ⟨h1, h2, h3⟩ := h
  refine ⟨h1, ?_, ?_⟩
  · rw [List.pairwise_cons]
    exact ⟨fun y hy => by
      rcases List.mem_cons.mp hy with rfl | hy
      · exact Nat.le_refl _
      · exact (List.pairwise_cons.mp h2).1 y hy, h2⟩
  · intro a ha b hb
    rcases List.mem_cons.mp hb with rfl | hb
    · exact h3 a ha _ (by simp)
    · exact h3 a ha b hb

def slines (l : List Stmt) : List Nat := l.flatMap Stmt.lines
def wordsL (ws : List Word) : List Nat := ws.flatMap (fun w => wlines w.parts)

theorem call_lines (args : List Word) : (Cmd.call args).lines = wordsL args := by
  simp [Cmd.lines, wordsL, wlines]

theorem ofList_lines : ∀ l : List Stmt, (Stmts.ofList l).lines = slines l
  | [] => by simp [Stmts.ofList, Stmts.lines, slines]
  | s :: r => by simp [Stmts.ofList, Stmts.lines, slines, ofList_lines r]

theorem ofList_wf : ∀ l : List Stmt, (∀ s ∈ l, s.wf = true) → (Stmts.ofList l).wf = true
  | [], _ => by simp [Stmts.ofList, Stmts.wf]
  | s :: r, h => by
    simp only [Stmts.ofList, Stmts.wf, Bool.and_eq_true]
    exact ⟨h s (by simp), ofList_wf r (fun x hx => h x (by simp [hx]))⟩

theorem ofList_length : ∀ l : List Stmt, (Stmts.ofList l).length = l.length
  | [] => rfl
  | s :: r => by simp [Stmts.ofList, Stmts.length, ofList_length r]

def AllOK (ps : PS) : Prop := ∀ tp ∈ ps.toks, tp.1.ok

theorem AllOK.next {ps : PS} (h : AllOK ps) : AllOK ps.next := by
  intro tp htp
  exact h tp (List.mem_of_mem_tail htp)

theorem AllOK.of_toks {ps : PS} {tp : TokPos} {rest : List TokPos} (h : AllOK ps) (e : ps.toks = tp :: rest) :
    tp.1.ok ∧ AllOK ⟨rest⟩ :=
  ⟨h tp (by rw [e]; simp), fun x hx => h x (by rw [e]; exact List.mem_cons_of_mem _ hx)⟩

theorem tokLines_next_sub (ps : PS) : (tokLines ps.next.toks).Sublist (tokLines ps.toks) := by
  unfold PS.next
  cases ps.toks with
  | nil => exact List.Sublist.refl _
  | cons tp rest =>
    simp only [List.tail_cons, tokLines]
    sub_tac

theorem gotNewl_facts (ps : PS) : (tokLines ps.gotNewl.2.toks).Sublist (tokLines ps.toks) ∧ (AllOK ps → AllOK ps.gotNewl.2) := by
  unfold PS.gotNewl
  split
  · exact ⟨tokLines_next_sub ps, AllOK.next⟩
  · exact ⟨List.Sublist.refl _, id⟩

theorem Sorted.head_pos {pre : List Nat} {ps : PS} (h : Sorted (pre ++ tokLines ps.toks)) (hne : ps.toks ≠ []) :
    Sorted (pre ++ [ps.pos.line] ++ tokLines ps.toks) := by
  obtain ⟨toks⟩ := ps
  cases toks with
  | nil => exact absurd rfl hne
  | cons tp rest =>
    obtain ⟨t, p⟩ := tp
    simp only [tokLines, PS.pos] at h ⊢
    have := h.dup_mid
    simpa [List.append_assoc] using this

theorem Sorted.head_stmt {A B : List Nat} {s : Stmt} (h : Sorted (A ++ s.lines ++ B)) :
    Sorted (A ++ s.pos.line :: s.lines ++ B) := by
  obtain ⟨t, ht⟩ := Stmt.lines_cons s
  rw [ht] at h ⊢
  have : Sorted (A ++ s.pos.line :: (t ++ B)) := by simpa [List.append_assoc] using h
  simpa [List.append_assoc] using this.dup_mid

theorem Tok.ok_word_wf {w : Word} {lit : Option Bytes} (h : (Tok.word w lit).ok) (hv : plainLit lit) : w.wf = true := by
  rcases h with h | ⟨b, hb, hl⟩
  · exact h.1
  · exfalso
    refine hv [b] hl ?_
    rcases hb with rfl | rfl | rfl <;> simp

theorem GArgs.wf {ps : PS} {ws : List Word} {ps' : PS} (h : GArgs ps ws ps') : AllOK ps →
    ∀ pre, Sorted (pre ++ tokLines ps.toks) →
    AllOK ps' ∧ (∀ w ∈ ws, w.wf = true) ∧ Sorted (pre ++ wordsL ws ++ tokLines ps'.toks) := by
  induction h with
  | nil => exact fun hok pre hs => ⟨hok, nofun, by simpa [wordsL] using hs⟩
  | @cons w lit p rest ws ps' hp _ ih =>
    intro hok pre hs
    obtain ⟨hwok, hrestok⟩ := hok.of_toks rfl
    simp only [tokLines, Tok.lines] at hs
    obtain ⟨r1, r2, r3⟩ := ih hrestok (pre ++ wlines w.parts) (hs.sub (by sub_tac))
    refine ⟨r1, fun x hx => ?_, by simpa [wordsL, List.append_assoc] using r3⟩
    rcases List.mem_cons.mp hx with rfl | hx
    · exact Tok.ok_word_wf hwok hp
    · exact r2 x hx

theorem litValue_none_of_sgl : ∀ (parts : List WordPart), (∃ p ∈ parts, p.isLit = false) →
    (Word.mk parts).litValue? = none
  | [], h => by obtain ⟨p, hp, _⟩ := h; cases hp
  | p :: rest, h => by
    simp only [Word.litValue?, List.foldr_cons]
    cases p with
    | sgl l r v => rfl
    | lit a e v =>
      have : (Word.mk rest).litValue? = none := by
        apply litValue_none_of_sgl rest
        obtain ⟨q, hq, hql⟩ := h
        rcases List.mem_cons.mp hq with rfl | hq
        · simp [WordPart.isLit] at hql
        · exact ⟨q, hq, hql⟩
      simp only [Word.litValue?] at this
      rw [this]

theorem cmdNameOK_of_ok (w : Word) (lit : Option Bytes) (hwf : w.wf = true)
    (h2 : w.parts.length ≥ 2 → hasSgl w.parts = true) (hl : lit = litWord? w.parts)
    (hk : ∀ v, lit = some v → isOutsideKeyword v = false) : w.cmdNameOK = true := by
  unfold Word.cmdNameOK
  cases hv : w.litValue? with
  | none => rfl
  | some v =>
    simp only [Bool.not_eq_true']
    obtain ⟨parts⟩ := w
    simp only at h2 hl hv
    have hne := Word.wf_parts_ne hwf
    simp only at hne
    cases parts with
    | nil => exact absurd rfl hne
    | cons p rest =>
      cases rest with
      | cons q rest2 =>
        have hs := h2 (by simp)
        simp only [hasSgl, List.any_eq_true, Bool.not_eq_true'] at hs
        obtain ⟨x, hx, hxl⟩ := hs
        rw [litValue_none_of_sgl _ ⟨x, hx, hxl⟩] at hv
        cases hv
      | nil =>
        cases p with
        | sgl l r x => simp [Word.litValue?] at hv
        | lit a e x =>
          simp only [Word.litValue?, List.foldr_cons, List.foldr_nil, List.append_nil, Option.some.injEq] at hv
          subst hv
          exact hk x (by rw [hl]; rfl)

/-! The claims, one per parser function, by induction on the fuel.  The invariant: the lines of what
    has been built (`pre`, then the current statement) followed by the lines of the unread tokens
    are sorted as a whole. -/

/-- a statement as `gotStmtPipe` builds it -/
structure PipeSt (s : Stmt) : Prop where
  wf : s.wf = true
  bare : s.bare = true
  nao : s.cmd.isAndOr = false

def ClaimFirst (n : Nat) : Prop :=
  ∀ (inSub : Bool) (pos : Pos) (neg : Bool) (ps : PS) (s : Stmt) (ps' : PS),
    firstCmdF n inSub pos neg ps = .ok (some s, ps') → AllOK ps →
    ∀ pre, Sorted (pre ++ [pos.line] ++ tokLines ps.toks) →
    AllOK ps' ∧ Sorted (pre ++ s.lines ++ tokLines ps'.toks) ∧ PipeSt s ∧ s.negated = neg ∧ s.cmd.isBinary = false

def ClaimGot (n : Nat) : Prop :=
  ∀ (inSub : Bool) (pos : Pos) (neg binCmd : Bool) (ps : PS) (s : Stmt) (ps' : PS),
    gotStmtPipeF n inSub pos neg binCmd ps = .ok (some s, ps') → AllOK ps →
    ∀ pre, Sorted (pre ++ [pos.line] ++ tokLines ps.toks) →
    AllOK ps' ∧ Sorted (pre ++ s.lines ++ tokLines ps'.toks) ∧ PipeSt s ∧ s.negated = neg ∧
      (binCmd = true → s.cmd.isBinary = false)

def ClaimPipe (n : Nat) : Prop :=
  ∀ (inSub binCmd : Bool) (s : Stmt) (ps : PS) (s' : Stmt) (ps' : PS),
    pipeF n inSub binCmd s ps = .ok (s', ps') → AllOK ps → PipeSt s →
    ∀ pre, Sorted (pre ++ s.lines ++ tokLines ps.toks) →
    AllOK ps' ∧ Sorted (pre ++ s'.lines ++ tokLines ps'.toks) ∧ PipeSt s' ∧ s'.negated = s.negated ∧
      (binCmd = true → s' = s)

def ClaimGet (n : Nat) : Prop :=
  ∀ (inSub readEnd binCmd : Bool) (ps : PS) (s : Stmt) (ps' : PS),
    getStmtF n inSub readEnd binCmd ps = .ok (some s, ps') → AllOK ps →
    ∀ pre, Sorted (pre ++ tokLines ps.toks) →
    AllOK ps' ∧ Sorted (pre ++ s.lines ++ tokLines ps'.toks) ∧ s.wf = true ∧ (readEnd = false → s.bare = true) ∧
      (binCmd = true → s.cmd.isAndOr = false)

def ClaimAndOr (n : Nat) : Prop :=
  ∀ (inSub binCmd : Bool) (s : Stmt) (ps : PS) (s' : Stmt) (ps' : PS),
    andOrF n inSub binCmd s ps = .ok (s', ps') → AllOK ps → s.wf = true → s.bare = true →
    ∀ pre, Sorted (pre ++ s.lines ++ tokLines ps.toks) →
    AllOK ps' ∧ Sorted (pre ++ s'.lines ++ tokLines ps'.toks) ∧ s'.wf = true ∧ s'.bare = true ∧
      (binCmd = true → s' = s)

def ClaimStmts (n : Nat) : Prop :=
  ∀ (inSub stopBrace gotEnd : Bool) (ps : PS) (acc ss : List Stmt) (ps' : PS),
    stmtsF n inSub stopBrace gotEnd ps acc = .ok (ss, ps') → AllOK ps → (∀ s ∈ acc, s.wf = true) →
    ∀ pre, Sorted (pre ++ slines acc.reverse ++ tokLines ps.toks) →
    AllOK ps' ∧ Sorted (pre ++ slines ss ++ tokLines ps'.toks) ∧ (∀ s ∈ ss, s.wf = true)

theorem mkStmt_lines (pos : Pos) (neg : Bool) (c : Cmd) : (mkStmt pos neg c).lines = pos.line :: c.lines := by
  simp [mkStmt, Stmt.lines, Pos.zero, Pos.valid]

theorem mkStmt_pipeSt (pos : Pos) (neg : Bool) (c : Cmd) (hc : c.wf = true) (hn : c.isAndOr = false) :
    PipeSt (mkStmt pos neg c) :=
  ⟨by simp [mkStmt, Stmt.wf, hc, hn], by simp [mkStmt, Stmt.bare, Stmt.bg, Stmt.semi, Pos.zero, Pos.valid],
    by simpa [mkStmt, Stmt.cmd] using hn⟩

/-- the statements between an opening token at `o` and the closing token the list stopped at -/
theorem compound_wf {n : Nat} (hS : ClaimStmts n) {sub sb : Bool} {rest : List TokPos} {ss : List Stmt} {t : Tok} {cl : Pos}
    {rest' : List TokPos} (hst : stmtsF n sub sb true ⟨rest⟩ [] = .ok (ss, ⟨(t, cl) :: rest'⟩)) (hne : ss ≠ [])
    (hok : AllOK ⟨rest⟩) (pre : List Nat) (o : Pos) (hs : Sorted (pre ++ o.line :: tokLines rest)) (mk : Stmts → Cmd)
    (hl : (mk (Stmts.ofList ss)).lines = o.line :: ((Stmts.ofList ss).lines ++ [cl.line]))
    (hw : (mk (Stmts.ofList ss)).wf = ((Stmts.ofList ss).length > 0 && (Stmts.ofList ss).wf)) :
    AllOK ⟨rest'⟩ ∧ Sorted (pre ++ (mk (Stmts.ofList ss)).lines ++ tokLines rest') ∧ (mk (Stmts.ofList ss)).wf = true := by
  obtain ⟨r1, r2, r3⟩ := hS sub sb true ⟨rest⟩ [] ss _ hst hok (fun _ hx => by cases hx) (pre ++ [o.line])
    (by simpa [slines, List.append_assoc] using hs)
  refine ⟨(r1.of_toks rfl).2, ?_, ?_⟩
  · rw [hl, ofList_lines]
    simp only [tokLines] at r2
    exact r2.sub (by sub_tac)
  · rw [hw, ofList_wf ss r3, ofList_length]
    cases ss with
    | nil => exact absurd rfl hne
    | cons _ _ => rfl

theorem first_step (n : Nat) (hS : ClaimStmts n) : ClaimFirst (n + 1) := by
  intro inSub pos neg ps s ps' h hok pre hs
  have fin : ∀ {c : Cmd} {q : PS}, AllOK q ∧ Sorted (pre ++ [pos.line] ++ c.lines ++ tokLines q.toks) ∧ c.wf = true →
      c.isAndOr = false → c.isBinary = false →
      AllOK q ∧ Sorted (pre ++ (mkStmt pos neg c).lines ++ tokLines q.toks) ∧ PipeSt (mkStmt pos neg c) ∧
        (mkStmt pos neg c).negated = neg ∧ (mkStmt pos neg c).cmd.isBinary = false :=
    fun ⟨h1, h2, h3⟩ ha hb =>
      ⟨h1, by rw [mkStmt_lines]; simpa [List.append_assoc] using h2, mkStmt_pipeSt _ _ _ h3 ha, rfl, hb⟩
  cases firstCmdF_inv h with
  | @call w lit p rest args _ hp hk hca =>
    obtain ⟨ws, rfl, hg⟩ := callArgs_gram hca
    obtain ⟨r1, r2, r3⟩ := (GArgs.cons hp hg).wf hok (pre ++ [pos.line]) hs
    refine fin ⟨r1, by rw [call_lines]; exact r3, ?_⟩ rfl rfl
    simp only [List.reverse_cons, List.reverse_nil, List.nil_append, List.singleton_append, Cmd.wf, Bool.and_eq_true,
      List.all_eq_true]
    refine ⟨r2, ?_⟩
    rcases (hok.of_toks rfl).1 with hk' | ⟨b, hb, hbl⟩
    · exact cmdNameOK_of_ok w lit hk'.1 hk'.2.1 hk'.2.2 hk
    · exact absurd (by rcases hb with rfl | rfl | rfl <;> simp) (hp [b] hbl)
  | @subshell lp rest ss rp rest' hst hne =>
    simp only [tokLines, Tok.lines, List.nil_append] at hs
    exact fin (compound_wf hS hst hne (hok.of_toks rfl).2 (pre ++ [pos.line]) lp (by simpa [List.append_assoc] using hs)
      (Cmd.subshell lp rp) rfl rfl) rfl rfl
  | @block w lb rest ss w' rb rest' hst hne =>
    simp only [tokLines, Tok.lines] at hs
    exact fin (compound_wf hS hst hne (hok.of_toks rfl).2 (pre ++ [pos.line]) lb (hs.sub (by sub_tac))
      (Cmd.block lb rb) rfl rfl) rfl rfl

theorem got_step (n : Nat) (hF : ClaimFirst n) (hP : ClaimPipe n) : ClaimGot (n + 1) := by
  intro inSub pos neg binCmd ps s ps' h hok pre hs
  obtain ⟨s1, ps1, hf, hp⟩ := gotStmtPipeF_inv h
  obtain ⟨f1, f2, f3, f4, f5⟩ := hF _ _ _ _ _ _ hf hok pre hs
  obtain ⟨p1, p2, p3, p4, p5⟩ := hP _ _ _ _ _ _ hp f1 f3 pre f2
  exact ⟨p1, p2, p3, p4.trans f4, fun hb => by rw [p5 hb]; exact f5⟩

theorem setNeg_lines (s : Stmt) (b : Bool) : (s.setNeg b).lines = s.lines := by
  obtain ⟨p, sm, n, bg, c⟩ := s
  rfl

theorem pipe_wf {s y : Stmt} (opPos : Pos) (hs : PipeSt s) (hy : PipeSt y) (hyn : y.negated = false)
    (hyb : y.cmd.isBinary = false) :
    PipeSt (mkStmt s.pos s.negated (.binary opPos .pipe (s.setNeg false) y)) := by
  apply mkStmt_pipeSt _ _ _ _ rfl
  obtain ⟨p, sm, n, bg, c⟩ := s
  have h1 := hs.wf
  have h2 := hs.bare
  have h3 := hs.nao
  simp only [Stmt.wf, Bool.and_eq_true, Stmt.cmd] at h1 h3
  simp only [Cmd.wf, Stmt.setNeg, Stmt.wf, Bool.false_and, Bool.not_false, Bool.and_true, Bool.and_eq_true,
    Bool.not_eq_true', Stmt.negated, Stmt.cmd]
  refine ⟨⟨⟨⟨h1.1, hy.wf⟩, ?_⟩, hy.bare⟩, ⟨⟨⟨trivial, hyn⟩, h3⟩, hyb⟩⟩
  simpa [Stmt.bare, Stmt.bg, Stmt.semi] using h2

theorem Sorted.after_op {pre : List Nat} {s : Stmt} {t : Tok} {q : Pos} {rest : List TokPos} (ht : t.lines = [])
    (hs : Sorted (pre ++ s.lines ++ tokLines ((t, q) :: rest))) :
    Sorted (pre ++ s.lines ++ [q.line] ++ tokLines (PS.mk rest).gotNewl.2.toks) := by
  simp only [tokLines, ht, List.nil_append] at hs
  have h' : Sorted (pre ++ s.lines ++ [q.line] ++ tokLines rest) := by simpa [List.append_assoc] using hs
  exact h'.sub (List.Sublist.append_left (gotNewl_facts ⟨rest⟩).1 _)

theorem Sorted.binary {pre : List Nat} {s y : Stmt} {q : Pos} {op : BinOp} {neg : Bool} {x : Stmt} {T : List Nat}
    (hx : x.lines = s.lines) (h : Sorted (pre ++ s.lines ++ [q.line] ++ y.lines ++ T)) :
    Sorted (pre ++ (mkStmt s.pos neg (.binary q op x y)).lines ++ T) := by
  rw [mkStmt_lines]
  simp only [Cmd.lines, hx]
  have h' : Sorted (pre ++ s.lines ++ (q.line :: y.lines ++ T)) := by simpa [List.append_assoc] using h
  simpa [List.append_assoc] using h'.head_stmt

theorem pipe_step (n : Nat) (hG : ClaimGot n) (hP : ClaimPipe n) : ClaimPipe (n + 1) := by
  intro inSub binCmd s ps s' ps' h hok hst pre hs
  rcases pipeF_inv h with ⟨rfl, rfl⟩ | ⟨hbin, q, rest, y, ps2, e1, hy, h'⟩
  · exact ⟨hok, hs, hst, rfl, fun _ => rfl⟩
  · rw [e1] at hs
    obtain ⟨_, _, _, hne, _⟩ := gotStmtPipeF_tok hy
    obtain ⟨y1, y2, y3, y4, y5⟩ := hG _ _ _ _ _ _ _ hy ((gotNewl_facts ⟨rest⟩).2 (hok.of_toks e1).2)
      (pre ++ s.lines ++ [q.line]) ((Sorted.after_op rfl hs).head_pos (by rw [hne]; simp))
    obtain ⟨r1, r2, r3, r4, _⟩ := hP _ _ _ _ _ _ h' y1 (pipe_wf q hst y3 y4 (y5 rfl)) pre
      (Sorted.binary (setNeg_lines s false) y2)
    exact ⟨r1, r2, r3, by rw [r4]; rfl, fun hb => by rw [hbin] at hb; cases hb⟩

theorem andor_step (n : Nat) (hGet : ClaimGet n) (hA : ClaimAndOr n) : ClaimAndOr (n + 1) := by
  intro inSub binCmd s ps s' ps' h hok hwf hb pre hs
  rcases andOrF_inv h with ⟨rfl, rfl⟩ | ⟨hbin, op, q, rest, y, ps2, hop, e1, hy, h'⟩
  · exact ⟨hok, hs, hwf, hb, fun _ => rfl⟩
  · rw [e1] at hs
    obtain ⟨y1, y2, y3, y4, y5⟩ := hGet _ _ _ _ _ _ hy ((gotNewl_facts ⟨rest⟩).2 (hok.of_toks e1).2)
      (pre ++ s.lines ++ [q.line]) (Sorted.after_op (by cases op <;> rfl) hs)
    have hnewwf : (mkStmt s.pos false (.binary q op s y)).wf = true := by
      simp only [mkStmt, Stmt.wf, Bool.false_and, Bool.not_false, Bool.and_true, Cmd.wf, Bool.and_eq_true]
      refine ⟨⟨⟨⟨hwf, y3⟩, hb⟩, y4 rfl⟩, ?_⟩
      cases op with
      | pipe => exact absurd rfl hop
      | andStmt => simpa using y5 rfl
      | orStmt => simpa using y5 rfl
    obtain ⟨r1, r2, r3, r4, _⟩ := hA _ _ _ _ _ _ h' y1 hnewwf (mkStmt_bare _ _ _) pre (Sorted.binary rfl y2)
    exact ⟨r1, r2, r3, r4, fun hb' => by rw [hbin] at hb'; cases hb'⟩

theorem setEnd_facts (s : Stmt) (q : Pos) (bg : Bool) (hb : s.bare = true) (hwf : s.wf = true) :
    (s.setEnd q bg).lines = s.lines ++ (if q.valid then [q.line] else []) ∧ (s.setEnd q bg).wf = true ∧
      (s.setEnd q bg).cmd = s.cmd := by
  obtain ⟨p, sm, n, b, c⟩ := s
  simp only [Stmt.bare, Stmt.bg, Stmt.semi, Bool.and_eq_true, Bool.not_eq_true'] at hb
  refine ⟨?_, by simpa [Stmt.setEnd, Stmt.wf] using hwf, rfl⟩
  simp [Stmt.setEnd, Stmt.lines, hb.2]

theorem get_step (n : Nat) (hG : ClaimGot n) (hA : ClaimAndOr n) : ClaimGet (n + 1) := by
  intro inSub readEnd binCmd ps s ps' h hok pre hs
  obtain ⟨s1, ps2, s2, ps3, hg, ha, hend⟩ := getStmtF_inv h
  -- the state after an optional `!`
  have hstart : AllOK (if ps.tok.isLit [33] = true then ps.next else ps) ∧
      Sorted (pre ++ [ps.pos.line] ++ tokLines (if ps.tok.isLit [33] = true then ps.next else ps).toks) := by
    obtain ⟨_, _, _, hne, _⟩ := gotStmtPipeF_tok hg
    revert hne
    cases hneg : ps.tok.isLit [33] with
    | true =>
      intro _
      obtain ⟨w, p, rest, e1, e2, e3⟩ := PS.isLit_toks hneg
      refine ⟨hok.next, ?_⟩
      rw [if_pos rfl, e3, e2]
      rw [e1] at hs
      simp only [tokLines, Tok.lines] at hs
      exact hs.sub (by sub_tac)
    | false =>
      intro hne
      exact ⟨hok, hs.head_pos (by rw [if_neg (by simp)] at hne; rw [hne]; simp)⟩
  obtain ⟨g1, g2, g3, g4, _⟩ := hG _ _ _ _ _ _ _ hg hstart.1 pre hstart.2
  obtain ⟨a1, a2, a3, a4, a5⟩ := hA _ _ _ _ _ _ ha g1 g3.wf g3.bare pre g2
  have hnao : binCmd = true → s2.cmd.isAndOr = false := fun hb => by rw [a5 hb]; exact g3.nao
  rcases hend with ⟨rfl, rfl⟩ | ⟨hre, bg, q, rest, e1, rfl, rfl⟩
  · exact ⟨a1, a2, a3, fun _ => a4, hnao⟩
  · obtain ⟨l1, l2, l3⟩ := setEnd_facts s2 q bg a4 a3
    rw [e1] at a2
    have htl : (if bg = true then Tok.amp else Tok.semi).lines = [] := by cases bg <;> rfl
    simp only [tokLines, htl, List.nil_append] at a2
    refine ⟨(a1.of_toks e1).2, ?_, l2, (fun hf => by rw [hre] at hf; cases hf), fun hb => by rw [l3]; exact hnao hb⟩
    rw [l1]
    split
    · simpa [List.append_assoc] using a2
    · exact a2.sub (by sub_tac)

theorem slines_rev_cons (s : Stmt) (acc : List Stmt) : slines (s :: acc).reverse = slines acc.reverse ++ s.lines := by
  simp [slines, List.flatMap_append]

theorem stmts_step (n : Nat) (hGet : ClaimGet n) (hS : ClaimStmts n) : ClaimStmts (n + 1) := by
  intro inSub stopBrace gotEnd ps acc ss ps' h hok hacc pre hs
  obtain ⟨g1, g2⟩ := gotNewl_facts ps
  rcases stmtsF_inv h with ⟨rfl, hps⟩ | ⟨s, ps2, hg, h'⟩
  · refine ⟨?_, ?_, fun s hs' => hacc s (List.mem_reverse.mp hs')⟩
    · rcases hps with rfl | rfl
      · exact hok
      · exact g2 hok
    · rcases hps with rfl | rfl
      · exact hs
      · exact hs.sub (List.Sublist.append_left g1 _)
  · obtain ⟨r1, r2, r3, _, _⟩ := hGet _ _ _ _ _ _ hg (g2 hok) (pre ++ slines acc.reverse)
      (hs.sub (List.Sublist.append_left g1 _))
    exact hS _ _ _ _ _ _ _ h' r1 (fun x hx => by
      rcases List.mem_cons.mp hx with rfl | hx
      · exact r3
      · exact hacc x hx) pre (by
      rw [slines_rev_cons]
      simpa [List.append_assoc] using r2)

theorem all_claims : ∀ n : Nat, ClaimFirst n ∧ ClaimGot n ∧ ClaimPipe n ∧ ClaimGet n ∧ ClaimAndOr n ∧ ClaimStmts n
  | 0 => by
    refine ⟨?_, ?_, ?_, ?_, ?_, ?_⟩
    · intro inSub pos neg ps s ps' h; simp [firstCmdF] at h
    · intro inSub pos neg binCmd ps s ps' h; simp [gotStmtPipeF] at h
    · intro inSub binCmd s ps s' ps' h; simp [pipeF] at h
    · intro inSub readEnd binCmd ps s ps' h; simp [getStmtF] at h
    · intro inSub binCmd s ps s' ps' h; simp [andOrF] at h
    · intro inSub stopBrace gotEnd ps acc ss ps' h; simp [stmtsF] at h
  | n + 1 => by
    obtain ⟨hF, hG, hP, hGet, hA, hS⟩ := all_claims n
    exact ⟨first_step n hS, got_step n hF hP, pipe_step n hG hP, get_step n hG hA, andor_step n hGet hA,
      stmts_step n hGet hS⟩

theorem parseToksF_wf (fuel : Nat) (toks : List TokPos) (f : File) (h : parseToksF fuel toks = .ok f)
    (hok : ∀ tp ∈ toks, tp.1.ok) (hs : Sorted (tokLines toks)) : f.wf = true ∧ posMono f := by
  obtain ⟨ss, ps, hst, _, rfl⟩ := parseToksF_inv h
  obtain ⟨_, r2, r3⟩ := (all_claims fuel).2.2.2.2.2 false false true ⟨toks⟩ [] ss ps hst hok (fun _ hx => by cases hx) []
    (by simpa [slines] using hs)
  refine ⟨ofList_wf ss r3, ?_⟩
  unfold posMono
  simp only [ofList_lines]
  exact r2.sub (by simp)

/-- `parse_WF` of Props/C01: whatever the model parser accepts is a well-formed tree whose line
    numbers never decrease in source order — for every input and every language variant. -/
theorem parse_wf_posMono (l : Lang) (src : Bytes) (f : File) (h : parse l src = .ok f) : f.wf = true ∧ posMono f := by
  obtain ⟨h1, h2⟩ := lexAll_ok src
  exact parseToksF_wf _ _ f h h2 h1

end ShVerif.L4
