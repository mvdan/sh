import ShVerif.Proofs.C17Tok
/-
  C17 — extended operators with flat pattern-lists (outside filename mode): `flatRest` describes the
  list; pattern.go's `nestedLoop` (`group`), the reference's extent scan (`scanGroup`) and its parse of
  each alternative are computed along `flatRest`'s recursion, and the emitted group agrees with the
  reference token (`group_agree`).
-/
namespace ShVerif.L3

/-- The token pattern.go emits for an unescaped character of flat text (outside filename mode). -/
def flatTok (c : Rune) : Regex := if c = cQuest then .any else if c = cStar then .star .any else .chr c

/-- The reference token for the same character. -/
def flatGTok (c : Rune) : Glob := if c = cQuest then .any else if c = cStar then .star else .lit c

def flatToks : Str → List Regex
  | [] => []
  | c :: rest =>
    if c = cBS then
      match rest with
      | [] => []
      | d :: r => .chr d :: flatToks r
    else flatTok c :: flatToks rest

def flatGlob : Str → Glob
  | [] => .eps
  | c :: rest =>
    if c = cBS then
      match rest with
      | [] => .eps
      | d :: r => .seq (.lit d) (flatGlob r)
    else .seq (flatGTok c) (flatGlob rest)

/-- Flat text: no unescaped `[ ( ) |`, no lone backslash at the end. -/
def isFlat : Str → Bool
  | [] => true
  | c :: rest =>
    if c = cBS then
      match rest with
      | [] => false
      | _ :: r => isFlat r
    else c != cLB && c != cLP && c != cRP && c != cBar && isFlat rest

theorem isFlat_cons_ne {c : Rune} (rest : Str) (h : c ≠ cBS) :
    isFlat (c :: rest) = (c != cLB && c != cLP && c != cRP && c != cBar && isFlat rest) := by
  conv => lhs; rw [isFlat.eq_def]
  simp only [h, if_false]

theorem isFlat_bs (d : Rune) (rest : Str) : isFlat (cBS :: d :: rest) = isFlat rest := by
  simp only [isFlat, if_true]

theorem flatGlob_bs (d : Rune) (r : Str) : flatGlob (cBS :: d :: r) = .seq (.lit d) (flatGlob r) := by
  simp only [flatGlob, if_true]

theorem flatGlob_cons_ne {c : Rune} (rest : Str) (h : c ≠ cBS) :
    flatGlob (c :: rest) = .seq (flatGTok c) (flatGlob rest) := by
  conv => lhs; rw [flatGlob.eq_def]
  simp only [h, if_false]

theorem flatToks_bs (d : Rune) (r : Str) : flatToks (cBS :: d :: r) = .chr d :: flatToks r := by
  simp only [flatToks, if_true]

theorem flatToks_cons_ne {c : Rune} (rest : Str) (h : c ≠ cBS) :
    flatToks (c :: rest) = flatTok c :: flatToks rest := by
  conv => lhs; rw [flatToks.eq_def]
  simp only [h, if_false]

theorem next_flatTok (m : Mode) (hnf : m.filenames = false) (total f : Nat) (prev : Rune) {c : Rune}
    {rest : Str} (hbs : c ≠ cBS) (hlb : c ≠ cLB) (hh : (rest.head? == some cLP) = false) :
    next m total (f + 1) prev (c :: rest) = .tok (flatTok c) c rest := by
  have hg : (m.ext && isExtOp c && rest.head? == some cLP) = false := by rw [hh, Bool.and_false]
  unfold flatTok
  by_cases hq : c = cQuest
  · subst hq; rw [next_quest m total f prev hg, hnf]; rfl
  by_cases hst : c = cStar
  · subst hst; rw [next_star_nofn m total f prev hg hnf]; rfl
  rw [next_lit m total f prev hbs hq hst hlb hg, if_neg hq, if_neg hst]

theorem parseSeq_flatTok (m : Mode) (hnf : m.filenames = false) (f : Nat) (prev : Rune) {c : Rune}
    {rest : Str} (hbs : c ≠ cBS) (hlb : c ≠ cLB) (hh : (rest.head? == some cLP) = false) :
    parseSeq m (f + 1) prev (c :: rest) = andThenG (flatGTok c) (parseSeq m f c rest) := by
  have hg : (m.ext && isExtOp c && rest.head? == some cLP) = false := by rw [hh, Bool.and_false]
  unfold flatGTok
  by_cases hq : c = cQuest
  · subst hq; rw [parseSeq_quest m f prev hg]; rfl
  by_cases hst : c = cStar
  · subst hst; rw [parseSeq_star m f prev hg (.inl hnf)]; rfl
  rw [parseSeq_lit m f prev hbs hq hst hlb hg, if_neg hq, if_neg hst, litTok_nofn hnf]

theorem flatTok_agree (m : Mode) (hnf : m.filenames = false) (pos pos' : Pos) (c : Rune) :
    TokAgree m pos pos' (flatTok c) (flatGTok c) := by
  have hany := any_agree m pos (by rw [hnf]; rfl)
  rw [hnf] at hany
  unfold flatTok flatGTok
  by_cases hq : c = cQuest
  · rw [if_pos hq, if_pos hq]
    exact ⟨rfl, hany.sem, fun _ _ _ _ => PosOK.of_not_dotSens (dotSens_nofn hnf) _ _⟩
  by_cases hst : c = cStar
  · rw [if_neg hq, if_neg hq, if_pos hst, if_pos hst]
    exact star_agree_nofn m hnf pos pos'
  rw [if_neg hq, if_neg hq, if_neg hst, if_neg hst]
  exact lit_nofn m hnf pos pos' c

theorem isFlat_head {rest : Str} (h : isFlat rest = true) : (rest.head? == some cLP) = false := by
  cases rest with
  | nil => rfl
  | cons d r =>
    by_cases hd : d = cBS
    · subst hd; rfl
    · rw [isFlat_cons_ne _ hd] at h
      simp only [Bool.and_eq_true, bne_iff_ne, ne_eq] at h
      simp [h.1.1.1.2]

theorem parseSeq_flat (m : Mode) (hnf : m.filenames = false) (a : Str) :
    isFlat a = true → ∀ fuel prev, a.length < fuel → parseSeq m fuel prev a = .ok (flatGlob a) := by
  fun_induction isFlat a <;> intro hfl fuel prev hf
  all_goals obtain _ | f := fuel
  all_goals try exact absurd hf (Nat.not_lt_zero _)
  case case1 => rw [parseSeq_nil]; rfl
  case case2 => cases hfl
  case case3 d r ih =>
    rw [parseSeq_bs, ih hfl f d (Nat.lt_of_succ_lt (Nat.lt_of_succ_lt_succ hf)), flatGlob_bs, litTok_nofn hnf]; rfl
  case case4 c rest hbs ih =>
    simp only [Bool.and_eq_true, bne_iff_ne, ne_eq] at hfl
    rw [parseSeq_flatTok m hnf f prev hbs hfl.1.1.1.1 (isFlat_head hfl.2),
      ih hfl.2 f c (Nat.lt_of_succ_lt_succ hf), flatGlob_cons_ne rest hbs]
    rfl

theorem flat_agree (m : Mode) (hnf : m.filenames = false) (pos : Pos) (a : Str) :
    TopAgree m pos (.ok (flatGlob a)) (.ok (seqRegex (flatToks a), [])) := by
  fun_induction flatToks a
  case case1 => exact .nil
  case case2 => exact .nil
  case case3 d r ih => rw [flatGlob_bs]; exact (lit_nofn m hnf pos pos d).cons ih
  case case4 c rest hbs ih => rw [flatGlob_cons_ne rest hbs]; exact (flatTok_agree m hnf pos pos c).cons ih

theorem consHead_forall {P Q : Str → Prop} {p : Str} {as : List Str} (hne : as ≠ [])
    (h : ∀ a ∈ as, P a) (h1 : ∀ a, P a → Q a) (h2 : ∀ a, P a → Q (p ++ a)) : ∀ a ∈ consHead p as, Q a := by
  cases as with
  | nil => exact absurd rfl hne
  | cons a0 as1 =>
    intro a ha
    rcases List.mem_cons.mp ha with rfl | ha
    · exact h2 a0 (h a0 (List.mem_cons_self ..))
    · exact h1 a (h a (List.mem_cons_of_mem _ ha))

theorem consHead_ne_nil (p : Str) (as : List Str) : consHead p as ≠ [] := by
  cases as <;> exact List.cons_ne_nil _ _

theorem consHead_nil_ne {as : List Str} (h : as ≠ []) : consHead [] as = as := by
  cases as with
  | nil => exact absurd rfl h
  | cons a as => rfl

theorem consHead_assoc (cur c : Str) (as : List Str) :
    consHead cur (consHead c as) = consHead (cur ++ c) as := by
  cases as <;> simp [consHead]

theorem flatRest_flat (r : Str) : ∀ as rest', flatRest r = some (as, rest') →
    as ≠ [] ∧ (∀ a ∈ as, isFlat a = true ∧ a.length < r.length) ∧ rest'.length < r.length := by
  fun_induction flatRest r <;> intro as rest' h
  case case3 d r ih =>
    obtain ⟨⟨as0, r0⟩, hfr, heq⟩ := Option.map_eq_some_iff.mp h
    obtain ⟨rfl, rfl⟩ := Prod.mk.inj heq
    obtain ⟨h1, h2, h3⟩ := ih as0 r0 hfr
    refine ⟨consHead_ne_nil _ _, consHead_forall h1 h2 ?_ ?_, Nat.lt_succ_of_lt (Nat.lt_succ_of_lt h3)⟩
    · exact fun a ha => ⟨ha.1, Nat.lt_succ_of_lt (Nat.lt_succ_of_lt ha.2)⟩
    · exact fun a ha => ⟨(isFlat_bs d a).trans ha.1, Nat.succ_lt_succ (Nat.succ_lt_succ ha.2)⟩
  case case5 s1 _ _ =>
    cases h
    exact ⟨List.cons_ne_nil _ _, fun a ha => by rw [List.mem_singleton.mp ha]; exact ⟨rfl, Nat.succ_pos _⟩,
      Nat.lt_succ_self _⟩
  case case6 s1 _ _ _ ih =>
    obtain ⟨⟨as0, r0⟩, hfr, heq⟩ := Option.map_eq_some_iff.mp h
    obtain ⟨rfl, rfl⟩ := Prod.mk.inj heq
    obtain ⟨h1, h2, h3⟩ := ih as0 r0 hfr
    refine ⟨List.cons_ne_nil _ _, fun a ha => ?_, Nat.lt_succ_of_lt h3⟩
    rcases List.mem_cons.mp ha with rfl | ha
    · exact ⟨rfl, Nat.succ_pos _⟩
    · exact ⟨(h2 a ha).1, Nat.lt_succ_of_lt (h2 a ha).2⟩
  case case7 c s1 hbs hb hrp hbar ih =>
    obtain ⟨⟨as0, r0⟩, hfr, heq⟩ := Option.map_eq_some_iff.mp h
    obtain ⟨rfl, rfl⟩ := Prod.mk.inj heq
    obtain ⟨h1, h2, h3⟩ := ih as0 r0 hfr
    have hb' := not_or.mp hb
    refine ⟨consHead_ne_nil _ _, consHead_forall h1 h2 ?_ ?_, Nat.lt_succ_of_lt h3⟩
    · exact fun a ha => ⟨ha.1, Nat.lt_succ_of_lt ha.2⟩
    · exact fun a ha => ⟨by
        rw [List.cons_append, List.nil_append, isFlat_cons_ne _ hbs]
        simp [hb'.1, hb'.2, hrp, hbar, ha.1], Nat.succ_lt_succ ha.2⟩
  all_goals cases h

theorem scanGroup_flat (r : Str) : ∀ as rest', flatRest r = some (as, rest') →
    ∀ fuel cur alts, r.length < fuel →
      scanGroup false fuel 0 cur alts r = .ok (some (alts ++ consHead cur as, rest')) := by
  fun_induction flatRest r <;> intro as rest' h fuel cur alts hf
  all_goals obtain _ | f := fuel
  all_goals try exact absurd hf (Nat.not_lt_zero _)
  case case3 d r ih =>
    obtain ⟨⟨as0, r0⟩, hfr, heq⟩ := Option.map_eq_some_iff.mp h
    obtain ⟨rfl, rfl⟩ := Prod.mk.inj heq
    rw [scanGroup_cons, if_pos rfl, consHead_assoc]
    exact ih as0 r0 hfr f _ alts (Nat.lt_of_succ_lt (Nat.lt_of_succ_lt_succ hf))
  case case5 s1 _ _ =>
    cases h
    rw [scanGroup_cons, if_neg (by decide), if_neg (by decide), if_neg (by decide), if_pos rfl, if_pos rfl]
    simp only [consHead, List.append_nil]
  case case6 s1 _ _ _ ih =>
    obtain ⟨⟨as0, r0⟩, hfr, heq⟩ := Option.map_eq_some_iff.mp h
    obtain ⟨rfl, rfl⟩ := Prod.mk.inj heq
    rw [scanGroup_cons, if_neg (by decide), if_neg (by decide), if_neg (by decide), if_neg (by decide),
      if_pos ⟨rfl, rfl⟩, ih as0 r0 hfr f [] _ (Nat.lt_of_succ_lt_succ hf),
      consHead_nil_ne (flatRest_flat s1 as0 r0 hfr).1, List.append_assoc]
    simp only [consHead, List.append_nil, List.singleton_append]
  case case7 c s1 hbs hb hrp hbar ih =>
    obtain ⟨⟨as0, r0⟩, hfr, heq⟩ := Option.map_eq_some_iff.mp h
    obtain ⟨rfl, rfl⟩ := Prod.mk.inj heq
    have hb' := not_or.mp hb
    rw [scanGroup_cons, if_neg hbs, if_neg hb'.1, if_neg hb'.2, if_neg hrp, if_neg (fun h => hbar h.1),
      consHead_assoc]
    exact ih as0 r0 hfr f _ alts (Nat.lt_of_succ_lt_succ hf)
  all_goals cases h

theorem flatRest_head {rest : Str} {as : List Str} {r' : Str} (h : flatRest rest = some (as, r')) :
    (rest.head? == some cLP) = false := by
  cases rest with
  | nil => rfl
  | cons d r =>
    by_cases hd : d = cLP
    · subst hd; rw [flatRest_cons, if_neg (by decide), if_pos (.inr rfl)] at h; cases h
    · simp [hd]

theorem map_consHead {p : Str} {r : Regex} (h : ∀ a, flatToks (p ++ a) = r :: flatToks a) (as : List Str) :
    (consHead p as).map flatToks = consAlt r (as.map flatToks) := by
  cases as with
  | nil => simpa [consHead, consAlt, flatToks] using h []
  | cons a as => simp [consHead, consAlt, h a]

theorem group_flat (m : Mode) (hnf : m.filenames = false) (total : Nat) (r : Str) :
    ∀ as rest', flatRest r = some (as, rest') → ∀ fuel prev, r.length + 1 < fuel →
      group m total fuel prev r = .closed (as.map flatToks) rest' := by
  fun_induction flatRest r <;> intro as rest' h fuel prev hf
  all_goals obtain _ | _ | f := fuel
  all_goals try (simp at hf; done)
  case case3 d r ih =>
    obtain ⟨⟨as0, r0⟩, hfr, heq⟩ := Option.map_eq_some_iff.mp h
    obtain ⟨rfl, rfl⟩ := Prod.mk.inj heq
    rw [group_cons, if_neg (by decide), if_neg (by decide), next_bs]
    dsimp only
    rw [ih as0 r0 hfr (f + 1) d (Nat.lt_of_succ_lt (Nat.lt_of_succ_lt_succ hf)), map_consHead (fun a => flatToks_bs d a)]
  case case5 s1 _ _ => cases h; rw [group_cons, if_pos rfl]; rfl
  case case6 s1 _ _ _ ih =>
    obtain ⟨⟨as0, r0⟩, hfr, heq⟩ := Option.map_eq_some_iff.mp h
    obtain ⟨rfl, rfl⟩ := Prod.mk.inj heq
    rw [group_cons, if_neg (by decide), if_pos rfl, ih as0 r0 hfr (f + 1) cBar (Nat.lt_of_succ_lt_succ hf)]
    rfl
  case case7 c s1 hbs hb hrp hbar ih =>
    obtain ⟨⟨as0, r0⟩, hfr, heq⟩ := Option.map_eq_some_iff.mp h
    obtain ⟨rfl, rfl⟩ := Prod.mk.inj heq
    rw [group_cons, if_neg hrp, if_neg hbar,
      next_flatTok m hnf total f prev hbs (not_or.mp hb).1 (flatRest_head hfr)]
    dsimp only
    rw [ih as0 r0 hfr (f + 1) c (Nat.lt_of_succ_lt_succ hf), map_consHead (fun a => flatToks_cons_ne a hbs)]
  all_goals cases h

theorem star_iter (m : Mode) (nc : Bool) (a : Regex) (R : Bool → Str → Prop)
    (h : ∀ b s, Matches nc a s ↔ R b s) : ∀ b s, Matches nc (.star a) s ↔ IterDen m R b s := by
  intro b s
  constructor
  · intro hm
    generalize hr : Regex.star a = r at hm
    induction hm generalizing b with
    | starNil => exact .nil
    | @starCons a' s1 s2 h1 h2 _ ih2 =>
      cases hr
      by_cases he : s1 = []
      · subst he; simpa using ih2 b rfl
      · exact .cons he ((h b s1).mp h1) (ih2 _ rfl)
    | _ => cases hr
  · intro hi
    induction hi with
    | nil => exact .starNil
    | cons _ hR _ ih => exact .starCons ((h _ _).mpr hR) ih

theorem alts_agree (m : Mode) (hnf : m.filenames = false) : ∀ (as : List Str), as ≠ [] →
    goCompiles (altsRegex (as.map flatToks)) = true ∧
    ∀ b s, Matches m.nocase (altsRegex (as.map flatToks)) s ↔ GDen m (altGlob (as.map flatGlob)) b s
  | [], h => absurd rfl h
  | [a], _ => by
    cases flat_agree m hnf .mid a with
    | ok hc hs => exact ⟨hc, fun b s => hs b s (PosOK.of_not_dotSens (dotSens_nofn hnf) _ _)⟩
  | a :: a2 :: as2, _ => by
    obtain ⟨hc2, hs2⟩ := alts_agree m hnf (a2 :: as2) (List.cons_ne_nil _ _)
    cases flat_agree m hnf .mid a with
    | ok hc hs =>
      refine ⟨by simp only [List.map_cons, altsRegex, goCompiles, hc, Bool.true_and]; exact hc2, fun b s => ?_⟩
      have hs := hs b s (PosOK.of_not_dotSens (dotSens_nofn hnf) _ _)
      simp only [List.map_cons, altsRegex, altGlob, GDen]
      constructor
      · intro h; cases h with
        | altL h => exact .inl (hs.mp h)
        | altR h => exact .inr ((hs2 b s).mp h)
      · rintro (h | h)
        · exact .altL (hs.mpr h)
        · exact .altR ((hs2 b s).mpr h)

theorem isExtOp_cases {op : Rune} (h : isExtOp op = true) (hb : op ≠ cBang) :
    op = cQuest ∨ op = cStar ∨ op = cPlus ∨ op = cAt := by
  simp only [isExtOp, Bool.or_eq_true, beq_iff_eq] at h
  rcases h with (((h | h) | h) | h) | h
  · exact absurd h hb
  · exact .inl h
  · exact .inr (.inl h)
  · exact .inr (.inr (.inl h))
  · exact .inr (.inr (.inr h))

theorem group_tok (m : Mode) (hnf : m.filenames = false) (pos pos' : Pos) (op : Rune)
    (hop : isExtOp op = true) (hb : op ≠ cBang) (as : List Str) (has : as ≠ []) :
    TokAgree m pos pos' (wrapOp op (.grp (altsRegex (as.map flatToks))))
      (.ext op (altGlob (as.map flatGlob))) := by
  obtain ⟨hc, hs⟩ := alts_agree m hnf as has
  have hG : ∀ b s, Matches m.nocase (.grp (altsRegex (as.map flatToks))) s ↔
      GDen m (altGlob (as.map flatGlob)) b s := by
    intro b s
    rw [← hs b s]
    exact ⟨fun h => by cases h with | grp h => exact h, .grp⟩
  refine ⟨?_, fun b s _ => ?_, fun _ _ _ _ => PosOK.of_not_dotSens (dotSens_nofn hnf) _ _⟩
  · rcases isExtOp_cases hop hb with rfl | rfl | rfl | rfl <;> exact hc
  rcases isExtOp_cases hop hb with rfl | rfl | rfl | rfl
  · show Matches _ (.opt _) s ↔ (s = [] ∨ GDen m _ b s)
    constructor
    · intro h; cases h with
      | optNil => exact .inl rfl
      | optSome h => exact .inr ((hG b s).mp h)
    · rintro (rfl | h)
      · exact .optNil
      · exact .optSome ((hG b s).mpr h)
  · show Matches _ (.star _) s ↔ IterDen m (GDen m _) b s
    exact star_iter m m.nocase _ _ hG b s
  · show Matches _ (.plus _) s ↔ ∃ s1 s2, s = s1 ++ s2 ∧ GDen m _ b s1 ∧ IterDen m (GDen m _) (ctxAfter m b s1) s2
    constructor
    · intro h; cases h with
      | plus h1 h2 => exact ⟨_, _, rfl, (hG b _).mp h1, (star_iter m m.nocase _ _ hG _ _).mp h2⟩
    · rintro ⟨s1, s2, rfl, h1, h2⟩
      exact .plus ((hG b s1).mpr h1) ((star_iter m m.nocase _ _ hG _ _).mpr h2)
  · exact hG b s

theorem mapM_flat (m : Mode) (hnf : m.filenames = false) (f : Nat) : ∀ (as : List Str),
    (∀ a ∈ as, isFlat a = true ∧ a.length < f) →
    as.mapM (parseSeq m f cLP) = .ok (as.map flatGlob) := by
  intro as
  induction as with
  | nil => intro _; rfl
  | cons a as ih =>
    intro h
    have ha := h a (List.mem_cons_self ..)
    have ht := ih (fun x hx => h x (List.mem_cons_of_mem _ hx))
    rw [List.mapM_cons, parseSeq_flat m hnf a ha.1 f cLP ha.2, ht]
    rfl

/-- An extended operator other than `!` in front of a flat pattern-list: what pattern.go emits, what
    the reference parses, and that the two tokens agree. -/
theorem group_agree (m : Mode) (hnf : m.filenames = false) (total fP : Nat) (pos pos' : Pos) (prev : Rune)
    {c : Rune} {rest : Str} (hg : (m.ext && isExtOp c && rest.head? == some cLP) = true) (hb : c ≠ cBang)
    {as : List Str} {rest' : Str} (hfr : flatRest rest.tail = some (as, rest'))
    (htot : rest.length ≤ total) (hP : rest.length < fP) :
    rest'.length < rest.length ∧
    scanGroup m.filenames (rest.length + 1) 0 [] [] rest.tail = .ok (some (as, rest')) ∧
    next m total (2 * total + 3 + 1) prev (c :: rest) =
      .tok (wrapOp c (.grp (altsRegex (as.map flatToks)))) cRP rest' ∧
    parseSeq m (fP + 1) prev (c :: rest) =
      andThenG (.ext c (altGlob (as.map flatGlob))) (parseSeq m fP cRP rest') ∧
    TokAgree m pos pos' (wrapOp c (.grp (altsRegex (as.map flatToks))))
      (.ext c (altGlob (as.map flatGlob))) := by
  obtain ⟨hne, hflat, hlen⟩ := flatRest_flat rest.tail as rest' hfr
  have htl : rest.tail.length ≤ rest.length := (List.tail_suffix rest).length_le
  have hop : isExtOp c = true := by
    simp only [Bool.and_eq_true] at hg; exact hg.1.2
  have hsg : scanGroup m.filenames (rest.length + 1) 0 [] [] rest.tail = .ok (some (as, rest')) := by
    rw [hnf, scanGroup_flat rest.tail as rest' hfr (rest.length + 1) [] [] (Nat.lt_succ_of_le htl),
      consHead_nil_ne hne]
    rfl
  refine ⟨Nat.lt_of_lt_of_le hlen htl, hsg, ?_, ?_, group_tok m hnf pos pos' c hop hb as hne⟩
  · rw [next_group m total _ prev hg, group_flat m hnf total rest.tail as rest' hfr _ cLP (by omega)]
    simp only [hb, if_false]
  · rw [parseSeq_group m fP prev hg, hsg]
    simp only [mapM_flat m hnf fP as fun a ha =>
      ⟨(hflat a ha).1, Nat.lt_trans (hflat a ha).2 (Nat.lt_of_le_of_lt htl hP)⟩]

end ShVerif.L3
