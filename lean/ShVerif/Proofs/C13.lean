import ShVerif.Proofs.C13Quote
/-
  C13 — the way back: what Quote writes, the lexer reads as one word that expands to the string.
  `Clean`: byte strings inside the lexer fragment.  `Closed e out`: a self-delimiting piece of
  `$'…'` text (`fmtEsc` and the scan for the closing quote pass over it whatever follows);
  `DqClosed`: the same for `"…"`.  Every piece the loops of Quote write is closed, which gives the
  lexer on each of the four shapes and the round trip (`quote_roundtrip_main`); last, command
  position.
-/

namespace ShVerif.C13

/-- The table starts with the printable ASCII range; every other range lies above ASCII. -/
theorem isPrint_ascii {r : Nat} (h : r < 0x80) (hp : isPrint r = true) : 0x20 ≤ r ∧ r ≤ 0x7e := by
  have tl : ∀ p ∈ printRanges.tail, 0x80 ≤ p.1 := by decide +kernel
  obtain ⟨p, hm, hp⟩ := List.any_eq_true.mp hp
  rw [Bool.and_eq_true, decide_eq_true_eq, decide_eq_true_eq] at hp
  rcases List.mem_cons.mp (show p ∈ (0x20, 0x7e) :: printRanges.tail from hm) with rfl | hm
  · exact hp
  · have := tl p hm; omega

theorem print_not_ctl {r : Nat} (hp : isPrint r = true) : r ≠ 0 ∧ r ≠ 0x0a ∧ r ≠ 0x0d := by
  by_cases h : r < 0x80
  · have := isPrint_ascii h hp; omega
  · omega

/-- Every byte `advanceLitNone` stops at is a control character or one of Quote's shell characters
    (`excl`). -/
theorem bare_of_not_shell {b : UInt8} (h : 0x20 ≤ b.toNat)
    (hs : 0x80 ≤ b.toNat ∨ isShellChar b.toNat = false) : isBareByte b = true := by
  have excl : ∀ c ∈ ([0x00, 0x09, 0x0a, 0x0d, 0x20, 0x22, 0x24, 0x26, 0x27, 0x28, 0x29, 0x3b, 0x3c,
      0x3e, 0x5b, 0x5c, 0x60, 0x7c] : List UInt8),
      c.toNat < 0x20 ∨ (c.toNat < 0x80 ∧ isShellChar c.toNat = true) := by decide
  unfold isBareByte
  rw [Bool.not_eq_true', ← Bool.not_eq_true, List.contains_iff_mem]
  intro m
  rcases excl b m with h' | ⟨h1, h2⟩
  · omega
  · rcases hs with hs | hs
    · omega
    · rw [hs] at h2; cases h2

/-- The bytes `lexF` tests before it reads a literal are not bare. -/
theorem bare_facts {b : UInt8} (h : isBareByte b = true) :
    b ≠ 0x20 ∧ b ≠ 0x09 ∧ b ≠ 0x27 ∧ b ≠ 0x22 ∧ b ≠ 0x24 := by
  refine ⟨?_, ?_, ?_, ?_, ?_⟩ <;> (rintro rfl; revert h; decide)

inductive Clean : Bytes → Prop
  | nil : Clean []
  | cons {p : Bytes} {r : Nat} {rest : Bytes} : ValidEnc p r → r ≠ 0 → r ≠ 0x0a → r ≠ 0x0d →
      Clean rest → Clean (p ++ rest)

theorem Clean.append {a b : Bytes} (ha : Clean a) (hb : Clean b) : Clean (a ++ b) := by
  induction ha with
  | nil => simpa using hb
  | cons hv h0 h1 h2 _ ih => rw [List.append_assoc]; exact .cons hv h0 h1 h2 ih

theorem clean_valid {p : Bytes} {r : Nat} (hv : ValidEnc p r) (h0 : r ≠ 0) (h1 : r ≠ 0x0a)
    (h2 : r ≠ 0x0d) : Clean p := by
  have := Clean.cons hv h0 h1 h2 .nil
  rwa [List.append_nil] at this

theorem clean_ascii (e : Bytes)
    (h : ∀ b ∈ e, b.toNat < 0x80 ∧ b.toNat ≠ 0 ∧ b.toNat ≠ 0x0a ∧ b.toNat ≠ 0x0d) : Clean e := by
  induction e with
  | nil => exact .nil
  | cons b e ih =>
    obtain ⟨⟨a1, a2, a3, a4⟩, h'⟩ := List.forall_mem_cons.mp h
    exact Clean.cons (p := [b]) (Or.inl ⟨b, rfl, a1, rfl⟩) a2 a3 a4 (ih h')

theorem Clean.fragment {q : Bytes} (h : Clean q) : inFragment q = true ∧ validUTF8 q = true := by
  induction h with
  | nil => exact ⟨rfl, rfl⟩
  | @cons p r rest hv h0 h1 h2 _ ih =>
    obtain ⟨i1, i2⟩ := ih
    constructor
    · have n0 := mt (valid_mem_ascii hv (c := 0) (by decide)).mp h0
      have n1 := mt (valid_mem_ascii hv (c := 0x0a) (by decide)).mp h1
      have n2 := mt (valid_mem_ascii hv (c := 0x0d) (by decide)).mp h2
      simp only [inFragment, Bool.not_eq_true', Bool.or_eq_false_iff, List.contains_eq_mem,
        decide_eq_false_iff_not, List.mem_append, not_or] at i1 ⊢
      exact ⟨⟨⟨n0, i1.1.1⟩, ⟨n1, i1.1.2⟩⟩, ⟨n2, i1.2⟩⟩
    · unfold validUTF8 at i2 ⊢
      rw [runes_valid_append hv, List.all_cons, i2, Bool.and_true, Bool.not_eq_true',
        Bool.and_eq_false_iff, beq_eq_false_iff_ne, beq_eq_false_iff_ne]
      -- an invalid byte shows as (U+FFFD, 1); the valid encoding of U+FFFD has three bytes
      rcases valid_ascii_or_high hv with ⟨hr, _⟩ | ⟨_, hl, _⟩
      · left; show r ≠ runeError; intro e; rw [e] at hr; exact absurd hr (by decide)
      · right; show p.length ≠ 1; omega

theorem readDigits_len (k : Nat) (hex : Bool) (s : Bytes) :
    (readDigits k hex s).2.length ≤ s.length := by
  induction k generalizing s with
  | zero => simp [readDigits]
  | succ k ih =>
    cases s with
    | nil => simp [readDigits]
    | cons c rest =>
      simp only [readDigits]
      split
      · have := ih rest
        simp only [List.length_cons]
        generalize readDigits k hex rest = dr at this
        obtain ⟨d, r⟩ := dr
        simp at this ⊢; omega
      · simp

theorem fmtEscape_len (e : UInt8) (rest : Bytes) :
    (fmtEscape e rest).2.length ≤ rest.length + 1 := by
  have l3 := readDigits_len 3 false (e :: rest)
  have l2 := readDigits_len (if e = 0x75 then 4 else if e = 0x55 then 8 else 2) true rest
  unfold fmtEscape
  cases simpleEscape e with
  | some b => exact Nat.le_succ _
  | none =>
    show (ite _ _ _ : Bytes × Bytes).2.length ≤ _
    by_cases h1 : 0x30 ≤ e.toNat ∧ e.toNat ≤ 0x37
    · rw [if_pos h1]; exact l3
    rw [if_neg h1]
    by_cases h2 : e = 0x78 ∨ e = 0x75 ∨ e = 0x55
    · rw [if_pos h2]
      dsimp only
      by_cases h3 : (readDigits (if e = 0x75 then 4 else if e = 0x55 then 8 else 2) true rest).1 = []
      · rw [if_pos h3]; exact Nat.le_succ _
      · rw [if_neg h3]; split <;> exact Nat.le_succ_of_le l2
    · rw [if_neg h2]; exact Nat.le_succ _

theorem fmtStep_len (c : UInt8) (rest : Bytes) : (fmtStep c rest).2.length ≤ rest.length := by
  unfold fmtStep
  split
  · split
    · simp
    · exact fmtEscape_len _ _
  · simp

theorem fmtEscF_fuel : ∀ (n m : Nat) (s : Bytes), s.length ≤ n → s.length ≤ m →
    fmtEscF n s = fmtEscF m s := by
  intro n
  induction n with
  | zero => intro m s h _; cases s with
    | nil => cases m <;> rfl
    | cons a t => simp at h
  | succ n ih =>
    intro m s h hm
    cases s with
    | nil => cases m <;> rfl
    | cons c rest =>
      cases m with
      | zero => simp at hm
      | succ m =>
        have := fmtStep_len c rest
        simp only [List.length_cons] at h hm
        simp only [fmtEscF]
        rw [ih m _ (by omega) (by omega)]

theorem fmtEsc_nil : fmtEsc [] = [] := rfl

theorem fmtEsc_cons (c : UInt8) (rest : Bytes) :
    fmtEsc (c :: rest) = (fmtStep c rest).1 ++ fmtEsc (fmtStep c rest).2 := by
  have := fmtStep_len c rest
  unfold fmtEsc
  simp only [List.length_cons, fmtEscF]
  rw [fmtEscF_fuel rest.length _ _ (by omega) (Nat.le_refl _)]

structure Closed (e out : Bytes) : Prop where
  fmt : ∀ x, fmtEsc (e ++ x) = out ++ fmtEsc x
  scan : ∀ x, scanDollarSgl (e ++ x) = (scanDollarSgl x).map fun vr => (e ++ vr.1, vr.2)

theorem Closed.nil : Closed [] [] :=
  ⟨fun x => by simp, fun x => by simp only [List.nil_append]; cases scanDollarSgl x <;> rfl⟩

theorem Closed.append {e1 o1 e2 o2 : Bytes} (h1 : Closed e1 o1) (h2 : Closed e2 o2) :
    Closed (e1 ++ e2) (o1 ++ o2) := by
  constructor
  · intro x; rw [List.append_assoc, h1.fmt, h2.fmt, List.append_assoc]
  · intro x; rw [List.append_assoc, h1.scan, h2.scan]
    cases scanDollarSgl x <;> simp [Option.map]

theorem Closed.plain {c : UInt8} (h1 : c ≠ 0x5c) (h2 : c ≠ 0x27) : Closed [c] [c] := by
  constructor
  · intro x
    rw [List.singleton_append, fmtEsc_cons]
    simp [fmtStep, h1]
  · intro x
    rw [List.singleton_append, scanDollarSgl.eq_def]
    simp only [h1, h2, ↓reduceIte]
    cases scanDollarSgl x <;> rfl

theorem Closed.plainList {e : Bytes} (h : ∀ c ∈ e, c ≠ 0x5c ∧ c ≠ 0x27) : Closed e e := by
  induction e with
  | nil => exact Closed.nil
  | cons c e ih =>
    obtain ⟨hc, h'⟩ := List.forall_mem_cons.mp h
    exact Closed.append (Closed.plain hc.1 hc.2) (ih h')

theorem fmtStep_backslash (e : UInt8) (rest : Bytes) :
    fmtStep 0x5c (e :: rest) = fmtEscape e rest := rfl

theorem Closed.esc {d : UInt8} {tail out : Bytes}
    (hf : ∀ x, fmtEscape d (tail ++ x) = (out, x))
    (ht : ∀ c ∈ tail, c ≠ 0x5c ∧ c ≠ 0x27) : Closed (0x5c :: d :: tail) out := by
  constructor
  · intro x
    rw [List.cons_append, fmtEsc_cons, List.cons_append, fmtStep_backslash, hf]
  · intro x
    have := (Closed.plainList ht).scan x
    have e1 : ((0x5c : UInt8) = 0x27) = False := by decide
    rw [List.cons_append, List.cons_append, scanDollarSgl]
    simp only [e1, ↓reduceIte, this]
    cases scanDollarSgl x <;> rfl

theorem fmtEscape_simple {d b : UInt8} (h : simpleEscape d = some b) (rest : Bytes) :
    fmtEscape d rest = ([b], rest) := by
  simp only [fmtEscape, h]

theorem Closed.simple {d b : UInt8} (h : simpleEscape d = some b) : Closed [0x5c, d] [b] :=
  Closed.esc (tail := []) (fun x => fmtEscape_simple h x) nofun

/-- `%0kx`: the `k` low hex digits of `v`, most significant first. -/
def hexDigits : Nat → Nat → Bytes
  | 0, _ => []
  | k + 1, v => hexDigits k (v / 16) ++ [hexDigitByte (v % 16)]

theorem hex2_eq (v : Nat) : hex2 v = hexDigits 2 v := rfl

theorem hex4_eq (v : Nat) : hex4 v = hexDigits 4 v := by
  simp only [hex4, hexDigits, Nat.div_div_eq_div_mul, List.nil_append, List.cons_append]

theorem hex8_eq (v : Nat) : hex8 v = hexDigits 8 v := by
  simp only [hex8, hexDigits, Nat.div_div_eq_div_mul, List.nil_append, List.cons_append]

theorem hexDigit_facts {n : Nat} (h : n < 16) :
    isHexByte (hexDigitByte n) = true ∧ hexValByte (hexDigitByte n) = n ∧
    hexDigitByte n ≠ 0x5c ∧ hexDigitByte n ≠ 0x27 ∧ (hexDigitByte n).toNat < 0x80 ∧
    (hexDigitByte n).toNat ≠ 0 ∧ (hexDigitByte n).toNat ≠ 0x0a ∧
    (hexDigitByte n).toNat ≠ 0x0d :=
  (by decide : ∀ n : Fin 16,
    isHexByte (hexDigitByte n.val) = true ∧ hexValByte (hexDigitByte n.val) = n.val ∧
    hexDigitByte n.val ≠ 0x5c ∧ hexDigitByte n.val ≠ 0x27 ∧ (hexDigitByte n.val).toNat < 0x80 ∧
    (hexDigitByte n.val).toNat ≠ 0 ∧ (hexDigitByte n.val).toNat ≠ 0x0a ∧
    (hexDigitByte n.val).toNat ≠ 0x0d) ⟨n, h⟩

theorem hexDigits_length : ∀ k v, (hexDigits k v).length = k
  | 0, _ => rfl
  | k + 1, v => by rw [hexDigits, List.length_append, hexDigits_length k]; rfl

theorem hexDigits_mem {k v : Nat} {d : UInt8} (m : d ∈ hexDigits k v) :
    ∃ n, n < 16 ∧ d = hexDigitByte n := by
  induction k generalizing v with
  | zero => cases m
  | succ k ih =>
    rcases List.mem_append.mp m with m | m
    · exact ih m
    · exact ⟨v % 16, Nat.mod_lt _ (by decide), List.mem_singleton.mp m⟩

theorem hexValue_hexDigits {k v : Nat} (h : v < 16 ^ k) : hexValue (hexDigits k v) = v := by
  induction k generalizing v with
  | zero => rw [Nat.pow_zero, Nat.lt_one_iff] at h; subst h; rfl
  | succ k ih =>
    have h' : v / 16 < 16 ^ k := Nat.div_lt_of_lt_mul (by rwa [Nat.pow_succ'] at h)
    have := ih h'
    unfold hexValue at this ⊢
    rw [hexDigits, List.foldl_append, this, List.foldl_cons, List.foldl_nil,
      (hexDigit_facts (Nat.mod_lt v (by decide))).2.1]
    omega

theorem readDigits_hex (ds x : Bytes) (h : ∀ d ∈ ds, isHexByte d = true) :
    readDigits ds.length true (ds ++ x) = (ds, x) := by
  induction ds with
  | nil => simp [readDigits]
  | cons d ds ih =>
    obtain ⟨hd, h'⟩ := List.forall_mem_cons.mp h
    have := ih h'
    simp only [List.length_cons, List.cons_append, readDigits, hd, Bool.and_self, Bool.or_true,
      ↓reduceIte, this]

theorem fmtEscape_hex_eq {e : UInt8} (he : e = 0x78 ∨ e = 0x75 ∨ e = 0x55) (rest : Bytes) :
    fmtEscape e rest =
      let dr := readDigits (if e = 0x75 then 4 else if e = 0x55 then 8 else 2) true rest
      if dr.1 = [] then ([0x5c, e], rest)
      else (if e = 0x78 then [UInt8.ofNat (hexValue dr.1)] else encodeRune (hexValue dr.1), dr.2) := by
  rcases he with rfl | rfl | rfl <;> rfl

/-- `hk`: Quote writes (`%02x`, `%04x`, `%08x`) as many digits as `formatInto` reads at most, so the
    escape ends where the piece ends. -/
theorem closed_hex {e : UInt8} (he : e = 0x78 ∨ e = 0x75 ∨ e = 0x55) {k v : Nat}
    (hk : k = if e = 0x75 then 4 else if e = 0x55 then 8 else 2) (hv : v < 16 ^ k) :
    Closed (0x5c :: e :: hexDigits k v)
        (if e = 0x78 then [UInt8.ofNat v] else encodeRune v) ∧
      Clean (0x5c :: e :: hexDigits k v) := by
  have hd : ∀ d ∈ hexDigits k v, isHexByte d = true ∧ (d ≠ 0x5c ∧ d ≠ 0x27) ∧
      d.toNat < 0x80 ∧ d.toNat ≠ 0 ∧ d.toNat ≠ 0x0a ∧ d.toNat ≠ 0x0d := by
    intro d m
    obtain ⟨n, hn, rfl⟩ := hexDigits_mem m
    have f := hexDigit_facts hn
    exact ⟨f.1, ⟨f.2.2.1, f.2.2.2.1⟩, f.2.2.2.2⟩
  have hne : hexDigits k v ≠ [] := by
    intro e0
    have := hexDigits_length k v
    rw [e0, hk] at this
    rcases he with rfl | rfl | rfl <;> cases this
  constructor
  · refine Closed.esc (fun x => ?_) fun d m => (hd d m).2.1
    have hr := readDigits_hex (hexDigits k v) x fun d m => (hd d m).1
    rw [hexDigits_length] at hr
    rw [fmtEscape_hex_eq he, ← hk]
    simp only [hr, hne, ↓reduceIte, hexValue_hexDigits hv]
  · apply clean_ascii
    intro b m
    rcases List.mem_cons.mp m with rfl | m
    · decide
    rcases List.mem_cons.mp m with rfl | m
    · rcases he with rfl | rfl | rfl <;> decide
    · exact (hd b m).2.2

/-- `[0x27, 0x24, 0x27]` is the re-quoting `'$'`. -/
theorem piece_closed {l : Lang} {last : Bool} {t : Tok} {p : Bytes} {nxt : Bool}
    (hok : TokOK t) (hp : piece l last t = .ok (p, nxt)) :
    ∃ e, (p = e ∨ p = [0x27, 0x24, 0x27] ++ e) ∧ Closed e t.raw ∧ Clean e := by
  have hs := piece_spec l last t
  rw [hp] at hs
  -- the rune has a valid encoding unless it is the (U+FFFD, 1) of an invalid byte
  have hvalid : ¬(t.r = runeError ∧ t.size = 1) → ValidEnc t.raw t.r := fun hn =>
    hok.elim (fun h => absurd ⟨h.1, h.2.1⟩ hn) (·.1)
  cases hs with
  | bsq c =>
    obtain ⟨b, hb, hbr⟩ := tok_ascii hok (by omega)
    have henc : encodeRune t.r = [b] := encode_valid (.inl ⟨b, rfl, by omega, hbr.symm⟩)
    have hb' : b = 0x27 ∨ b = 0x5c :=
      c.imp (fun c => UInt8.toNat_inj.mp (hbr.trans c)) (fun c => UInt8.toNat_inj.mp (hbr.trans c))
    rw [henc, hb]
    refine ⟨[0x5c, b], .inl rfl, ?_, ?_⟩
    · rcases hb' with rfl | rfl <;> exact Closed.simple (by decide)
    · rcases hb' with rfl | rfl <;> exact clean_ascii _ (by decide)
  | printable c1 c2 c3 =>
    have hv := hvalid fun h => c3 h.1
    obtain ⟨n0, n1, n2⟩ := print_not_ctl c2
    refine ⟨t.raw, ?_, ?_, clean_valid hv n0 n1 n2⟩
    · rw [encode_valid hv]
      cases (last && isHexRune t.r)
      · exact .inl rfl
      · exact .inr rfl
    · refine Closed.plainList fun c m => ⟨?_, ?_⟩ <;> rintro rfl
      · exact c1 (.inr ((valid_mem_ascii hv (by decide)).mp m))
      · exact c1 (.inl ((valid_mem_ascii hv (by decide)).mp m))
  | ctl c c2 =>
    obtain ⟨a1, a3, a6⟩ := ctlLetter_spec c2
    obtain ⟨b, hb, hbr⟩ := tok_ascii hok a1
    rw [← hbr, UInt8.ofNat_toNat] at a3
    rw [hb]
    refine ⟨[0x5c, c], .inl rfl, Closed.simple a3, clean_ascii _ fun b' m => ?_⟩
    rcases List.mem_cons.mp m with rfl | m
    · decide
    · rw [List.mem_singleton.mp m]; exact a6
  | hexByte c4 =>
    obtain ⟨b, hb⟩ : ∃ b : UInt8, t.raw = [b] := by
      rcases hok with ⟨_, _, b, hb, _⟩ | ⟨hv, hsz⟩
      · exact ⟨b, hb⟩
      · rcases valid_ascii_or_high hv with ⟨_, b, hb, _⟩ | ⟨_, _, _⟩
        · exact ⟨b, hb⟩
        · omega
    have := closed_hex (e := 0x78) (k := 2) (.inl rfl) rfl (UInt8.toNat_lt b)
    rw [if_pos rfl, UInt8.ofNat_toNat, ← hex2_eq] at this
    rw [hb]
    exact ⟨_, .inl rfl, this⟩
  | u4 c2 _ c4 =>
    have := closed_hex (e := 0x75) (k := 4) (.inr (.inl rfl)) rfl c4
    rw [if_neg (by decide), encode_valid (hvalid fun h => c2 (.inr h)), ← hex4_eq] at this
    exact ⟨_, .inl rfl, this⟩
  | u8 _ c4 =>
    have hv := hvalid fun h => c4 (by rw [h.1]; decide)
    have := closed_hex (e := 0x55) (k := 8) (v := t.r) (.inr (.inr rfl)) rfl
      (Nat.lt_of_le_of_lt (valid_le_maxRune hv) (by decide))
    rw [if_neg (by decide), encode_valid hv, ← hex8_eq] at this
    exact ⟨_, .inl rfl, this⟩

theorem cutNul_id {s : Bytes} (h : (0 : UInt8) ∉ s) : cutNul s = s := by
  induction s with
  | nil => rfl
  | cons c s ih =>
    have hc : c ≠ 0 := fun e => h (by simp [e])
    simp only [cutNul, hc, ↓reduceIte]
    rw [ih (fun m => h (List.mem_cons_of_mem _ m))]

theorem lexWords_clean (l : Lang) {q : Bytes} (h : Clean q) :
    lexWords l q = lexF l (q.length + 1) q [] [] := by
  obtain ⟨h1, h2⟩ := h.fragment
  simp [lexWords, h1, h2]

theorem lexF_nil (l : Lang) (n : Nat) (cur : Word) (ws : List Word) :
    lexF l (n + 1) [] cur ws = .ok (finish ws cur) := rfl

theorem lexF_sglq (l : Lang) (n : Nat) (rest : Bytes) (cur : Word) (ws : List Word) :
    lexF l (n + 1) (0x27 :: rest) cur ws =
      match scanSgl rest with
      | none => .err
      | some (v, r) => lexF l n r (cur ++ [.sgl false v]) ws := rfl

theorem lexF_dblq (l : Lang) (n : Nat) (rest : Bytes) (cur : Word) (ws : List Word) :
    lexF l (n + 1) (0x22 :: rest) cur ws =
      match scanDq rest with
      | .ok (v, r) => lexF l n r (cur ++ [.dbl v]) ws
      | .err => .err
      | .outside => .outside := rfl

theorem lexF_dollarq {l : Lang} (hl : dollSglOK l = true) (n : Nat) (rest : Bytes) (cur : Word)
    (ws : List Word) :
    lexF l (n + 1) (0x24 :: 0x27 :: rest) cur ws =
      match scanDollarSgl rest with
      | none => .err
      | some (v, r) => lexF l n r (cur ++ [.sgl true v]) ws := by
  have : lexF l (n + 1) (0x24 :: 0x27 :: rest) cur ws =
      if (0x27 : UInt8) = 0x27 ∧ dollSglOK l = true then
        match scanDollarSgl rest with
        | none => .err
        | some (v, r) => lexF l n r (cur ++ [.sgl true v]) ws
      else .outside := rfl
  rw [this, if_pos ⟨rfl, hl⟩]

theorem lexF_lit (l : Lang) (n : Nat) {c : UInt8} (hc : isBareByte c = true) (rest : Bytes)
    {cur : Word} (h23 : c ≠ 0x23 ∨ cur ≠ []) (ws : List Word) :
    lexF l (n + 1) (c :: rest) cur ws =
      lexF l n (spanBare rest).2 (cur ++ [.lit (c :: (spanBare rest).1)]) ws := by
  obtain ⟨a1, a2, a3, a4, a5⟩ := bare_facts hc
  have a6 : ¬(c = 0x23 ∧ cur = []) := fun h => h23.elim (· h.1) (· h.2)
  simp only [lexF, a1, a2, a3, a4, a5, a6, false_or, ↓reduceIte, hc]

theorem lexF_dollar {l : Lang} (hl : dollSglOK l = true) (n : Nat) {pre out : Bytes} (rest : Bytes)
    (cur : Word) (ws : List Word) (hc : Closed pre out) :
    lexF l (n + 1) (0x24 :: 0x27 :: (pre ++ 0x27 :: rest)) cur ws =
      lexF l n rest (cur ++ [.sgl true pre]) ws := by
  have hs := hc.scan (0x27 :: rest)
  have e0 : scanDollarSgl (0x27 :: rest) = some ([], rest) := by
    rw [scanDollarSgl.eq_def]; simp
  rw [e0] at hs
  rw [lexF_dollarq hl, hs]
  simp only [Option.map, List.append_nil]

theorem Closed.expand {pre out : Bytes} (hc : Closed pre out) (hz : (0 : UInt8) ∉ out)
    (first : Bool) : expandPart first (.sgl true pre) = .ok out := by
  have hf := hc.fmt []
  rw [List.append_nil, fmtEsc_nil, List.append_nil] at hf
  simp only [expandPart, hf, cutNul_id hz]

/-- `pre` is the text of the `$'…'` part being written, `out` what it stands for.  `hn`: every
    re-quoting `'$'` costs the lexer one step and three bytes. -/
theorem dollar_lex {l lp : Lang} (hl : dollSglOK lp = true) {ts : List Tok} {offs : Nat}
    {last : Bool} {body pre out : Bytes} (cur : Word) (ws : List Word) (n : Nat)
    (hok : ∀ t ∈ ts, TokOK t ∧ t.r ≠ 0) (hb : dollarBody l ts offs last = .ok body)
    (hc : Closed pre out) (hz : (0 : UInt8) ∉ out) (hn : body.length + 2 ≤ n) :
    ∃ parts, lexF lp n (0x24 :: 0x27 :: (pre ++ body ++ [0x27])) cur ws =
        .ok (finish ws (cur ++ parts)) ∧
      parts ≠ [] ∧ (∀ p ∈ parts, ∃ v, p = Part.sgl true v) ∧
      expandParts false parts = .ok (out ++ ts.flatMap Tok.raw) := by
  induction ts generalizing offs last body pre out cur n with
  | nil =>
    simp only [dollarBody] at hb
    cases hb
    obtain ⟨m, rfl⟩ : ∃ m, n = m + 2 := ⟨n - 2, by omega⟩
    refine ⟨[.sgl true pre], ?_, by simp, ?_, ?_⟩
    · rw [List.append_nil, lexF_dollar hl (m + 1) [] cur ws hc, lexF_nil]
    · intro p hp; exact ⟨pre, List.mem_singleton.mp hp⟩
    · simp only [expandParts, hc.expand hz, List.flatMap_nil, List.append_nil]
  | cons t ts ih =>
    obtain ⟨⟨hokt, h0t⟩, hok'⟩ := List.forall_mem_cons.mp hok
    obtain ⟨p, nxt, rest, hp, hd, rfl⟩ := dollarBody_cons_ok hb
    obtain ⟨e, hpe, hce, _⟩ := piece_closed hokt hp
    have hzraw : (0 : UInt8) ∉ t.raw := fun m => h0t ((tok_zero_iff hokt).mpr m)
    rw [List.length_append] at hn
    rcases hpe with rfl | rfl
    · -- the piece continues the current part
      have hz' : (0 : UInt8) ∉ out ++ t.raw := by
        simp only [List.mem_append, not_or]; exact ⟨hz, hzraw⟩
      obtain ⟨parts, h1, h2, h3, h4⟩ :=
        ih cur n hok' hd (Closed.append hc hce) hz' (by omega)
      refine ⟨parts, ?_, h2, h3, ?_⟩
      · rw [← h1]; simp only [List.append_assoc]
      · rw [h4]; simp only [List.flatMap_cons, List.append_assoc]
    · -- re-quoting: the current part is closed, `e` starts a new one
      simp only [List.length_append, List.length_cons, List.length_nil] at hn
      obtain ⟨m, rfl⟩ : ∃ m, n = m + 1 := ⟨n - 1, by omega⟩
      obtain ⟨parts, h1, h2, h3, h4⟩ :=
        ih (cur ++ [.sgl true pre]) m hok' hd hce hzraw (by omega)
      refine ⟨.sgl true pre :: parts, ?_, by simp, ?_, ?_⟩
      · have : (0x24 : UInt8) :: 0x27 :: (pre ++ ([0x27, 0x24, 0x27] ++ e ++ rest) ++ [0x27]) =
              0x24 :: 0x27 :: (pre ++ 0x27 :: (0x24 :: 0x27 :: (e ++ rest ++ [0x27]))) := by
            simp
        rw [this, lexF_dollar hl m _ cur ws hc, h1, List.append_assoc, List.singleton_append]
      · intro q hq
        rcases List.mem_cons.mp hq with rfl | hq
        · exact ⟨pre, rfl⟩
        · exact h3 q hq
      · simp only [expandParts, hc.expand hz, h4, List.flatMap_cons]

theorem dollar_clean {l : Lang} {ts : List Tok} {offs : Nat} {last : Bool} {body : Bytes}
    (hok : ∀ t ∈ ts, TokOK t) (hb : dollarBody l ts offs last = .ok body) : Clean body := by
  induction ts generalizing offs last body with
  | nil => simp only [dollarBody] at hb; cases hb; exact .nil
  | cons t ts ih =>
    obtain ⟨p, nxt, rest, hp, hd, rfl⟩ := dollarBody_cons_ok hb
    obtain ⟨hokt, hok'⟩ := List.forall_mem_cons.mp hok
    obtain ⟨e, hpe, _, hcl⟩ := piece_closed hokt hp
    have hrest := ih hok' hd
    rcases hpe with rfl | rfl
    · exact hcl.append hrest
    · exact ((clean_ascii [0x27, 0x24, 0x27] (by decide)).append hcl).append hrest

theorem expandParts_sgl_first {parts : List Part} (h : ∀ p ∈ parts, ∃ v, p = Part.sgl true v) :
    expandParts true parts = expandParts false parts := by
  cases parts with
  | nil => rfl
  | cons p ps =>
    obtain ⟨v, rfl⟩ := h p (List.mem_cons_self ..)
    simp only [expandParts, expandPart]

theorem clean_toks {ts : List Tok} (h : ∀ t ∈ ts, PTok t) :
    Clean (ts.flatMap Tok.raw) ∧ (0 : UInt8) ∉ ts.flatMap Tok.raw := by
  induction ts with
  | nil => exact ⟨.nil, nofun⟩
  | cons t ts ih =>
    obtain ⟨⟨hv, hp, _⟩, h'⟩ := List.forall_mem_cons.mp h
    obtain ⟨n0, n1, n2⟩ := print_not_ctl hp
    obtain ⟨i1, i2⟩ := ih h'
    rw [List.flatMap_cons]
    refine ⟨Clean.cons hv n0 n1 n2 i1, fun m => ?_⟩
    rcases List.mem_append.mp m with m | m
    · exact n0 ((valid_mem_ascii hv (by decide)).mp m)
    · exact i2 m

theorem spanBare_all {s : Bytes} (h : ∀ b ∈ s, isBareByte b = true) : spanBare s = (s, []) := by
  induction s with
  | nil => rfl
  | cons c s ih =>
    obtain ⟨hc, h'⟩ := List.forall_mem_cons.mp h
    simp only [spanBare, hc, ↓reduceIte, ih h']

theorem lexF_bare (l : Lang) (n : Nat) (c : UInt8) (rest : Bytes)
    (hb : ∀ b ∈ c :: rest, isBareByte b = true) (h23 : c ≠ 0x23) :
    lexF l (n + 2) (c :: rest) [] [] = .ok [[.lit (c :: rest)]] := by
  obtain ⟨hc, hb'⟩ := List.forall_mem_cons.mp hb
  rw [lexF_lit l (n + 1) hc rest (.inl h23), spanBare_all hb']
  rfl

theorem ptok_bare {t : Tok} (h : PTok t) (hs : isShellChar t.r = false) :
    ∀ b ∈ t.raw, isBareByte b = true ∧ isShellChar b.toNat = false := by
  obtain ⟨hv, hp, _⟩ := h
  intro b m
  rcases valid_ascii_or_high hv with ⟨hr, b', hb', hbr⟩ | ⟨_, _, hh⟩
  · rw [hb'] at m
    rw [List.mem_singleton.mp m, hbr]
    exact ⟨bare_of_not_shell (by have := isPrint_ascii hr hp; omega) (.inr (hbr ▸ hs)), hs⟩
  · have hb := hh b m
    refine ⟨bare_of_not_shell (by omega) (.inl hb), Bool.eq_false_iff.mpr fun h => ?_⟩
    have : ∀ c ∈ [0x3b, 0x22, 0x27, 0x28, 0x29, 0x24, 0x7c, 0x26, 0x3e, 0x3c, 0x60, 0x20, 0x09,
        0x0d, 0x0a, 0x5c, 0x23, 0x7b, 0x7e, 0x2a, 0x3f, 0x5b, 0x3d], c < 0x80 := by decide
    have := this _ (List.contains_iff_mem.mp h)
    omega

theorem scanSgl_plain {s : Bytes} (r : Bytes) (h : ∀ b ∈ s, b ≠ 0x27) :
    scanSgl (s ++ 0x27 :: r) = some (s, r) := by
  induction s with
  | nil => simp [scanSgl]
  | cons c s ih =>
    obtain ⟨hc, h'⟩ := List.forall_mem_cons.mp h
    simp only [List.cons_append, scanSgl, hc, ↓reduceIte, ih h']

theorem lexF_sgl (l : Lang) (n : Nat) (s : Bytes) (h : ∀ b ∈ s, b ≠ 0x27) :
    lexF l (n + 2) (0x27 :: (s ++ [0x27])) [] [] = .ok [[.sgl false s]] := by
  rw [lexF_sglq, scanSgl_plain [] h]
  rfl

structure DqClosed (e out : Bytes) : Prop where
  scan : ∀ x v r, scanDq x = .ok (v, r) → scanDq (e ++ x) = .ok (e ++ v, r)
  unesc : ∀ x, dqUnescape (e ++ x) = out ++ dqUnescape x

theorem DqClosed.nil : DqClosed [] [] := ⟨fun _ _ _ h => h, fun _ => rfl⟩

theorem DqClosed.append {e1 o1 e2 o2 : Bytes} (h1 : DqClosed e1 o1) (h2 : DqClosed e2 o2) :
    DqClosed (e1 ++ e2) (o1 ++ o2) :=
  ⟨fun x v r h => by rw [List.append_assoc, List.append_assoc, h1.scan _ _ _ (h2.scan x v r h)],
   fun x => by rw [List.append_assoc, h1.unesc, h2.unesc, List.append_assoc]⟩

theorem DqClosed.plain {c : UInt8} (h : c ≠ 0x22 ∧ c ≠ 0x24 ∧ c ≠ 0x60 ∧ c ≠ 0x5c) :
    DqClosed [c] [c] := by
  obtain ⟨a1, a2, a3, a4⟩ := h
  constructor
  · intro x v r hx
    rw [List.singleton_append, scanDq.eq_def]
    simp only [a1, a2, a3, a4, or_self, ↓reduceIte, hx, List.singleton_append]
  · intro x
    cases x with
    | nil => rfl
    | cons d x => simp only [List.singleton_append, dqUnescape, a4, false_and, ↓reduceIte]

theorem DqClosed.plainList {e : Bytes}
    (h : ∀ c ∈ e, c ≠ 0x22 ∧ c ≠ 0x24 ∧ c ≠ 0x60 ∧ c ≠ 0x5c) : DqClosed e e := by
  induction e with
  | nil => exact .nil
  | cons c e ih =>
    obtain ⟨hc, h'⟩ := List.forall_mem_cons.mp h
    exact (DqClosed.plain hc).append (ih h')

theorem DqClosed.esc {d : UInt8} (h : d = 0x22 ∨ d = 0x5c ∨ d = 0x24 ∨ d = 0x60) :
    DqClosed [0x5c, d] [d] := by
  constructor
  · intro x v r hx
    have d1 : ¬((0x5c : UInt8) = 0x22) := by decide
    have d2 : ¬((0x5c : UInt8) = 0x24 ∨ (0x5c : UInt8) = 0x60) := by decide
    show scanDq (0x5c :: d :: x) = _
    rw [scanDq]
    simp only [d1, d2, ↓reduceIte, hx]; rfl
  · intro x
    show dqUnescape (0x5c :: d :: x) = _
    simp only [dqUnescape, h, and_self, ↓reduceIte]; rfl

theorem dq_piece {t : Tok} (h : PTok t) :
    DqClosed ((if t.r = 0x22 ∨ t.r = 0x5c ∨ t.r = 0x60 ∨ t.r = 0x24 then [0x5c] else []) ++
      encodeRune t.r) t.raw := by
  obtain ⟨hv, hp, _⟩ := h
  rw [encode_valid hv]
  by_cases hc : t.r = 0x22 ∨ t.r = 0x5c ∨ t.r = 0x60 ∨ t.r = 0x24
  · rw [if_pos hc]
    rcases valid_ascii_or_high hv with ⟨_, b, hb, hbr⟩ | ⟨_, _, _⟩
    · rw [hb]
      refine DqClosed.esc ?_
      rw [← hbr] at hc
      rcases hc with c | c | c | c
      · exact .inl (UInt8.toNat_inj.mp c)
      · exact .inr (.inl (UInt8.toNat_inj.mp c))
      · exact .inr (.inr (.inr (UInt8.toNat_inj.mp c)))
      · exact .inr (.inr (.inl (UInt8.toNat_inj.mp c)))
    · omega
  · rw [if_neg hc, List.nil_append]
    refine DqClosed.plainList fun c m => ⟨?_, ?_, ?_, ?_⟩ <;> rintro rfl
    · exact hc (.inl ((valid_mem_ascii hv (by decide)).mp m))
    · exact hc (.inr (.inr (.inr ((valid_mem_ascii hv (by decide)).mp m))))
    · exact hc (.inr (.inr (.inl ((valid_mem_ascii hv (by decide)).mp m))))
    · exact hc (.inr (.inl ((valid_mem_ascii hv (by decide)).mp m)))

theorem dq_body {ts : List Tok} (h : ∀ t ∈ ts, PTok t) :
    DqClosed (dqBody ts) (ts.flatMap Tok.raw) ∧ Clean (dqBody ts) := by
  induction ts with
  | nil => exact ⟨.nil, .nil⟩
  | cons t ts ih =>
    obtain ⟨ht, h'⟩ := List.forall_mem_cons.mp h
    obtain ⟨i1, i2⟩ := ih h'
    obtain ⟨n0, n1, n2⟩ := print_not_ctl ht.2.1
    rw [dqBody, List.flatMap_cons]
    refine ⟨(dq_piece ht).append i1, ?_⟩
    rw [encode_valid ht.1]
    refine Clean.append (Clean.append ?_ (clean_valid ht.1 n0 n1 n2)) i2
    split
    · exact clean_ascii _ (by decide)
    · exact .nil

theorem lexF_dq (l : Lang) (n : Nat) (body : Bytes) (h : scanDq (body ++ [0x22]) = .ok (body, [])) :
    lexF l (n + 2) (0x22 :: (body ++ [0x22])) [] [] = .ok [[.dbl body]] := by
  rw [lexF_dblq, h]
  rfl

theorem dollSglOK_of {l : Lang} (hv : validLang l = true)
    (hp : langIn (resolve l) langPOSIX = false) : dollSglOK (resolve l) = true := by
  simp only [validLang, Bool.or_eq_true, beq_iff_eq] at hv
  rcases hv with ((((rfl | rfl) | rfl) | rfl) | rfl) | rfl <;> revert hp <;> decide

def WordShape (w : Word) : Prop :=
  (∃ v, w = [.lit v]) ∨ (∃ v, w = [.sgl false v]) ∨ (∃ v, w = [.dbl v]) ∨
  (w ≠ [] ∧ ∀ p ∈ w, ∃ v, p = Part.sgl true v)

/-- What command position needs: `cmdPos` gives a meaning only to a leading unquoted literal. -/
def FirstLit (s : Bytes) (w : Word) : Prop :=
  ∀ v rest, w = Part.lit v :: rest →
    rest = [] ∧ v = s ∧ isKeyword s = false ∧ (0x3d : UInt8) ∉ s ∧ (0x7b : UInt8) ∉ s

/-- `hlp`: of the parser's variant `lp` only this matters: it knows `$'…'` whenever Quote (which
    writes it for no POSIX set) does. -/
theorem quote_roundtrip_main (l lp : Lang) (s q : Bytes)
    (hlp : langIn l langPOSIX = false → dollSglOK lp = true) (h : quoteCore l s = .ok q) :
    ∃ w, lexWords lp q = .ok [w] ∧ WordShape w ∧ expandLit w = .ok s ∧ FirstLit s w := by
  have hj := runes_join s
  have hq27 : Clean ([0x27] : Bytes) := clean_ascii _ (by decide)
  -- without a non-printable rune, `s` is in the lexer fragment and has no NUL
  have hpr : ∀ sc, scan l (runes s) 0 false false = .ok (sc, false) →
      (∀ t ∈ runes s, PTok t) ∧ Clean s ∧ (0 : UInt8) ∉ s := fun sc hsc =>
    ⟨scan_printable hsc, hj ▸ clean_toks (scan_printable hsc)⟩
  have hs := quoteCore_spec l s
  rw [h] at hs
  cases hs with
  | empty hs =>
    subst hs
    refine ⟨[.sgl false []], ?_, .inr (.inl ⟨_, rfl⟩), rfl, nofun⟩
    have hcl : Clean ([0x27, 0x27] : Bytes) := hq27.append hq27
    rw [lexWords_clean _ hcl]
    exact lexF_sgl _ 1 [] nofun
  | bare hs hsc hkw =>
    obtain ⟨hpt, hcl, hz⟩ := hpr _ hsc
    obtain ⟨-, i2, -⟩ := scan_ok hsc
    have hbare : ∀ b ∈ s, isBareByte b = true ∧ isShellChar b.toNat = false := by
      intro b m
      rw [← hj] at m
      obtain ⟨t, mt, mb⟩ := List.mem_flatMap.mp m
      refine ptok_bare (hpt t mt) (Bool.eq_false_iff.mpr fun hsh => ?_) b mb
      rw [Bool.false_or, List.any_eq_true.mpr ⟨t, mt, hsh⟩] at i2; cases i2
    -- `#`, `~`, `=`, `{` are shell characters
    have hne : ∀ c : UInt8, isShellChar c.toNat = true → c ∉ s := fun c hc m => by
      rw [(hbare c m).2] at hc; cases hc
    cases s with
    | nil => exact absurd rfl hs
    | cons c rest =>
      have c23 : c ≠ 0x23 := fun e => hne 0x23 (by decide) (e ▸ List.mem_cons_self ..)
      have c7e : c ≠ 0x7e := fun e => hne 0x7e (by decide) (e ▸ List.mem_cons_self ..)
      refine ⟨[.lit (c :: rest)], ?_, .inl ⟨_, rfl⟩, ?_, ?_⟩
      · rw [lexWords_clean _ hcl]
        exact lexF_bare _ _ c rest (fun b m => (hbare b m).1) c23
      · simp only [expandLit, expandParts, expandPart, List.head?_cons, Option.some.injEq, c7e,
          and_false, ↓reduceIte, cutNul_id hz, List.append_nil]
      · intro v r e; cases e
        exact ⟨rfl, rfl, hkw, hne 0x3d (by decide), hne 0x7b (by decide)⟩
  | dollar sc body hsc hd =>
    have hok := runes_ok s
    obtain ⟨i1, -, -⟩ := scan_ok hsc
    have hcl : Clean ([0x24, 0x27] ++ body ++ [0x27]) :=
      ((clean_ascii [0x24, 0x27] (by decide)).append (dollar_clean hok hd)).append hq27
    obtain ⟨parts, h1, h2, h3, h4⟩ :=
      dollar_lex (hlp (scan_not_posix hsc)) [] [] (([0x24, 0x27] ++ body ++ [0x27]).length + 1)
        (fun t m => ⟨hok t m, (i1 t m).1⟩) hd Closed.nil nofun
        (by simp only [List.length_append, List.length_cons, List.length_nil]; omega)
    refine ⟨parts, ?_, .inr (.inr (.inr ⟨h2, h3⟩)), ?_, ?_⟩
    · rw [lexWords_clean _ hcl]
      simp only [List.nil_append, List.cons_append, finish, h2, ↓reduceIte] at h1 ⊢
      exact h1
    · rw [expandLit, expandParts_sgl_first h3, h4, hj]; rfl
    · intro v r e; subst e
      obtain ⟨v', hv'⟩ := h3 _ (List.mem_cons_self ..); cases hv'
  | sgl sc hsc hq =>
    obtain ⟨-, hcl, -⟩ := hpr _ hsc
    have hno : ∀ b ∈ s, b ≠ 0x27 := fun b m e => by
      rw [List.contains_eq_mem, decide_eq_false_iff_not] at hq; exact hq (e ▸ m)
    refine ⟨[.sgl false s], ?_, .inr (.inl ⟨_, rfl⟩), ?_, nofun⟩
    · rw [lexWords_clean _ ((hq27.append hcl).append hq27)]
      exact lexF_sgl _ _ s hno
    · simp only [expandLit, expandParts, expandPart, List.append_nil]
  | dq sc hsc =>
    obtain ⟨hpt, -, hz⟩ := hpr _ hsc
    obtain ⟨hdq, hcl⟩ := dq_body hpt
    have hq22 : Clean ([0x22] : Bytes) := clean_ascii _ (by decide)
    have hsc := hdq.scan [0x22] [] [] rfl
    have hun := hdq.unesc []
    rw [List.append_nil] at hsc hun
    rw [hj, show dqUnescape [] = [] from rfl, List.append_nil] at hun
    refine ⟨[.dbl (dqBody (runes s))], ?_, .inr (.inr (.inl ⟨_, rfl⟩)), ?_, nofun⟩
    · rw [lexWords_clean _ ((hq22.append hcl).append hq22)]
      exact lexF_dq _ _ _ hsc
    · simp only [expandLit, expandParts, expandPart, hun, cutNul_id hz, List.append_nil]

theorem firstEq_none {v : Bytes} (h : (0x3d : UInt8) ∉ v) : firstEq v = none := by
  induction v with
  | nil => rfl
  | cons c v ih =>
    have hc : c ≠ 0x3d := fun e => h (by simp [e])
    simp only [firstEq, hc, ↓reduceIte, ih (fun m => h (List.mem_cons_of_mem _ m)), Option.map]

theorem stmtWord_false (l : Lang) (s : Bytes) (hk : isKeyword s = false)
    (hb : (0x7b : UInt8) ∉ s) (hc : clauseWord l s = false) : stmtWord l s = false := by
  -- every word in the lists of `stmtWord` is a keyword, except zsh's `{}`
  have sub : ∀ {L : List Bytes}, L.all isKeyword = true → L.contains s = true → False :=
    fun ha hm => by
      rw [List.all_eq_true.mp ha s (List.contains_iff_mem.mp hm)] at hk; cases hk
  apply Bool.eq_false_iff.mpr
  intro h
  simp only [stmtWord, hc, Bool.or_false, Bool.or_eq_true, Bool.and_eq_true, beq_iff_eq] at h
  rcases h with ((h | ⟨-, h⟩) | ⟨-, h⟩) | ⟨-, h⟩
  · exact sub (by decide) h
  · exact sub (by decide) h
  · subst h; revert hk; decide
  · subst h; exact hb (by decide)

end ShVerif.C13
