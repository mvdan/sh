import ShVerif.Proofs.C20Bin
/-
  C20: how the byte classes of the model lie to each other (used by the lexer lemmas too); `atoi` on a
  valid bash constant is its mathematical value (`atoi_lit`, with blanks and a sign `atoi_intLit`),
  names read as 0, and `strconv.FormatInt` writes a constant that `atoi` reads back.
-/
namespace ShVerif.C20

theorem forall_uint8 {P : UInt8 → Prop} (h : ∀ n, n < 256 → P (UInt8.ofNat n)) (c : UInt8) : P c := by
  have := h c.toNat (UInt8.toNat_lt c)
  simpa using this

-- One table for the facts about single bytes, so that the 256 cases are run through once
-- (40 41 43 45 61 35 are `( ) + - = #`).
theorem byte_classes (c : UInt8) :
    (isBlankB c = true → isSpaceB c = true) ∧
    (isWordB c = true → isSpaceB c = false) ∧
    (isWordB c = true → c ≠ 40 ∧ c ≠ 41 ∧ c ≠ 43 ∧ c ≠ 45 ∧ c ≠ 61) ∧
    (isNameChar c = true → c ≠ 35) ∧
    (isNameStart c = true → ¬ (48 ≤ c ∧ c ≤ 57)) := by
  revert c; apply forall_uint8; decide +kernel

-- The same for the digit alphabets; third line: `strconv`'s digit value is bash's up to base 36.
theorem digit_values (c : UInt8) :
    ((specDigit 36 c).isSome = true ∨ (largeDigit c).isSome = true → isWordB c = true ∧ c ≠ 35) ∧
    (isNameStart c = true → ∀ d ∈ digitVal c, 10 ≤ d) ∧
    (∀ d ∈ specDigit 36 c, d < 36 → digitVal c = some d) ∧
    (∀ d ∈ specDigit 10 c, d < 10 → 48 ≤ c ∧ c ≤ 57) := by
  revert c; apply forall_uint8; decide +kernel

theorem nameChar_of_start {c : UInt8} (h : isNameStart c = true) : isNameChar c = true := by
  unfold isNameChar; rw [h]; rfl

theorem nameChar_of_digit {c : UInt8} (h1 : 48 ≤ c) (h2 : c ≤ 57) : isNameChar c = true := by
  unfold isNameChar; rw [decide_eq_true h1, decide_eq_true h2]; exact Bool.or_true _

theorem word_of_nameChar {c : UInt8} (h : isNameChar c = true) : isWordB c = true := by
  unfold isWordB; rw [h]; rfl

theorem nameChar_ne_hash {c : UInt8} (h : isNameChar c = true) : c ≠ 35 := (byte_classes c).2.2.2.1 h

theorem word_not_space {c : UInt8} (h : isWordB c = true) : isSpaceB c = false := (byte_classes c).2.1 h

theorem word_facts {c : UInt8} (h : isWordB c = true) : c ≠ 40 ∧ c ≠ 41 ∧ c ≠ 43 ∧ c ≠ 45 ∧ c ≠ 61 :=
  (byte_classes c).2.2.1 h

theorem blank_space {c : UInt8} (h : isBlankB c = true) : isSpaceB c = true := (byte_classes c).1 h

theorem blank_not_word {c : UInt8} (h : isBlankB c = true) : isWordB c = false :=
  Bool.eq_false_iff.2 fun hw => by
    have := blank_space h
    rw [word_not_space hw] at this
    cases this

theorem word_not_blank {c : UInt8} (h : isWordB c = true) : isBlankB c = false :=
  Bool.eq_false_iff.2 fun hb => by rw [blank_not_word hb] at h; cases h

theorem blank_not_start {c : UInt8} (h : isBlankB c = true) : isNameStart c = false :=
  Bool.eq_false_iff.2 fun hs => by
    have := word_of_nameChar (nameChar_of_start hs)
    rw [blank_not_word h] at this
    cases this

theorem digit_not_start {c : UInt8} (h1 : 48 ≤ c) (h2 : c ≤ 57) : isNameStart c = false :=
  Bool.eq_false_iff.2 fun hs => (byte_classes c).2.2.2.2 hs ⟨h1, h2⟩

theorem specDigit_low {base : Nat} (h : base ≤ 36) (c : UInt8) : specDigit base c = specDigit 36 c := by
  simp [specDigit, h]

theorem specDigit_high {base : Nat} (h : 36 < base) (c : UInt8) : specDigit base c = largeDigit c := by
  unfold specDigit largeDigit
  rw [if_neg (Nat.not_le.2 h)]

theorem digit_byte {base : Nat} {c : UInt8} {d : Nat} (h : specDigit base c = some d) :
    isWordB c = true ∧ c ≠ 35 := by
  refine (digit_values c).1 ?_
  by_cases hb : base ≤ 36
  · left; rw [← specDigit_low hb, h]; rfl
  · right; rw [← specDigit_high (Nat.not_le.1 hb), h]; rfl

theorem specDigits_cons (base acc : Nat) (c : UInt8) (cs : Bytes) :
    specDigits base acc (c :: cs) =
      match specDigit base c with
      | some d => if d < base then specDigits base (acc * base + d) cs else none
      | none => none := by
  rw [specDigits]
  rfl

theorem specDigits_head {base : Nat} {c : UInt8} {cs : Bytes} {acc n : Nat}
    (h : specDigits base acc (c :: cs) = some n) :
    ∃ d, specDigit base c = some d ∧ d < base ∧ specDigits base (acc * base + d) cs = some n := by
  rw [specDigits_cons] at h
  cases hd : specDigit base c with
  | none => rw [hd] at h; cases h
  | some d =>
    rw [hd] at h
    by_cases hlt : d < base
    · exact ⟨d, rfl, hlt, by simpa [hlt] using h⟩
    · simp [hlt] at h

theorem specDigits_ge {base : Nat} (hb : 1 ≤ base) : ∀ (ds : Bytes) (acc n : Nat),
    specDigits base acc ds = some n → acc ≤ n
  | [], acc, n, h => by simp [specDigits] at h; omega
  | c :: cs, acc, n, h => by
    obtain ⟨d, _, _, h'⟩ := specDigits_head h
    have := specDigits_ge hb cs _ n h'
    have : acc ≤ acc * base := Nat.le_mul_of_pos_right acc hb
    omega

theorem parseUintLoop_spec {base maxVal : Nat} (hb2 : 2 ≤ base) (hb : base ≤ 36)
    (hmax : maxVal ≤ maxU64) : ∀ (ds : Bytes) (acc n : Nat),
    specDigits base acc ds = some n → n ≤ maxVal →
    parseUintLoop base maxVal (maxU64 / base + 1) acc ds = .ok n
  | [], acc, n, h, _ => by simp [specDigits] at h; simp [parseUintLoop, h]
  | c :: cs, acc, n, h, hn => by
    obtain ⟨d, hd, hdb, h'⟩ := specDigits_head h
    have hge := specDigits_ge (by omega) cs _ n h'
    rw [specDigit_low hb] at hd
    have h2 : ¬ acc ≥ maxU64 / base + 1 := by
      have : acc ≤ maxU64 / base := (Nat.le_div_iff_mul_le (by omega)).2 (by omega)
      omega
    rw [parseUintLoop, (digit_values c).2.2.1 d hd (by omega)]
    simp only []
    rw [if_neg (by omega), if_neg h2, if_neg (by omega)]
    exact parseUintLoop_spec hb2 hb hmax cs _ n h' hn

theorem atoiLargeLoop_spec {base : Nat} (hb : 36 < base) : ∀ (ds : Bytes) (acc n : Nat),
    specDigits base acc ds = some n → n < 2 ^ 63 →
    atoiLargeLoop base (Int.ofNat acc) ds = Int.ofNat n
  | [], acc, n, h, _ => by simp [specDigits] at h; simp [atoiLargeLoop, h]
  | c :: cs, acc, n, h, hn => by
    obtain ⟨d, hd, hdb, h'⟩ := specDigits_head h
    have hge := specDigits_ge (by omega) cs _ n h'
    rw [specDigit_high hb] at hd
    have hw : wrap64 (Int.ofNat acc * (base : Int) + (d : Int)) = Int.ofNat (acc * base + d) := by
      have e : Int.ofNat acc * (base : Int) + (d : Int) = ((acc * base + d : Nat) : Int) := by
        simp [Int.natCast_add, Int.natCast_mul]
      rw [e, Int.ofNat_eq_natCast]
      apply wrap64_eq
      rw [inI64_iff]
      constructor <;> omega
    rw [atoiLargeLoop, hd]
    simp only []
    rw [if_neg (by omega), hw]
    exact atoiLargeLoop_spec hb cs _ n h' hn

theorem parseInt_spec {base bits : Nat} (hb2 : 2 ≤ base) (hb : base ≤ 36) (hbits : 1 ≤ bits)
    (hbits64 : bits ≤ 64) {c : UInt8} {cs : Bytes} {n : Nat}
    (h : specDigits base 0 (c :: cs) = some n) (hn : n < 2 ^ (bits - 1)) :
    parseInt (c :: cs) base bits = (Int.ofNat n, false) := by
  obtain ⟨d, hd, _⟩ := specDigits_head h
  obtain ⟨_, _, h43, h45, _⟩ := word_facts (digit_byte hd).1
  have hpow : 2 ^ (bits - 1) < 2 ^ bits := Nat.pow_lt_pow_right (by omega) (by omega)
  have hpow64 : 2 ^ bits ≤ 2 ^ 64 := Nat.pow_le_pow_right (by omega) hbits64
  have hmax : 2 ^ bits - 1 ≤ maxU64 := by unfold maxU64; omega
  have hloop := parseUintLoop_spec hb2 hb hmax (c :: cs) 0 n h (by omega)
  have h1 : ¬ n ≥ 2 ^ (bits - 1) := by omega
  have e43 : (c == 43) = false := by simpa using h43
  have e45 : (c == 45) = false := by simpa using h45
  have hpu : parseUint (c :: cs) base bits = .ok n := by
    unfold parseUint
    rw [if_neg (by simp)]
    exact hloop
  unfold parseInt
  simp only [e43, e45, Bool.or_self, Bool.false_eq_true, if_false, hpu]
  simp [h1]

theorem atoiDigits_spec {base : Nat} (hb2 : 2 ≤ base) (hb64 : base ≤ 64) {ds : Bytes} {n : Nat}
    (h : specDigits base 0 ds = some n) (hn : n < 2 ^ 63) : atoiDigits base ds = Int.ofNat n := by
  unfold atoiDigits
  by_cases hb : base > 36
  · rw [if_pos hb]
    exact atoiLargeLoop_spec hb ds 0 n h hn
  · rw [if_neg hb]
    cases ds with
    | nil => simp [specDigits] at h; subst h; simp [parseInt]
    | cons c cs => rw [parseInt_spec hb2 (by omega) (by omega) (by omega) h hn]

theorem cutHash_parts : ∀ (s b ds : Bytes), cutHash s = some (b, ds) → s = b ++ 35 :: ds
  | [], b, ds, h => by simp [cutHash] at h
  | c :: rest, b, ds, h => by
    unfold cutHash at h
    split at h
    · rename_i hc; cases h; simp [hc]
    · split at h
      · cases h
      · rename_i a c' heq
        cases h
        have := cutHash_parts rest a ds heq
        simp [this]

theorem cutHash_none_of_no_hash : ∀ (s : Bytes), (∀ b ∈ s, b ≠ 35) → cutHash s = none
  | [], _ => rfl
  | c :: rest, h => by
    unfold cutHash
    rw [if_neg (h c (List.mem_cons_self ..))]
    rw [cutHash_none_of_no_hash rest (fun b hb => h b (List.mem_cons_of_mem _ hb))]

theorem specNumber_oct {c2 : UInt8} {r2 : Bytes} (h120 : c2 ≠ 120) (h88 : c2 ≠ 88) :
    specNumber (48 :: c2 :: r2) = specDigits 8 0 (c2 :: r2) := by
  rw [specNumber]
  · exact fun _ h => h120 (List.cons.inj h).1
  · exact fun _ h => h88 (List.cons.inj h).1

theorem specNumber_other {c : UInt8} {r : Bytes} (h48 : c ≠ 48) :
    specNumber (c :: r) =
      match cutHash (c :: r) with
      | some (b, ds) =>
        match specDigits 10 0 b with
        | some base => if 2 ≤ base ∧ base ≤ 64 ∧ ds ≠ [] then specDigits base 0 ds else none
        | none => none
      | none => specDigits 10 0 (c :: r) := by
  rw [specNumber]
  · rfl
  · exact nofun
  all_goals exact fun _ h => h48 (List.cons.inj h).1

theorem hasPrefix0x_of_ne {c : UInt8} {r : Bytes} (h48 : c ≠ 48) : hasPrefix0x (c :: r) = false := by
  simp [hasPrefix0x, h48]

theorem hasPrefix0x_oct {c2 : UInt8} {r2 : Bytes} (h120 : c2 ≠ 120) (h88 : c2 ≠ 88) :
    hasPrefix0x (48 :: c2 :: r2) = false := by
  simp [hasPrefix0x, h120, h88]

theorem atoiMag_other {c : UInt8} {r : Bytes} (h48 : c ≠ 48) :
    atoiMag (c :: r) =
      match cutHash (c :: r) with
      | some (baseStr, intStr) =>
        if (parseInt baseStr 10 8).2 || (parseInt baseStr 10 8).1 < 2 || (parseInt baseStr 10 8).1 > 64
        then 0 else atoiDigits (parseInt baseStr 10 8).1.toNat intStr
      | none => atoiDigits 10 (c :: r) := by
  simp [atoiMag, hasPrefix0x_of_ne h48, h48]
  rfl

theorem specNumber_cases {lit : Bytes} {n : Nat} (h : specNumber lit = some n) :
    (∃ x ds, lit = 48 :: x :: ds ∧ (x = 120 ∨ x = 88) ∧ specDigits 16 0 ds = some n) ∨
    (∃ ds, lit = 48 :: ds ∧ hasPrefix0x lit = false ∧ specDigits 8 0 ds = some n) ∨
    (∃ c r b ds base, lit = c :: r ∧ c ≠ 48 ∧ cutHash (c :: r) = some (b, ds) ∧
      specDigits 10 0 b = some base ∧ 2 ≤ base ∧ base ≤ 64 ∧ specDigits base 0 ds = some n) ∨
    (∃ c r, lit = c :: r ∧ c ≠ 48 ∧ cutHash (c :: r) = none ∧ specDigits 10 0 (c :: r) = some n) := by
  cases lit with
  | nil => cases h
  | cons c rest =>
    by_cases hc : c = 48
    · subst hc
      cases rest with
      | nil => exact .inr (.inl ⟨[], rfl, rfl, h⟩)
      | cons c2 r2 =>
        by_cases h120 : c2 = 120
        · exact .inl ⟨c2, r2, rfl, .inl h120, by subst h120; exact h⟩
        · by_cases h88 : c2 = 88
          · exact .inl ⟨c2, r2, rfl, .inr h88, by subst h88; exact h⟩
          · rw [specNumber_oct h120 h88] at h
            exact .inr (.inl ⟨c2 :: r2, rfl, hasPrefix0x_oct h120 h88, h⟩)
    · rw [specNumber_other hc] at h
      cases hcut : cutHash (c :: rest) with
      | none =>
        rw [hcut] at h
        exact .inr (.inr (.inr ⟨c, rest, rfl, hc, hcut, h⟩))
      | some p =>
        obtain ⟨b, ds⟩ := p
        rw [hcut] at h
        simp only [] at h
        cases hbase : specDigits 10 0 b with
        | none => rw [hbase] at h; cases h
        | some base =>
          rw [hbase] at h
          simp only [] at h
          split at h
          · rename_i hcond
            exact .inr (.inr (.inl ⟨c, rest, b, ds, base, rfl, hc, hcut, hbase, hcond.1, hcond.2.1, h⟩))
          · cases h

theorem atoiMag_lit {lit : Bytes} {n : Nat} (h : specNumber lit = some n) (hn : n < 2 ^ 63) :
    atoiMag lit = Int.ofNat n := by
  rcases specNumber_cases h with ⟨x, ds, rfl, hx, hd⟩ | ⟨ds, rfl, hp, hd⟩ |
    ⟨c, r, b, ds, base, rfl, hc, hcut, hb, hb2, hb64, hd⟩ | ⟨c, r, rfl, hc, hcut, hd⟩
  · have : atoiMag (48 :: x :: ds) = atoiDigits 16 ds := by rcases hx with rfl | rfl <;> rfl
    rw [this]
    exact atoiDigits_spec (by omega) (by omega) hd hn
  · have : atoiMag (48 :: ds) = atoiDigits 8 ds := by unfold atoiMag; rw [hp]; rfl
    rw [this]
    exact atoiDigits_spec (by omega) (by omega) hd hn
  · rw [atoiMag_other hc, hcut]
    cases b with
    | nil => simp [specDigits] at hb; omega
    | cons bc bcs =>
      simp only [parseInt_spec (by omega) (by omega) (by omega) (by omega) hb
        (show base < 2 ^ (8 - 1) by omega)]
      have e1 : ¬ (Int.ofNat base < 2) := by simp [Int.ofNat_eq_natCast]; omega
      have e2 : ¬ (Int.ofNat base > 64) := by simp [Int.ofNat_eq_natCast]; omega
      simp only [Bool.false_or, Bool.or_eq_true, decide_eq_true_eq, e1, e2, or_self, if_false]
      exact atoiDigits_spec hb2 hb64 hd hn
  · rw [atoiMag_other hc, hcut]
    exact atoiDigits_spec (by omega) (by omega) hd hn

theorem specDigits_wordChars {base : Nat} : ∀ (ds : Bytes) (acc n : Nat),
    specDigits base acc ds = some n → ∀ b ∈ ds, isWordB b = true
  | [], _, _, _, b, hb => by cases hb
  | c :: cs, acc, n, h, b, hb => by
    obtain ⟨d, hd, _, h'⟩ := specDigits_head h
    rcases List.mem_cons.1 hb with rfl | hb'
    · exact (digit_byte hd).1
    · exact specDigits_wordChars cs _ n h' b hb'

theorem specNumber_wordChars {lit : Bytes} {n : Nat} (h : specNumber lit = some n) :
    ∀ b ∈ lit, isWordB b = true := by
  rcases specNumber_cases h with ⟨x, ds, rfl, hx, hd⟩ | ⟨ds, rfl, _, hd⟩ |
    ⟨c, r, b, ds, base, rfl, _, hcut, hb, _, _, hd⟩ | ⟨c, r, rfl, _, _, hd⟩
  · intro b hb
    rcases List.mem_cons.1 hb with rfl | hb
    · decide
    · rcases List.mem_cons.1 hb with rfl | hb
      · rcases hx with rfl | rfl <;> decide
      · exact specDigits_wordChars _ _ _ hd b hb
  · intro b hb
    rcases List.mem_cons.1 hb with rfl | hb
    · decide
    · exact specDigits_wordChars _ _ _ hd b hb
  · rw [cutHash_parts _ _ _ hcut]
    intro x hx
    rcases List.mem_append.1 hx with hx | hx
    · exact specDigits_wordChars _ _ _ hb x hx
    · rcases List.mem_cons.1 hx with rfl | hx
      · decide
      · exact specDigits_wordChars _ _ _ hd x hx
  · exact specDigits_wordChars _ _ _ hd

theorem specNumber_starts_digit {lit : Bytes} {n : Nat} (h : specNumber lit = some n) :
    ∃ c rest, lit = c :: rest ∧ 48 ≤ c ∧ c ≤ 57 := by
  rcases specNumber_cases h with ⟨x, ds, rfl, _⟩ | ⟨ds, rfl, _⟩ |
    ⟨c, r, b, ds, base, rfl, _, hcut, hb, hb2, _, _⟩ | ⟨c, r, rfl, _, _, hd⟩
  · exact ⟨48, _, rfl, by decide, by decide⟩
  · exact ⟨48, _, rfl, by decide, by decide⟩
  · cases b with
    | nil => simp [specDigits] at hb; omega
    | cons bc bcs =>
      obtain ⟨d, hd, hlt, _⟩ := specDigits_head hb
      have hp := cutHash_parts _ _ _ hcut
      rw [List.cons_append, List.cons.injEq] at hp
      exact ⟨c, r, rfl, hp.1 ▸ (digit_values bc).2.2.2 d hd hlt⟩
  · obtain ⟨d, hd', hlt, _⟩ := specDigits_head hd
    exact ⟨c, r, rfl, (digit_values c).2.2.2 d hd' hlt⟩

theorem lit_no_space {lit : Bytes} {n : Nat} (h : specNumber lit = some n) :
    ∀ b ∈ lit, isSpaceB b = false :=
  fun b hb => word_not_space (specNumber_wordChars h b hb)

theorem dropWhile_all_append {p : UInt8 → Bool} : ∀ (pre : Bytes) (rest : Bytes),
    (∀ b ∈ pre, p b = true) → (pre ++ rest).dropWhile p = rest.dropWhile p
  | [], _, _ => rfl
  | a :: pre, rest, h => by
    have ha : p a = true := h a (List.mem_cons_self ..)
    simp only [List.cons_append, List.dropWhile_cons, ha, if_true]
    exact dropWhile_all_append pre rest (fun b hb => h b (List.mem_cons_of_mem _ hb))

theorem dropWhile_head_false {p : UInt8 → Bool} {c : UInt8} {rest : Bytes} (h : p c = false) :
    (c :: rest).dropWhile p = c :: rest := by
  simp [h]

theorem trimSpace_mid {pre mid post : Bytes} (hpre : ∀ b ∈ pre, isSpaceB b = true)
    (hpost : ∀ b ∈ post, isSpaceB b = true) (hne : mid ≠ [])
    (hmid : ∀ b ∈ mid, isSpaceB b = false) : trimSpace (pre ++ mid ++ post) = mid := by
  unfold trimSpace
  rw [List.append_assoc, dropWhile_all_append pre _ hpre]
  cases mid with
  | nil => exact absurd rfl hne
  | cons c m =>
    rw [List.cons_append, dropWhile_head_false (hmid c (List.mem_cons_self ..))]
    rw [← List.cons_append, List.reverse_append]
    rw [dropWhile_all_append post.reverse _ (fun b hb => hpost b (List.mem_reverse.1 hb))]
    have hrev : (c :: m).reverse ≠ [] := by simp
    cases hr : (c :: m).reverse with
    | nil => exact absurd hr hrev
    | cons l ls =>
      have hl : l ∈ (c :: m) := List.mem_reverse.1 (by rw [hr]; exact List.mem_cons_self ..)
      rw [dropWhile_head_false (hmid l hl), ← hr, List.reverse_reverse]

theorem trimSpace_self {s : Bytes} (h : ∀ b ∈ s, isSpaceB b = false) : trimSpace s = s := by
  cases s with
  | nil => rfl
  | cons c r =>
    have := trimSpace_mid (pre := []) (post := []) (mid := c :: r) nofun nofun nofun h
    rwa [List.nil_append, List.append_nil] at this

theorem atoiSigned_unsigned {c : UInt8} {r : Bytes} (h43 : c ≠ 43) (h45 : c ≠ 45) :
    atoiSigned (c :: r) = atoiMag (c :: r) := by
  simp [atoiSigned, h43, h45]

theorem atoi_lit {lit : Bytes} {n : Nat} (h : specNumber lit = some n) (hn : n < 2 ^ 63) :
    atoi lit = Int.ofNat n := by
  obtain ⟨c, rest, rfl, h1, h2⟩ := specNumber_starts_digit h
  obtain ⟨_, _, h43, h45, _⟩ := word_facts (word_of_nameChar (nameChar_of_digit h1 h2))
  unfold atoi
  rw [trimSpace_self (lit_no_space h), atoiSigned_unsigned h43 h45]
  exact atoiMag_lit h hn

theorem isBlanks_space {s : Bytes} (h : IsBlanks s) : ∀ b ∈ s, isSpaceB b = true :=
  fun b hb => blank_space (h b hb)

theorem intLit_trim {v : Bytes} {neg : Bool} {n : Nat} (h : IntLit v neg n) :
    ∃ c rest, specNumber (c :: rest) = some n ∧ 48 ≤ c ∧ c ≤ 57 ∧
      (neg = false ∧ trimSpace v = c :: rest ∨ neg = false ∧ trimSpace v = 43 :: c :: rest ∨
        neg = true ∧ trimSpace v = 45 :: c :: rest) := by
  have hsign : ∀ (s : UInt8) (lit : Bytes) (m : Nat), specNumber lit = some m → isSpaceB s = false →
      ∀ b ∈ s :: lit, isSpaceB b = false := by
    intro s lit m hl hs b hb
    rcases List.mem_cons.1 hb with rfl | hb
    · exact hs
    · exact lit_no_space hl b hb
  cases h with
  | pos pre lit post n hpre hpost hl =>
    obtain ⟨c, rest, rfl, h1, h2⟩ := specNumber_starts_digit hl
    exact ⟨c, rest, hl, h1, h2, .inl ⟨rfl,
      trimSpace_mid (isBlanks_space hpre) (isBlanks_space hpost) nofun (lit_no_space hl)⟩⟩
  | plus pre lit post n hpre hpost hl =>
    obtain ⟨c, rest, rfl, h1, h2⟩ := specNumber_starts_digit hl
    refine ⟨c, rest, hl, h1, h2, .inr (.inl ⟨rfl, ?_⟩)⟩
    exact trimSpace_mid (isBlanks_space hpre) (isBlanks_space hpost) nofun (hsign 43 _ _ hl rfl)
  | minus pre lit post n hpre hpost hl =>
    obtain ⟨c, rest, rfl, h1, h2⟩ := specNumber_starts_digit hl
    refine ⟨c, rest, hl, h1, h2, .inr (.inr ⟨rfl, ?_⟩)⟩
    exact trimSpace_mid (isBlanks_space hpre) (isBlanks_space hpost) nofun (hsign 45 _ _ hl rfl)

theorem atoi_intLit {v : Bytes} {neg : Bool} {n : Nat} (h : IntLit v neg n) (hn : n < 2 ^ 63) :
    atoi v = if neg then -(Int.ofNat n) else Int.ofNat n := by
  obtain ⟨c, rest, hl, h1, h2, hv⟩ := intLit_trim h
  obtain ⟨_, _, h43, h45, _⟩ := word_facts (word_of_nameChar (nameChar_of_digit h1 h2))
  have hm := atoiMag_lit hl hn
  unfold atoi
  rcases hv with ⟨rfl, hv⟩ | ⟨rfl, hv⟩ | ⟨rfl, hv⟩ <;> rw [hv]
  · rw [atoiSigned_unsigned h43 h45]; exact hm
  · exact hm
  · show wrap64 (-(atoiMag (c :: rest))) = _
    rw [hm]
    apply wrap64_eq
    rw [inI64_iff, Int.ofNat_eq_natCast]
    constructor <;> omega

theorem atoi_name {s : Bytes} (h : validName s = true) : atoi s = 0 := by
  cases s with
  | nil => simp [validName] at h
  | cons c rest =>
    simp only [validName, Bool.and_eq_true, List.all_eq_true] at h
    obtain ⟨hc, hrest⟩ := h
    have hchar : ∀ b ∈ c :: rest, isNameChar b = true := by
      intro b hb
      rcases List.mem_cons.1 hb with rfl | hb
      · exact nameChar_of_start hc
      · exact hrest b hb
    obtain ⟨_, _, h43, h45, _⟩ := word_facts (word_of_nameChar (hchar c (List.mem_cons_self ..)))
    have h48 : c ≠ 48 := fun e => (byte_classes c).2.2.2.2 hc (by rw [e]; decide)
    have e43 : (c == 43) = false := by simpa using h43
    have e45 : (c == 45) = false := by simpa using h45
    have hpu : parseUint (c :: rest) 10 64 = .syntaxErr := by
      unfold parseUint
      rw [if_neg (by simp), parseUintLoop]
      have hdig := (digit_values c).2.1 hc
      cases hd : digitVal c with
      | none => rfl
      | some d => exact if_pos (hdig d hd)
    unfold atoi
    rw [trimSpace_self (fun b hb => word_not_space (word_of_nameChar (hchar b hb))),
      atoiSigned_unsigned h43 h45, atoiMag_other h48,
      cutHash_none_of_no_hash _ (fun b hb => nameChar_ne_hash (hchar b hb))]
    show atoiDigits 10 (c :: rest) = 0
    unfold atoiDigits
    rw [if_neg (by omega)]
    unfold parseInt
    simp only [e43, e45, Bool.or_self, Bool.false_eq_true, if_false, hpu]

theorem intLit_not_name {v : Bytes} {neg : Bool} {n : Nat} (h : IntLit v neg n) :
    validName v = false := by
  have hstart : ∀ (c : UInt8) (r : Bytes), isNameStart c = false → validName (c :: r) = false := by
    intro c r hc; simp [validName, hc]
  have hpre : ∀ (pre : Bytes) (c : UInt8) (r : Bytes), IsBlanks pre → isNameStart c = false →
      validName (pre ++ c :: r) = false := by
    intro pre c r hb hc
    cases pre with
    | nil => exact hstart c r hc
    | cons b bs => exact hstart b _ (blank_not_start (hb b (List.mem_cons_self ..)))
  cases h with
  | pos pre lit post n hp _ hl =>
    obtain ⟨c, rest, rfl, h1, h2⟩ := specNumber_starts_digit hl
    rw [List.append_assoc]
    exact hpre pre c _ hp (digit_not_start h1 h2)
  | plus pre lit post n hp _ hl =>
    rw [List.append_assoc]
    exact hpre pre 43 _ hp rfl
  | minus pre lit post n hp _ hl =>
    rw [List.append_assoc]
    exact hpre pre 45 _ hp rfl

theorem specDigits_append {base : Nat} : ∀ (a b : Bytes) (acc : Nat),
    specDigits base acc (a ++ b) = (specDigits base acc a).bind (fun m => specDigits base m b)
  | [], b, acc => by simp [specDigits]
  | c :: cs, b, acc => by
    rw [List.cons_append, specDigits_cons, specDigits_cons]
    cases specDigit base c with
    | none => rfl
    | some d =>
      simp only []
      by_cases hd : d < base
      · rw [if_pos hd, if_pos hd]; exact specDigits_append cs b _
      · rw [if_neg hd, if_neg hd]; rfl

theorem specDigits_single {base acc d : Nat} {c : UInt8} (h : specDigit base c = some d)
    (hd : d < base) : specDigits base acc [c] = some (acc * base + d) := by
  rw [specDigits_cons, h]
  simp only [hd, if_true]
  rfl

theorem decDigit_facts : ∀ n, n < 10 →
    specDigit 10 (UInt8.ofNat (48 + n)) = some n ∧ UInt8.ofNat (48 + n) ≠ 35 ∧
      (1 ≤ n → UInt8.ofNat (48 + n) ≠ 48) := by decide

theorem fmtNatGo_spec : ∀ (fuel n : Nat), n < fuel →
    specDigits 10 0 (fmtNatGo fuel n) = some n ∧ (∀ b ∈ fmtNatGo fuel n, b ≠ 35) ∧
      ∃ c r, fmtNatGo fuel n = c :: r ∧ (1 ≤ n → c ≠ 48)
  | 0, n, h => by omega
  | fuel + 1, n, h => by
    unfold fmtNatGo
    by_cases hn : n < 10
    · rw [if_pos hn]
      obtain ⟨h1, h2, h3⟩ := decDigit_facts n hn
      refine ⟨?_, ?_, _, _, rfl, h3⟩
      · rw [specDigits_single h1 hn]; simp
      · intro b hb; rw [List.mem_singleton] at hb; rw [hb]; exact h2
    · rw [if_neg hn]
      have hlt : n / 10 < fuel := by omega
      obtain ⟨ih1, ih2, c, r, ih3, ih4⟩ := fmtNatGo_spec fuel (n / 10) hlt
      obtain ⟨h1, h2, _⟩ := decDigit_facts (n % 10) (by omega)
      refine ⟨?_, ?_, c, r ++ [UInt8.ofNat (48 + n % 10)], ?_, ?_⟩
      · rw [specDigits_append, ih1]
        have hm : n % 10 < 10 := by omega
        show specDigits 10 (n / 10) [UInt8.ofNat (48 + n % 10)] = some n
        rw [specDigits_single h1 hm]
        congr 1; omega
      · intro b hb
        rcases List.mem_append.1 hb with hb | hb
        · exact ih2 b hb
        · rw [List.mem_singleton] at hb; rw [hb]; exact h2
      · rw [ih3]; rfl
      · intro _; exact ih4 (by omega)

theorem specNumber_fmtNat (n : Nat) : specNumber (fmtNat n) = some n := by
  unfold fmtNat
  obtain ⟨h1, h2, c, r, h3, h4⟩ := fmtNatGo_spec (n + 1) n (by omega)
  by_cases hn : n = 0
  · subst hn; decide
  · rw [h3] at h1 h2 ⊢
    rw [specNumber_other (h4 (by omega)), cutHash_none_of_no_hash _ h2]
    exact h1

theorem fmtInt_intLit (v : Int) : IntLit (fmtInt v) (decide (v < 0)) v.natAbs := by
  unfold fmtInt
  by_cases hv : v < 0
  · rw [if_pos hv]
    have := IntLit.minus [] (fmtNat v.natAbs) [] v.natAbs nofun nofun (specNumber_fmtNat _)
    simpa [hv] using this
  · rw [if_neg hv]
    have := IntLit.pos [] (fmtNat v.natAbs) [] v.natAbs nofun nofun (specNumber_fmtNat _)
    simpa [hv] using this

/-- `atoi` reads back what `FormatInt` wrote — except for the most negative int64, whose
    magnitude `strconv.ParseInt` clamps (an overflow case, outside the property's domain). -/
theorem atoi_fmtInt {v : Int} (h : inI64 v = true) (hmin : v ≠ -9223372036854775808) :
    atoi (fmtInt v) = v := by
  rw [inI64_iff] at h
  rw [atoi_intLit (fmtInt_intLit v) (by omega)]
  by_cases hv : v < 0
  · simp only [hv, decide_true, if_true, Int.ofNat_eq_natCast]
    omega
  · simp only [hv, decide_false, Bool.false_eq_true, if_false, Int.ofNat_eq_natCast]
    omega

theorem atoi_fmtInt_min : atoi (fmtInt (-9223372036854775808)) = -9223372036854775807 := by decide

end ShVerif.C20
