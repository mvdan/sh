import ShVerif.Proofs.C26Basic
/-
  C26 — simulation: simple commands (`Runner.call` → builtins), `Runner.stmt`/`stmtSync` (negation,
  the errexit test) and statement lists (`Runner.stmts`) against `BashSem`.
-/
namespace ShVerif.C26
open ShVerif.L5 ShVerif.L5.Bash

/-- Commands after which the runner may already be `exiting` while `BashSem` still has to make
    its errexit test: a function call that ended in `return n` under `set -e`, a pipeline whose
    last stage (run in the runner itself) failed under `set -e`. -/
def softCmd : Cmd → Bool
  | .call _ => true
  | .pipe _ _ => true
  | _ => false

/-- "The runner is exiting because of errexit; `BashSem` completed the command normally with a
    non-zero status and will exit at its errexit test." -/
def Pending (K : SCtx) (k : Ctx) (sub : Bool) (c : Cmd) (s s' : St) (fl : Flow) (e' : Env) : Prop :=
  fl = .norm ∧ softCmd c = true ∧ Live K k sub False s s' e' ∧ NoPending s' ∧
    s'.exit.returning = false ∧ s'.exit.exiting = true ∧ s'.errexit = true ∧
    s'.noErrExit = false ∧ s'.exit.code ≠ 0

def PostC (K : SCtx) (k : Ctx) (sub : Bool) (c : Cmd) (s s' : St) (fl : Flow) (e' : Env) : Prop :=
  Post K k sub False (isChecked c = false ∧ tailOkC c = true) s s' fl e' ∨ Pending K k sub c s s' fl e'

theorem Rel.toPostC {K : SCtx} {k : Ctx} {sub : Bool} {c : Cmd} {s : St} {a : Option St} {r : Res}
    (h : Rel (Post K k sub False (isChecked c = false ∧ tailOkC c = true) s) a r) :
    Rel (PostC K k sub c s) a r :=
  h.mono fun _ _ _ h => Or.inl h

def SimC (n : Nat) : Prop :=
  ∀ (K : SCtx) (k : Ctx) (sub : Bool) (c : Cmd) (s : St),
    Stat K k sub → supCmd K c = true → Dyn K k sub s → LastOk s → NoPending s → s.exit = {} →
    Rel (PostC K k sub c s) (run n (.cmd c) s) (sem n k (.cmd c) (absEnv s))

def SimS (n : Nat) : Prop :=
  ∀ (K : SCtx) (k : Ctx) (sub : Bool) (st : Stmt) (s : St),
    Stat K k sub → supStmt K st = true → Dyn K k sub s → LastOk s → NoFlags s → NoPending s →
    Rel (Post K k sub True (tailOkS st = true) s)
      (run n (.stmt st) s) (sem n k (.stmt st) (absEnv s))

theorem levelsOk_iff (tl : List Bool) (m : Option Int) :
    levelsOk tl m = true ↔
      1 ≤ optInt m ∧ (optInt m).toNat ≤ tl.length ∧ (tl.take (optInt m).toNat).all id = true := by
  unfold levelsOk
  simp only [Bool.and_eq_true, decide_eq_true_eq, and_assoc]

section atoms
variable {n : Nat} {K : SCtx} {k : Ctx} {sub : Bool} {s : St} {q : Prop}

/-- `k2` is free: these commands do not look at the context of `BashSem`, and under `!` it is
    `{ k with ign := true }` (`simS_step`). -/
theorem sim_pure (c : Cmd) (hc : pureCmd c = true) (hd : Dyn K k sub s) (hp : NoPending s)
    (hx : s.exit = {}) (hq : ¬ q) (k2 : Ctx) :
    Rel (fun s' fl e' => fl = .norm ∧ Post K k sub False q s s' fl e')
      (run (n+1) (.cmd c) s) (sem (n+1) k2 (.cmd c) (absEnv s)) := by
  have hs := stop_false_of_exit hx
  cases c with
  | tru => rw [run_tru hs, sem_tru]; exact ⟨rfl, Post.simple hd hp ⟨rfl, rfl⟩ (absurd · hq)⟩
  | fls => rw [run_fls hs, sem_fls]; exact ⟨rfl, Post.simple hd hp ⟨rfl, rfl⟩ (absurd · hq)⟩
  | echo w =>
    rw [run_echo w hs, sem_echo]; exact ⟨rfl, Post.simple hd hp ⟨rfl, rfl⟩ (absurd · hq)⟩
  | test x neg v =>
    rw [run_test x neg v hs, sem_test]
    exact ⟨rfl, Post.simple hd hp ⟨rfl, rfl⟩ (absurd · hq)⟩
  | assign x w =>
    rw [run_assign x w hs, sem_assign]
    exact ⟨rfl, Post.simple hd hp ⟨rfl, rfl⟩ (absurd · hq)⟩
  | _ => cases hc

variable (hd : Dyn K k sub s) (hp : NoPending s) (hx : s.exit = {})
include hd hp hx

theorem sim_setPF (on : Bool) :
    Rel (Post K k sub False q s) (run (n+1) (.cmd (.setPF on)) s)
      (sem (n+1) k (.cmd (.setPF on)) (absEnv s)) := by
  rw [run_setPF on (stop_false_of_exit hx), sem_setPF]
  exact Post.simple hd hp ⟨rfl, rfl⟩ fun _ => rfl

theorem sim_call_none (f : Str) (hf : lookupFn s.funcs f = none) (hq : ¬ q) :
    Rel (Post K k sub False q s)
      (run (n+1) (.cmd (.call f)) s) (sem (n+1) k (.cmd (.call f)) (absEnv s)) := by
  have hf' : lookupFn (absEnv s).funcs f = none := hf
  rw [run_call f (stop_false_of_exit hx), sem_call, hf, hf']
  exact Post.simple hd hp ⟨rfl, rfl⟩ (absurd · hq)

theorem sim_setE (on : Bool) (hs : supCmd K (.setE on) = true) :
    Rel (Post K k sub False q s) (run (n+1) (.cmd (.setE on)) s)
      (sem (n+1) k (.cmd (.setE on)) (absEnv s)) := by
  rw [run_setE on (stop_false_of_exit hx), sem_setE]
  refine Post.zero ⟨hd.cerr, hd.csub, hd.fok, hd.ht, hd.eign, fun he => ?_, hd.sfn, hd.inl⟩
    ⟨rfl, rfl, rfl⟩ rfl hp
  have : (!on || K.e) = true := hs
  rw [he, Bool.or_false] at this
  cases on <;> first | rfl | cases this

theorem sim_trapErr (b : Prog) (hs : supCmd K (.trapErr b) = true) :
    Rel (Post K k sub False q s) (run (n+1) (.cmd (.trapErr b)) s)
      (sem (n+1) k (.cmd (.trapErr b)) (absEnv s)) := by
  have hb : b = .nil := by cases b <;> first | rfl | cases hs
  subst hb
  rw [run_trapErr _ (stop_false_of_exit hx), sem_trapErr]
  exact Post.zero ⟨rfl, hd.csub, hd.fok, hd.ht, hd.eign, hd.noe, hd.sfn, hd.inl⟩ ⟨rfl, rfl, rfl⟩ rfl hp

theorem sim_trapExit (b : Prog) (hst : Stat K k sub) (hs : supCmd K (.trapExit b) = true) :
    Rel (Post K k sub False q s) (run (n+1) (.cmd (.trapExit b)) s)
      (sem (n+1) k (.cmd (.trapExit b)) (absEnv s)) := by
  have hs : (K.top && simpleTrap b) = true := hs
  rw [Bool.and_eq_true] at hs
  have hsub : sub = false := hst.top hs.1
  rw [run_trapExit b (stop_false_of_exit hx), sem_trapExit]
  exact Post.zero ⟨hd.cerr, ⟨fun h => (nomatch hsub.symm.trans h), hs.2⟩, hd.fok, hd.ht, hd.eign,
    hd.noe, hd.sfn, hd.inl⟩ ⟨rfl, rfl, rfl⟩ rfl hp

theorem sim_fn (f : Str) (b : Stmt) (hs : supCmd K (.fn f b) = true) :
    Rel (Post K k sub False q s) (run (n+1) (.cmd (.fn f b)) s)
      (sem (n+1) k (.cmd (.fn f b)) (absEnv s)) := by
  have hb : supStmt (fnK K.e) b = true := by
    obtain ⟨neg, c⟩ := b
    cases neg with
    | true => cases hs
    | false => cases c with
      | block p => exact hs
      | _ => cases hs
  have he : ({ absEnv s with status := 0, funcs := (f, b) :: (absEnv s).funcs } : Env) =
      absEnvC { s with funcs := (f, b) :: s.funcs } := by simp only [absEnv, absEnvC, hx]
  rw [run_fn f b (stop_false_of_exit hx), sem_fn, he]
  refine Post.zero ⟨hd.cerr, hd.csub, ?_, hd.ht, hd.eign, hd.noe, hd.sfn, hd.inl⟩ ⟨rfl, rfl, rfl⟩ hx hp
  · intro g b' hg
    rw [lookupFn] at hg
    split at hg
    · cases hg; exact hb
    · exact hd.fok g b' hg

theorem sim_exit {le : Prop} (m : Option Nat) (hst : Stat K k sub) (hl : LastOk s) :
    Rel (Post K k sub le q s) (run (n+1) (.cmd (.exit m)) s)
      (sem (n+1) k (.cmd (.exit m)) (absEnv s)) := by
  rw [run_exit m (stop_false_of_exit hx)]
  cases m with
  | none =>
    rw [sem_exit_none, hst.kt.1, hst.kt.2]
    exact ⟨rfl, hl.1, rfl, rfl, rfl, hd.csub, hd.ht, hd.cerr, hp, rfl⟩
  | some v =>
    rw [sem_exit_some]
    exact ⟨rfl, rfl, rfl, rfl, rfl, hd.csub, hd.ht, hd.cerr, hp, rfl⟩

theorem sim_ret (m : Option Nat) (hst : Stat K k sub) (hs : supCmd K (.ret m) = true) :
    Rel (Post K k sub False q s) (run (n+1) (.cmd (.ret m)) s)
      (sem (n+1) k (.cmd (.ret m)) (absEnv s)) := by
  have hs : (m.isSome && K.fn) = true := hs
  rw [Bool.and_eq_true] at hs
  obtain ⟨v, rfl⟩ := Option.isSome_iff_exists.1 hs.1
  have hb : builtinRet s (some v) = { code := uint8 v, returning := true } := by
    rw [builtinRet, hd.sfn hs.2]; rfl
  rw [run_ret _ (stop_false_of_exit hx), sem_ret, hb, hst.kfn hs.2]
  exact ⟨.of_keeps hd ⟨⟨rfl, rfl, rfl⟩, rfl, rfl, rfl, rfl, rfl⟩, hp, rfl, hs.2, fun h => nomatch h⟩

omit hp hx in
theorem levels_facts (hst : Stat K k sub) (m : Option Int) (h : levelsOk K.tl m = true) :
    s.inLoop = true ∧ k.depth ≠ 0 ∧ ¬ optInt m < 1 ∧ min (optInt m).toNat k.depth = (optInt m).toNat ∧
      Levels K (optInt m).toNat ∧ optInt m = ((optInt m).toNat : Int) := by
  obtain ⟨h1, h2, h3⟩ := (levelsOk_iff K.tl m).1 h
  have hdep := hst.depth
  have hne : K.tl ≠ [] := by
    intro h; rw [h] at h2; simp at h2; omega
  exact ⟨hd.inl hne, by omega, by omega, by omega, ⟨by omega, h2, h3⟩, by omega⟩

theorem sim_brk (m : Option Int) (hst : Stat K k sub) (hs : supCmd K (.brk m) = true) :
    Rel (Post K k sub False q s) (run (n+1) (.cmd (.brk m)) s)
      (sem (n+1) k (.cmd (.brk m)) (absEnv s)) := by
  obtain ⟨hil, hdep, hlt, hmin, hlv, hm⟩ := levels_facts hd hst m hs
  rw [run_brk m (stop_false_of_exit hx) hil, sem_brk, if_neg hdep, if_neg hlt, hmin]
  exact ⟨.of_keeps hd ⟨⟨rfl, rfl, rfl⟩, rfl, rfl, rfl, rfl, rfl⟩, ⟨rfl, rfl⟩, hm, hp.2, hlv, rfl⟩

theorem sim_cont (m : Option Int) (hst : Stat K k sub) (hs : supCmd K (.cont m) = true) :
    Rel (Post K k sub False q s) (run (n+1) (.cmd (.cont m)) s)
      (sem (n+1) k (.cmd (.cont m)) (absEnv s)) := by
  obtain ⟨hil, hdep, hlt, hmin, hlv, hm⟩ := levels_facts hd hst m hs
  rw [run_cont m (stop_false_of_exit hx) hil, sem_cont, if_neg hdep, if_neg hlt, hmin]
  exact ⟨.of_keeps hd ⟨⟨rfl, rfl, rfl⟩, rfl, rfl, rfl, rfl, rfl⟩, ⟨rfl, rfl⟩, hm, hp.1, hlv, rfl⟩

end atoms

theorem run_trap_nil {n : Nat} (hn : 1 ≤ n) (s : St) : run n (.trap .nil) s = some s :=
  match n, hn with
  | _ + 1, _ => run_trap_skip .nil (.inl rfl)

theorem sem_trap_nil {n : Nat} (hn : 1 ≤ n) (k : Ctx) (e : Env) :
    sem n k (.trap .nil) e = some (.norm, e) :=
  match n, hn with
  | _ + 1, _ => rfl

theorem errAction_nil (e0 : Env) {e1 : Env} (h : e1.trapErr = .nil) : errAction e0 e1 = .nil := by
  unfold errAction; split <;> first | rfl | exact h

/-- Does the errexit test of `stmtSync` fire after command `c` left the state `s1`?  `tested`: the
    state after it. -/
def fires (c : Cmd) (s1 : St) : Bool :=
  !c.isAndOr && (!s1.exit.ok && !s1.noErrExit) && s1.errexit

def tested (fire : Bool) (s1 : St) : St :=
  { s1 with exit := { s1.exit with exiting := fire || s1.exit.exiting },
            lastExit := { s1.exit with exiting := fire || s1.exit.exiting } }

theorem stmtEnd_skip {n : Nat} {c : Cmd} {s1 : St}
    (h : c.isAndOr = true ∨ s1.exit.ok = true ∨ s1.noErrExit = true) :
    stmtEnd n c s1 = some { s1 with lastExit := s1.exit } := by
  unfold stmtEnd
  rcases h with h | h | h <;> rw [h]
  · rfl
  · cases c.isAndOr <;> rfl
  · cases c.isAndOr <;> cases s1.exit.ok <;> rfl

theorem stmtEnd_eq {n : Nat} (hn : 1 ≤ n) (c : Cmd) {s1 : St} (hce : s1.callbackErr = .nil) :
    stmtEnd n c s1 = some (tested (fires c s1) s1) := by
  unfold stmtEnd fires tested
  have ht : run n (.trap s1.callbackErr) s1 = some s1 := by rw [hce]; exact run_trap_nil hn s1
  rw [ht, Option.bind_some]
  cases c.isAndOr <;> cases (!s1.exit.ok && !s1.noErrExit) <;> cases s1.errexit <;> rfl

theorem semEnd_norm {n : Nat} (hn : 1 ≤ n) (k : Ctx) (c : Cmd) (e0 : Env) {e1 : Env}
    (hte : e1.trapErr = .nil) :
    semEnd n k c e0 (.norm, e1) =
      some (if (isChecked c && e1.status != 0 && !k.ign) && e1.errexit then .exit else .norm, e1) := by
  show (if (isChecked c && e1.status != 0 && !k.ign) = true then
    (match sem n k (.trap (errAction e0 e1)) e1 with
      | none => none | some (.exit, e2) => _ | some (_, e2) => _) else _) = _
  rw [errAction_nil e0 hte, sem_trap_nil hn]
  show (if _ then (if e1.errexit = true then _ else _) else _) = _
  cases (isChecked c && e1.status != 0 && !k.ign) <;> cases e1.errexit <;> rfl

theorem semEnd_zero {n : Nat} {k : Ctx} {c : Cmd} {e0 e1 : Env} (fl : Flow) (h : e1.status = 0) :
    semEnd n k c e0 (fl, e1) = some (fl, e1) := by
  show (if (errTested c fl && e1.status != 0 && !k.ign) = true then _ else _) = _
  rw [h, if_neg (by rw [bne_self_eq_false, Bool.and_false, Bool.false_and]; exact Bool.false_ne_true)]

theorem isChecked_of_andOr {c : Cmd} (h : c.isAndOr = true) : isChecked c = false := by
  cases c <;> first | rfl | cases h

theorem tailOkC_of_not_andOr {c : Cmd} (h2 : c.isAndOr = false) :
    tailOkC c = true := by
  cases c <;> first | rfl | cases h2

section wrap
variable {n : Nat} {K : SCtx} {k : Ctx} {sub : Bool} {c : Cmd} {s s0 s1 : St} {e0 e1 : Env}

/-- Both tests fire together: with `errexit` on, `noErrExit` is `BashSem`'s "ignored"; a compound
    command made its own tests inside (`Quiet`). -/
theorem fires_eq (hd : Dyn K k sub s1)
    (hq : isChecked c = false ∧ tailOkC c = true → Quiet s1) :
    fires c s1 = ((isChecked c && (absEnvC s1).status != 0 && !k.ign) && (absEnvC s1).errexit) := by
  show (!c.isAndOr && (!(s1.exit.code == 0) && !s1.noErrExit) && s1.errexit) =
    ((isChecked c && s1.exit.code != 0 && !k.ign) && s1.errexit)
  cases he : s1.errexit with
  | false => rw [Bool.and_false, Bool.and_false]
  | true =>
    have hKe : K.e = true := by
      cases hk : K.e with
      | true => rfl
      | false => exact nomatch he.symm.trans (hd.noe hk)
    rw [← hd.eign hKe, Bool.and_true, Bool.and_true]
    cases hao : c.isAndOr with
    | true => rw [isChecked_of_andOr hao]; rfl
    | false =>
      cases hic : isChecked c with
      | true => rfl
      | false =>
        have := hq ⟨hic, tailOkC_of_not_andOr hao⟩
        cases h0 : s1.exit.code == 0 with
        | true => rfl
        | false =>
          cases hne : s1.noErrExit with
          | true => rfl
          | false => exact nomatch he.symm.trans (this (by simpa using h0) hne)

theorem fires_true (h : fires c s1 = true) :
    s1.errexit = true ∧ s1.noErrExit = false ∧ s1.exit.code ≠ 0 := by
  simp only [fires, Exit.ok, Bool.and_eq_true, Bool.not_eq_eq_eq_not, Bool.not_true, beq_eq_false_iff_ne] at h
  exact ⟨h.2, h.1.2.2, h.1.2.1⟩

theorem fires_of_failed (hao : c.isAndOr = false) (hc : s1.exit.code ≠ 0)
    (hne : s1.noErrExit = false) : fires c s1 = s1.errexit := by
  have hok : s1.exit.ok = false := by simpa [Exit.ok] using hc
  simp only [fires, hao, hok, hne, Bool.not_false, Bool.and_self, Bool.true_and]

theorem fires_of_zero (c : Cmd) (h : s1.exit.code = 0) : fires c s1 = false := by
  simp only [fires, Exit.ok, h, beq_self_eq_true, Bool.not_true, Bool.false_and, Bool.and_false]

theorem keeps_tested (b : Bool) (s1 : St) : Keeps s1 (tested b s1) :=
  ⟨⟨rfl, rfl, rfl⟩, rfl, rfl, rfl, rfl, rfl⟩

theorem Live.tested {le : Prop} (l : Live K k sub le s0 s1 e1) (hf0 : Frame s s0) (b : Bool) :
    Live K k sub True s (tested b s1) e1 :=
  ⟨l.env, l.dyn.keeps (keeps_tested b s1), hf0.trans (l.frame.trans (keeps_tested b s1).toFrame),
    fun _ => rfl⟩

/-- `s0`: the state the command started from, the statement's start state `s` with `exit` cleared. -/
theorem wrap_pos {fl : Flow} (hn : 1 ≤ n)
    (h : Post K k sub False (isChecked c = false ∧ tailOkC c = true) s0 s1 fl e1) (hf0 : Frame s s0) :
    Rel (Post K k sub True (tailOkS (.mk false c) = true) s) (stmtEnd n c s1)
      (semEnd n k c e0 (fl, e1)) := by
  cases fl with
  | norm =>
    obtain ⟨l, hnf, hnp, hq⟩ := h
    obtain rfl := l.env
    rw [stmtEnd_eq hn c l.dyn.cerr, semEnd_norm hn k c e0 rfl, ← fires_eq l.dyn hq]
    cases hfire : fires c s1 with
    | true => exact ⟨rfl, hnf.1, rfl, rfl, rfl, l.dyn.csub, l.dyn.ht, l.dyn.cerr, hnp, rfl⟩
    | false =>
      refine ⟨l.tested hf0 false, hnf, hnp, fun ht hc hne => ?_⟩
      cases hao : c.isAndOr with
      | true => exact hq ⟨isChecked_of_andOr hao, ht⟩ hc hne
      | false => exact fires_of_failed hao hc hne ▸ hfire
  | brk m | cont m =>
    -- the status is 0: no test on either side
    obtain ⟨l, hnf, hb, hc, hl, hz⟩ := h
    obtain rfl := l.env
    rw [stmtEnd_eq hn c l.dyn.cerr, semEnd_zero _ hz, fires_of_zero c hz]
    exact ⟨l.tested hf0 false, hnf, hb, hc, hl, hz⟩
  | ret =>
    -- the runner may add `exiting` to `returning` where the test fires; the caller sorts it out
    obtain ⟨l, hnp, hr, hfn, hex⟩ := h
    obtain rfl := l.env
    rw [stmtEnd_eq hn c l.dyn.cerr]
    refine ⟨l.tested hf0 _, hnp, hr, hfn, ?_⟩
    cases hfire : fires c s1 with
    | false => exact hex
    | true => exact fun _ => fires_true hfire
  | exit =>
    rw [stmtEnd_eq hn c h.cerr]
    have hx : (fires c s1 || s1.exit.exiting) = true := by rw [h.exiting, Bool.or_true]
    exact ⟨hx, h.returning, h.status, h.out, h.trap, h.csub, h.ht, h.cerr, h.np, h.vars⟩

theorem wrap_pending {fl : Flow} {q : Prop} (hn : 1 ≤ n) (h : Pending K k sub c s0 s1 fl e1) :
    Rel (Post K k sub True q s) (stmtEnd n c s1) (semEnd n k c e0 (fl, e1)) := by
  obtain ⟨rfl, hsoft, l, hnp, hr, hx, hee, hne, hc0⟩ := h
  obtain rfl := l.env
  obtain ⟨hic, hao⟩ : isChecked c = true ∧ c.isAndOr = false := by
    cases c <;> first | exact ⟨rfl, rfl⟩ | cases hsoft
  have hq : isChecked c = false ∧ tailOkC c = true → Quiet s1 :=
    fun h => nomatch hic.symm.trans h.1
  have hfire : fires c s1 = true := (fires_of_failed hao hc0 hne).trans hee
  rw [stmtEnd_eq hn c l.dyn.cerr, semEnd_norm hn k c e0 rfl, ← fires_eq l.dyn hq, hfire]
  exact ⟨rfl, hr, rfl, rfl, rfl, l.dyn.csub, l.dyn.ht, l.dyn.cerr, hnp, rfl⟩

end wrap

section stmt
variable {n : Nat} {K : SCtx} {k : Ctx} {sub : Bool} {s s0 s1 : St} {e1 : Env} {q : Prop}

theorem negEnd_eq (h : NoFlags s1) :
    negEnd s1 = { s1 with exit := { code := if s1.exit.code = 0 then 1 else 0 },
                          lastExit := { code := if s1.exit.code = 0 then 1 else 0 } } := by
  by_cases hc : s1.exit.code = 0 <;>
    simp only [negEnd, Exit.ok, Exit.clear, h.1, h.2, hc, beq_self_eq_true, ↓reduceIte, Bool.or_self,
      Bool.false_eq_true, beq_iff_eq]

theorem neg_wrap {q' : Prop} (h : Post K k sub False q s0 s1 .norm e1) (hf0 : Frame s s0)
    (hq' : ¬ q') :
    Post K k sub True q' s (negEnd s1) .norm
      { e1 with status := if e1.status = 0 then 1 else 0 } := by
  obtain ⟨l, hnf, hnp, _⟩ := h
  obtain rfl := l.env
  rw [negEnd_eq hnf]
  exact ⟨⟨rfl, l.dyn.keeps ⟨⟨rfl, rfl, rfl⟩, rfl, rfl, rfl, rfl, rfl⟩, hf0.trans (l.frame.trans ⟨rfl, rfl, rfl⟩),
    fun _ => rfl⟩, ⟨rfl, rfl⟩, hnp, fun h => absurd h hq'⟩

theorem sem_subsh_norm {k : Ctx} {p : Prog} {e e' : Env} {fl : Flow}
    (h : sem n k (.cmd (.subsh p)) e = some (fl, e')) : fl = .norm := by
  cases n with
  | zero => cases h
  | succ m =>
    rw [sem_subsh] at h
    cases hr : semSub m { k with depth := 0 } p (subEnv e e.out) with
    | none => rw [hr] at h; cases h
    | some r => rw [hr] at h; cases h; rfl

theorem simS_step (n : Nat) (hC : SimC n) : SimS (n+1) := by
  intro K k sub st s hst hsup hd hl hnf hnp
  obtain ⟨neg, c⟩ := st
  have hns : stop s = false := not_stop hnf
  have hd0 : Dyn K k sub { s with exit := {} } := hd.keeps ⟨⟨rfl, rfl, rfl⟩, rfl, rfl, rfl, rfl, rfl⟩
  cases neg with
  | false =>
    rw [run_stmt_pos c hns, sem_stmt_pos]
    refine Rel.bind (hC K k sub c { s with exit := {} } hst hsup hd0 hl hnp rfl) fun s1 fl e1 hr hp => ?_
    rcases hp with hp | hp
    · exact wrap_pos (run_pos hr) hp ⟨rfl, rfl, rfl⟩
    · exact wrap_pending (run_pos hr) hp
  | true =>
    rw [run_stmt_neg c hns, sem_stmt_neg]
    -- `!` is supported in front of a simple command or, without `set -e`, of a subshell:
    -- either way the command completes normally
    have key : Rel (fun s' fl e' => fl = .norm ∧ Post K k sub False False { s with exit := {} } s' fl e')
        (run n (.cmd c) { s with exit := {} })
        (sem n { k with ign := true } (.cmd c) (absEnv s)) := by
      have hcases : pureCmd c = true ∨ (K.e = false ∧ supNegSub K c = true) := by
        have : (pureCmd c || (!K.e && supNegSub K c)) = true := hsup
        simpa only [Bool.or_eq_true, Bool.and_eq_true, Bool.not_eq_eq_eq_not, Bool.not_true] using this
      rcases hcases with hp | ⟨he, hsub⟩
      · cases n with
        | zero => trivial
        | succ m => exact sim_pure c hp hd0 hnp rfl id _
      · cases c with
        | subsh p =>
          have hc' : supCmd K (.subsh p) = true := by
            have : (!p.isNil && supProg (subCtx K) false p) = true := hsub
            show (!p.isNil && !(K.e && (K.ign || K.unk)) && supProg (subCtx K) false p) = true
            rw [he]; simpa only [Bool.false_and, Bool.not_false, Bool.and_true] using this
          have hst' : Stat K { k with ign := true } sub :=
            ⟨hst.kt, fun _ => rfl, fun h => (nomatch he.symm.trans h), hst.kfn, hst.depth, hst.top⟩
          refine (hC K { k with ign := true } sub (.subsh p) { s with exit := {} } hst' hc'
            (hd0.ctx_of_not_e he) hl hnp rfl).results.mono fun _ _ _ ⟨_, hr, h⟩ => ?_
          obtain rfl := sem_subsh_norm hr
          rcases h with h | h
          · exact ⟨rfl, (h.ctx_of_not_e he).mono_q False.elim⟩
          · exact nomatch h.2.1
        | _ => cases hsub
    refine Rel.bind key fun s1 fl e1 _ hp => ?_
    obtain ⟨rfl, hp⟩ := hp
    exact neg_wrap hp ⟨rfl, rfl, rfl⟩ (fun h => by cases h)

end stmt

theorem sim_list (n : Nat) (hS : SimS n) :
    ∀ (p : Prog) (K : SCtx) (tailRule : Bool) (k : Ctx) (sub : Bool) (s : St),
      p.isNil = false → Stat K k sub → supProg K tailRule p = true → Dyn K k sub s → LastOk s →
      NoFlags s → NoPending s →
      Rel (Post K k sub True (tailRule = true) s)
        (foldStmts (runS n) p s) (seqList (semS n k) p (absEnv s))
  | .nil, _, _, _, _, _, hnil, _, _, _, _, _, _ => nomatch hnil
  | .cons st .nil, K, tailRule, k, sub, s, _, hst, hsup, hd, hl, hnf, hnp => by
    have hsup : (supStmt K st && (!tailRule || !K.e || K.ign || tailOkS st)) = true := hsup
    simp only [Bool.and_eq_true, Bool.or_eq_true, Bool.not_eq_eq_eq_not, Bool.not_true] at hsup
    rw [foldStmts_single, seqList_single]
    refine (hS K k sub st s hst hsup.1 hd hl hnf hnp).mono fun _ _ _ hp => hp.tail_q hst fun ht => ?_
    rcases hsup.2 with ((hx | hx) | hx) | hx
    · exact nomatch ht.symm.trans hx
    · exact .inl (.inl hx)
    · exact .inl (.inr hx)
    · exact .inr hx
  | .cons st (.cons st2 rest), K, tailRule, k, sub, s, _, hst, hsup, hd, hl, hnf, hnp => by
    have hsup : (supStmt { K with tl := headFalse K.tl } st &&
        supProg K tailRule (.cons st2 rest)) = true := hsup
    rw [Bool.and_eq_true] at hsup
    rw [foldStmts_cons, seqList_cons]
    refine Rel.bind (hS _ k sub st s hst.toHF hsup.1 hd.toHF hl hnf hnp) fun s1 fl e1 hr hp => ?_
    obtain ⟨hp, rfl | hfl⟩ := hp.ofHF
    · obtain ⟨l, h4, h5, _⟩ := hp
      obtain rfl := l.env
      have hle := l.last trivial
      rw [absEnvC_eq_absEnv hle]
      exact (sim_list n hS (.cons st2 rest) K tailRule k sub s1 rfl hst hsup.2 l.dyn
        (LastOk_of_le hle h4) h4 h5).mono fun _ _ _ h => h.frame_trans l.frame
    · -- `return`/`exit`: the rest of the list is skipped
      rw [Res.next_stops _ hfl, foldStmts_stopped (run_pos hr) _ s1 (hp.stopped hfl).1]
      exact hp.change_q (Flow.ne_norm_of_stops hfl)

end ShVerif.C26
