import ShVerif.Model.C32
import ShVerif.Proofs.L1Heap
/-
  C32, Part B: one operation of one side (`step`) leaves every array and map that
  existed before it unchanged, except the side's own `dirStack` array; what the side can reach
  afterwards is what it could reach before plus objects allocated by the operation (`StepOK`,
  proved of every operation in `step_ok`).

  Storage is followed with `Fresh n` (allocated since `n`, and existing): every L1 operation on
  fresh storage extends the heap and returns fresh storage (`SliceStep.ext`); the operations of
  vars.go clone first, so the storage of the variable they store is the old variable's, untouched,
  or fresh (`VarStep`).
-/
namespace ShVerif.C32
open ShVerif ShVerif.L1

variable {α : Type}

def Fresh (n : Nat) (h : ArrHeap α) (s : Slice) : Prop :=
  (s.len = 0 ∧ s.cap = 0) ∨ (n ≤ s.arr ∧ s.arr < h.length)

def Ext (n : Nat) (h h' : List α) : Prop := ListFr n h h' ∧ h.length ≤ h'.length

theorem Ext.refl {n : Nat} {h : List α} (hn : n ≤ h.length) : Ext n h h := ⟨ListFr.refl hn, Nat.le_refl _⟩
theorem Ext.trans {n : Nat} {a b c : List α} (x : Ext n a b) (y : Ext n b c) : Ext n a c :=
  ⟨x.1.trans y.1, Nat.le_trans x.2 y.2⟩

theorem ext_append {n : Nat} (l ext : List α) (hn : n ≤ l.length) : Ext n l (l ++ ext) :=
  ⟨listFr_append l ext hn, by rw [List.length_append]; exact Nat.le_add_right _ _⟩

theorem updMap_ext {κ ν : Type} {n id : Nat} (h : MapHeap κ ν) (f) (hn : n ≤ h.length) (hid : n ≤ id) :
    Ext n h (updMap h id f) :=
  ⟨(ListFr.refl hn).updMap f hid, Nat.le_of_eq (length_updMap h id f).symm⟩

theorem Fresh.mono {n : Nat} {h h' : ArrHeap α} {s : Slice} (f : Fresh n h s) (hl : h.length ≤ h'.length) :
    Fresh n h' s :=
  f.imp_right fun x => ⟨x.1, Nat.lt_of_lt_of_le x.2 hl⟩

theorem Fresh.nil (n : Nat) (h : ArrHeap α) : Fresh n h Slice.nil := Or.inl ⟨rfl, rfl⟩
theorem Fresh.empty (n : Nat) (h : ArrHeap α) : Fresh n h Slice.empty := Or.inl ⟨rfl, rfl⟩

theorem _root_.ShVerif.L1.SliceStep.ext {n : Nat} {h h' : ArrHeap α} {s s' : Slice} (st : SliceStep h s h' s')
    (hn : n ≤ h.length) (f : Fresh n h s) : Ext n h h' ∧ Fresh n h' s' := by
  refine ⟨⟨(st.fr hn (f.imp_right And.left)).1, st.len⟩, ?_⟩
  rcases st.res with r | ⟨hs, ea⟩ | ⟨hl, hu⟩
  · exact Or.inl r
  · rw [Fresh, ea]; exact Or.inr ((f.resolve_left hs).imp_right fun x => Nat.lt_of_lt_of_le x st.len)
  · exact Or.inr ⟨Nat.le_trans hn hl, hu⟩

structure Sz where
  s : Nat
  i : Nat
  m : Nat

def szOf (h : Heap) : Sz := ⟨h.strs.length, h.ints.length, h.maps.length⟩

structure HExt (n : Sz) (h h' : Heap) : Prop where
  strs : Ext n.s h.strs h'.strs
  ints : Ext n.i h.ints h'.ints
  maps : Ext n.m h.maps h'.maps

structure Ge (n : Sz) (h : Heap) : Prop where
  s : n.s ≤ h.strs.length
  i : n.i ≤ h.ints.length
  m : n.m ≤ h.maps.length

theorem ge_self (h : Heap) : Ge (szOf h) h := ⟨Nat.le_refl _, Nat.le_refl _, Nat.le_refl _⟩

theorem HExt.refl {n : Sz} {h : Heap} (ge : Ge n h) : HExt n h h := ⟨Ext.refl ge.s, Ext.refl ge.i, Ext.refl ge.m⟩

theorem HExt.trans {n : Sz} {a b c : Heap} (x : HExt n a b) (y : HExt n b c) : HExt n a c :=
  ⟨x.strs.trans y.strs, x.ints.trans y.ints, x.maps.trans y.maps⟩

theorem HExt.ge {n : Sz} {h h' : Heap} (x : HExt n h h') : Ge n h' := ⟨x.strs.1.1, x.ints.1.1, x.maps.1.1⟩

structure FreshLI (n : Sz) (h : Heap) (list indexes : Slice) : Prop where
  l : Fresh n.s h.strs list
  i : Fresh n.i h.ints indexes

theorem FreshLI.mono {n : Sz} {h h' : Heap} {l i : Slice} (f : FreshLI n h l i)
    (a : h.strs.length ≤ h'.strs.length) (b : h.ints.length ≤ h'.ints.length) : FreshLI n h' l i :=
  ⟨f.l.mono a, f.i.mono b⟩

theorem FreshLI.steps {n : Sz} {h : Heap} {l i l' i' : Slice} {s : ArrHeap Bytes} {is : ArrHeap Nat}
    (f : FreshLI n h l i) (ge : Ge n h) (a : SliceStep h.strs l s l') (b : SliceStep h.ints i is i') :
    HExt n h { h with strs := s, ints := is } ∧ FreshLI n { h with strs := s, ints := is } l' i' :=
  have x := a.ext ge.s f.l
  have y := b.ext ge.i f.i
  ⟨⟨x.1, y.1, Ext.refl ge.m⟩, ⟨x.2, y.2⟩⟩

theorem canonical_fresh {n : Sz} {h : Heap} {ix : Slice} (f : Fresh n.i h.ints ix) :
    Fresh n.i h.ints (canonicalIndexes h ix) := by
  unfold canonicalIndexes
  split
  · exact Fresh.nil _ _
  · exact f

theorem setIndexedSparse_ext {n : Sz} (g : Grows) {h : Heap} {list indexes : Slice} {k : Nat} {val : Bytes}
    (ge : Ge n h) (f : FreshLI n h list indexes) {r : Heap × Slice × Slice}
    (e : setIndexedSparse g h list indexes k val = some r) : HExt n h r.1 ∧ FreshLI n r.1 r.2.1 r.2.2 := by
  unfold setIndexedSparse at e
  rcases of_ite_eq e with ⟨_, e⟩ | ⟨_, e⟩
  · split at e
    · cases e
    · next s hs =>
      cases e
      exact f.steps ge (sliceSet_step hs) (.refl _ _)
  · split at e
    · cases e
    · next a ha =>
      split at e
      · cases e
      · next b hb =>
        cases e
        have x := f.steps ge (sliceInsert_step ha) (sliceInsert_step hb)
        exact ⟨x.1, ⟨x.2.l, canonical_fresh x.2.i⟩⟩

theorem setIndexedElem_ext {n : Sz} (g : Grows) {h : Heap} {list indexes : Slice} {k : Nat} {val : Bytes}
    (ge : Ge n h) (f : FreshLI n h list indexes) {r : Heap × Slice × Slice}
    (e : setIndexedElem g h list indexes k val = some r) : HExt n h r.1 ∧ FreshLI n r.1 r.2.1 r.2.2 := by
  unfold setIndexedElem at e
  rcases of_ite_eq e with ⟨_, e⟩ | ⟨_, e⟩
  · rcases of_ite_eq e with ⟨_, e⟩ | ⟨_, e⟩
    · split at e
      · cases e
      · next s hs =>
        cases e
        have x := (sliceSet_step hs).ext ge.s f.l
        exact ⟨⟨x.1, Ext.refl ge.i, Ext.refl ge.m⟩, ⟨x.2, Fresh.nil _ _⟩⟩
    rcases of_ite_eq e with ⟨_, e⟩ | ⟨_, e⟩
    · cases e
      have x := (sliceAppend_step g.strs h.strs list val).ext ge.s f.l
      exact ⟨⟨x.1, Ext.refl ge.i, Ext.refl ge.m⟩, ⟨x.2, Fresh.nil _ _⟩⟩
    · -- the identity index list is made first
      have mk := (sliceMake_step h.ints (List.range list.len) (list.len + 1)).ext ge.i (Fresh.nil _ _)
      have h0 : HExt n h { h with ints := (sliceMake h.ints (List.range list.len) (list.len + 1)).1 } :=
        ⟨Ext.refl ge.s, mk.1, Ext.refl ge.m⟩
      have r1 := setIndexedSparse_ext g h0.ge ⟨f.l, mk.2⟩ e
      exact ⟨h0.trans r1.1, r1.2⟩
  · exact setIndexedSparse_ext g ge f e

theorem deleteIndexedSparse_ext {n : Sz} {h : Heap} {list indexes : Slice} {k : Nat}
    (ge : Ge n h) (f : FreshLI n h list indexes) {r : Heap × Slice × Slice}
    (e : deleteIndexedSparse h list indexes k = some r) : HExt n h r.1 ∧ FreshLI n r.1 r.2.1 r.2.2 := by
  unfold deleteIndexedSparse at e
  rcases of_ite_eq e with ⟨_, e⟩ | ⟨_, e⟩
  · cases e
    exact ⟨HExt.refl ge, f⟩
  · split at e
    · cases e
    · next a ha =>
      split at e
      · cases e
      · next b hb =>
        cases e
        have x := f.steps ge (sliceDelete_step ha) (sliceDelete_step hb)
        exact ⟨x.1, ⟨x.2.l, canonical_fresh x.2.i⟩⟩

theorem deleteIndexedElem_ext {n : Sz} {h : Heap} {list indexes : Slice} {k : Nat}
    (ge : Ge n h) (f : FreshLI n h list indexes) {r : Heap × Slice × Slice}
    (e : deleteIndexedElem h list indexes k = some r) : HExt n h r.1 ∧ FreshLI n r.1 r.2.1 r.2.2 := by
  unfold deleteIndexedElem at e
  rcases of_ite_eq e with ⟨_, e⟩ | ⟨_, e⟩
  · rcases of_ite_eq e with ⟨_, e⟩ | ⟨_, e⟩
    · cases e
      exact ⟨HExt.refl ge, ⟨f.l, Fresh.nil _ _⟩⟩
    rcases of_ite_eq e with ⟨_, e⟩ | ⟨_, e⟩
    · split at e
      · cases e
      · next l hl =>
        cases e
        exact ⟨HExt.refl ge, ⟨((sliceTo_step h.strs hl).ext ge.s f.l).2, Fresh.nil _ _⟩⟩
    · have mk := (sliceMake_step h.ints (List.range list.len) list.len).ext ge.i (Fresh.nil _ _)
      have h0 : HExt n h { h with ints := (sliceMake h.ints (List.range list.len) list.len).1 } :=
        ⟨Ext.refl ge.s, mk.1, Ext.refl ge.m⟩
      have r1 := deleteIndexedSparse_ext h0.ge ⟨f.l, mk.2⟩ e
      exact ⟨h0.trans r1.1, r1.2⟩
  · exact deleteIndexedSparse_ext ge f e

theorem cloneBoth_ext {n : Sz} (g : Grows) {h : Heap} (list indexes : Slice) (ge : Ge n h) :
    HExt n h (cloneBoth g h list indexes).1 ∧
    FreshLI n (cloneBoth g h list indexes).1 (cloneBoth g h list indexes).2.1 (cloneBoth g h list indexes).2.2 :=
  FreshLI.steps ⟨Fresh.nil _ _, Fresh.nil _ _⟩ ge (sliceClone_step g.strs h.strs list) (sliceClone_step g.ints h.ints indexes)

theorem assignElems_ext {n : Sz} (g : Grows) : ∀ (vals : List Bytes) {h : Heap} {list indexes : Slice} {index : Nat}
    {r : Heap × Slice × Slice}, Ge n h → FreshLI n h list indexes →
    assignElems g h list indexes index vals = some r → HExt n h r.1 ∧ FreshLI n r.1 r.2.1 r.2.2 := by
  intro vals
  induction vals with
  | nil =>
    intro h list indexes index r ge f e
    cases e
    exact ⟨HExt.refl ge, f⟩
  | cons v vs ih =>
    intro h list indexes index r ge f e
    unfold assignElems at e
    split at e
    · cases e
    · next r1 h1 =>
      have x := setIndexedElem_ext g ge f h1
      have y := ih x.1.ge x.2 e
      exact ⟨x.1.trans y.1, y.2⟩

structure VarFresh (n : Sz) (h : Heap) (v : Var) : Prop where
  l : Fresh n.s h.strs v.list
  i : Fresh n.i h.ints v.indexes
  m : ∀ id, v.map = some id → n.m ≤ id ∧ id < h.maps.length

structure VarStep (n : Sz) (h : Heap) (old new : Var) : Prop where
  l : new.list = old.list ∨ Fresh n.s h.strs new.list
  i : new.indexes = old.indexes ∨ Fresh n.i h.ints new.indexes
  m : new.map = old.map ∨ ∀ id, new.map = some id → n.m ≤ id ∧ id < h.maps.length

theorem VarStep.same {n : Sz} {h : Heap} {old new : Var} (el : new.list = old.list) (ei : new.indexes = old.indexes)
    (em : new.map = old.map) : VarStep n h old new := ⟨Or.inl el, Or.inl ei, Or.inl em⟩

theorem VarStep.li {n : Sz} {h : Heap} {old new : Var} {l i : Slice} (f : FreshLI n h l i)
    (el : new.list = l) (ei : new.indexes = i) (em : new.map = old.map) : VarStep n h old new :=
  ⟨Or.inr (el ▸ f.l), Or.inr (ei ▸ f.i), Or.inl em⟩

theorem appendStrOp_ext {n : Sz} (g : Grows) {h : Heap} (prev : Var) (s : Bytes) (ge : Ge n h) {r : Heap × Var}
    (e : appendStrOp g h prev s = some r) : HExt n h r.1 ∧ VarStep n r.1 prev r.2 := by
  unfold appendStrOp at e
  split at e
  · cases e; exact ⟨HExt.refl ge, .same rfl rfl rfl⟩
  · cases e; exact ⟨HExt.refl ge, .same rfl rfl rfl⟩
  · cases e; exact ⟨HExt.refl ge, .same rfl rfl rfl⟩
  · dsimp only at e
    have c := cloneBoth_ext g prev.list prev.indexes ge
    rcases of_ite_eq e with ⟨_, e⟩ | ⟨_, e⟩
    · split at e
      · cases e
      · split at e
        · cases e
        · next strs hs =>
          cases e
          have x := c.2.steps c.1.ge (sliceSet_step hs) (.refl _ _)
          exact ⟨c.1.trans x.1, .li x.2 rfl rfl rfl⟩
    · split at e
      · cases e
      · next r1 h1 =>
        cases e
        have x := setIndexedElem_ext g c.1.ge c.2 h1
        exact ⟨c.1.trans x.1, .li x.2 rfl rfl rfl⟩

theorem setElemOp_ext {n : Sz} (g : Grows) {h : Heap} (prev : Var) (k : Nat) (val : Bytes) (ge : Ge n h) {r : Heap × Var}
    (e : setElemOp g h prev k val = some r) : HExt n h r.1 ∧ VarStep n r.1 prev r.2 := by
  -- in each case: a fresh base (`b`), then `SetIndexedElem` on it
  have key : ∀ {b : Heap × Slice × Slice}, HExt n h b.1 → FreshLI n b.1 b.2.1 b.2.2 →
      (match setIndexedElem g b.1 b.2.1 b.2.2 k val with
        | none => none
        | some r => some (r.1, { prev with set := true, kind := .indexed, list := r.2.1, indexes := r.2.2 })) = some r →
      HExt n h r.1 ∧ VarStep n r.1 prev r.2 := by
    intro b hb fb e
    split at e
    · cases e
    · next r1 h1 =>
      cases e
      have x := setIndexedElem_ext g hb.ge fb h1
      exact ⟨hb.trans x.1, .li x.2 rfl rfl rfl⟩
  unfold setElemOp at e
  split at e
  · cases e; exact ⟨HExt.refl ge, .same rfl rfl rfl⟩
  · have a := (sliceAppend_step g.strs h.strs Slice.nil prev.str).ext ge.s (Fresh.nil _ _)
    exact key (b := ({ h with strs := (sliceAppend g.strs h.strs Slice.nil prev.str).1 }, _, Slice.nil))
      ⟨a.1, Ext.refl ge.i, Ext.refl ge.m⟩ ⟨a.2, Fresh.nil _ _⟩ e
  · have c := cloneBoth_ext g prev.list prev.indexes ge
    exact key c.1 c.2 e
  · exact key (b := (h, Slice.nil, Slice.nil)) (HExt.refl ge) ⟨Fresh.nil _ _, Fresh.nil _ _⟩ e

/-- a write to the map object just made by `maps.Clone` (or made empty), which the variable then holds -/
theorem newMap_ext {n : Sz} {h : Heap} (ge : Ge n h) (m : List (Bytes × Bytes)) (f) {old new : Var}
    (el : new.list = old.list) (ei : new.indexes = old.indexes) (em : new.map = some h.maps.length) :
    HExt n h { h with maps := updMap (h.maps ++ [m]) h.maps.length f } ∧
      VarStep n { h with maps := updMap (h.maps ++ [m]) h.maps.length f } old new := by
  have l : (h.maps ++ [m]).length = h.maps.length + 1 := List.length_append
  refine ⟨⟨Ext.refl ge.s, Ext.refl ge.i, (ext_append h.maps [m] ge.m).trans (updMap_ext _ f (l ▸ Nat.le_succ_of_le ge.m) ge.m)⟩,
    ⟨Or.inl el, Or.inl ei, Or.inr fun id e => ?_⟩⟩
  cases em.symm.trans e
  exact ⟨ge.m, by rw [length_updMap, l]; exact Nat.lt_succ_self _⟩

theorem setKeyOp_ext {n : Sz} {h : Heap} (prev : Var) (key val : Bytes) (ge : Ge n h) :
    HExt n h (setKeyOp h prev key val).1 ∧ VarStep n (setKeyOp h prev key val).1 prev (setKeyOp h prev key val).2 := by
  unfold setKeyOp
  -- cloned or made, the map written is the new object `h.maps.length`
  cases prev.map <;> dsimp only [mapClone] <;> exact newMap_ext ge _ _ rfl rfl rfl

theorem unsetKeyOp_ext {n : Sz} {h : Heap} (vr : Var) (key : Bytes) (ge : Ge n h) :
    HExt n h (unsetKeyOp h vr key).1 ∧ VarStep n (unsetKeyOp h vr key).1 vr (unsetKeyOp h vr key).2 := by
  unfold unsetKeyOp
  cases vr.map with
  | none => exact ⟨HExt.refl ge, .same rfl rfl rfl⟩
  | some id0 =>
    dsimp only [mapClone]
    exact newMap_ext ge _ _ rfl rfl rfl

theorem unsetElemOp_ext {n : Sz} (g : Grows) {h : Heap} (vr : Var) (k : Nat) (ge : Ge n h) {r : Heap × Var}
    (e : unsetElemOp g h vr k = some r) : HExt n h r.1 ∧ VarStep n r.1 vr r.2 := by
  unfold unsetElemOp at e
  dsimp only at e
  have c := cloneBoth_ext g vr.list vr.indexes ge
  split at e
  · cases e
  · next r1 h1 =>
    cases e
    have x := deleteIndexedElem_ext c.1.ge c.2 h1
    exact ⟨c.1.trans x.1, .li x.2 rfl rfl rfl⟩

theorem arrayLitOp_ext {n : Sz} (g : Grows) {h : Heap} (prev : Var) (append : Bool) (vals : List Bytes) (ge : Ge n h)
    {r : Heap × Var} (e : arrayLitOp g h prev append vals = some r) : HExt n h r.1 ∧ VarStep n r.1 prev r.2 := by
  unfold arrayLitOp at e
  dsimp only at e
  split at e
  · cases e; exact ⟨HExt.refl ge, .same rfl rfl rfl⟩
  · next b hb =>
    -- the base array: nothing, a one-element list, or clones
    have bb : HExt n h b.1 ∧ FreshLI n b.1 b.2.1 b.2.2 := by
      split at hb
      · cases hb; exact ⟨HExt.refl ge, ⟨Fresh.nil _ _, Fresh.nil _ _⟩⟩
      · split at hb
        · cases hb; exact ⟨HExt.refl ge, ⟨Fresh.nil _ _, Fresh.nil _ _⟩⟩
        · cases hb
          have mk := (sliceMake_step h.strs [prev.str] 1).ext ge.s (Fresh.nil _ _)
          exact ⟨⟨mk.1, Ext.refl ge.i, Ext.refl ge.m⟩, ⟨mk.2, Fresh.nil _ _⟩⟩
        · cases hb; exact cloneBoth_ext g prev.list prev.indexes ge
        · cases hb
    split at e
    · cases e
    · next r1 h1 =>
      cases e
      have x := assignElems_ext g vals bb.1.ge bb.2 h1
      refine ⟨bb.1.trans x.1, ⟨Or.inr ?_, Or.inr x.2.i, Or.inl rfl⟩⟩
      dsimp only
      split
      · exact Fresh.empty _ _
      · exact x.2.l

theorem get_cases (s : Side) (name : Bytes) : s.get name = {} ∨ (name, s.get name) ∈ s.vars := by
  unfold Side.get
  cases h : alookup s.vars name with
  | none => left; rfl
  | some v => right; exact alookup_mem h

theorem mem_sliceArr {s : Slice} {id : Nat} (h : id ∈ sliceArr s) : ¬ NoStore s ∧ id = s.arr := by
  unfold sliceArr at h
  split at h
  · cases h
  · next hc => exact ⟨hc, List.mem_singleton.mp h⟩

theorem sliceArr_of {s : Slice} (hs : ¬ NoStore s) : sliceArr s = [s.arr] := if_neg hs

theorem _root_.ShVerif.L1.SliceStep.arr {h h' : ArrHeap α} {s s' : Slice} (st : SliceStep h s h' s') :
    ∀ id ∈ sliceArr s', id ∈ sliceArr s ∨ (h.length ≤ id ∧ id < h'.length) := by
  intro id hid
  obtain ⟨hs', rfl⟩ := mem_sliceArr hid
  rcases st.res with r | ⟨hs, ea⟩ | r
  · exact absurd r hs'
  · left; rw [sliceArr_of hs, ea]; exact List.mem_singleton_self _
  · exact Or.inr r

theorem Fresh.arr {n : Nat} {h : ArrHeap α} {s : Slice} (f : Fresh n h s) :
    ∀ id ∈ sliceArr s, n ≤ id ∧ id < h.length := by
  intro id m
  obtain ⟨hs, rfl⟩ := mem_sliceArr m
  exact f.resolve_left hs

/-- `f` is one of the three ways a variable reaches the heap; `v` reaches what the variable reached, or new objects -/
theorem reach_put {f : Var → List Nat} (f0 : f {} = []) {s : Side} {name : Bytes} {v : Var} {New : Nat → Prop}
    (hv : f v = f (s.get name) ∨ ∀ id ∈ f v, New id) :
    ∀ id ∈ (s.put name v).vars.flatMap fun nv => f nv.2, (id ∈ s.vars.flatMap fun nv => f nv.2) ∨ New id := by
  intro id hid
  obtain ⟨nv, hnv, hin⟩ := List.mem_flatMap.mp hid
  rcases mem_aset hnv with rfl | m
  · rcases hv with e | n
    · rw [e] at hin
      rcases get_cases s name with e0 | m
      · rw [e0, f0] at hin; cases hin
      · exact Or.inl (List.mem_flatMap.mpr ⟨_, m, hin⟩)
    · exact Or.inr (n id hin)
  · exact Or.inl (List.mem_flatMap.mpr ⟨nv, m, hin⟩)

structure StepOK (h : Heap) (s : Side) (h' : Heap) (s' : Side) : Prop where
  ds : SliceStep h.strs s.dirStack h'.strs s'.dirStack
  ints : Ext h.ints.length h.ints h'.ints
  maps : Ext h.maps.length h.maps h'.maps
  rstrs : ∀ id ∈ (reach s').strs, id ∈ (reach s).strs ∨ (h.strs.length ≤ id ∧ id < h'.strs.length)
  rints : ∀ id ∈ (reach s').ints, id ∈ (reach s).ints ∨ (h.ints.length ≤ id ∧ id < h'.ints.length)
  rmaps : ∀ id ∈ (reach s').maps, id ∈ (reach s).maps ∨ (h.maps.length ≤ id ∧ id < h'.maps.length)

theorem rstrs_of {s s' : Side} {New : Nat → Prop}
    (hv : ∀ id ∈ s'.vars.flatMap (fun nv => sliceArr nv.2.list), id ∈ s.vars.flatMap (fun nv => sliceArr nv.2.list) ∨ New id)
    (hp : ∀ id ∈ sliceArr s'.params, id ∈ sliceArr s.params ∨ New id)
    (hd : ∀ id ∈ sliceArr s'.dirStack, id ∈ sliceArr s.dirStack ∨ New id) :
    ∀ id ∈ (reach s').strs, id ∈ (reach s).strs ∨ New id := by
  intro id hid
  simp only [reach, List.mem_append] at hid ⊢
  rcases hid with (m | m) | m
  · exact (hv id m).imp_left fun x => Or.inl (Or.inl x)
  · exact (hp id m).imp_left fun x => Or.inl (Or.inr x)
  · exact (hd id m).imp_left Or.inr

theorem stepOK_refl (h : Heap) (s : Side) : StepOK h s h s :=
  ⟨.refl _ _, Ext.refl (Nat.le_refl _), Ext.refl (Nat.le_refl _), fun _ m => Or.inl m, fun _ m => Or.inl m,
    fun _ m => Or.inl m⟩

theorem stepOK_put {h h' : Heap} {s : Side} {name : Bytes} {v : Var}
    (x : HExt (szOf h) h h') (vs : VarStep (szOf h) h' (s.get name) v) : StepOK h s h' (s.put name v) := by
  exact ⟨.grow _ x.strs.1, x.ints, x.maps,
    rstrs_of (reach_put (f := fun v => sliceArr v.list) rfl (vs.l.imp (congrArg sliceArr) Fresh.arr))
      (fun _ m => Or.inl m) (fun _ m => Or.inl m),
    reach_put (f := fun v => sliceArr v.indexes) rfl (vs.i.imp (congrArg sliceArr) Fresh.arr),
    reach_put (f := fun v => v.map.toList) rfl
      (vs.m.imp (congrArg Option.toList) fun f id m => f id (Option.mem_toList.mp m))⟩

theorem stepOK_dir {h : Heap} {s : Side} {strs : ArrHeap Bytes} {ds : Slice}
    (st : SliceStep h.strs s.dirStack strs ds) : StepOK h s { h with strs := strs } { s with dirStack := ds } :=
  ⟨st, Ext.refl (Nat.le_refl _), Ext.refl (Nat.le_refl _),
    rstrs_of (fun _ m => Or.inl m) (fun _ m => Or.inl m) st.arr, fun _ m => Or.inl m, fun _ m => Or.inl m⟩

/-- a step on `Params` alone, which may allocate: a step on `Params` itself, or on no storage -/
theorem stepOK_params {h : Heap} {s : Side} {strs : ArrHeap Bytes} {p0 p : Slice}
    (st : SliceStep h.strs p0 strs p) (fr : ListFr h.strs.length h.strs strs) (h0 : NoStore p0 ∨ p0 = s.params) :
    StepOK h s { h with strs := strs } { s with params := p } := by
  refine ⟨.grow _ fr, Ext.refl (Nat.le_refl _), Ext.refl (Nat.le_refl _),
    rstrs_of (fun _ m => Or.inl m) (fun id m => (st.arr id m).imp_left fun m0 => ?_) (fun _ m => Or.inl m),
    fun _ m => Or.inl m, fun _ m => Or.inl m⟩
  rcases h0 with h0 | rfl
  · exact absurd h0 (mem_sliceArr m0).1
  · exact m0

theorem stepOK_map {h : Heap} {s : Side} {name : Bytes} {o : Option (Heap × Var)} {r : Heap × Side}
    (e : o.map (fun x => (x.1, s.put name x.2)) = some r)
    (ok : ∀ x, o = some x → HExt (szOf h) h x.1 ∧ VarStep (szOf h) x.1 (s.get name) x.2) : StepOK h s r.1 r.2 := by
  obtain ⟨x, hx, rfl⟩ := Option.map_eq_some_iff.mp e
  exact stepOK_put (ok x hx).1 (ok x hx).2

theorem step_ok (g : Grows) {h : Heap} {s : Side} (op : Op) {r : Heap × Side}
    (e : step g h s op = some r) : StepOK h s r.1 r.2 := by
  have ge := ge_self h
  cases op with
  | setStr name val =>
    dsimp only [step] at e
    rcases of_ite_eq e with ⟨_, e⟩ | ⟨_, e⟩
    · exact stepOK_map e fun x hx => setElemOp_ext g _ 0 val ge hx
    rcases of_ite_eq e with ⟨_, e⟩ | ⟨_, e⟩
    · cases e; exact stepOK_refl h s
    · cases e; exact stepOK_put (HExt.refl ge) (.same rfl rfl rfl)
  | appendStr name val => exact stepOK_map e fun x hx => appendStrOp_ext g _ val ge hx
  | setElem name k val => exact stepOK_map e fun x hx => setElemOp_ext g _ k val ge hx
  | setKey name key val =>
    rcases of_ite_eq e with ⟨_, e⟩ | ⟨_, e⟩
    · cases e
      have y := setKeyOp_ext (s.get name) key val ge
      exact stepOK_put y.1 y.2
    · cases e; exact stepOK_refl h s
  | unsetElem name k =>
    rcases of_ite_eq e with ⟨_, e⟩ | ⟨_, e⟩
    · exact stepOK_map e fun x hx => unsetElemOp_ext g _ k ge hx
    · cases e; exact stepOK_refl h s
  | unsetKey name key =>
    rcases of_ite_eq e with ⟨_, e⟩ | ⟨_, e⟩
    · cases e
      have y := unsetKeyOp_ext (s.get name) key ge
      exact stepOK_put y.1 y.2
    · cases e; exact stepOK_refl h s
  | arrayLit name app vals => exact stepOK_map e fun x hx => arrayLitOp_ext g _ app vals ge hx
  | mapLit name kvs =>
    cases e
    refine stepOK_put (h' := { h with maps := h.maps ++ [_] })
      ⟨Ext.refl (Nat.le_refl _), Ext.refl (Nat.le_refl _), ext_append _ _ (Nat.le_refl _)⟩
      ⟨Or.inl rfl, Or.inl rfl, Or.inr fun id hid => ?_⟩
    cases hid
    exact ⟨Nat.le_refl _, by rw [List.length_append]; exact Nat.lt_succ_self _⟩
  | unset name =>
    cases e
    exact stepOK_put (HExt.refl ge) ⟨Or.inr (Fresh.nil _ _), Or.inr (Fresh.nil _ _), Or.inr (by intro id hid; cases hid)⟩
  | shift n =>
    rcases of_ite_eq e with ⟨_, e⟩ | ⟨_, e⟩
    · cases e
      exact stepOK_params (p0 := Slice.nil) (.refl _ _) (ListFr.refl (Nat.le_refl _)) (Or.inl ⟨rfl, rfl⟩)
    · split at e
      · next p hp =>
        cases e
        exact stepOK_params (sliceFrom_step h.strs hp) (ListFr.refl (Nat.le_refl _)) (Or.inr rfl)
      · cases e
  | setParams vals =>
    cases e
    exact stepOK_params (sliceMake_step h.strs vals vals.length) (sliceMake_fr h.strs vals vals.length (Nat.le_refl _))
      (Or.inl ⟨rfl, rfl⟩)
  | pushdN dir =>
    -- append, then two writes through the slice `append` returned
    dsimp only [step] at e
    split at e
    · rcases of_ite_eq e with ⟨_, e⟩ | ⟨_, e⟩
      · cases e
      · split at e
        · cases e
        · next s1 hs1 =>
          split at e
          · cases e
          · next s2 hs2 =>
            cases e
            exact stepOK_dir ((sliceAppend_step g.strs h.strs s.dirStack dir).trans
              ((sliceSet_step hs1).trans (sliceSet_step hs2)))
    · cases e
  | popdN =>
    rcases of_ite_eq e with ⟨_, e⟩ | ⟨_, e⟩
    · cases e; exact stepOK_refl h s
    · split at e
      · next oldtop ds _ hto =>
        split at e
        · cases e
        · next s1 hs1 =>
          cases e
          exact stepOK_dir ((sliceTo_step h.strs hto).trans (sliceSet_step hs1))
      · cases e

end ShVerif.C32
