/-
  L4: the parser reads printed text back as a transcript — the walk over the tokens of a printer
  run and the re-read tree in lockstep, for all of F0 (into subshells and blocks under the
  executable side condition `nestOKFile`, `Model/L4Transcript.lean`); programs without subshells
  and blocks satisfy the condition, so for them the walk needs no hypothesis.
-/
import ShVerif.Proofs.L4Walk
namespace ShVerif.L4

/-! ## The tokens of a printer run (all of F0) -/

mutual
def stmtDN (p : P) : Stmt → List (TK × Nat)
  | .mk _ semi neg bg cmd =>
    (if neg then [(TK.other, p.cur)] else []) ++
      (cmdDN (p.stmtPre neg) cmd ++ semiD ((p.stmtPre neg).command cmd) semi bg)
def cmdDN (p : P) : Cmd → List (TK × Nat)
  | .call args => callD p args
  | .binary opPos op x y =>
    stmtDN ((p.advanceLine x.pos.line).spacePad) x ++
      ((TK.other, opLine (((p.advanceLine x.pos.line).spacePad).stmt x) y.pos.line) ::
        stmtDN ((((p.advanceLine x.pos.line).spacePad).stmt x).binaryOp opPos op y.pos.line y.isBinaryCmd).1 y)
  | .subshell lp rp ss =>
    (TK.other, p.cur) ::
      (loopDN ((((p.advanceLine lp.line).spacePad).subshellOpen lp ss).nestPre ss rp) true ss ++
        [(TK.other, ((p.subClose lp rp ss).rparenPre rp.line).cur)])
  | .block lb rb ss =>
    (TK.other, p.cur) ::
      (loopDN ((p.blkOpen lb).nestPre ss rb) true ss ++
        (semiPreD (p.blkBody lb rb ss) rb.line ++ [(TK.other, ((p.blkBody lb rb ss).semiPre rb.line).cur)]))
def loopDN (p : P) (first : Bool) : Stmts → List (TK × Nat)
  | .nil => []
  | .cons s rest =>
    stmtDN (p.stmtSep first s.pos.line) s ++
      loopDN { ((p.stmtSep first s.pos.line).stmt s) with wantNewline := true } false rest
end

mutual
theorem tl_stmtN : ∀ (s : Stmt) (p : P), s.wf = true → p.o.singleLine = false →
    (p.stmt s).tl = p.tl ++ stmtDN p s
  | .mk _ semi neg bg cmd => fun p hwf hsl => by
    have hcw : cmd.wf = true := by
      simp only [Stmt.wf, Bool.and_eq_true] at hwf; exact hwf.1
    have hsl1 : (p.stmtPre neg).o.singleLine = false := by rw [stmtPre_o]; exact hsl
    rw [P.stmt, tl_stmtEnd _ _ _ (by rw [command_oN cmd]; exact hsl1), tl_cmdN cmd _ hcw hsl1, tl_stmtPre]
    simp only [stmtDN, List.append_assoc]
theorem tl_cmdN : ∀ (c : Cmd) (p : P), c.wf = true → p.o.singleLine = false →
    (p.command c).tl = p.tl ++ cmdDN p c
  | .call args => fun p hwf _ => by
    obtain ⟨h1, h2⟩ := call_wordsOK hwf
    rw [tl_call p args h1 h2]
    simp only [cmdDN]
  | .binary opPos op x y => fun p hwf hsl => by
    have hxw : x.wf = true := by simp only [Cmd.wf, Bool.and_eq_true] at hwf; exact hwf.1.1.1.1
    have hyw : y.wf = true := by simp only [Cmd.wf, Bool.and_eq_true] at hwf; exact hwf.1.1.1.2
    have hsl0 : ((p.advanceLine x.pos.line).spacePad).o.singleLine = false := by rw [spacePad_o]; exact hsl
    have hsl1 : (((p.advanceLine x.pos.line).spacePad).stmt x).o.singleLine = false := by
      rw [stmt_oN x]; exact hsl0
    rw [P.command, tl_binaryEnd, tl_stmtN y _ hyw (by rw [binaryOp_o]; exact hsl1), tl_binaryOp,
      tl_stmtN x _ hxw hsl0, tl_spacePad, tl_advanceLine]
    simp only [cmdDN, List.append_assoc, List.singleton_append]
  | .subshell lp rp ss => fun p hwf hsl => by
    have hsw : ss.wf = true := by simp only [Cmd.wf, Bool.and_eq_true] at hwf; exact hwf.2
    rw [command_subshell2, tl_rightParen]
    unfold P.subClose
    rw [tl_closingParenSpace, tl_nested,
      tl_loopN ss _ true hsw (by rw [nestPre_o, subshellOpen_o, spacePad_o]; exact hsl), tl_nestPre,
      tl_subshellOpen, tl_spacePad, tl_advanceLine, cur_spacePad]
    simp only [cmdDN, P.subClose, List.append_assoc, List.cons_append]
    rfl
  | .block lb rb ss => fun p hwf hsl => by
    have hsw : ss.wf = true := by simp only [Cmd.wf, Bool.and_eq_true] at hwf; exact hwf.2
    rw [command_block2, semiRsrv_eq2]
    show ((p.blkBody lb rb ss).semiPre rb.line |>.tok [125]).tl = _
    rw [tl_tok, tl_semiPre, blkBody_tl, tl_nested,
      tl_loopN ss _ true hsw (by rw [nestPre_o, blkOpen_o]; exact hsl), tl_nestPre, tl_blkOpen]
    simp only [cmdDN, List.append_assoc, List.cons_append]
    rfl
theorem tl_loopN : ∀ (ss : Stmts) (p : P) (first : Bool), ss.wf = true → p.o.singleLine = false →
    (p.stmtListLoop first ss).tl = p.tl ++ loopDN p first ss
  | .nil => fun p first _ _ => by simp [P.stmtListLoop, loopDN]
  | .cons s rest => fun p first hwf hsl => by
    obtain ⟨hs, hr⟩ := Stmts.wf_cons hwf
    have hsl1 : (p.stmtSep first s.pos.line).o.singleLine = false := by rw [stmtSep_o]; exact hsl
    rw [P.stmtListLoop, tl_loopN rest _ false hr (by
      show ((p.stmtSep first s.pos.line).stmt s).o.singleLine = false
      rw [stmt_oN s]; exact hsl1)]
    show ((p.stmtSep first s.pos.line).stmt s).tl ++ _ = _
    rw [tl_stmtN s _ hs hsl1, tl_stmtSep _ _ _ hsl]
    simp only [loopDN, List.append_assoc]
end

/-! ## Where a re-read statement ends -/

theorem WordPart.stop_line (x : WordPart) : x.stop.line = x.endMax := by
  cases x with
  | lit a e v => rfl
  | sgl l r v =>
    have : (WordPart.sgl l r v).stop.line = r.line := by
      simp only [WordPart.stop]; split <;> rfl
    simp [WordPart.endMax, this]

/-- in a word whose lines do not decrease, the last part ends on the largest line -/
theorem lastEnd_partsMax : ∀ (parts : List WordPart), Sorted (wlines parts) → parts ≠ [] →
    ((parts.getLast?.map WordPart.stop).map (fun e => e.line)).getD 0 = partsMax parts
  | [] => fun _ h => absurd rfl h
  | [x] => fun _ _ => by
    simp only [List.getLast?_singleton, Option.map_some, Option.getD_some, partsMax]
    rw [x.stop_line]; omega
  | x :: y :: r => fun hs _ => by
    unfold Sorted at hs
    simp only [wlines, List.flatMap_cons] at hs
    obtain ⟨_, hs2, h3⟩ := List.pairwise_append.mp hs
    have ih := lastEnd_partsMax (y :: r) hs2 (by simp)
    -- the last part `z` ends on the largest line of `y :: r` (`ih`), and `x` ends no later
    obtain ⟨z, hz⟩ : ∃ z, (y :: r).getLast? = some z := ⟨_, List.getLast?_eq_some_getLast (by simp)⟩
    rw [List.getLast?_cons_cons, partsMax, ← ih, hz]
    have := h3 _ (partLines_stop x).2 _ (List.mem_flatMap.mpr ⟨z, List.mem_of_getLast? hz, (partLines_stop z).2⟩)
    rw [x.stop_line] at this
    simp only [Option.map_some, Option.getD_some]
    omega

def Word.endL (w : Word) : Nat := ((w.stop?).map (fun e => e.line)).getD 0

theorem call_endLine (args : List Word) :
    (Cmd.call args).endLine = (args.getLast?.map Word.endL).getD 0 := by
  simp only [Cmd.endLine]
  cases args.getLast? with
  | none => rfl
  | some w =>
    simp only [Option.map_some, Option.getD_some]
    unfold Word.endL
    cases w.stop? <;> rfl

theorem endArgs : ∀ (ws ws' : List Word) (p : P) (any : Bool), TrArgs p any ws ws' → ws ≠ [] →
    (∀ w ∈ ws', Sorted (wlines w.parts)) →
    (ws'.getLast?.map Word.endL).getD 0 = (p.wordJoinLoop any ws).1.cur
  | [], _ => fun _ _ _ h _ => absurd rfl h
  | _ :: _, [] => fun _ _ t _ _ => by simp [TrArgs] at t
  | w :: rest, w' :: rest' => fun p any t _ hs => by
    simp only [TrArgs] at t
    obtain ⟨pos, hp, tw, tr⟩ := t
    rw [wordJoinLoop_cons p any w rest pos hp]
    cases rest with
    | nil =>
      cases rest' with
      | cons _ _ => simp [TrArgs] at tr
      | nil =>
        simp only [List.getLast?_singleton, Option.map_some, Option.getD_some, P.wordJoinLoop]
        obtain ⟨wp', r', hw', _⟩ := tw.first
        have hne' : w'.parts ≠ [] := by rw [hw']; simp
        unfold Word.endL Word.stop?
        rw [lastEnd_partsMax w'.parts (hs w' (by simp)) hne', tw.last, cur_word _ _ tw.ne]
    | cons w2 rest2 =>
      cases rest' with
      | nil => simp [TrArgs] at tr
      | cons w2' rest2' =>
        rw [List.getLast?_cons_cons]
        exact endArgs (w2 :: rest2) (w2' :: rest2') _ _ tr (by simp) (fun x hx => hs x (by simp [hx]))

theorem sorted_flatMap_mem {α : Type} (f : α → List Nat) : ∀ (l : List α), Sorted (l.flatMap f) → ∀ x ∈ l, Sorted (f x)
  | [] => fun _ x hx => by cases hx
  | a :: r => fun h x hx => by
    unfold Sorted at h ⊢
    simp only [List.flatMap_cons] at h
    obtain ⟨h1, h2, _⟩ := List.pairwise_append.mp h
    rcases List.mem_cons.mp hx with rfl | hx
    · exact h1
    · exact sorted_flatMap_mem f r h2 x hx

mutual
theorem end_stmt : ∀ (s s' : Stmt) (p : P), TrStmt p s s' → Sorted s'.lines → p.o.singleLine = false →
    s'.endLine = (p.stmt s).cur
  | .mk _ semi neg bg cmd, .mk pos' semi' neg' bg' cmd' => fun p t hs hsl => by
    simp only [TrStmt] at t
    obtain ⟨rfl, rfl, _, tc, ts⟩ := t
    have hsl2 : ((p.stmtPre neg').command cmd).o.singleLine = false := by
      rw [command_oN, stmtPre_o]; exact hsl
    have hsc : Sorted cmd'.lines := by
      unfold Sorted at hs ⊢
      simp only [Stmt.lines] at hs
      exact (List.pairwise_append.mp (List.pairwise_cons.mp hs).2).1
    rw [P.stmt, cur_stmtEnd _ _ _ hsl2]
    simp only [Stmt.endLine]
    by_cases c : (semi.valid && decide (semi.line > ((p.stmtPre neg').command cmd).line)) = true
    · simp only [Bool.and_eq_true, decide_eq_true_eq] at c
      obtain ⟨hv, hl⟩ := ts.sepV c.1 c.2
      simp [hv, hl, c.1, c.2]
    · have hn : ¬ (semi.valid = true ∧ semi.line > ((p.stmtPre neg').command cmd).line) := by
        intro hh; apply c; simp [hh.1, hh.2]
      have c' : (semi.valid && decide (semi.line > ((p.stmtPre neg').command cmd).line)) = false := by simpa using c
      rw [c']
      simp only [Bool.false_eq_true, ↓reduceIte, Nat.add_zero]
      cases hv' : semi'.valid with
      | true => simp only [↓reduceIte]; exact ts.nosep hn hv'
      | false =>
        simp only [Bool.false_eq_true, ↓reduceIte]
        exact end_cmd cmd cmd' _ tc hsc (by rw [stmtPre_o]; exact hsl)
theorem end_cmd : ∀ (c c' : Cmd) (p : P), TrCmd p c c' → Sorted c'.lines → p.o.singleLine = false →
    c'.endLine = (p.command c).cur
  | .call args => fun c' p t hs _ => by
    cases c' with
    | call args' =>
      simp only [TrCmd] at t
      have hws : ∀ w ∈ args', Sorted (wlines w.parts) := by
        simp only [Cmd.lines] at hs
        exact sorted_flatMap_mem _ args' hs
      cases args with
      | nil => simp [TrCall] at t
      | cons w rest =>
        cases args' with
        | nil => simp [TrCall] at t
        | cons w' rest' =>
          simp only [TrCall] at t
          obtain ⟨pos, hp, t1, t2⟩ := t
          rw [call_endLine, command_call p w rest pos hp, cur_wordJoin]
          cases rest with
          | nil =>
            cases rest' with
            | cons _ _ => simp [TrArgs] at t2
            | nil =>
              simp only [P.wordJoinLoop]
              rw [cur_wordJoin]
              exact endArgs [w] [w'] _ false t1 (by simp) (fun x hx => hws x hx)
          | cons w2 r2 =>
            cases rest' with
            | nil => simp [TrArgs] at t2
            | cons w2' r2' =>
              rw [List.getLast?_cons_cons]
              exact endArgs (w2 :: r2) (w2' :: r2') _ false t2 (by simp) (fun x hx => hws x (by simp [hx]))
    | subshell _ _ _ => simp [TrCmd] at t
    | block _ _ _ => simp [TrCmd] at t
    | binary _ _ _ _ => simp [TrCmd] at t
  | .binary opPos op x y => fun c' p t hs hsl => by
    cases c' with
    | call _ => simp [TrCmd] at t
    | subshell _ _ _ => simp [TrCmd] at t
    | block _ _ _ => simp [TrCmd] at t
    | binary opPos' op' x' y' =>
      simp only [TrCmd] at t
      obtain ⟨rfl, _, _, ty⟩ := t
      have hsy : Sorted y'.lines := by
        unfold Sorted at hs ⊢
        simp only [Cmd.lines] at hs
        exact (List.pairwise_cons.mp (List.pairwise_append.mp hs).2.1).2
      rw [P.command, cur_binaryEnd]
      simp only [Cmd.endLine]
      exact end_stmt y y' _ ty hsy (by rw [binaryOp_o, stmt_oN, spacePad_o]; exact hsl)
  | .subshell lp rp ss => fun c' p t _ _ => by
    cases c' with
    | call _ => simp [TrCmd] at t
    | block _ _ _ => simp [TrCmd] at t
    | binary _ _ _ _ => simp [TrCmd] at t
    | subshell lp' rp' ss' =>
      simp only [TrCmd] at t
      rw [command_subshell2, cur_rightParen]
      simp only [Cmd.endLine]
      exact t.2.2.2.2.2.2.2.2.2
  | .block lb rb ss => fun c' p t _ _ => by
    cases c' with
    | call _ => simp [TrCmd] at t
    | subshell _ _ _ => simp [TrCmd] at t
    | binary _ _ _ _ => simp [TrCmd] at t
    | block lb' rb' ss' =>
      simp only [TrCmd] at t
      rw [command_block2, semiRsrv_eq2]
      simp only [Cmd.endLine]
      rw [t.2.2.2.2.2.2]
      show _ = (P.tok _ [125]).cur
      rw [cur_tok]; rfl
end

theorem end_loop : ∀ (ss ss' : Stmts) (p : P) (first : Bool), TrLoop p first ss ss' → ss ≠ .nil →
    Sorted ss'.lines → p.o.singleLine = false → ss'.endLine = (p.stmtListLoop first ss).cur
  | .nil, _ => fun _ _ _ h _ _ => absurd rfl h
  | .cons _ _, .nil => fun _ _ t _ _ _ => by simp [TrLoop] at t
  | .cons s rest, .cons s' rest' => fun p first t _ hs hsl => by
    simp only [TrLoop] at t
    obtain ⟨ts, tr⟩ := t
    have hs1 : Sorted s'.lines ∧ Sorted rest'.lines := by
      unfold Sorted at hs ⊢
      simp only [Stmts.lines] at hs
      exact ⟨(List.pairwise_append.mp hs).1, (List.pairwise_append.mp hs).2.1⟩
    have hsl1 : (p.stmtSep first s.pos.line).o.singleLine = false := by rw [stmtSep_o]; exact hsl
    rw [P.stmtListLoop]
    cases rest with
    | nil =>
      cases rest' with
      | cons _ _ => simp [TrLoop] at tr
      | nil =>
        rw [P.stmtListLoop]
        show (Stmts.cons s' .nil).endLine = ((p.stmtSep first s.pos.line).stmt s).cur
        simp only [Stmts.endLine, Stmts.last?]
        exact end_stmt s s' _ ts hs1.1 hsl1
    | cons s2 r2 =>
      cases rest' with
      | nil => simp [TrLoop] at tr
      | cons s2' r2' =>
        have : (Stmts.cons s' (.cons s2' r2')).endLine = (Stmts.cons s2' r2').endLine := by
          simp [Stmts.endLine, Stmts.last?]
        rw [this]
        exact end_loop (.cons s2 r2) (.cons s2' r2') _ false tr (by simp) hs1.2 (by
          show ((p.stmtSep first s.pos.line).stmt s).o.singleLine = false
          rw [stmt_oN]; exact hsl1)

/-! ## The walk into subshells and blocks -/

theorem norm_shape_s (s s' : Stmt) (h : s'.norm = s.norm) :
    s'.startsWithLparen = s.startsWithLparen ∧ s'.endsWithRparen = s.endsWithRparen := by
  rw [← Stmt.startsLp_norm, ← Stmt.startsLp_norm, ← Stmt.endsRp_norm, ← Stmt.endsRp_norm, h]
  exact ⟨rfl, rfl⟩

theorem norm_shape_c : ∀ (c c' : Cmd), c'.norm = c.norm →
    c'.startsWithLparen = c.startsWithLparen ∧ c'.endsWithRparen = c.endsWithRparen := by
  intro c c' h
  rw [← Cmd.startsLp_norm, ← Cmd.startsLp_norm, ← Cmd.endsRp_norm, ← Cmd.endsRp_norm, h]
  exact ⟨rfl, rfl⟩

theorem norm_shape_l : ∀ (ss ss' : Stmts), ss'.norm = ss.norm →
    ss'.length = ss.length ∧ ss'.headLparen = ss.headLparen ∧ ss'.singleRparen = ss.singleRparen
  | .nil, .nil => fun _ => ⟨rfl, rfl, rfl⟩
  | .nil, .cons _ _ => fun h => by simp [Stmts.norm] at h
  | .cons _ _, .nil => fun h => by simp [Stmts.norm] at h
  | .cons s r, .cons s' r' => fun h => by
    simp only [Stmts.norm, NStmts.cons.injEq] at h
    obtain ⟨a, b⟩ := norm_shape_s s s' h.1
    obtain ⟨l, _, _⟩ := norm_shape_l r r' h.2
    refine ⟨by simp [Stmts.length, l], by simp [Stmts.headLparen, a], ?_⟩
    cases r with
    | nil =>
      cases r' with
      | nil => simp [Stmts.singleRparen, b]
      | cons _ _ => simp [Stmts.length] at l
    | cons _ _ =>
      cases r' with
      | nil => simp [Stmts.length] at l
      | cons _ _ => rfl

mutual
theorem stmtDN_head : ∀ (s : Stmt) (p : P), s.wf = true → ∃ rest, stmtDN p s = (TK.other, p.cur) :: rest
  | .mk _ semi neg bg cmd => fun p hwf => by
    have hcw : cmd.wf = true := by
      simp only [Stmt.wf, Bool.and_eq_true] at hwf; exact hwf.1
    cases neg with
    | true => exact ⟨_, by simp only [stmtDN, ↓reduceIte, List.singleton_append]; rfl⟩
    | false =>
      obtain ⟨r, e⟩ := cmdDN_head cmd (p.stmtPre false) hcw
      exact ⟨_, by simp only [stmtDN, Bool.false_eq_true, ↓reduceIte, List.nil_append, e, List.cons_append]; rw [cur_stmtPre]⟩
theorem cmdDN_head : ∀ (c : Cmd) (p : P), c.wf = true → ∃ rest, cmdDN p c = (TK.other, p.cur) :: rest
  | .call args => fun p hwf => by
    obtain ⟨ho, hne⟩ := call_wordsOK hwf
    cases args with
    | nil => exact absurd rfl hne
    | cons w rest =>
      obtain ⟨pos, hp⟩ := pos_of_parts (ho w (by simp))
      exact ⟨_, by simp only [cmdDN, callD, hp, first_word p w pos hp, List.singleton_append]; rfl⟩
  | .binary opPos op x y => fun p hwf => by
    have hxw : x.wf = true := by simp only [Cmd.wf, Bool.and_eq_true] at hwf; exact hwf.1.1.1.1
    obtain ⟨r, e⟩ := stmtDN_head x ((p.advanceLine x.pos.line).spacePad) hxw
    exact ⟨_, by simp only [cmdDN, e, List.cons_append]; rw [cur_spacePad]; rfl⟩
  | .subshell _ _ _ => fun p _ => ⟨_, by simp only [cmdDN]; rfl⟩
  | .block _ _ _ => fun p _ => ⟨_, by simp only [cmdDN]; rfl⟩
end

theorem OKc.nested {c' : Cmd} {a b : Pos} {ss : Stmts} (h : OKc c') (hc : c' = .subshell a b ss ∨ c' = .block a b ss) :
    ss.wf = true ∧ ss.length > 0 ∧ (∀ tp ∈ ss.ftoks, tp.1.ok3 tp.2) ∧ Sorted ss.lines := by
  have hw := h.wf
  have hs := h.sorted
  unfold Sorted at hs ⊢
  rcases hc with rfl | rfl <;>
  · simp only [Cmd.wf, Bool.and_eq_true, decide_eq_true_eq] at hw
    simp only [Cmd.lines] at hs
    exact ⟨hw.2, hw.1, fun tp htp => h.ok3 tp (by simp [Cmd.ftoks, htp]),
      (List.pairwise_append.mp (List.pairwise_cons.mp hs).2).1⟩

theorem headLine_of_TrLoop {p : P} {ss ss' : Stmts} (t : TrLoop p true ss ss') (hne : ss.length > 0) :
    ss'.headLine = (p.stmtSep true ss.headLine).cur := by
  cases ss with
  | nil => simp [Stmts.length] at hne
  | cons s r =>
    cases ss' with
    | nil => simp [TrLoop] at t
    | cons s' r' =>
      simp only [TrLoop] at t
      simp only [Stmts.headLine]
      exact t.1.pos

theorem loop_cur_last (p : P) (first : Bool) (s : Stmt) :
    (p.stmtListLoop first (.cons s .nil)).cur = ((p.stmtSep first s.pos.line).stmt s).cur := by
  rw [P.stmtListLoop, P.stmtListLoop]; rfl

/-- the continuation after a statement: unchanged, or the `;` of `semiRsrv` went to the statement -/
def After (c : Nat) (K K' : List (TK × Nat)) : Prop := K' = K ∨ K = (TK.semi, c) :: K'

theorem After.of_other {c : Nat} {K K' : List (TK × Nat)} {x : TK × Nat} {r : List (TK × Nat)}
    (h : After c K K') (e : K = x :: r) (hx : x.1 = .other) : K' = K := by
  rcases h with h | h
  · exact h
  · rw [e] at h
    simp only [List.cons.injEq] at h
    rw [h.1] at hx
    cases hx

/-- after a nested list the run has the `;` of `semiRsrv` (or nothing) and the closing token on line
    `L`, the re-read tree its closing token `x` -/
theorem After.close {c L : Nat} {x : TK × Nat} {pre K K' : List (TK × Nat)}
    (haf : After c (pre ++ (TK.other, L) :: K) (x :: K')) (hx : x.1 = .other)
    (hpre : pre = [] ∨ pre = [(TK.semi, c)]) : x.2 = L ∧ K' = K := by
  rcases hpre with rfl | rfl
  · have e := haf.of_other rfl rfl
    simp only [List.nil_append, List.cons.injEq] at e
    exact ⟨by rw [e.1], e.2⟩
  · rcases haf with e | e
    · simp only [List.cons_append, List.nil_append, List.cons.injEq] at e
      rw [e.1] at hx; cases hx
    · simp only [List.cons_append, List.nil_append, List.cons.injEq, true_and] at e
      exact ⟨by rw [← e.1], e.2.symm⟩

theorem noSA_cons_other {x : TK × Nat} {r : List (TK × Nat)} (hx : x.1 = .other) : NoSA (x :: r) := by
  intro y r' e
  simp only [List.cons.injEq] at e
  rw [← e.1]; exact hx

theorem semiAt_cons_other {c : Nat} {x : TK × Nat} {r : List (TK × Nat)} (hx : x.1 = .other) : SemiAt c (x :: r) := by
  intro y r' e
  simp only [List.cons.injEq] at e
  rw [← e.1]; exact Or.inl hx

theorem nestAgree_elim {p1 : P} {ss ss' : Stmts} {closing closing' : Pos} {rline : Nat}
    (h : nestAgree p1 ss closing rline = true) (hlen : ss'.length = ss.length) (hcl : closing'.line = rline)
    (hhead : ss'.headLine = ((p1.nestPre ss closing).stmtSep true ss.headLine).cur)
    (hend : ss'.endLine = ((p1.nestPre ss closing).stmtListLoop true ss).cur) :
    (ss.length ≤ 1 → nestB p1.cur ss' closing' = nestB p1.line ss closing) ∧
    (ss.single = true →
      ((p1.nestPre ss closing).wantNewline || decide (ss'.headLine > (p1.nestPre ss closing).cur)) =
        (p1.nestPre ss closing).listSep ss) := by
  unfold nestAgree at h
  simp only [Bool.and_eq_true, Bool.or_eq_true, Bool.not_eq_true', decide_eq_false_iff_not, beq_iff_eq] at h
  constructor
  · intro hl1
    rcases h.1 with h1 | h1
    · exact absurd hl1 h1
    · rw [← h1]
      unfold nestB
      rw [hcl, hend, hlen]
  · intro hs1
    rcases h.2 with h1 | h1
    · rw [hs1] at h1; cases h1
    · rw [← h1, hhead]

mutual
theorem glue_stmtN : ∀ (s s' : Stmt) (p : P) (ctx : Option Pos) (K K' : List (TK × Nat)),
    s.wf = true → nestOKs p s = true → p.o.singleLine = false → OKs s' → s'.norm = s.norm → s'.pk ctx →
    (∀ bp, ctx = some bp → bp.line = p.cur) →
    s'.ftoks.map tinfo ++ K' = stmtDN p s ++ K →
    ((NoSA K' ∧ SemiAt (p.stmt s).cur K) ∨ (s.bare = true ∧ s'.bare = true)) →
    TrStmt p s s' ∧ After (p.stmt s).cur K K' ∧ (s.bare = true → s'.bare = true → K' = K)
  | .mk pos semi neg bg cmd, .mk pos' semi' neg' bg' cmd' => fun p ctx K K' hwf hnok hsl ok hn hpk hctx hd hs => by
    simp only [Stmt.norm, NStmt.mk.injEq] at hn
    obtain ⟨rfl, rfl, hnc⟩ := hn
    have hcw : cmd.wf = true := by
      simp only [Stmt.wf, Bool.and_eq_true] at hwf; exact hwf.1
    simp only [nestOKs] at hnok
    simp only [Stmt.pk] at hpk
    have hsl1 : (p.stmtPre neg').o.singleLine = false := by rw [stmtPre_o]; exact hsl
    have hsl2 : ((p.stmtPre neg').command cmd).o.singleLine = false := by rw [command_oN]; exact hsl1
    have hc1 : (p.stmtPre neg').cur = p.cur := cur_stmtPre p neg'
    have key : pos'.line = p.cur ∧
        cmd'.ftoks.map tinfo ++ ((semiToks semi' bg').map tinfo ++ K') =
          cmdDN (p.stmtPre neg') cmd ++ (semiD ((p.stmtPre neg').command cmd) semi bg' ++ K) := by
      simp only [Stmt.ftoks, stmtDN] at hd
      cases neg' with
      | true =>
        simp only [↓reduceIte, List.map_cons, List.cons_append, List.cons.injEq,
          List.map_append, List.append_assoc] at hd
        refine ⟨?_, hd.2⟩
        have := congrArg Prod.snd hd.1
        simpa [tinfo, rsrvTok] using this
      | false =>
        simp only [Bool.false_eq_true, ↓reduceIte, List.nil_append, List.map_append, List.append_assoc] at hd
        refine ⟨?_, hd⟩
        cases ctx with
        | some bp =>
          simp only at hpk
          rw [hpk.1.1]
          exact hctx bp rfl
        | none =>
          simp only at hpk
          obtain ⟨tp, r, e1, e2⟩ := hpk.1 trivial
          obtain ⟨r2, e3⟩ := cmdDN_head cmd (p.stmtPre false) hcw
          rw [e1, e3] at hd
          simp only [List.map_cons, List.cons_append, List.cons.injEq] at hd
          have := congrArg Prod.snd hd.1
          simp only [tinfo] at this
          rw [← e2, this, hc1]
    obtain ⟨hpos, hd2⟩ := key
    have hck : cmd'.pk (ctxCmd ctx neg' pos') := by
      cases ctx <;> exact hpk.2
    have hctx1 : ∀ bp, ctxCmd ctx neg' pos' = some bp → bp.line = (p.stmtPre neg').cur := by
      intro bp e
      rw [hc1]
      cases ctx with
      | none =>
        simp only [ctxCmd] at e
        split at e
        · simp only [Option.some.injEq] at e
          rw [← e]; exact hpos
        · cases e
      | some b2 =>
        simp only [ctxCmd, Option.some.injEq] at e
        rw [← e]; exact hctx b2 rfl
    obtain ⟨tc, hd3⟩ := glue_cmdN cmd cmd' (p.stmtPre neg') _ _ _ hcw hnok hsl1 ok.cmd hnc hck hctx1 hd2
    -- the terminator
    have hcur : ¬ (semi.valid = true ∧ semi.line > ((p.stmtPre neg').command cmd).line) →
        (P.stmt p (.mk pos semi neg' bg' cmd)).cur = ((p.stmtPre neg').command cmd).cur := by
      intro hnn
      rw [P.stmt, cur_stmtEnd _ _ _ hsl2, sep_false hnn]; simp
    have hs' : (NoSA K' ∧ SemiAt (P.stmt p (.mk pos semi neg' bg' cmd)).cur K) ∨
        ((bg' = false ∧ semi.valid = false) ∧ semi'.valid = false) := by
      rcases hs with h1 | ⟨h1, h2⟩
      · exact Or.inl h1
      · exact Or.inr ⟨bare_facts h1, (bare_facts h2).2⟩
    obtain ⟨ts, hk⟩ := semi_glueN _ semi semi' bg' K K' _ hcur hd3 hs'
    refine ⟨?_, hk, ?_⟩
    · simp only [TrStmt]
      exact ⟨trivial, trivial, hpos, tc, ts⟩
    · intro hb hb'
      obtain ⟨b1, b2⟩ := bare_facts hb
      have b3 := (bare_facts hb').2
      subst b1
      have e1 : semiD ((p.stmtPre neg').command cmd) semi false = [] := by simp [semiD, b2]
      have e2 : semiToks semi' false = [] := by simp [semiToks, b3]
      rw [e1, e2] at hd3
      simpa using hd3
theorem glue_cmdN : ∀ (c c' : Cmd) (p : P) (ctxc : Option Pos) (K K' : List (TK × Nat)),
    c.wf = true → nestOKc p c = true → p.o.singleLine = false → OKc c' → c'.norm = c.norm → c'.pk ctxc →
    (∀ bp, ctxc = some bp → bp.line = p.cur) →
    c'.ftoks.map tinfo ++ K' = cmdDN p c ++ K → TrCmd p c c' ∧ K' = K
  | .call args => fun c' p ctxc K K' hwf _ _ ok hn _ _ hd => by
    cases c' with
    | call args' =>
      simp only [Cmd.norm, NCmd.call.injEq] at hn
      rw [call_tinfo] at hd
      simp only [cmdDN] at hd
      obtain ⟨t, hk⟩ := glue_call p args args' K K' hwf ok.wf ok.call hn hd
      refine ⟨?_, hk⟩
      simp only [TrCmd]
      exact t
    | subshell _ _ _ => simp [Cmd.norm] at hn
    | block _ _ _ => simp [Cmd.norm] at hn
    | binary _ _ _ _ => simp [Cmd.norm] at hn
  | .binary opPos op x y => fun c' p ctxc K K' hwf hnok hsl ok hn hpk hctx hd => by
    cases c' with
    | call _ => simp [Cmd.norm] at hn
    | subshell _ _ _ => simp [Cmd.norm] at hn
    | block _ _ _ => simp [Cmd.norm] at hn
    | binary opPos' op' x' y' =>
      simp only [Cmd.norm, NCmd.binary.injEq] at hn
      obtain ⟨rfl, hnx, hny⟩ := hn
      simp only [nestOKc, Bool.and_eq_true] at hnok
      have hw := hwf
      simp only [Cmd.wf, Bool.and_eq_true] at hw
      obtain ⟨okx, oky, hop, hbx', hby'⟩ := ok.binary
      simp only [Cmd.pk] at hpk
      have hsl0 : ((p.advanceLine x.pos.line).spacePad).o.singleLine = false := by rw [spacePad_o]; exact hsl
      have hsl1 : (((p.advanceLine x.pos.line).spacePad).stmt x).o.singleLine = false := by
        rw [stmt_oN x]; exact hsl0
      have hc0 : ((p.advanceLine x.pos.line).spacePad).cur = p.cur := by rw [cur_spacePad]; rfl
      simp only [Cmd.ftoks, cmdDN, List.map_append, List.map_cons, List.append_assoc, List.cons_append] at hd
      have hpkx : x'.pk (if op' = BinOp.pipe then ctxc else none) := by
        split
        · rename_i e; simpa [e] using hpk.1
        · rename_i e; simpa [e] using hpk.1
      obtain ⟨tx, _, hd2⟩ := glue_stmtN x x' _ (if op' = BinOp.pipe then ctxc else none) _ _ hw.1.1.1.1 hnok.1 hsl0 okx hnx hpkx
        (by
          intro bp e
          rw [hc0]
          split at e
          · exact hctx bp e
          · cases e) hd (Or.inr ⟨hw.1.1.2, hbx'⟩)
      have hd2' := hd2 hw.1.1.2 hbx'
      simp only [List.cons.injEq] at hd2'
      obtain ⟨ty, _, hk⟩ := glue_stmtN y y' _ none K K' hw.1.1.1.2 hnok.2 (by rw [binaryOp_o]; exact hsl1) oky hny hpk.2
        (by intro bp e; cases e) hd2'.2 (Or.inr ⟨hw.1.2, hby'⟩)
      refine ⟨?_, hk hw.1.2 hby'⟩
      simp only [TrCmd]
      exact ⟨trivial, tx, hop, ty⟩
  | .subshell lp rp ss => fun c' p ctxc K K' hwf hnok hsl ok hn hpk _ hd => by
    cases c' with
    | call _ => simp [Cmd.norm] at hn
    | block _ _ _ => simp [Cmd.norm] at hn
    | binary _ _ _ _ => simp [Cmd.norm] at hn
    | subshell lp' rp' ss' =>
      simp only [Cmd.norm, NCmd.subshell.injEq] at hn
      obtain ⟨hlen, hhl, hsr⟩ := norm_shape_l ss ss' hn
      obtain ⟨hsw', hpos', hok3', hsorted'⟩ := ok.nested (Or.inl rfl)
      have hw := hwf
      simp only [Cmd.wf, Bool.and_eq_true, decide_eq_true_eq] at hw
      simp only [Cmd.pk] at hpk
      simp only [nestOKc, Bool.and_eq_true] at hnok
      obtain ⟨⟨⟨nA, nB⟩, nE⟩, nL⟩ := hnok
      have hslp : ((((p.advanceLine lp.line).spacePad).subshellOpen lp ss).nestPre ss rp).o.singleLine = false := by
        rw [nestPre_o, subshellOpen_o, spacePad_o]; exact hsl
      simp only [Cmd.ftoks, cmdDN, List.map_cons, List.map_append, List.cons_append, List.append_assoc,
        List.cons.injEq, List.map_nil, List.nil_append] at hd
      have hlp : lp'.line = p.cur := by
        have := congrArg Prod.snd hd.1
        simpa [tinfo] using this
      obtain ⟨tl, haf⟩ := glue_loopN ss ss' _ true _ _ hw.2 nL hslp ⟨hsw', hok3', hsorted', hpk⟩ hn hd.2
        (noSA_cons_other rfl) (semiAt_cons_other rfl)
      obtain ⟨hrp, hk⟩ := After.close (pre := []) haf rfl (Or.inl rfl)
      replace hrp : rp'.line = ((p.subClose lp rp ss).rparenPre rp.line).cur := hrp
      refine ⟨?_, hk⟩
      -- the quantities of the re-read tree are those of the first run
      have hhead : ss'.headLine =
          (((((p.advanceLine lp.line).spacePad).subshellOpen lp ss).nestPre ss rp).stmtSep true ss.headLine).cur :=
        headLine_of_TrLoop tl hw.1
      have hend : ss'.endLine =
          (((((p.advanceLine lp.line).spacePad).subshellOpen lp ss).nestPre ss rp).stmtListLoop true ss).cur :=
        end_loop ss ss' _ true tl (by intro e; rw [e] at hw; simp [Stmts.length] at hw) hsorted' hslp
      obtain ⟨hagB, hagS⟩ := nestAgree_elim nB hlen hrp hhead hend
      simp only [TrCmd]
      refine ⟨hlen, hhl, hsr, hlp, ?_, hagB, hagS, ?_, tl, hrp⟩
      · intro hh
        rw [hh] at nA
        simp only [Bool.not_true, Bool.false_or, beq_iff_eq] at nA
        rw [hlp, hhead]
        exact nA
      · intro hs1
        rw [hs1] at nE
        simp only [Bool.not_true, Bool.false_or, beq_iff_eq] at nE
        rw [hlp, hrp]
        exact nE
  | .block lb rb ss => fun c' p ctxc K K' hwf hnok hsl ok hn hpk _ hd => by
    cases c' with
    | call _ => simp [Cmd.norm] at hn
    | subshell _ _ _ => simp [Cmd.norm] at hn
    | binary _ _ _ _ => simp [Cmd.norm] at hn
    | block lb' rb' ss' =>
      simp only [Cmd.norm, NCmd.block.injEq] at hn
      obtain ⟨hlen, _, _⟩ := norm_shape_l ss ss' hn
      obtain ⟨hsw', hpos', hok3', hsorted'⟩ := ok.nested (Or.inr rfl)
      have hw := hwf
      simp only [Cmd.wf, Bool.and_eq_true, decide_eq_true_eq] at hw
      simp only [Cmd.pk] at hpk
      simp only [nestOKc, Bool.and_eq_true, Bool.not_eq_true'] at hnok
      obtain ⟨⟨nB, nF⟩, nL⟩ := hnok
      have hslp : ((p.blkOpen lb).nestPre ss rb).o.singleLine = false := by
        rw [nestPre_o, blkOpen_o]; exact hsl
      simp only [Cmd.ftoks, cmdDN, List.map_cons, List.map_append, List.cons_append, List.append_assoc,
        List.cons.injEq, List.map_nil, List.nil_append] at hd
      have hlb : lb'.line = p.cur := by
        have := congrArg Prod.snd hd.1
        simpa [tinfo, rsrvTok] using this
      have hcur := blkBody_cur p lb rb ss
      have hpre := semiPreD_cases (p.blkBody lb rb ss) rb.line
      rw [hcur] at hpre
      have hKs : SemiAt (((p.blkOpen lb).nestPre ss rb).stmtListLoop true ss).cur
          (semiPreD (p.blkBody lb rb ss) rb.line ++ ((TK.other, ((p.blkBody lb rb ss).semiPre rb.line).cur) :: K)) := by
        rcases hpre with e | e <;> rw [e]
        · exact semiAt_cons_other rfl
        · exact fun x r e' => Or.inr (by rw [List.cons_append, List.cons.injEq] at e'; exact e'.1.symm)
      obtain ⟨tl, haf⟩ := glue_loopN ss ss' _ true _ _ hw.2 nL hslp ⟨hsw', hok3', hsorted', hpk⟩ hn hd.2
        (noSA_cons_other (by simp [tinfo, tkOf, rsrvTok])) hKs
      -- `}` and what follows
      have hk : rb'.line = ((p.blkBody lb rb ss).semiPre rb.line).cur ∧ K' = K :=
        After.close haf (by simp [tinfo, tkOf, rsrvTok]) hpre
      refine ⟨?_, hk.2⟩
      have hhead : ss'.headLine = ((((p.blkOpen lb).nestPre ss rb)).stmtSep true ss.headLine).cur :=
        headLine_of_TrLoop tl hw.1
      have hend : ss'.endLine = (((p.blkOpen lb).nestPre ss rb).stmtListLoop true ss).cur :=
        end_loop ss ss' _ true tl (by intro e; rw [e] at hw; simp [Stmts.length] at hw) hsorted' hslp
      obtain ⟨hagB, hagS⟩ := nestAgree_elim nB hlen hk.1 hhead hend
      simp only [TrCmd]
      exact ⟨hlen, hlb, hagB, hagS, tl, nF, hk.1⟩
theorem glue_loopN : ∀ (ss ss' : Stmts) (p : P) (first : Bool) (K K' : List (TK × Nat)),
    ss.wf = true → nestOKl p first ss = true → p.o.singleLine = false → OKS ss' → ss'.norm = ss.norm →
    ss'.ftoks.map tinfo ++ K' = loopDN p first ss ++ K → NoSA K' → SemiAt (p.stmtListLoop first ss).cur K →
    TrLoop p first ss ss' ∧ After (p.stmtListLoop first ss).cur K K'
  | .nil, .nil => fun p first K K' _ _ _ _ _ hd _ _ => by
    simp only [Stmts.ftoks, loopDN, List.map_nil, List.nil_append] at hd
    exact ⟨by simp [TrLoop], Or.inl hd⟩
  | .nil, .cons _ _ => fun _ _ _ _ _ _ _ _ hn _ _ _ => by simp [Stmts.norm] at hn
  | .cons _ _, .nil => fun _ _ _ _ _ _ _ _ hn _ _ _ => by simp [Stmts.norm] at hn
  | .cons s rest, .cons s' rest' => fun p first K K' hwf hnok hsl ok hn hd hK' hK => by
    obtain ⟨hs, hr⟩ := Stmts.wf_cons hwf
    simp only [nestOKl, Bool.and_eq_true] at hnok
    simp only [Stmts.norm, NStmts.cons.injEq] at hn
    obtain ⟨oks, pks, okr⟩ := ok.cons
    have hsl1 : (p.stmtSep first s.pos.line).o.singleLine = false := by rw [stmtSep_o]; exact hsl
    have hsl2 : ({ ((p.stmtSep first s.pos.line).stmt s) with wantNewline := true } : P).o.singleLine = false := by
      show ((p.stmtSep first s.pos.line).stmt s).o.singleLine = false
      rw [stmt_oN s]; exact hsl1
    simp only [Stmts.ftoks, loopDN, List.map_append, List.append_assoc] at hd
    have hK1' : NoSA (rest'.ftoks.map tinfo ++ K') := by
      cases rest' with
      | nil => simpa [Stmts.ftoks] using hK'
      | cons s2 r2 =>
        obtain ⟨hs2, _⟩ := Stmts.wf_cons okr.wf
        obtain ⟨tp, r, e, k⟩ := ftoks_head_s s2 hs2
        intro x rr hx
        simp only [Stmts.ftoks, e, List.cons_append, List.map_cons, List.cons.injEq] at hx
        rw [← hx.1]
        exact k
    cases rest with
    | nil =>
      cases rest' with
      | cons _ _ => simp [Stmts.norm] at hn
      | nil =>
        simp only [loopDN, List.nil_append] at hd
        rw [loop_cur_last] at hK ⊢
        obtain ⟨ts, haf, _⟩ := glue_stmtN s s' _ none K _ hs hnok.1 hsl1 oks hn.1 pks (by intro bp e; cases e) hd
          (Or.inl ⟨hK1', hK⟩)
        simp only [Stmts.ftoks, List.map_nil, List.nil_append] at haf
        refine ⟨?_, haf⟩
        simp only [TrLoop]
        exact ⟨ts, trivial⟩
    | cons s2 r2 =>
      obtain ⟨hs2, _⟩ := Stmts.wf_cons hr
      obtain ⟨r, e⟩ := stmtDN_head s2 (({ ((p.stmtSep first s.pos.line).stmt s) with wantNewline := true } : P).stmtSep false s2.pos.line) hs2
      have hhead : ∃ rr, loopDN { ((p.stmtSep first s.pos.line).stmt s) with wantNewline := true } false (.cons s2 r2) ++ K =
          (TK.other, (({ ((p.stmtSep first s.pos.line).stmt s) with wantNewline := true } : P).stmtSep false s2.pos.line).cur) :: rr := by
        exact ⟨_, by simp only [loopDN, e, List.cons_append]; rfl⟩
      obtain ⟨rr, ehead⟩ := hhead
      obtain ⟨ts, haf, _⟩ := glue_stmtN s s' _ none _ _ hs hnok.1 hsl1 oks hn.1 pks (by intro bp e; cases e) hd
        (Or.inl ⟨hK1', by rw [ehead]; exact semiAt_cons_other rfl⟩)
      have hd2 := haf.of_other ehead rfl
      have hcur : (p.stmtListLoop first (.cons s (.cons s2 r2))).cur =
          (({ ((p.stmtSep first s.pos.line).stmt s) with wantNewline := true } : P).stmtListLoop false (.cons s2 r2)).cur := by
        rw [P.stmtListLoop]
      rw [hcur] at hK ⊢
      obtain ⟨tr, haf2⟩ := glue_loopN (.cons s2 r2) rest' _ false K K' hr hnok.2 hsl2 okr hn.2 hd2 hK' hK
      refine ⟨?_, haf2⟩
      simp only [TrLoop]
      exact ⟨ts, tr⟩
end

/-- **The parser reads printed text back as a transcript** — all of F0 (subshells and blocks
    included), every option set without SingleLine, under the executable side condition
    `nestOKFile o f`. -/
theorem transcriptN (o : Opts) (l : Lang) (src : Bytes) (f f' : File) (b : Bytes) (hsrc : parse l src = .ok f)
    (hnok : nestOKFile o f = true) (hne : f.stmts ≠ .nil) (hsl : o.singleLine = false)
    (hp : printFile o f = .ok b) (hq : parse l b = .ok f') : TrFile o f f' := by
  obtain ⟨hwf, hmono⟩ := parse_wf_posMono l src f hsrc
  obtain ⟨hwf', hmono'⟩ := parse_wf_posMono l b f' hq
  obtain ⟨f'', h1, hnorm⟩ := roundtrip_gen o l f b hwf hmono hne hp
  rw [hq] at h1
  simp only [Except.ok.injEq] at h1
  subst h1
  obtain ⟨hb, hc⟩ := print_chain o f b hwf hmono hne hp
  obtain ⟨pf, hpf⟩ : ∃ pf, pf = ((P.init o).stmtList f.stmts).newline 0 := ⟨_, rfl⟩
  rw [← hpf] at hb hc
  have hkinds := lexAll_pieces pf.out.reverse hc
  have hlines := lexAll_pieces_lines pf.out.reverse hc
  rw [← hb] at hkinds hlines
  obtain ⟨Le, hbr⟩ := bridge pf.out.reverse false 1 (lexAll b) (lexChain_shape _ hc) hkinds hlines
  have htl : pinfo 1 pf.out.reverse = loopDN (P.init o) true f.stmts := by
    have e1 : pf.tl = ((P.init o).stmtListLoop true f.stmts).tl := by
      rw [hpf]
      unfold P.tl
      have := (P.stmtListWith_out (P.init o) f.stmts (fun q => q.stmtListLoop true f.stmts)).1
      show pinfo 1 (Piece.gap [10] :: ((P.init o).stmtList f.stmts).out).reverse = _
      unfold P.stmtList
      rw [this, List.reverse_cons, pinfo_append]
      simp [pinfo]
    have e2 := tl_loopN f.stmts (P.init o) true hwf hsl
    have e3 : (P.init o).tl = [] := rfl
    rw [e3, List.nil_append] at e2
    exact e1.trans e2
  rw [htl] at hbr
  obtain ⟨tail, hfl, htail⟩ := parse_flatten l b f' hq
  rw [hfl, List.map_append] at hbr
  have ok : OKS f'.stmts := by
    refine ⟨hwf', ?_, hmono', parse_pk l b f' hq⟩
    intro tp htp
    exact lexAll_ok3 b tp (mem_dropNl (by rw [hfl]; exact List.mem_append_left _ htp))
  have hK' : NoSA (tail.map tinfo) := by
    intro x rr e
    cases tail with
    | nil => simp at e
    | cons t0 tr =>
      simp only [List.map_cons, List.cons.injEq] at e
      have := htail t0 rfl
      rw [← e.1]
      simp [tinfo, this, tkOf]
  exact (glue_loopN f.stmts f'.stmts (P.init o) true _ _ hwf hnok hsl ok hnorm hbr hK' (semiAt_cons_other rfl)).1

/-- **Idempotence without SingleLine on all of F0 under the side condition `nestOKFile`.** -/
theorem idempotent_nested (o : Opts) (l : Lang) (src : Bytes) (f f' : File) (b : Bytes) (hsrc : parse l src = .ok f)
    (hnok : nestOKFile o f = true) (hne : f.stmts ≠ .nil) (hsl : o.singleLine = false)
    (hp : printFile o f = .ok b) (hq : parse l b = .ok f') : printFile o f' = .ok b := by
  rw [printFile_fix o f f' hsl (transcriptN o l src f f' b hsrc hnok hne hsl hp hq)]
  exact hp

/-! ## Programs without subshells and blocks: they satisfy the side condition -/

mutual
theorem nestOK_lin_s : ∀ (s : Stmt) (p : P), s.lin = true → nestOKs p s = true
  | .mk _ _ neg _ cmd => fun p h => by
    simp only [nestOKs]
    exact nestOK_lin_c cmd _ (by simpa [Stmt.lin] using h)
theorem nestOK_lin_c : ∀ (c : Cmd) (p : P), c.lin = true → nestOKc p c = true
  | .call _ => fun _ _ => by simp [nestOKc]
  | .binary _ _ x y => fun p h => by
    simp only [Cmd.lin, Bool.and_eq_true] at h
    simp only [nestOKc, Bool.and_eq_true]
    exact ⟨nestOK_lin_s x _ h.1, nestOK_lin_s y _ h.2⟩
  | .subshell _ _ _ => fun _ h => by simp [Cmd.lin] at h
  | .block _ _ _ => fun _ h => by simp [Cmd.lin] at h
end

theorem nestOK_lin_l : ∀ (ss : Stmts) (p : P) (first : Bool), ss.lin = true → nestOKl p first ss = true
  | .nil => fun _ _ _ => by simp [nestOKl]
  | .cons s r => fun p first h => by
    simp only [Stmts.lin, Bool.and_eq_true] at h
    simp only [nestOKl, Bool.and_eq_true]
    exact ⟨nestOK_lin_s s _ h.1, nestOK_lin_l r _ _ h.2⟩

theorem nestOKFile_of_lin (o : Opts) (f : File) (h : f.stmts.lin = true) : nestOKFile o f = true :=
  nestOK_lin_l f.stmts _ _ h

mutual
def stmtD (p : P) : Stmt → List (TK × Nat)
  | .mk _ semi neg bg cmd =>
    (if neg then [(TK.other, p.cur)] else []) ++
      (cmdD (p.stmtPre neg) cmd ++ semiD ((p.stmtPre neg).command cmd) semi bg)
def cmdD (p : P) : Cmd → List (TK × Nat)
  | .call args => callD p args
  | .binary opPos op x y =>
    stmtD ((p.advanceLine x.pos.line).spacePad) x ++
      ((TK.other, opLine (((p.advanceLine x.pos.line).spacePad).stmt x) y.pos.line) ::
        stmtD ((((p.advanceLine x.pos.line).spacePad).stmt x).binaryOp opPos op y.pos.line y.isBinaryCmd).1 y)
  | .subshell _ _ _ => []
  | .block _ _ _ => []
end

mutual
theorem stmtDN_lin : ∀ (s : Stmt) (p : P), s.lin = true → stmtDN p s = stmtD p s
  | .mk _ semi neg bg cmd => fun p h => by
    simp only [stmtDN, stmtD, cmdDN_lin cmd _ (by simpa [Stmt.lin] using h)]
theorem cmdDN_lin : ∀ (c : Cmd) (p : P), c.lin = true → cmdDN p c = cmdD p c
  | .call _ => fun _ _ => by simp only [cmdDN, cmdD]
  | .binary _ _ x y => fun p h => by
    simp only [Cmd.lin, Bool.and_eq_true] at h
    simp only [cmdDN, cmdD, stmtDN_lin x _ h.1, stmtDN_lin y _ h.2]
  | .subshell _ _ _ => fun _ h => by simp [Cmd.lin] at h
  | .block _ _ _ => fun _ h => by simp [Cmd.lin] at h
end

theorem tl_cmd : ∀ (c : Cmd) (p : P), c.wf = true → c.lin = true → p.o.singleLine = false →
    (p.command c).tl = p.tl ++ cmdD p c :=
  fun c p hwf hlin hsl => by rw [tl_cmdN c p hwf hsl, cmdDN_lin c p hlin]

theorem glue_cmd : ∀ (c c' : Cmd) (p : P) (ctxc : Option Pos) (K K' : List (TK × Nat)),
    c.wf = true → c.lin = true → p.o.singleLine = false → OKc c' → c'.norm = c.norm → c'.pk ctxc →
    (∀ bp, ctxc = some bp → bp.line = p.cur) →
    c'.ftoks.map tinfo ++ K' = cmdD p c ++ K → TrCmd p c c' ∧ K' = K :=
  fun c c' p ctxc K K' hwf hlin hsl ok hn hpk hctx hd =>
    glue_cmdN c c' p ctxc K K' hwf (nestOK_lin_c c p hlin) hsl ok hn hpk hctx (by rw [cmdDN_lin c p hlin]; exact hd)

/-- **The parser reads printed text back as a transcript** (programs without subshells and
    blocks, every option set without SingleLine). -/
theorem transcript (o : Opts) (l : Lang) (src : Bytes) (f f' : File) (b : Bytes) (hsrc : parse l src = .ok f)
    (hlin : f.stmts.lin = true) (hne : f.stmts ≠ .nil) (hsl : o.singleLine = false)
    (hp : printFile o f = .ok b) (hq : parse l b = .ok f') : TrFile o f f' :=
  transcriptN o l src f f' b hsrc (nestOKFile_of_lin o f hlin) hne hsl hp hq

/-- **Idempotence without SingleLine on programs without subshells and blocks.** -/
theorem idempotent_linear (o : Opts) (l : Lang) (src : Bytes) (f f' : File) (b : Bytes) (hsrc : parse l src = .ok f)
    (hlin : f.stmts.lin = true) (hne : f.stmts ≠ .nil) (hsl : o.singleLine = false)
    (hp : printFile o f = .ok b) (hq : parse l b = .ok f') : printFile o f' = .ok b :=
  idempotent_nested o l src f f' b hsrc (nestOKFile_of_lin o f hlin) hne hsl hp hq

end ShVerif.L4
