import ShVerif.Model.C25
/-
  C25 — helper lemmas: the two-stage reading of here-document text (Lit parts with their source
  text, unescaped later) against the one-pass specification; the field machine of wordFields
  against splitting atoms at separators.
-/
namespace ShVerif.C25
open ShVerif

theorem unescQ_plain (dq : Bool) {b : UInt8} (hb : (b == bBS) = false) (t : Bytes) :
    unescQ dq (b :: t) = b :: unescQ dq t := by
  cases t with
  | nil => rfl
  | cons c t => rw [unescQ, hb]; rfl

theorem unescQ_pair {b : UInt8} (hb : (b == bBS) = true) (c : UInt8) (t : Bytes) :
    unescQ false (b :: c :: t) =
      (if c == bBS || c == bDollar || c == bBQ then [c] else [b, c]) ++ unescQ false t := by
  rw [unescQ, if_pos hb, Bool.false_and, Bool.or_false]

/-- `unescQ` can be cut at the end of `a`: no escape pair straddles that point. -/
def Cut (a : Bytes) : Prop := ∀ x, unescQ false (a ++ x) = unescQ false a ++ unescQ false x

theorem Cut.nil : Cut [] := fun _ => rfl

theorem Cut.append {a b : Bytes} (ha : Cut a) (hb : Cut b) : Cut (a ++ b) := fun x => by
  rw [List.append_assoc, ha, hb, ha b, List.append_assoc]

theorem Cut.plain {b : UInt8} (hb : (b == bBS) = false) : Cut [b] := fun x => unescQ_plain false hb x

theorem Cut.pair {b : UInt8} (hb : (b == bBS) = true) (c : UInt8) : Cut [b, c] := fun x => by
  rw [List.cons_append, List.cons_append, List.nil_append, unescQ_pair hb, unescQ_pair hb, List.append_assoc]; rfl

theorem expandPartsQ_append (env : Env) (dq : Bool) (a b : List Part) :
    expandPartsQ env dq (a ++ b) =
      (expandPartsQ env dq a).bind fun x => (expandPartsQ env dq b).map (x ++ ·) := by
  induction a with
  | nil => cases h : expandPartsQ env dq b <;> exact h
  | cons p a ih =>
    rw [List.cons_append, expandPartsQ, expandPartsQ, ih]
    cases expandPartQ env dq p with
    | none => rfl
    | some x =>
      cases expandPartsQ env dq a with
      | none => rfl
      | some y =>
        cases expandPartsQ env dq b with
        | none => rfl
        | some z => exact congrArg some (List.append_assoc x y z).symm

theorem expandPartsQ_singleton (env : Env) (dq : Bool) (p : Part) :
    expandPartsQ env dq [p] = expandPartQ env dq p := by
  rw [expandPartsQ, expandPartsQ]
  cases expandPartQ env dq p with
  | none => rfl
  | some x => exact congrArg some (List.append_nil x)

theorem expandPartQ_lit_free (env : Env) (p : Part) (h : ∀ raw, p ≠ .lit raw) :
    expandPartQ env true p = expandPartQ env false p := by
  cases p with
  | lit raw => exact absurd rfl (h raw)
  | param n => rfl
  | paramOp n o w => rfl
  | arith e => rfl

theorem res_map_map {α β γ} (f : α → β) (g : β → γ) (r : Res α) : (r.map f).map g = r.map (g ∘ f) := by
  cases r <;> rfl

theorem res_map_outside {α β} {f : α → β} {r : Res α} (h : r.map f = .outside) : r = .outside := by
  cases r <;> first | rfl | cases h

/-- What `shellExpand` makes of a parse result. -/
def finishDoc (env : Env) : PRes (List Part) → Res Bytes
  | .err => .err
  | .outside => .outside
  | .ok parts =>
    match expandPartsQ env false parts with
    | some v => .ok v
    | none => .outside

/-- The model against a specification that may give up (`outside`) before the model does: equal
    results, except that where the specification gives up the model may still report an error. -/
def Refines {α} (impl spec : Res α) : Prop :=
  match spec with
  | .outside => ∀ v, impl ≠ .ok v
  | _ => impl = spec

theorem Refines.of_eq {α} {impl spec : Res α} (h : impl = spec) : Refines impl spec := by
  subst h
  cases impl <;> first | rfl | (intro v hv; cases hv)

theorem Refines.eq {α} {impl spec : Res α} (h : Refines impl spec) (hs : spec ≠ .outside) : impl = spec := by
  cases spec with
  | outside => exact absurd rfl hs
  | _ => exact h

theorem Refines.ne_outside {α} {impl spec : Res α} {v : α} (h : Refines impl spec) (hv : impl = .ok v) :
    spec ≠ .outside := fun hs => by
  rw [hs] at h; exact h v hv

/-- What has been read so far (the finished parts `acc` and the pending literal text `cur`) expands
    to, if it does. -/
def sofar (env : Env) (acc : List Part) (cur : Bytes) : Option Bytes :=
  (expandPartsQ env false acc).map (· ++ unescQ false cur)

def after (p : Option Bytes) (r : Res Bytes) : Res Bytes :=
  match p with
  | none => .outside
  | some a => r.map (a ++ ·)

theorem after_map (p : Option Bytes) (e : Bytes) (r : Res Bytes) :
    after (p.map (· ++ e)) r = after p (r.map (e ++ ·)) := by
  cases p with
  | none => rfl
  | some a => cases r <;> simp only [after, Option.map, Res.map, List.append_assoc]

theorem after_bind (p q : Option Bytes) (r : Res Bytes) :
    after (p.bind fun a => q.map (a ++ ·)) r =
      after p (match q with | none => .outside | some v => r.map (v ++ ·)) := by
  cases p with
  | none => rfl
  | some a =>
    cases q with
    | none => rfl
    | some v => cases r <;> simp only [after, Option.bind, Option.map, Res.map, List.append_assoc]

theorem refines_outside (p : Option Bytes) : Refines .outside (after p .outside) := by
  cases p <;> intro v hv <;> cases hv

theorem refines_err (p : Option Bytes) : Refines .err (after p .err) := by
  cases p with
  | none => intro v hv; cases hv
  | some a => rfl

theorem sofar_flush (env : Env) (acc : List Part) (cur : Bytes) :
    expandPartsQ env false (if cur.isEmpty then acc else acc ++ [.lit cur]) = sofar env acc cur := by
  unfold sofar
  cases cur with
  | nil =>
    rw [List.isEmpty_nil, if_pos rfl]
    cases expandPartsQ env false acc with
    | none => rfl
    | some a => exact congrArg some (List.append_nil a).symm
  | cons b cur =>
    rw [List.isEmpty_cons, if_neg Bool.false_ne_true, expandPartsQ_append, expandPartsQ_singleton]
    cases expandPartsQ env false acc <;> rfl

theorem finishDoc_flush (env : Env) (acc : List Part) (cur : Bytes) :
    finishDoc env (.ok (if cur.isEmpty then acc else acc ++ [.lit cur])) = after (sofar env acc cur) (.ok []) := by
  rw [finishDoc, sofar_flush]
  cases sofar env acc cur with
  | none => rfl
  | some a => exact congrArg Res.ok (List.append_nil a).symm

theorem sofar_append (env : Env) (acc : List Part) {cur : Bytes} (h : Cut cur) (x : Bytes) :
    sofar env acc (cur ++ x) = (sofar env acc cur).map (· ++ unescQ false x) := by
  unfold sofar
  rw [h x]
  cases expandPartsQ env false acc with
  | none => rfl
  | some a => exact congrArg some (List.append_assoc ..).symm

theorem sofar_part (env : Env) (acc : List Part) (cur : Bytes) (p : Part) :
    sofar env ((if cur.isEmpty then acc else acc ++ [.lit cur]) ++ [p]) [] =
      (sofar env acc cur).bind fun a => (expandPartQ env false p).map (a ++ ·) := by
  rw [sofar, expandPartsQ_append, expandPartsQ_singleton, sofar_flush]
  cases sofar env acc cur with
  | none => rfl
  | some a =>
    cases expandPartQ env false p with
    | none => rfl
    | some v => exact congrArg some (List.append_nil _)

theorem parseDoc_refines (env : Env) : ∀ (fuel : Nat) (input cur : Bytes) (acc : List Part), Cut cur →
    Refines (finishDoc env (parseDoc fuel input cur acc)) (after (sofar env acc cur) (hdocText env fuel input)) := by
  intro fuel
  induction fuel with
  | zero => intro input cur acc _; exact refines_outside _
  | succ fuel ih =>
    intro input cur acc hcut
    -- a literal chunk `x` that the specification reads as `e`: one more step of the same kind
    have lit : ∀ (x e rest : Bytes), Cut x → unescQ false x = e →
        Refines (finishDoc env (parseDoc fuel rest (cur ++ x) acc))
          (after (sofar env acc cur) ((hdocText env fuel rest).map (e ++ ·))) := by
      intro x e rest hx he
      have := ih rest (cur ++ x) acc (hcut.append hx)
      rwa [sofar_append env acc hcut, after_map, he] at this
    cases input with
    | nil =>
      rw [parseDoc, hdocText]
      exact Refines.of_eq (finishDoc_flush env acc cur)
    | cons b rest =>
      unfold parseDoc hdocText
      by_cases h1 : (b == 0 || b == 13 || b == bBQ) = true
      · rw [if_pos h1, if_pos h1]; exact refines_outside _
      · rw [if_neg h1, if_neg h1]
        by_cases h2 : (b == bBS) = true
        · rw [if_pos h2, if_pos h2]
          cases rest with
          | nil =>
            -- the lone final backslash
            have := finishDoc_flush env acc (cur ++ [b])
            rw [if_neg (by simp), sofar_append env acc hcut, after_map] at this
            exact Refines.of_eq this
          | cons c rest' =>
            simp only
            by_cases h3 : (c == 0 || c == 13) = true
            · rw [if_pos h3, if_pos h3]; exact refines_outside _
            · rw [if_neg h3, if_neg h3]
              exact lit [b, c] _ rest' (Cut.pair h2 c) (by rw [unescQ_pair h2]; exact List.append_nil _)
        · rw [if_neg h2, if_neg h2]
          have hb : (b == bBS) = false := Bool.eq_false_iff.mpr h2
          have plain := lit [b] [b] rest (Cut.plain hb) (unescQ_plain false hb [])
          by_cases h4 : (b == bDollar) = true
          · rw [if_pos h4, if_pos h4]
            cases hpd : parseDollar rest with
            | err => exact refines_err _
            | outside => exact refines_outside _
            | ok o =>
              cases o with
              | none => exact plain
              | some pr =>
                have := ih pr.2 [] ((if cur.isEmpty then acc else acc ++ [.lit cur]) ++ [pr.1]) Cut.nil
                rwa [sofar_part, after_bind] at this
          · rw [if_neg h4, if_neg h4]
            exact plain

def fieldsText (fs : List (List FPart)) : List Bytes := fs.map fieldText

/-- The pending field of the machine, as the splitter's state. -/
def stOf (s : WF) : Option Bytes := if s.cur.isEmpty then none else some (fieldText s.cur)

/-- Everything the machine will have produced once the remaining atoms are processed. -/
def out (s : WF) (rest : List Atom) : List Bytes := fieldsText s.fields ++ splitAtoms rest (stOf s)

theorem fieldText_append (a b : List FPart) : fieldText (a ++ b) = fieldText a ++ fieldText b := by
  simp [fieldText]

theorem stOf_of_ne {s : WF} (h : s.cur ≠ []) : stOf s = some (fieldText s.cur) := by
  unfold stOf
  cases hc : s.cur with
  | nil => exact absurd hc h
  | cons p ps => rfl

theorem getD_stOf (s : WF) : (stOf s).getD [] = fieldText s.cur := by
  unfold stOf
  cases s.cur <;> rfl

theorem splitAtoms_text_some (t : Bytes) (rest : List Atom) : ∀ c : Bytes,
    splitAtoms (textAtoms t ++ rest) (some c) = splitAtoms rest (some (c ++ t)) := by
  induction t with
  | nil => intro c; rw [List.append_nil]; rfl
  | cons b t ih =>
    intro c
    have := ih (c ++ [b])
    rw [List.append_assoc] at this
    exact this

theorem splitAtoms_mark (rest : List Atom) (st : Option Bytes) :
    splitAtoms (.mark :: rest) st = splitAtoms rest (some (st.getD [])) := by
  cases st <;> rfl

theorem splitAtoms_mark_text (t : Bytes) (rest : List Atom) (st : Option Bytes) (h : t ≠ [] ∨ st.isSome = true) :
    splitAtoms (.mark :: textAtoms t ++ rest) st = splitAtoms (textAtoms t ++ rest) st := by
  cases st with
  | some c => rfl
  | none =>
    cases t with
    | nil => cases h with
      | inl h => exact absurd rfl h
      | inr h => cases h
    | cons b t => rfl

theorem out_of_cur {s s' : WF} {t : Bytes} (hf : s'.fields = s.fields) (hne : s'.cur ≠ [])
    (ht : fieldText s'.cur = fieldText s.cur ++ t) (rest : List Atom) :
    out s' rest = out s (.mark :: textAtoms t ++ rest) := by
  unfold out
  rw [hf, stOf_of_ne hne, ht, List.cons_append, splitAtoms_mark, splitAtoms_text_some, getD_stOf]

theorem out_add_mark (s : WF) (t : Bytes) (q : Bool) (rest : List Atom) :
    out (s.add ⟨t, q⟩) rest = out s (.mark :: textAtoms t ++ rest) :=
  out_of_cur (s := s) (s' := s.add ⟨t, q⟩) rfl (List.append_ne_nil_of_right_ne_nil _ (List.cons_ne_nil _ _))
    ((fieldText_append s.cur [⟨t, q⟩]).trans (congrArg _ (List.append_nil t))) rest

theorem out_add (s : WF) (t : Bytes) (q : Bool) (rest : List Atom) (h : t ≠ [] ∨ s.cur ≠ []) :
    out (s.add ⟨t, q⟩) rest = out s (textAtoms t ++ rest) := by
  rw [out_add_mark]
  unfold out
  rw [splitAtoms_mark_text t rest _ (h.imp_right fun h => by rw [stOf_of_ne h]; rfl)]

theorem out_flush (s : WF) (rest : List Atom) : out s.flush rest = out s (.sep :: rest) := by
  obtain ⟨fs, cur, ae⟩ := s
  cases cur with
  | nil => rfl
  | cons p ps => simp [out, WF.flush, stOf, fieldsText, splitAtoms]

theorem textAtoms_append (a b : Bytes) : textAtoms (a ++ b) = textAtoms a ++ textAtoms b :=
  List.map_append

theorem valueAtoms_sep {c : UInt8} (h : isIfs c = true) (v : Bytes) (rest : List Atom) :
    valueAtoms (c :: v) ++ rest = .sep :: (valueAtoms v ++ rest) := by
  rw [valueAtoms, List.map_cons, if_pos h]; rfl

theorem valueAtoms_ch {c : UInt8} (h : isIfs c = false) (v : Bytes) (rest : List Atom) :
    valueAtoms (c :: v) ++ rest = textAtoms [c] ++ (valueAtoms v ++ rest) := by
  rw [valueAtoms, List.map_cons, if_neg (by rw [h]; exact Bool.false_ne_true)]; rfl

theorem splitAddAux_out (rest : List Atom) : ∀ (v : Bytes) (s : WF),
    out (splitAddAux s none v) rest = out s (valueAtoms v ++ rest) ∧
    ∀ r, r ≠ [] → out (splitAddAux s (some r) v) rest = out s (textAtoms r ++ (valueAtoms v ++ rest)) := by
  intro v
  induction v with
  | nil => exact fun s => ⟨rfl, fun r hr => out_add s r false _ (Or.inl hr)⟩
  | cons c v ih =>
    intro s
    cases hc : isIfs c with
    | true =>
      rw [valueAtoms_sep hc]
      refine ⟨?_, fun r hr => ?_⟩
      · rw [splitAddAux, if_pos hc, (ih _).1, out_flush]
      · rw [splitAddAux, if_pos hc, (ih _).1, out_flush, out_add s r false _ (Or.inl hr)]
    | false =>
      have hc' : ¬ isIfs c = true := by rw [hc]; exact Bool.false_ne_true
      rw [valueAtoms_ch hc]
      refine ⟨?_, fun r hr => ?_⟩
      · rw [splitAddAux, if_neg hc', (ih s).2 [c] (List.cons_ne_nil _ _)]
      · rw [splitAddAux, if_neg hc', (ih s).2 (r ++ [c]) (List.append_ne_nil_of_right_ne_nil _ (List.cons_ne_nil _ _)),
          textAtoms_append, List.append_assoc]

theorem splitAdd_out (s : WF) (v : Bytes) (rest : List Atom) :
    out (splitAdd s v) rest = out s (valueAtoms v ++ rest) :=
  (splitAddAux_out rest v s).1

/-! the "a quote was seen, so there is a field" invariant -/

def Live (s : WF) : Prop := s.fields ≠ [] ∨ s.cur ≠ []
def Inv (s : WF) : Prop := s.allowEmpty = true → Live s

theorem inv_add (s : WF) (p : FPart) : Inv (s.add p) :=
  fun _ => Or.inr (List.append_ne_nil_of_right_ne_nil _ (List.cons_ne_nil _ _))

theorem inv_flush {s : WF} (h : Inv s) : Inv s.flush := by
  obtain ⟨fs, cur, ae⟩ := s
  cases cur with
  | nil => exact h
  | cons p ps => exact fun _ => Or.inl (List.append_ne_nil_of_right_ne_nil _ (List.cons_ne_nil _ _))

theorem splitAddAux_inv : ∀ (v : Bytes) (s : WF) (run : Option Bytes), Inv s → Inv (splitAddAux s run v) := by
  intro v
  induction v with
  | nil =>
    intro s run h
    cases run with
    | none => exact h
    | some r => exact inv_add s _
  | cons c v ih =>
    intro s run h
    cases run <;> rw [splitAddAux] <;> split
    · exact ih _ _ (inv_flush h)
    · exact ih _ _ h
    · exact ih _ _ (inv_flush (inv_add s _))
    · exact ih _ _ h

theorem dq_fold (env : Env) : ∀ (ps : List Part) (s : WF) (v : Bytes), expandPartsQ env true ps = some v →
    ∃ parts, ps.foldlM (fun (s : WF) p => (expandPartQ env true p).map fun v => s.add ⟨v, true⟩) s =
        some { s with cur := s.cur ++ parts } ∧ fieldText parts = v ∧ (ps ≠ [] → parts ≠ []) := by
  intro ps
  induction ps with
  | nil =>
    intro s v h
    cases h
    exact ⟨[], by rw [List.append_nil]; rfl, rfl, fun h => absurd rfl h⟩
  | cons p ps ih =>
    intro s v h
    rw [expandPartsQ] at h
    cases hp : expandPartQ env true p with
    | none => rw [hp] at h; cases h
    | some a =>
      cases hps : expandPartsQ env true ps with
      | none => rw [hp, hps] at h; cases h
      | some b =>
        rw [hp, hps] at h
        cases h
        obtain ⟨parts, hf, ht, _⟩ := ih (s.add ⟨a, true⟩) b hps
        refine ⟨⟨a, true⟩ :: parts, ?_, congrArg (a ++ ·) ht, fun _ => List.cons_ne_nil _ _⟩
        rw [List.foldlM_cons, hp]
        exact hf.trans (congrArg some (congrArg (fun c => { s with cur := c }) (List.append_assoc ..)))

theorem unbackslash_ne_nil {raw : Bytes} (h : raw ≠ []) : unbackslash raw ≠ [] := by
  cases raw with
  | nil => exact absurd rfl h
  | cons c rest =>
    rw [unbackslash.eq_def]
    simp only
    split
    · cases rest <;> simp
    · simp

theorem unbackslash_nil : unbackslash [] = [] := by rw [unbackslash.eq_def]

theorem natDigits_ne_nil (f n : Nat) : natDigits (f + 1) n ≠ [] := by
  rw [natDigits]
  split <;> simp

theorem showInt_ne_nil (i : Int) : showInt i ≠ [] := by
  unfold showInt
  split
  · simp
  · exact natDigits_ne_nil _ _

/-- A step of the machine and the atoms of the specification: both fail, or the step does to the
    final output what the atoms do, and keeps the invariant. -/
inductive Sim (s : WF) : Option WF → Option (List Atom) → Prop
  | none : Sim s none none
  | some {s' : WF} {as : List Atom} : (∀ rest, out s' rest = out s (as ++ rest)) → (Inv s → Inv s') →
      Sim s (some s') (some as)

theorem out_addIf (s : WF) (t : Bytes) (q : Bool) (rest : List Atom) :
    out (if t.isEmpty then s else s.add ⟨t, q⟩) rest = out s (textAtoms t ++ rest) := by
  cases t with
  | nil => rfl
  | cons b t => exact out_add s _ q rest (Or.inl (List.cons_ne_nil _ _))

theorem inv_addIf {s : WF} (c : Bool) (p : FPart) (h : Inv s) : Inv (if c then s else s.add p) := by
  cases c with
  | true => exact h
  | false => exact inv_add s p

theorem seg_sim (env : Env) (first more : Bool) (s : WF) (seg : Seg) :
    Sim s (segStep env first more s seg) (segAtoms env first more seg) := by
  cases seg with
  | sq v => exact .some (out_add_mark { s with allowEmpty := true } v true) (fun _ => inv_add _ _)
  | dq ps =>
    rw [segStep, segAtoms]
    cases he : expandPartsQ env true ps with
    | none => exact .none
    | some v =>
      cases ps with
      | nil => cases he; exact .some (out_add_mark { s with allowEmpty := true } [] true) (fun _ => inv_add _ _)
      | cons p ps =>
        obtain ⟨parts, hf, ht, hne⟩ := dq_fold env (p :: ps) { s with allowEmpty := true } v he
        simp only [List.isEmpty_cons, Bool.false_eq_true, if_false, hf, Option.map_some]
        have hcur := List.append_ne_nil_of_right_ne_nil s.cur (hne (List.cons_ne_nil _ _))
        exact .some (out_of_cur (s := s) rfl hcur (by rw [← ht]; exact fieldText_append _ _))
          (fun _ _ => Or.inr hcur)
  | unq p =>
    cases p with
    | lit raw =>
      rw [segStep, segAtoms]
      generalize (if first = true then expandUser env raw more else ([], raw)) = pr
      refine .some (fun rest => ?_) (fun hi => inv_addIf _ _ (inv_addIf _ _ hi))
      have h2 : pr.2.isEmpty = (unbackslash pr.2).isEmpty := by
        cases h : pr.2 with
        | nil => rfl
        | cons c r =>
          cases hu : unbackslash (c :: r) with
          | nil => exact absurd hu (unbackslash_ne_nil (List.cons_ne_nil _ _))
          | cons _ _ => rfl
      rw [h2, out_addIf, out_addIf, List.append_assoc]
    | param n => exact .some (splitAdd_out s _) (splitAddAux_inv _ s none)
    | paramOp n o w => exact .some (splitAdd_out s _) (splitAddAux_inv _ s none)
    | arith e =>
      rw [segStep, segAtoms]
      cases evalA env e with
      | none => exact .none
      | some v => exact .some (fun rest => out_add s _ false rest (Or.inl (showInt_ne_nil v))) (fun _ => inv_add _ _)

theorem segLoop_sim (env : Env) : ∀ (segs : List Seg) (first : Bool) (s : WF),
    Sim s (segLoop env first s segs) (wordAtoms env first segs) := by
  intro segs
  induction segs with
  | nil => intro first s; exact .some (fun _ => rfl) id
  | cons seg rest ih =>
    intro first s
    rw [segLoop, wordAtoms]
    have h1 := seg_sim env first (!rest.isEmpty) s seg
    generalize segStep env first (!rest.isEmpty) s seg = o1 at h1 ⊢
    generalize segAtoms env first (!rest.isEmpty) seg = o2 at h1 ⊢
    cases h1 with
    | none => exact .none
    | @some s' as hout hinv =>
      show Sim s (segLoop env false s' rest) ((wordAtoms env false rest).bind fun b => some (as ++ b))
      have h2 := ih false s'
      generalize segLoop env false s' rest = o3 at h2 ⊢
      generalize wordAtoms env false rest = o4 at h2 ⊢
      cases h2 with
      | none => exact .none
      | @some s'' bs hout' hinv' =>
        exact .some (fun r => by rw [hout' r, hout (bs ++ r), List.append_assoc]) (fun hi => hinv' (hinv hi))

/-- What `wordFields` returns from the final state (the `allowEmpty` rescue never fires). -/
theorem finish_eq_out {s : WF} (h : Inv s) :
    (if s.flush.allowEmpty ∧ s.flush.fields.isEmpty then [s.flush.cur] else s.flush.fields).map fieldText = out s [] := by
  obtain ⟨fs, cur, ae⟩ := s
  cases cur with
  | nil =>
    have : ¬ (ae = true ∧ fs = []) := fun ⟨ha, hf⟩ => (h ha).elim (fun h => h hf) (fun h => h rfl)
    simp [WF.flush, this, out, stOf, splitAtoms, fieldsText]
  | cons p ps => simp [WF.flush, out, stOf, splitAtoms, fieldsText]

theorem wordFields_eq_wordArgs (env : Env) (segs : List Seg) :
    wordFields env segs = wordArgs env segs := by
  have h := segLoop_sim env segs true ⟨[], [], false⟩
  unfold wordFields wordArgs
  generalize segLoop env true ⟨[], [], false⟩ segs = o1 at h ⊢
  generalize wordAtoms env true segs = o2 at h ⊢
  cases h with
  | none => rfl
  | @some s as hout hinv =>
    have := finish_eq_out (hinv (fun h => nomatch h))
    rw [hout []] at this
    simp only [Option.map_some, this, List.append_nil]
    rfl

theorem shellExpand_eq_finish (s : Bytes) (env : Env) (hrisk : contRisk false 0 s = false) :
    shellExpand s env =
      finishDoc env (parseDoc ((joinLines false s).length + 1) (joinLines false s) [] []) := by
  unfold shellExpand finishDoc
  rw [hrisk, if_neg Bool.false_ne_true]
  rfl

/-- `hjoin`, `hrisk`: outside the two finding regions (see Props/C25.lean). -/
theorem shellExpand_refines (s : Bytes) (env : Env)
    (hjoin : joinLines false s = bashJoin s) (hrisk : contRisk false 0 s = false) :
    Refines (shellExpand s env) (hdocSem s env) := by
  rw [shellExpand_eq_finish s env hrisk, hjoin]
  have := parseDoc_refines env ((bashJoin s).length + 1) (bashJoin s) [] [] Cut.nil
  unfold hdocSem
  cases h : hdocText env ((bashJoin s).length + 1) (bashJoin s) <;> rw [h] at this <;> exact this

end ShVerif.C25
