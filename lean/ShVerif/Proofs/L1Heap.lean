import ShVerif.Model.L1Heap
/-
  L1 — what an operation on a Go slice can do to the heap of arrays.

  `SliceStep h s h' s'`: an operation given the slice `s` writes no array but the one `s` lies in,
  removes none, and returns a slice that has no storage, lies in `s`'s array, or lies in an array
  the operation allocated.  Every slice operation of the model is such a step, and steps compose.
  `SliceStep.fr`: so when `s` is `Owned n` (no storage, or storage allocated at or after `n`) the
  first `n` arrays are untouched and `s'` is again `Owned n`.
-/
namespace ShVerif.L1

variable {α : Type}

/-- Case analysis on a hypothesis about an `if`, without traversing its branches. -/
theorem of_ite_eq {c : Prop} [Decidable c] {a b r : α} (e : (if c then a else b) = r) :
    (c ∧ a = r) ∨ (¬ c ∧ b = r) := by
  split at e
  · next hc => exact Or.inl ⟨hc, e⟩
  · next hc => exact Or.inr ⟨hc, e⟩

/-- an invariant of the step is an invariant of the fold -/
theorem foldl_inv {β : Type} {P : β → Prop} {f : β → α → β} (hf : ∀ b a, P b → P (f b a)) :
    ∀ (l : List α) (b : β), P b → P (l.foldl f b)
  | [], _, p => p
  | a :: l, b, p => foldl_inv hf l (f b a) (hf b a p)

theorem ListFr.refl {n : Nat} {l : List α} (h : n ≤ l.length) : ListFr n l l := ⟨h, rfl⟩

theorem ListFr.trans {n : Nat} {a b c : List α} (h1 : ListFr n a b) (h2 : ListFr n b c) : ListFr n a c :=
  ⟨h2.1, h2.2.trans h1.2⟩

theorem listFr_append {n : Nat} (l ext : List α) (h : n ≤ l.length) : ListFr n l (l ++ ext) :=
  ⟨by rw [List.length_append]; omega, List.take_append_of_le_length h⟩

theorem listFr_set {n id : Nat} (l : List α) (x : α) (h : n ≤ l.length) (hid : n ≤ id) :
    ListFr n l (l.set id x) :=
  ⟨by rw [List.length_set]; exact h, List.take_set_of_le hid⟩

theorem ListFr.set {n id : Nat} {l l' : List α} (fr : ListFr n l l') (x : α) (hid : n ≤ id) :
    ListFr n l (l'.set id x) := fr.trans (listFr_set l' x fr.1 hid)

theorem ListFr.getElem? {n i : Nat} {l l' : List α} (h : ListFr n l l') (hi : i < n) : l'[i]? = l[i]? := by
  have := congrArg (·[i]?) h.2
  rwa [List.getElem?_take_of_lt hi, List.getElem?_take_of_lt hi] at this

theorem listFr_of_pointwise {n : Nat} {l l' : List α} (hl' : n ≤ l'.length)
    (hp : ∀ i, i < n → l'[i]? = l[i]?) : ListFr n l l' := by
  refine ⟨hl', List.ext_getElem? fun i => ?_⟩
  simp only [List.getElem?_take]
  split
  · next hi => exact hp i hi
  · rfl

theorem ListFr.weaken {n m : Nat} {l l' : List α} (f : ListFr m l l') (hnm : n ≤ m) : ListFr n l l' :=
  listFr_of_pointwise (Nat.le_trans hnm f.1) fun _ hi => f.getElem? (Nat.lt_of_lt_of_le hi hnm)

theorem ListFr.updMap {κ ν : Type} {n id : Nat} {h h' : MapHeap κ ν} (fr : ListFr n h h') (f) (hid : n ≤ id) :
    ListFr n h (updMap h' id f) := fr.set _ hid

theorem length_updArr (h : ArrHeap α) (id : Nat) (f) : (updArr h id f).length = h.length := List.length_set

theorem length_updMap {κ ν : Type} (h : MapHeap κ ν) (id : Nat) (f) : (updMap h id f).length = h.length :=
  List.length_set

/-- A slice header without storage: nothing can be read or written through it, whatever `arr` says. -/
abbrev NoStore (s : Slice) : Prop := s.len = 0 ∧ s.cap = 0

theorem Owned.nil (n : Nat) : Owned n Slice.nil := Or.inl ⟨rfl, rfl⟩
theorem Owned.empty (n : Nat) : Owned n Slice.empty := Or.inl ⟨rfl, rfl⟩

structure SliceStep (h : ArrHeap α) (s : Slice) (h' : ArrHeap α) (s' : Slice) : Prop where
  len : h.length ≤ h'.length
  old : ∀ id, id < h.length → NoStore s ∨ id ≠ s.arr → h'[id]? = h[id]?
  res : NoStore s' ∨ (¬ NoStore s ∧ s'.arr = s.arr) ∨ (h.length ≤ s'.arr ∧ s'.arr < h'.length)

theorem SliceStep.keep (h : ArrHeap α) {s s' : Slice} (r : NoStore s' ∨ (¬ NoStore s ∧ s'.arr = s.arr)) :
    SliceStep h s h s' :=
  ⟨Nat.le_refl _, fun _ _ _ => rfl, r.elim Or.inl fun x => Or.inr (Or.inl x)⟩

theorem SliceStep.refl (h : ArrHeap α) (s : Slice) : SliceStep h s h s :=
  .keep h ((Decidable.em (NoStore s)).imp_right fun x => ⟨x, rfl⟩)

theorem SliceStep.grow {h h' : ArrHeap α} (s : Slice) (fr : ListFr h.length h h') : SliceStep h s h' s :=
  ⟨fr.1, fun _ hid _ => fr.getElem? hid, (SliceStep.refl h s).res.imp_right fun x => x.imp_right fun y => ⟨y.1, Nat.lt_of_lt_of_le y.2 fr.1⟩⟩

theorem SliceStep.write (h : ArrHeap α) (s : Slice) {s' : Slice} (f : List α → List α) (hs : ¬ NoStore s)
    (ea : s'.arr = s.arr) : SliceStep h s (updArr h s.arr f) s' := by
  refine ⟨Nat.le_of_eq (length_updArr _ _ _).symm, fun id _ hid => ?_, Or.inr (Or.inl ⟨hs, ea⟩)⟩
  exact List.getElem?_set_ne (hid.resolve_left hs).symm

theorem SliceStep.alloc (h : ArrHeap α) (s : Slice) (c : List α) {s' : Slice} (ea : s'.arr = h.length) :
    SliceStep h s (h ++ [c]) s' := by
  refine ⟨?_, fun id hid _ => List.getElem?_append_left hid, Or.inr (Or.inr ⟨Nat.le_of_eq ea.symm, ?_⟩)⟩
  all_goals rw [List.length_append, List.length_singleton]; omega

theorem SliceStep.trans {h h1 h2 : ArrHeap α} {s s1 s2 : Slice} (x : SliceStep h s h1 s1)
    (y : SliceStep h1 s1 h2 s2) : SliceStep h s h2 s2 := by
  refine ⟨Nat.le_trans x.len y.len, fun id hid hne => ?_, ?_⟩
  · refine (y.old id (Nat.lt_of_lt_of_le hid x.len) ?_).trans (x.old id hid hne)
    -- `s1` lies in `s`'s array, which is not `id`, or in an array that `h` did not have
    rcases x.res with r | ⟨hs, ea⟩ | ⟨hl, _⟩
    · exact Or.inl r
    · exact Or.inr (ea ▸ hne.resolve_left hs)
    · exact Or.inr (by omega)
  · rcases y.res with r | ⟨hs1, ea1⟩ | ⟨hl, hu⟩
    · exact Or.inl r
    · rcases x.res with r | ⟨hs, ea⟩ | ⟨hl, hu⟩
      · exact absurd r hs1
      · exact Or.inr (Or.inl ⟨hs, ea1.trans ea⟩)
      · exact Or.inr (Or.inr ⟨ea1 ▸ hl, ea1 ▸ Nat.lt_of_lt_of_le hu y.len⟩)
    · exact Or.inr (Or.inr ⟨Nat.le_trans x.len hl, hu⟩)

theorem SliceStep.fr {n : Nat} {h h' : ArrHeap α} {s s' : Slice} (st : SliceStep h s h' s')
    (hn : n ≤ h.length) (ho : Owned n s) : ListFr n h h' ∧ Owned n s' := by
  refine ⟨listFr_of_pointwise (Nat.le_trans hn st.len) fun id hid => ?_, ?_⟩
  · exact st.old id (Nat.lt_of_lt_of_le hid hn) (ho.imp_right fun hs => by omega)
  · rcases st.res with r | ⟨hs, ea⟩ | ⟨hl, _⟩
    · exact Or.inl r
    · exact Or.inr (ea ▸ ho.resolve_left hs)
    · exact Or.inr (Nat.le_trans hn hl)

theorem sliceSet_step {h h' : ArrHeap α} {s : Slice} {i : Nat} {v : α} (e : sliceSet h s i v = some h') :
    SliceStep h s h' s := by
  unfold sliceSet at e
  split at e
  · next hi => cases e; exact .write h s _ (fun x => by omega) rfl
  · cases e

theorem sliceAppend_step [Inhabited α] (g : Grow) (h : ArrHeap α) (s : Slice) (v : α) :
    SliceStep h s (sliceAppend g h s v).1 (sliceAppend g h s v).2 := by
  unfold sliceAppend
  split
  · next hl => dsimp only; exact .write h s _ (fun x => Nat.ne_of_gt (Nat.zero_lt_of_lt hl) x.2) rfl
  · exact .alloc h s _ rfl

theorem sliceAppendList_step [Inhabited α] (g : Grow) (vs : List α) : ∀ (h : ArrHeap α) (s : Slice),
    SliceStep h s (sliceAppendList g h s vs).1 (sliceAppendList g h s vs).2 := by
  induction vs with
  | nil => exact .refl
  | cons v vs ih => exact fun h s => (sliceAppend_step g h s v).trans (ih _ _)

theorem sliceAppendMany_step [Inhabited α] (g : Grow) (h : ArrHeap α) (s : Slice) (vs : List α) :
    SliceStep h s (sliceAppendMany g h s vs).1 (sliceAppendMany g h s vs).2 := by
  unfold sliceAppendMany
  split
  · exact .refl h s
  · next hne =>
    split
    · next hl =>
      dsimp only
      refine .write h s _ (fun x => hne ?_) rfl
      rw [x.2] at hl
      rw [List.length_eq_zero_iff.mp (Nat.eq_zero_of_add_eq_zero_left (Nat.le_zero.mp hl))]; rfl
    · exact .alloc h s _ rfl

/-- `make` takes no slice: it is a step on the nil slice, whose array nobody can mean -/
theorem sliceMake_step [Inhabited α] (h : ArrHeap α) (cs : List α) (cap : Nat) :
    SliceStep h Slice.nil (sliceMake h cs cap).1 (sliceMake h cs cap).2 := by
  unfold sliceMake
  dsimp only
  split
  · exact .keep h (Or.inl ⟨rfl, rfl⟩)
  · exact .alloc h _ _ rfl

/-- `Clone` only reads its argument -/
theorem sliceClone_step [Inhabited α] (g : Grow) (h : ArrHeap α) (s : Slice) :
    SliceStep h Slice.nil (sliceClone g h s).1 (sliceClone g h s).2 := by
  unfold sliceClone
  split
  · exact .keep h (Or.inl ⟨rfl, rfl⟩)
  · split
    · exact .keep h (Or.inl ⟨rfl, rfl⟩)
    · exact .alloc h _ _ rfl

theorem sliceMake_fr [Inhabited α] {n : Nat} (h : ArrHeap α) (cs : List α) (cap : Nat) (hn : n ≤ h.length) :
    ListFr n h (sliceMake h cs cap).1 :=
  ((sliceMake_step h cs cap).fr hn (Owned.nil n)).1

theorem sliceInsert_step [Inhabited α] {g : Grow} {h h' : ArrHeap α} {s s' : Slice} {i : Nat} {v : α}
    (e : sliceInsert g h s i v = some (h', s')) : SliceStep h s h' s' := by
  unfold sliceInsert at e
  rcases of_ite_eq e with ⟨_, e⟩ | ⟨h1, e⟩
  · cases e
  rcases of_ite_eq e with ⟨_, e⟩ | ⟨h2, e⟩
  · have r := sliceAppend_step g h s v
    rw [Option.some.inj e] at r
    exact r
  rcases of_ite_eq e with ⟨_, e⟩ | ⟨_, e⟩
  · cases e; exact .alloc h s _ rfl
  · cases e; exact .write h s _ (fun x => by omega) rfl

theorem sliceDelete_step [Inhabited α] {h h' : ArrHeap α} {s s' : Slice} {i j : Nat}
    (e : sliceDelete h s i j = some (h', s')) : SliceStep h s h' s' := by
  unfold sliceDelete at e
  rcases of_ite_eq e with ⟨_, e⟩ | ⟨h1, e⟩
  · cases e
  rcases of_ite_eq e with ⟨_, e⟩ | ⟨h2, e⟩
  · cases e; exact .refl h s
  · cases e; exact .write h s _ (fun x => by omega) rfl

theorem sliceTo_step (h : ArrHeap α) {s s' : Slice} {k : Nat} (e : sliceTo s k = some s') : SliceStep h s h s' := by
  unfold sliceTo at e
  split at e
  · next hk =>
    cases e
    -- a slice without storage has no capacity to reslice into
    refine .keep h ((Decidable.em (NoStore s)).imp (fun hs => ⟨?_, hs.2⟩) fun hs => ⟨hs, rfl⟩)
    exact Nat.le_zero.mp (hs.2 ▸ hk)
  · cases e

/-- `s[:0]`, which the models write as a header with `len := 0` -/
theorem sliceToZero_step (h : ArrHeap α) (s : Slice) : SliceStep h s h { s with len := 0 } :=
  sliceTo_step h (k := 0) (if_pos (Nat.zero_le _))

theorem sliceFrom_step (h : ArrHeap α) {s s' : Slice} {k : Nat} (e : sliceFrom s k = some s') : SliceStep h s h s' := by
  unfold sliceFrom at e
  split at e
  · cases e
    refine .keep h ((Decidable.em (NoStore s)).imp (fun hs => ⟨?_, ?_⟩) fun hs => ⟨hs, rfl⟩)
    · exact hs.1 ▸ Nat.zero_sub k
    · exact hs.2 ▸ Nat.zero_sub k
  · cases e

theorem mem_aset {κ ν : Type} [DecidableEq κ] {l : List (κ × ν)} {k : κ} {v : ν} {x : κ × ν}
    (hx : x ∈ aset l k v) : x = (k, v) ∨ x ∈ l := by
  induction l with
  | nil => exact Or.inl (List.mem_singleton.mp hx)
  | cons a rest ih =>
    obtain ⟨k', w⟩ := a
    simp only [aset] at hx
    split at hx
    · next hk =>
      rcases List.mem_cons.mp hx with hx | hx
      · left; rw [hx, hk]
      · exact Or.inr (List.mem_cons_of_mem _ hx)
    · rcases List.mem_cons.mp hx with hx | hx
      · right; rw [hx]; exact List.mem_cons_self
      · exact (ih hx).imp_right (List.mem_cons_of_mem _)

theorem alookup_mem {κ ν : Type} [DecidableEq κ] {l : List (κ × ν)} {k : κ} {v : ν}
    (h : alookup l k = some v) : (k, v) ∈ l := by
  induction l with
  | nil => cases h
  | cons a rest ih =>
    obtain ⟨k', w⟩ := a
    simp only [alookup] at h
    split at h
    · next hk => cases h; subst hk; exact List.mem_cons_self
    · exact List.mem_cons_of_mem _ (ih h)

theorem mapClone_fr {κ ν : Type} {n : Nat} (h : MapHeap κ ν) (m : Option Nat) (hn : n ≤ h.length) :
    ListFr n h (mapClone h m).1 ∧ ∀ id, (mapClone h m).2 = some id → n ≤ id := by
  cases m with
  | none => exact ⟨ListFr.refl hn, by intro id e; cases e⟩
  | some id0 => exact ⟨listFr_append h _ hn, by intro id e; cases e; exact hn⟩

theorem mapAlloc_fr {κ ν : Type} {n : Nat} (h : MapHeap κ ν) (m : List (κ × ν)) (hn : n ≤ h.length) :
    ListFr n h (mapAlloc h m).1 ∧ n ≤ (mapAlloc h m).2 :=
  ⟨listFr_append h _ hn, hn⟩

theorem cells_fr {n : Nat} {h h' : ArrHeap α} (s : Slice) (fr : ListFr n h h') (hs : s.len = 0 ∨ s.arr < n) :
    cells h' s = cells h s := by
  unfold cells arrOf
  rcases hs with h0 | hlt
  · rw [h0, List.take_zero, List.take_zero]
  · rw [fr.getElem? hlt]

theorem mapOf_fr {κ ν : Type} {n id : Nat} {h h' : MapHeap κ ν} (fr : ListFr n h h') (hid : id < n) :
    mapOf h' id = mapOf h id :=
  congrArg (·.getD []) (fr.getElem? hid)

theorem map_mapOf_fr {κ ν : Type} {n : Nat} {h h' : MapHeap κ ν} (fr : ListFr n h h') {m : Option Nat}
    (hm : ∀ id, m = some id → id < n) : m.map (mapOf h') = m.map (mapOf h) := by
  cases m with
  | none => rfl
  | some id => exact congrArg some (mapOf_fr fr (hm id rfl))

end ShVerif.L1
