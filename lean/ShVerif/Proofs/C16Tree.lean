import ShVerif.Model.C16
import ShVerif.Proofs.C16Expand
/-
  C16 — well-formed brace expression trees (`canon`, and `canonTop` with free top-level literals),
  their induction principle, and the Go side of `bash_equiv_partial`: on the text of such a tree the
  stack machine of SplitBraces rebuilds the tree.
-/
namespace ShVerif.C16

theorem safeByte_ne (c : UInt8) (h : safeByte c = true) :
    c ≠ cLB ∧ c ≠ cRB ∧ c ≠ cComma ∧ c ≠ cDot ∧ c ≠ cBS ∧ c ≠ cDollar := by
  simp only [safeByte, Bool.and_eq_true, decide_eq_true_eq] at h
  obtain ⟨⟨⟨⟨⟨a, b⟩, c'⟩, d⟩, e⟩, f⟩ := h
  exact ⟨a, b, c', d, e, f⟩

@[simp] theorem lb_ne_rb : (cLB = cRB) = False := by decide
@[simp] theorem lb_ne_comma : (cLB = cComma) = False := by decide
@[simp] theorem lb_ne_dot : (cLB = cDot) = False := by decide
@[simp] theorem lb_ne_bs : (cLB = cBS) = False := by decide
@[simp] theorem lb_ne_dollar : (cLB = cDollar) = False := by decide
@[simp] theorem rb_ne_lb : (cRB = cLB) = False := by decide
@[simp] theorem rb_ne_comma : (cRB = cComma) = False := by decide
@[simp] theorem rb_ne_dot : (cRB = cDot) = False := by decide
@[simp] theorem rb_ne_bs : (cRB = cBS) = False := by decide
@[simp] theorem rb_ne_dollar : (cRB = cDollar) = False := by decide
@[simp] theorem comma_ne_lb : (cComma = cLB) = False := by decide
@[simp] theorem comma_ne_rb : (cComma = cRB) = False := by decide
@[simp] theorem comma_ne_dot : (cComma = cDot) = False := by decide
@[simp] theorem comma_ne_bs : (cComma = cBS) = False := by decide
@[simp] theorem comma_ne_dollar : (cComma = cDollar) = False := by decide
@[simp] theorem dot_ne_lb : (cDot = cLB) = False := by decide
@[simp] theorem dot_ne_rb : (cDot = cRB) = False := by decide
@[simp] theorem dot_ne_comma : (cDot = cComma) = False := by decide
@[simp] theorem dot_ne_bs : (cDot = cBS) = False := by decide
@[simp] theorem dot_ne_dollar : (cDot = cDollar) = False := by decide
@[simp] theorem bs_ne_lb : (cBS = cLB) = False := by decide
@[simp] theorem bs_ne_rb : (cBS = cRB) = False := by decide
@[simp] theorem bs_ne_comma : (cBS = cComma) = False := by decide
@[simp] theorem bs_ne_dot : (cBS = cDot) = False := by decide
@[simp] theorem bs_ne_dollar : (cBS = cDollar) = False := by decide
@[simp] theorem dollar_ne_lb : (cDollar = cLB) = False := by decide
@[simp] theorem dollar_ne_rb : (cDollar = cRB) = False := by decide
@[simp] theorem dollar_ne_comma : (cDollar = cComma) = False := by decide
@[simp] theorem dollar_ne_dot : (cDollar = cDot) = False := by decide
@[simp] theorem dollar_ne_bs : (cDollar = cBS) = False := by decide

def topByte (b : UInt8) : Bool := b ≠ cLB && b ≠ cBS && b ≠ cDollar

theorem topByte_ne (c : UInt8) (h : topByte c = true) : c ≠ cLB ∧ c ≠ cBS ∧ c ≠ cDollar := by
  simp only [topByte, Bool.and_eq_true, decide_eq_true_eq] at h
  exact ⟨h.1.1, h.1.2, h.2⟩

theorem safeByte_top (c : UInt8) (h : safeByte c = true) : topByte c = true := by
  obtain ⟨h1, _, _, _, h5, h6⟩ := safeByte_ne c h
  simp [topByte, h1, h5, h6]

theorem safeLit_ne_nil (v : Bytes) (h : safeLit v = true) : v ≠ [] := by
  intro hv; subst hv; simp [safeLit] at h

theorem safeLit_all (v : Bytes) (h : safeLit v = true) : v.all safeByte = true := by
  simp only [safeLit, Bool.and_eq_true] at h; exact h.2

theorem innerLit_ok (v : Bytes) (h : innerLit v = true) : innerOk v = true := by
  simp only [innerLit, Bool.and_eq_true] at h; exact h.2

theorem innerOk_bytes : ∀ (v : Bytes), innerOk v = true → ∀ c ∈ v, safeByte c = true ∨ c = cDot
  | [], _, c, hc => by cases hc
  | [x], h, c, hc => by
    simp only [innerOk] at h
    simp only [List.mem_singleton] at hc
    subst hc; exact Or.inl h
  | x :: d :: t, h, c, hc => by
    simp only [innerOk, Bool.and_eq_true, Bool.or_eq_true, decide_eq_true_eq] at h
    simp only [List.mem_cons] at hc
    rcases hc with rfl | hc
    · rcases h.1 with h1 | h1
      · exact Or.inl h1
      · exact Or.inr h1.1
    · exact innerOk_bytes (d :: t) h.2 c (by simpa using hc)

theorem innerOk_of_safe : ∀ (v : Bytes), v.all safeByte = true → innerOk v = true
  | [], _ => rfl
  | [x], h => by simpa [innerOk] using h
  | x :: d :: t, h => by
    simp only [List.all_cons, Bool.and_eq_true] at h
    simp only [innerOk, h.1, Bool.true_or, Bool.true_and]
    exact innerOk_of_safe (d :: t) (by simpa using h.2)

theorem safeLit_inner (v : Bytes) (h : safeLit v = true) : innerLit v = true := by
  simp only [safeLit, Bool.and_eq_true] at h
  simp [innerLit, h.1, innerOk_of_safe v h.2]

theorem innerOk_top (v : Bytes) (h : innerOk v = true) : v.all topByte = true := by
  rw [List.all_eq_true]
  intro c hc
  rcases innerOk_bytes v h c hc with h1 | rfl
  · exact safeByte_top c h1
  · decide

def topLit (v : Bytes) : Bool := !v.isEmpty && v.all topByte

theorem topLit_ne_nil (v : Bytes) (h : topLit v = true) : v ≠ [] := by
  intro hv; subst hv; simp [topLit] at h

def canonTopPart : Part → Bool
  | .lit v => topLit v
  | .brace seq elems => canonPart (.brace seq elems)

def canonTop : List Part → Bool
  | [] => true
  | p :: ps => canonTopPart p && canonTop ps && !(p.isLit && headIsLit ps)

@[simp] theorem isLit_lit (v : Bytes) : (Part.lit v).isLit = true := rfl
@[simp] theorem isLit_brace (s : Bool) (e : List Word) : (Part.brace s e).isLit = false := rfl

theorem and_and_not_and : ∀ {a b c d : Bool}, (a && b && !(c && d)) = true →
    a = true ∧ b = true ∧ (c = true → d = false) := by
  decide

theorem canon_cons (p : Part) (ps : List Part) (h : canon (p :: ps) = true) :
    canonPart p = true ∧ canon ps = true ∧ (p.isLit = true → headIsLit ps = false) := by
  rw [canon] at h; exact and_and_not_and h

theorem canonTop_cons (p : Part) (ps : List Part) (h : canonTop (p :: ps) = true) :
    canonTopPart p = true ∧ canonTop ps = true ∧ (p.isLit = true → headIsLit ps = false) := by
  rw [canonTop] at h; exact and_and_not_and h

theorem canon_single (p : Part) (h : canonPart p = true) : canon [p] = true := by
  simp [canon, h, headIsLit]

theorem canonElems_cons (x : Word) (xs : List Word) (h : canonElems (x :: xs) = true) :
    canon x = true ∧ canonElems xs = true := by
  simpa only [canonElems, Bool.and_eq_true] using h

theorem canonElems_mem : ∀ (es : List (List Part)), canonElems es = true → ∀ e ∈ es, canon e = true
  | [], _ => fun _ he => nomatch he
  | x :: xs, h =>
    List.forall_mem_cons.2 ⟨(canonElems_cons x xs h).1, canonElems_mem xs (canonElems_cons x xs h).2⟩

theorem seqShape_mem (elems : List Word) (h : seqShape elems = true) :
    ∀ e ∈ elems, ∃ v, e = [.lit v] ∧ safeLit v = true := by
  intro e he
  have := List.all_eq_true.mp h e he
  match e, this with
  | [.lit v], hv => exact ⟨v, rfl, hv⟩

theorem canon_canonTop (t : List Part) (h : canon t = true) : canonTop t = true := by
  induction t with
  | nil => simp [canonTop]
  | cons p ps ih =>
    obtain ⟨hp, hps, hadj⟩ := canon_cons p ps h
    have hp' : canonTopPart p = true := by
      cases p with
      | lit v =>
        simp only [canonPart, innerLit, Bool.and_eq_true] at hp
        simp only [canonTopPart, topLit, Bool.and_eq_true]
        exact ⟨hp.1, innerOk_top v hp.2⟩
      | brace s e => simpa [canonTopPart] using hp
    simp only [canonTop, hp', ih hps, Bool.true_and, Bool.not_eq_true', Bool.and_eq_false_iff]
    cases hl : p.isLit with
    | false => exact Or.inl rfl
    | true => exact Or.inr (hadj hl)

/-! Induction over `canon` words (`canon_induct`); its four cases are the section variables. -/
section
variable {P : List Part → Prop} (nil : P []) (lit : ∀ v, innerLit v = true → P [.lit v])
  (group : ∀ s elems, canonPart (.brace s elems) = true → (∀ e ∈ elems, canon e = true ∧ P e) →
    P [.brace s elems])
  (cons : ∀ p ps, P [p] → P ps → P (p :: ps))

include lit in
theorem canon_seq_elems (elems : List Word) (h : canonPart (.brace true elems) = true) :
    ∀ e ∈ elems, canon e = true ∧ P e := by
  intro e he
  simp only [canonPart, if_true, Bool.and_eq_true] at h
  obtain ⟨v, rfl, hv⟩ := seqShape_mem elems h.2 e he
  have := safeLit_inner v hv
  exact ⟨canon_single _ this, lit v this⟩

theorem canonElems_of_list (elems : List Word) (h : canonPart (.brace false elems) = true) :
    canonElems elems = true := by
  simp only [canonPart, Bool.false_eq_true, if_false, Bool.and_eq_true] at h
  exact h.2

include nil lit group cons
-- (the linter does not see the uses across the mutual block)
set_option linter.unusedSectionVars false
mutual
theorem canonPart_induct : ∀ (p : Part), canonPart p = true → P [p]
  | .lit v, h => lit v h
  | .brace true elems, h => group true elems h (canon_seq_elems lit elems h)
  | .brace false elems, h =>
    group false elems h (canonElems_induct elems (canonElems_of_list elems h))
theorem canon_induct : ∀ (u : List Part), canon u = true → P u
  | [], _ => nil
  | p :: ps, h =>
    cons p ps (canonPart_induct p (canon_cons p ps h).1) (canon_induct ps (canon_cons p ps h).2.1)
theorem canonElems_induct : ∀ (es : List (List Part)), canonElems es = true →
    ∀ e ∈ es, canon e = true ∧ P e
  | [], _ => fun _ he => nomatch he
  | x :: xs, h =>
    have h' := canonElems_cons x xs h
    List.forall_mem_cons.2 ⟨⟨h'.1, canon_induct x h'.1⟩, canonElems_induct xs h'.2⟩
end
end

theorem canon_of_mem_group (s : Bool) (elems : List Word) (h : canonPart (.brace s elems) = true) :
    ∀ e ∈ elems, canon e = true := by
  cases s with
  | true => exact fun e he => (canon_seq_elems (P := fun _ => True) (fun _ _ => trivial) elems h e he).1
  | false => exact canonElems_mem elems (canonElems_of_list elems h)

theorem canonPart_brace_two (s : Bool) (elems : List Word) (h : canonPart (.brace s elems) = true) :
    ∃ e e' es, elems = e :: e' :: es := by
  cases s with
  | true =>
    simp only [canonPart, if_true, Bool.and_eq_true] at h
    obtain ⟨e0, e1, more, _, rfl, _⟩ := seqValid_cases elems h.1
    exact ⟨_, _, _, rfl⟩
  | false =>
    simp only [canonPart, Bool.false_eq_true, if_false, Bool.and_eq_true, decide_eq_true_eq] at h
    match elems, h.1 with
    | e :: e' :: es, _ => exact ⟨_, _, _, rfl⟩

theorem scan_inner : ∀ (v : Bytes), innerOk v = true → ∀ (st : St) (pend rest : Bytes),
    scan st .normal pend (v ++ rest) = scan st .normal (pend ++ v) rest
  | [], _, st, pend, rest => by simp
  | [c], h, st, pend, rest => by
    obtain ⟨h1, h2, h3, h4, h5, _⟩ := safeByte_ne c h
    exact scan_other _ _ _ _ h5 h1 h3 h4 h2
  | c :: d :: r, h, st, pend, rest => by
    simp only [innerOk, Bool.and_eq_true, Bool.or_eq_true, decide_eq_true_eq] at h
    have ih := scan_inner (d :: r) h.2 st (pend ++ [c]) rest
    rw [List.append_assoc, List.singleton_append] at ih
    rw [← ih]
    rcases h.1 with hc | ⟨rfl, hd⟩
    · obtain ⟨h1, h2, h3, h4, h5, _⟩ := safeByte_ne c hc
      exact scan_other _ _ _ _ h5 h1 h3 h4 h2
    · exact scan_dot_single _ _ _ (by simpa using hd)

theorem scan_top (v : Bytes) (hv : v.all topByte = true) :
    ∀ (st : St) (pend rest : Bytes), st.stack = [] →
      scan st .normal pend (v ++ rest) = scan st .normal (pend ++ v) rest := by
  induction v with
  | nil => intro st pend rest _; simp
  | cons c v ih =>
    intro st pend rest hs
    simp only [List.all_cons, Bool.and_eq_true] at hv
    obtain ⟨h1, h2, _⟩ := topByte_ne c hv.1
    rw [List.cons_append, scan_top_keep _ _ _ _ hs h2 h1, ih hv.2 _ _ _ hs, List.append_assoc]
    rfl

/-- What scanning the text of a word does to the machine: literals go to `pend`, a brace part
    flushes `pend` and is appended. -/
def feed : St → Bytes → List Part → St × Bytes
  | st, pend, [] => (st, pend)
  | st, pend, .lit v :: u => feed st (pend ++ v) u
  | st, pend, .brace s e :: u => feed ((st.flush pend).add (.brace s e)) [] u

theorem addParts_nil (st : St) : st.addParts [] = st := by
  unfold St.addParts
  cases h : st.stack with
  | nil => cases st; simp_all
  | cons f fs => cases st; cases f; simp_all

theorem addParts_addParts (st : St) (a b : List Part) :
    (st.addParts a).addParts b = st.addParts (a ++ b) := by
  unfold St.addParts
  cases h : st.stack with
  | nil => simp
  | cons f fs => simp

theorem flush_nil (st : St) : st.flush [] = st := by simp [St.flush]

theorem flush_ne_nil (st : St) (v : Bytes) (h : v ≠ []) : st.flush v = st.add (.lit v) := by
  simp [St.flush, h]

/-- `pend = [] ∨ headIsLit u = false`: pending bytes would merge with a leading literal of `u`. -/
theorem feed_flush (u : List Part) : canonTop u = true → ∀ (st : St) (pend : Bytes),
    (pend = [] ∨ headIsLit u = false) →
    (feed st pend u).1.flush (feed st pend u).2 = (st.flush pend).addParts u := by
  induction u with
  | nil => intro _ st pend _; simp [feed, addParts_nil]
  | cons p ps ih =>
    intro hc st pend hp
    obtain ⟨hcp, hcps, hadj⟩ := canonTop_cons p ps hc
    cases p with
    | lit v =>
      have hpend : pend = [] := by
        rcases hp with h | h
        · exact h
        · simp [headIsLit] at h
      subst hpend
      simp only [canonTopPart] at hcp
      simp only [feed, List.nil_append]
      rw [ih hcps st v (Or.inr (hadj rfl)), flush_ne_nil _ _ (topLit_ne_nil v hcp), flush_nil,
        St.add, addParts_addParts]
      rfl
    | brace s e =>
      simp only [feed]
      rw [ih hcps _ [] (Or.inl rfl), flush_nil, St.add, addParts_addParts]
      rfl

theorem feed_flush_nil (u : List Part) (hc : canon u = true) (st : St) :
    (feed st [] u).1.flush (feed st [] u).2 = st.addParts u := by
  rw [feed_flush u (canon_canonTop u hc) st [] (.inl rfl), flush_nil]

def ScanFeeds (u : List Part) : Prop :=
  ∀ (st : St) (pend rest : Bytes),
    scan st .normal pend (render u ++ rest) = scan (feed st pend u).1 .normal (feed st pend u).2 rest

/-- `s0 = false ∧ D = []`: every group is opened as a list; a `..` as its first separator makes it a
    sequence. -/
theorem scan_sep (s : Bool) (st : St) (pend r : Bytes) (top : Word) (s0 : Bool) (D : List Word)
    (cur : Word) (fs : List Frame) (hs : st.flush pend = ⟨top, ⟨s0, D, cur⟩ :: fs⟩)
    (h : s0 = s ∨ (s0 = false ∧ D = [])) :
    scan st .normal pend (sepOf s ++ r) = scan ⟨top, ⟨s, D ++ [cur], []⟩ :: fs⟩ .normal [] r := by
  obtain ⟨f, hf, hseq, hdone⟩ := stack_of_flush st pend _ fs (congrArg St.stack hs)
  cases s with
  | false =>
    have : s0 = false := by rcases h with h | h; exact h; exact h.1
    subst this
    rw [sepOf, if_neg (by decide), List.singleton_append, scan_comma _ _ _ (by simp [hf]), hs]
    rfl
  | true =>
    rw [sepOf, if_pos rfl, dots, List.cons_append, List.cons_append, List.nil_append,
      scan_dot_dots _ _ _ f fs hf
        (by rcases h with h | h; exact .inl (hseq.trans h); exact .inr (hdone.trans h.2)), hs]
    rfl

/-- An open group from its element `e` on, the elements `D` being finished already. -/
theorem scan_group (s : Bool) (es : List Word) :
    (∀ e' ∈ es, canon e' = true ∧ ScanFeeds e') →
    ∀ (e : Word), canon e = true → ScanFeeds e →
    ∀ (top : Word) (D : List Word) (fs : List Frame) (rest : Bytes), D ≠ [] →
      (s = true → seqValid (D ++ e :: es) = true) →
      scan ⟨top, ⟨s, D, []⟩ :: fs⟩ .normal []
        (joinSep (sepOf s) (render e :: renderElems es) ++ cRB :: rest) =
      scan ((St.mk top fs).add (.brace s (D ++ e :: es))) .normal [] rest := by
  induction es with
  | nil =>
    intro _ e hce he top D fs rest hD hv
    have hfl := feed_flush_nil e hce ⟨top, ⟨s, D, []⟩ :: fs⟩
    rw [renderElems_nil, joinSep, he, scan_rb _ _ _ (by
      obtain ⟨f, hf, _⟩ := stack_of_flush _ _ _ _ (congrArg St.stack hfl); simp [hf]), hfl]
    congr 1
    obtain ⟨d, ds, rfl⟩ := List.exists_cons_of_ne_nil hD
    cases s with
    | false => rfl
    | true =>
      have := hv rfl
      rw [List.cons_append] at this
      simp [St.closeStep, St.addParts, Frame.elems, this]
  | cons e' es' ih =>
    intro hall e hce he top D fs rest hD hv
    have h' := hall e' (by simp)
    have hfl := feed_flush_nil e hce ⟨top, ⟨s, D, []⟩ :: fs⟩
    rw [renderElems_cons, joinSep, List.append_assoc, List.append_assoc, he,
      scan_sep s _ _ _ top s D ([] ++ e) fs hfl (.inl rfl), List.nil_append,
      ih (fun x hx => hall x (by simp [hx])) e' h'.1 h'.2 top (D ++ [e]) fs rest (by simp)
        (by simpa using hv),
      List.append_assoc]
    rfl

theorem scanFeeds (u : List Part) (hc : canon u = true) : ScanFeeds u := by
  refine canon_induct (P := ScanFeeds) ?_ ?_ ?_ ?_ u hc
  · intro st pend rest; rfl
  · intro v hv st pend rest
    rw [render_cons, renderPart_lit, render_nil, List.append_nil]
    exact scan_inner v (innerLit_ok v hv) st pend rest
  · intro s elems hcp hel st pend rest
    obtain ⟨e, e', es, rfl⟩ := canonPart_brace_two s elems hcp
    have hv : s = true → seqValid (e :: e' :: es) = true := by
      rintro rfl
      simp only [canonPart, if_true, Bool.and_eq_true] at hcp
      exact hcp.1
    have hfl := feed_flush_nil e (hel e (by simp)).1 (st.flush pend).openBrace
    rw [render_cons, render_nil, List.append_nil, renderPart_brace, List.cons_append,
      List.append_assoc, List.singleton_append, scan_lb, renderElems_cons, renderElems_cons, joinSep,
      List.append_assoc, List.append_assoc, (hel e (by simp)).2,
      scan_sep s _ _ _ (st.flush pend).top false [] ([] ++ e) (st.flush pend).stack hfl
        (.inr ⟨rfl, rfl⟩), List.nil_append, List.nil_append,
      scan_group s es (fun x hx => hel x (by simp [hx])) e' (hel e' (by simp)).1 (hel e' (by simp)).2
        _ [e] _ rest (by simp) hv]
    rfl
  · intro p ps h1 h2 st pend rest
    rw [render_cons, List.append_assoc, ← List.append_nil (renderPart p), ← render_nil, ← render_cons,
      h1, h2]
    cases p <;> rfl

theorem scanFeeds_top (u : List Part) : canonTop u = true → ∀ (st : St) (pend rest : Bytes),
    st.stack = [] →
    scan st .normal pend (render u ++ rest) = scan (feed st pend u).1 .normal (feed st pend u).2 rest := by
  induction u with
  | nil => intro _ st pend rest _; rfl
  | cons p ps ih =>
    intro hc st pend rest hs
    obtain ⟨hp, hps, _⟩ := canonTop_cons p ps hc
    rw [render_cons, List.append_assoc]
    cases p with
    | lit v =>
      simp only [canonTopPart, topLit, Bool.and_eq_true] at hp
      rw [renderPart_lit, scan_top v hp.2 st pend _ hs]
      exact ih hps st (pend ++ v) rest hs
    | brace s e =>
      have h1 := scanFeeds _ (canon_single _ hp) st pend (render ps ++ rest)
      rw [render_cons, render_nil, List.append_nil] at h1
      rw [h1]
      exact ih hps _ [] rest (addParts_stack_nil _ _ (flush_stack_nil _ _ hs))

@[simp] theorem hasBrace_nil : hasBrace [] = false := by simp [hasBrace]
@[simp] theorem hasBrace_cons_lit (v : Bytes) (ps : List Part) :
    hasBrace (.lit v :: ps) = hasBrace ps := by simp [hasBrace, Part.isLit]
@[simp] theorem hasBrace_cons_brace (s : Bool) (e : List Word) (ps : List Part) :
    hasBrace (.brace s e :: ps) = true := by simp [hasBrace, Part.isLit]

theorem mem_render_of_hasBrace (t : List Part) (h : hasBrace t = true) : cLB ∈ render t := by
  induction t with
  | nil => simp [hasBrace] at h
  | cons p ps ih =>
    cases p with
    | lit v =>
      simp only [hasBrace_cons_lit] at h
      simp only [render_cons, renderPart_lit, List.mem_append]
      exact Or.inr (ih h)
    | brace s e => simp [renderPart_brace]

theorem allLit_of_not_hasBrace (t : List Part) (h : hasBrace t = false) : t.all Part.isLit = true := by
  induction t with
  | nil => simp
  | cons p ps ih =>
    cases p with
    | lit v => simp only [hasBrace_cons_lit] at h; simp [ih h]
    | brace s e => simp at h

theorem canonTop_parts (t : List Part) (hc : canonTop t = true) : ∀ q ∈ t, canonTopPart q = true := by
  induction t with
  | nil => intro q hq; cases hq
  | cons x xs ih =>
    obtain ⟨h1, h2, _⟩ := canonTop_cons x xs hc
    intro q hq
    simp only [List.mem_cons] at hq
    rcases hq with rfl | hq
    · exact h1
    · exact ih h2 q hq

theorem render_lits_top (a : List Part) (ha : a.all Part.isLit = true)
    (hc : ∀ q ∈ a, canonTopPart q = true) : (render a).all topByte = true := by
  induction a with
  | nil => simp
  | cons x xs ih =>
    cases x with
    | lit v =>
      have hv := hc (.lit v) (by simp)
      simp only [canonTopPart, topLit, Bool.and_eq_true] at hv
      simp only [List.all_cons, isLit_lit, Bool.true_and] at ha
      simp only [render_cons, renderPart_lit, List.all_append, Bool.and_eq_true]
      exact ⟨hv.2, ih ha (fun q hq => hc q (by simp [hq]))⟩
    | brace s e => simp at ha

theorem split_canonTop (t : List Part) (hc : canonTop t = true) (hb : hasBrace t = true) :
    splitBraces (render t) = (t, true) := by
  unfold splitBraces
  rw [if_neg (by simpa using mem_render_of_hasBrace t hb)]
  have hscan := scanFeeds_top t hc ⟨[], []⟩ [] [] rfl
  rw [List.append_nil] at hscan
  have hff := feed_flush t hc ⟨[], []⟩ [] (Or.inl rfl)
  rw [flush_nil] at hff
  simp only [hscan, scan_nil, hff]
  simp [St.addParts, unwind, hb]

theorem split_canonTop_denot (t : List Part) (hc : canonTop t = true) :
    denot (splitBraces (render t)).1 = denot t := by
  cases hb : hasBrace t with
  | true => rw [split_canonTop t hc hb]
  | false =>
    have hall := allLit_of_not_hasBrace t hb
    have htb := render_lits_top t hall (canonTop_parts t hc)
    have hnm : cLB ∉ render t := fun hm =>
      (topByte_ne cLB (List.all_eq_true.mp htb cLB hm)).1 rfl
    unfold splitBraces
    rw [if_pos hnm, denot_allLit t hall]
    simp

theorem split_canon_denot (t : List Part) (hc : canon t = true) :
    denot (splitBraces (render t)).1 = denot t :=
  split_canonTop_denot t (canon_canonTop t hc)

end ShVerif.C16
