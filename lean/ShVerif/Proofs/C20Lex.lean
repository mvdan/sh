import ShVerif.Proofs.C20Num
/-
  C20: the text of a variable that holds a name or an integer literal lexes and parses to the
  expected leaf expression.
-/
namespace ShVerif.C20

theorem parseArith_word (w : Bytes) : parseArith [.word w] = some (.word w) := by rfl
theorem parseArith_minus_word (w : Bytes) :
    parseArith [.sym .minus, .word w] = some (.unary .minus false (.word w)) := by rfl
theorem parseArith_plus_word (w : Bytes) :
    parseArith [.sym .plus, .word w] = some (.unary .plus false (.word w)) := by rfl

theorem lexArith_blanks : ∀ (pre rest : Bytes) (fuel : Nat), IsBlanks pre →
    lexArith (fuel + pre.length) (pre ++ rest) = lexArith fuel rest
  | [], rest, fuel, _ => rfl
  | b :: pre, rest, fuel, h => by
    have hb : isBlankB b = true := h b (List.mem_cons_self ..)
    show lexArith (fuel + pre.length + 1) (b :: (pre ++ rest)) = _
    rw [lexArith]
    simp only [hb, if_true]
    exact lexArith_blanks pre rest fuel (fun c hc => h c (List.mem_cons_of_mem _ hc))

theorem lexArith_only_blanks (post : Bytes) (fuel : Nat) (h : IsBlanks post) :
    lexArith (fuel + 1 + post.length) post = some [] := by
  have := lexArith_blanks post [] (fuel + 1) h
  rw [List.append_nil] at this
  rw [this]
  rfl

theorem takeWhile_word_append (w post : Bytes) (hw : ∀ b ∈ w, isWordB b = true)
    (hp : IsBlanks post) : (w ++ post).takeWhile isWordB = w ∧ (w ++ post).dropWhile isWordB = post := by
  induction w with
  | nil =>
    cases post with
    | nil => simp
    | cons p ps =>
      have : isWordB p = false := blank_not_word (hp p (List.mem_cons_self ..))
      simp [this]
  | cons c w ih =>
    have hc : isWordB c = true := hw c (List.mem_cons_self ..)
    obtain ⟨i1, i2⟩ := ih (fun b hb => hw b (List.mem_cons_of_mem _ hb))
    simp [hc, i1, i2]

theorem lexArith_word (c : UInt8) (w post : Bytes) (fuel : Nat)
    (hc : isWordB c = true) (h35 : c ≠ 35) (hw : ∀ b ∈ w, isWordB b = true) (hp : IsBlanks post) :
    lexArith (fuel + 2 + post.length) (c :: w ++ post) = some [.word (c :: w)] := by
  obtain ⟨h40, h41, _⟩ := word_facts hc
  obtain ⟨t1, t2⟩ := takeWhile_word_append w post hw hp
  have ef : fuel + 2 + post.length = (fuel + 1 + post.length) + 1 := by omega
  rw [ef, List.cons_append, lexArith]
  simp only [word_not_blank hc, Bool.false_eq_true, if_false, h40, h41, hc, true_and, ne_eq, h35,
    not_false_eq_true, if_true, t1, t2]
  rw [lexArith_only_blanks post fuel hp]
  rfl

theorem lexSym_minus {c : UInt8} {r : Bytes} (h45 : c ≠ 45) (h61 : c ≠ 61) :
    lexSym (45 :: c :: r) = some (.minus, c :: r) := by
  -- the arm `45 :: r` applies to a rest that starts with neither `-` nor `=`
  rw [lexSym]
  · exact fun _ h => h45 (List.cons.inj h).1
  · exact fun _ h => h61 (List.cons.inj h).1

theorem lexSym_plus {c : UInt8} {r : Bytes} (h43 : c ≠ 43) (h61 : c ≠ 61) :
    lexSym (43 :: c :: r) = some (.plus, c :: r) := by
  rw [lexSym]
  · exact fun _ h => h43 (List.cons.inj h).1
  · exact fun _ h => h61 (List.cons.inj h).1

theorem lexArith_sym (fuel : Nat) (b : UInt8) (rest r : Bytes) (s : Sym)
    (hb : isBlankB b = false) (h40 : b ≠ 40) (h41 : b ≠ 41) (hw : isWordB b = false)
    (hs : lexSym (b :: rest) = some (s, r)) :
    lexArith (fuel + 1) (b :: rest) = (lexArith fuel r).map (Tok.sym s :: ·) := by
  rw [lexArith]
  simp only [hb, Bool.false_eq_true, if_false, h40, h41, hw, false_and, hs]

theorem parseText_name {v : Bytes} (h : validName v = true) :
    parseText v = some (some (.word v)) := by
  cases v with
  | nil => simp [validName] at h
  | cons c w =>
    simp only [validName, Bool.and_eq_true, List.all_eq_true] at h
    obtain ⟨hc, hw⟩ := h
    have hcn := nameChar_of_start hc
    have := lexArith_word c w [] w.length (word_of_nameChar hcn) (nameChar_ne_hash hcn)
      (fun b hb => word_of_nameChar (hw b hb)) nofun
    simp only [List.append_nil, List.length_nil, Nat.add_zero] at this
    unfold parseText
    have ef : (c :: w).length + 1 = w.length + 2 := by simp
    rw [ef, this]
    simp only []
    rw [parseArith_word]
    rfl

/-- the leaf expression an integer-literal text parses to -/
inductive LitExpr : Expr → Bool → Nat → Prop
  | pos (lit : Bytes) (n : Nat) : specNumber lit = some n → LitExpr (.word lit) false n
  | plus (lit : Bytes) (n : Nat) : specNumber lit = some n →
      LitExpr (.unary .plus false (.word lit)) false n
  | minus (lit : Bytes) (n : Nat) : specNumber lit = some n →
      LitExpr (.unary .minus false (.word lit)) true n

theorem lit_word_shape {lit : Bytes} {n : Nat} (h : specNumber lit = some n) :
    ∃ c w, lit = c :: w ∧ isWordB c = true ∧ c ≠ 35 ∧ (∀ b ∈ w, isWordB b = true) ∧
      c ≠ 43 ∧ c ≠ 45 ∧ c ≠ 61 := by
  obtain ⟨c, w, rfl, h1, h2⟩ := specNumber_starts_digit h
  have hw := specNumber_wordChars h
  have hc := nameChar_of_digit h1 h2
  obtain ⟨_, _, a2, a3, a4⟩ := word_facts (word_of_nameChar hc)
  exact ⟨c, w, rfl, word_of_nameChar hc, nameChar_ne_hash hc,
    fun b hb => hw b (List.mem_cons_of_mem _ hb), a2, a3, a4⟩

theorem lexArith_signed {pre w post : Bytes} {s c : UInt8} {sy : Sym} (hpre : IsBlanks pre)
    (hpost : IsBlanks post) (hc : isWordB c = true) (h35 : c ≠ 35) (hw : ∀ b ∈ w, isWordB b = true)
    (hb : isBlankB s = false) (h40 : s ≠ 40) (h41 : s ≠ 41) (hsw : isWordB s = false)
    (hs : lexSym (s :: (c :: w ++ post)) = some (sy, c :: w ++ post)) :
    lexArith ((pre ++ s :: (c :: w) ++ post).length + 1) (pre ++ s :: (c :: w) ++ post) =
      some [.sym sy, .word (c :: w)] := by
  have ef : (pre ++ s :: (c :: w) ++ post).length + 1 =
      ((w.length + 2 + post.length) + 1) + pre.length := by
    simp; omega
  have e2 : pre ++ s :: (c :: w) ++ post = pre ++ (s :: (c :: w ++ post)) := by simp
  rw [ef, e2, lexArith_blanks pre _ _ hpre, lexArith_sym _ s _ _ sy hb h40 h41 hsw hs,
    lexArith_word c w post w.length hc h35 hw hpost]
  rfl

theorem parseText_intLit {v : Bytes} {neg : Bool} {n : Nat} (h : IntLit v neg n) :
    ∃ e', parseText v = some (some e') ∧ LitExpr e' neg n := by
  cases h with
  | pos pre lit post n hpre hpost hl =>
    obtain ⟨c, w, rfl, hc, h35, hw, _, _, _⟩ := lit_word_shape hl
    refine ⟨.word (c :: w), ?_, LitExpr.pos _ _ hl⟩
    unfold parseText
    have ef : (pre ++ (c :: w) ++ post).length + 1 = (w.length + 2 + post.length) + pre.length := by
      simp; omega
    rw [ef, List.append_assoc, lexArith_blanks pre _ _ hpre, lexArith_word c w post w.length hc h35 hw hpost]
    simp only []
    rw [parseArith_word]
    rfl
  | plus pre lit post n hpre hpost hl =>
    obtain ⟨c, w, rfl, hc, h35, hw, h43, _, h61⟩ := lit_word_shape hl
    refine ⟨.unary .plus false (.word (c :: w)), ?_, LitExpr.plus _ _ hl⟩
    unfold parseText
    rw [lexArith_signed hpre hpost hc h35 hw rfl (by decide) (by decide) rfl (lexSym_plus h43 h61)]
    simp only [Option.map]
    rw [parseArith_plus_word]
  | minus pre lit post n hpre hpost hl =>
    obtain ⟨c, w, rfl, hc, h35, hw, _, h45, h61⟩ := lit_word_shape hl
    refine ⟨.unary .minus false (.word (c :: w)), ?_, LitExpr.minus _ _ hl⟩
    unfold parseText
    rw [lexArith_signed hpre hpost hc h35 hw rfl (by decide) (by decide) rfl (lexSym_minus h45 h61)]
    simp only [Option.map]
    rw [parseArith_minus_word]

end ShVerif.C20
