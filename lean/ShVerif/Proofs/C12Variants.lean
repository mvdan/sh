import ShVerif.Proofs.C12Complete
/-
  C12 — rule variants that provably do not matter on a syntactic class of token lists.
-/
namespace ShVerif.C12
open Tok

structure SameButForAssign (c c' : Cfg) : Prop where
  posix : c'.posix = c.posix
  elseInCmd : c'.elseInCmd = c.elseInCmd
  rsrvAfterIO : c'.rsrvAfterIO = c.rsrvAfterIO
  bangAlone : c'.bangAlone = c.bangAlone
  fnBody : c'.fnBody = c.fnBody
  forBrace : c'.forBrace = c.forBrace
  closerAfterRedir : c'.closerAfterRedir = c.closerAfterRedir

-- `big` is the whole token list: the hypothesis about it survives the descent into sublists.
theorem derives_forAssign {c c' : Cfg} (hc : SameButForAssign c c') (big : List Tok)
    (hbig : ¬ (kFor ∈ big ∧ assign ∈ big)) {nt e ts} (h : Derives c nt e ts) :
    (∀ x ∈ ts, x ∈ big) → Derives c' nt e ts := by
  have hfirst : ∀ neg pre t, firstOK c' neg pre t = firstOK c neg pre t := by
    intro neg pre t; simp [firstOK, hc.rsrvAfterIO, hc.elseInCmd]
  have hfn : ∀ neg t, fnNameOK c' neg t = fnNameOK c neg t := by
    intro neg t; simp [fnNameOK, hc.posix, hc.elseInCmd]
  induction h with
  | program _ ih => intro hs; exact .program (ih hs)
  | l_nil => intro _; exact .l_nil
  | l_nl _ ih => intro hs; exact .l_nl (ih fun x hx => hs x (by simp [hx]))
  | l_last _ hst ih => intro hs; exact .l_last (ih hs) hst
  | l_sep _ hst hsep hal _ ih1 ih2 =>
    intro hs
    exact .l_sep (ih1 fun x hx => hs x (by simp [hx])) hst hsep hal (ih2 fun x hx => hs x (by simp [hx]))
  | l_newl _ hst hal _ ih1 ih2 =>
    intro hs
    exact .l_newl (ih1 fun x hx => hs x (by simp [hx])) hst hal (ih2 fun x hx => hs x (by simp [hx]))
  | stmt _ _ ih1 ih2 =>
    intro hs
    exact .stmt (ih1 fun x hx => hs x (by simp [hx])) (ih2 fun x hx => hs x (by simp [hx]))
  | t_nil => intro _; exact .t_nil
  | t_op hop hal _ _ ih1 ih2 =>
    intro hs
    exact .t_op hop hal (ih1 fun x hx => hs x (by simp [hx])) (ih2 fun x hx => hs x (by simp [hx]))
  | b_plain _ ih => intro hs; exact .b_plain (ih hs)
  | b_bang hba _ hnb ih =>
    intro hs
    exact .b_bang (by rw [hc.bangAlone]; exact hba) (ih fun x hx => hs x (by simp [hx])) hnb
  | b_bangs hba _ hnb ih =>
    intro hs
    exact .b_bangs (by rw [hc.bangAlone]; exact hba) (ih fun x hx => hs x (by simp [hx])) hnb
  | b_bare hba => intro _; exact .b_bare (by rw [hc.bangAlone]; exact hba)
  | pipeline _ _ ih1 ih2 =>
    intro hs
    exact .pipeline (ih1 fun x hx => hs x (by simp [hx])) (ih2 fun x hx => hs x (by simp [hx]))
  | p_nil => intro _; exact .p_nil
  | p_pipe hal _ _ ih1 ih2 =>
    intro hs
    exact .p_pipe hal (ih1 fun x hx => hs x (by simp [hx])) (ih2 fun x hx => hs x (by simp [hx]))
  | c_simple hpr hf hi => intro _; exact .c_simple hpr (by rw [hfirst]; exact hf) hi
  | c_redir hw hr => intro _; exact .c_redir hw hr
  | @c_compound q neg body post _ hpost ih =>
    intro hs
    have := Derives.c_compound (c := c') (neg := neg) (ih fun x hx => hs x (by simp [hx])) hpost
    rw [hc.closerAfterRedir] at this
    exact this
  | f_andor hfb hn _ ih =>
    intro hs
    exact .f_andor (by rw [hc.fnBody]; exact hfb) (by rw [hfn]; exact hn)
      (ih fun x hx => hs x (by simp [hx]))
  | f_command hfb hn _ ih =>
    intro hs
    exact .f_command (by rw [hc.fnBody]; exact hfb) (by rw [hfn]; exact hn)
      (ih fun x hx => hs x (by simp [hx]))
  | f_compound hfb hn _ hsc ih =>
    intro hs
    exact .f_compound (by rw [hc.fnBody]; exact hfb) (by rw [hfn]; exact hn)
      (ih fun x hx => hs x (by simp [hx])) hsc
  | block _ hal ih => intro hs; exact .block (ih fun x hx => hs x (by simp [hx])) hal
  | subshell _ hal ih => intro hs; exact .subshell (ih fun x hx => hs x (by simp [hx])) hal
  | ifc _ hal1 _ _ ih1 ih2 ih3 =>
    intro hs
    exact .ifc (ih1 fun x hx => hs x (by simp [hx])) hal1 (ih2 fun x hx => hs x (by simp [hx]))
      (ih3 fun x hx => hs x (by simp [hx]))
  | i_fi hal => intro _; exact .i_fi hal
  | i_else hal0 _ hal ih => intro hs; exact .i_else hal0 (ih fun x hx => hs x (by simp [hx])) hal
  | i_elif hal0 _ hal1 _ _ ih1 ih2 ih3 =>
    intro hs
    exact .i_elif hal0 (ih1 fun x hx => hs x (by simp [hx])) hal1
      (ih2 fun x hx => hs x (by simp [hx])) (ih3 fun x hx => hs x (by simp [hx]))
  | loop hkw _ hal1 _ hal2 ih1 ih2 =>
    intro hs
    exact .loop hkw (ih1 fun x hx => hs x (by simp [hx])) hal1 (ih2 fun x hx => hs x (by simp [hx])) hal2
  | @forc q hd close e body hfh _ hal ih =>
    intro hs
    have hfor : kFor ∈ big := hs _ (by simp)
    have hfh' : ForHead c' hd close := by
      cases hfh with
      | doLoop hn1 hn2 hit =>
        refine .doLoop hn1 (.inl ?_) hit
        rintro rfl
        exact hbig ⟨hfor, hs _ (by simp)⟩
      | brace hfb hn1 hn2 hit =>
        refine .brace (by rw [hc.forBrace]; exact hfb) hn1 (.inl ?_) hit
        rintro rfl
        exact hbig ⟨hfor, hs _ (by simp)⟩
    exact .forc hfh' (ih fun x hx => hs x (by simp [hx])) hal
  | casec hw _ ih => intro hs; exact .casec hw (ih fun x hx => hs x (by simp [hx]))
  | ci_esac => intro _; exact .ci_esac
  | ci_last hlp hpat hes _ hal ih =>
    intro hs
    exact .ci_last hlp hpat hes (ih fun x hx => hs x (by simp [hx])) hal
  | ci_item hlp hpat hes _ hal _ ih1 ih2 =>
    intro hs
    exact .ci_item hlp hpat hes (ih1 fun x hx => hs x (by simp [hx])) hal
      (ih2 fun x hx => hs x (by simp [hx]))

theorem SameButForAssign.symm {c c' : Cfg} (h : SameButForAssign c c') : SameButForAssign c' c :=
  ⟨h.posix.symm, h.elseInCmd.symm, h.rsrvAfterIO.symm, h.bangAlone.symm, h.fnBody.symm,
   h.forBrace.symm, h.closerAfterRedir.symm⟩

theorem parse_forAssign {c c' : Cfg} (hc : SameButForAssign c c') (ts : List Tok)
    (h : ¬ (kFor ∈ ts ∧ assign ∈ ts)) : parse c ts = parse c' ts :=
  Bool.eq_iff_iff.mpr <| parse_iff_derives.trans <| Iff.trans
    ⟨fun d => derives_forAssign hc ts h d fun _ hx => hx,
     fun d => derives_forAssign hc.symm ts h d fun _ hx => hx⟩ parse_iff_derives.symm

end ShVerif.C12
