import ShVerif.Proofs.C17Ext
/-
  C17 — the whole pattern: one induction along `supp` shows that the reference parse and the
  translation of the same pattern agree token by token (`top_agree`), in every mode, under the
  coverage invariant `Cov`; `regexpOf_spec` restates the result for `regexpOf` / `parseGlob`.
-/
namespace ShVerif.L3

theorem topLoop_tok {m : Mode} {total fuel : Nat} {prev : Rune} {rest : Str} {r : Regex} {p' : Rune}
    {rest' : Str} (h : next m total (2 * total + 4) prev rest = .tok r p' rest') :
    topLoop m total (fuel + 1) prev rest = contTok r (topLoop m total fuel p' rest') := by
  rw [topLoop_succ, h]
  rfl

theorem topLoop_err {m : Mode} {total fuel : Nat} {prev : Rune} {rest : Str} {e : Err}
    (h : next m total (2 * total + 4) prev rest = .err e) :
    topLoop m total (fuel + 1) prev rest = .error e := by
  rw [topLoop_succ, h]

theorem top_agree_nil (m : Mode) (total : Nat) (pos : Pos) (prev : Rune) {fP fT : Nat} (hP : 0 < fP)
    (hT : 0 < fT) : TopAgree m pos (parseSeq m fP prev []) (topLoop m total fT prev []) := by
  obtain _ | fP := fP
  · exact absurd hP (Nat.lt_irrefl _)
  obtain _ | fT := fT
  · exact absurd hT (Nat.lt_irrefl _)
  rw [parseSeq_nil, topLoop_succ, show 2 * total + 4 = (2 * total + 3) + 1 from rfl, next_nil]
  exact .nil

/-- What the induction needs of the rest of the pattern besides `supp`: with extended operators,
    every pattern-list is flat (outside filename mode) or there is none (in filename mode); in
    filename mode `**` is not globstar; where a leading dot is special the pattern has no NUL
    (pattern.go takes NUL for "no previous character"). -/
structure Cov (m : Mode) (rest : Str) : Prop where
  flat : m.ext = true → m.filenames = false → ∃ f, flatGroups m f rest = true
  noList : m.ext = true → m.filenames = true → cLP ∉ rest
  globstar : m.filenames = true → m.noglobstar = true
  nul : dotSens m = true → (0 : Nat) ∉ rest

theorem Cov.step {m : Mode} {rest rest' : Str} (h : Cov m rest) (hs : rest' <:+ rest)
    (hfl : ∀ f, flatGroups m (f + 1) rest = true → flatGroups m f rest' = true) : Cov m rest' := by
  refine ⟨fun hx hnf => ?_, fun hx hf hm => h.noList hx hf (hs.subset hm), h.globstar,
    fun hd hm => h.nul hd (hs.subset hm)⟩
  obtain ⟨f, hf⟩ := h.flat hx hnf
  obtain _ | f := f
  · rw [flatGroups.eq_def] at hf; cases hf
  · exact ⟨f, hfl f hf⟩

theorem Cov.bs {m : Mode} {d : Rune} {rest : Str} (h : Cov m (cBS :: d :: rest)) : Cov m rest :=
  h.step ((List.suffix_cons _ _).trans (List.suffix_cons _ _)) fun f hf => by
    rw [flatGroups_cons, if_pos rfl] at hf; exact hf

theorem Cov.tail {m : Mode} {c : Rune} {rest : Str} (h : Cov m (c :: rest)) (hbs : c ≠ cBS) (hlb : c ≠ cLB)
    (hg : (m.ext && isExtOp c && rest.head? == some cLP) = false) : Cov m rest :=
  h.step (List.suffix_cons _ _) fun f hf => by
    rw [flatGroups_cons, if_neg hbs, hg, if_neg Bool.false_ne_true, if_neg hlb] at hf; exact hf

theorem Cov.bracket {m : Mode} {rest rest' : Str} {neg : Bool} {items : List BItem}
    (h : Cov m (cLB :: rest)) (hsb : scanBracket m.filenames rest = .ok neg items rest') : Cov m rest' :=
  h.step (((List.suffix_cons _ _).trans (scanBracket_suffix hsb)).trans (List.suffix_cons _ _)) fun f hf => by
    rw [flatGroups_cons, if_neg (by decide), show isExtOp cLB = false from rfl, Bool.and_false, Bool.false_and,
      if_neg Bool.false_ne_true, if_pos rfl, hsb] at hf
    exact hf

theorem Cov.notBracket {m : Mode} {rest : Str} (h : Cov m (cLB :: rest))
    (hsb : scanBracket m.filenames rest = .notBracket) : Cov m rest :=
  h.step (List.suffix_cons _ _) fun f hf => by
    rw [flatGroups_cons, if_neg (by decide), show isExtOp cLB = false from rfl, Bool.and_false, Bool.false_and,
      if_neg Bool.false_ne_true, if_pos rfl, hsb] at hf
    exact hf

/-- In filename mode nothing is asked of the lists, so `Cov` passes to every suffix. -/
theorem Cov.suffix_fn {m : Mode} {rest rest' : Str} (h : Cov m rest) (hf : m.filenames = true)
    (hs : rest' <:+ rest) : Cov m rest' :=
  ⟨fun _ hnf => absurd (hnf.symm.trans hf) (by decide), fun hx hf hm => h.noList hx hf (hs.subset hm),
    h.globstar, fun hd hm => h.nul hd (hs.subset hm)⟩

theorem Cov.group {m : Mode} {c : Rune} {rest : Str} (h : Cov m (c :: rest))
    (hg : (m.ext && isExtOp c && rest.head? == some cLP) = true) :
    m.filenames = false ∧ ∃ as rest', flatRest rest.tail = some (as, rest') ∧ Cov m rest' := by
  have hg' := hg
  simp only [Bool.and_eq_true, beq_iff_eq] at hg'
  obtain ⟨⟨hx, hop⟩, hh⟩ := hg'
  have hbs : c ≠ cBS := fun e => by rw [e] at hop; cases hop
  cases hf : m.filenames with
  | true =>
    cases rest with
    | nil => cases hh
    | cons d r => exact absurd (by cases hh; simp) (h.noList hx hf)
  | false =>
    obtain ⟨f, hfl⟩ := h.flat hx hf
    obtain _ | f := f
    · rw [flatGroups.eq_def] at hfl; cases hfl
    rw [flatGroups_cons, if_neg hbs, if_pos hg] at hfl
    cases hfr : flatRest rest.tail with
    | none => rw [hfr] at hfl; cases hfl
    | some p =>
      rw [hfr] at hfl
      exact ⟨rfl, p.1, p.2, rfl, ⟨fun _ _ => ⟨f, hfl⟩, fun _ h' => absurd (hf.symm.trans h') (by decide),
        h.globstar, fun hd => absurd ((dotSens_nofn hf).symm.trans hd) (by decide)⟩⟩

theorem PP.posAfter {m : Mode} {c : Rune} (h0 : dotSens m = true → c ≠ 0) : PP m (posAfter c) c :=
  fun hd => (posAfter_start_iff c).trans ⟨.inr, fun h => h.elim (absurd · (h0 hd)) id⟩

theorem cls_cond {nc : Bool} {items : List BItem} (h : (!(nc && items.any (·.isCls))) = true) :
    nc = false ∨ ∀ i ∈ items, i.isCls = false := by
  cases nc with
  | false => exact .inl rfl
  | true =>
    simp only [Bool.true_and, Bool.not_eq_true', List.any_eq_false] at h
    exact .inr fun i hi => by simpa using h i hi

theorem top_agree (m : Mode) (total : Nat) :
    ∀ (fuelS : Nat) (pos : Pos) (prev : Rune) (rest : Str) (fuelP fuelT : Nat),
      rest.length < fuelP → rest.length < fuelT → rest.length ≤ total →
      supp m false fuelS pos prev rest = true → PP m pos prev → Cov m rest →
      TopAgree m pos (parseSeq m fuelP prev rest) (topLoop m total fuelT prev rest) := by
  intro fuelS
  induction fuelS with
  | zero => intro pos prev rest fuelP fuelT _ _ _ h; rw [supp.eq_def] at h; cases h
  | succ fS ih =>
    intro pos prev rest fuelP fuelT hP hT htot hs hpp hcov
    cases rest with
    | nil => exact top_agree_nil m total pos prev hP hT
    | cons c rest =>
    obtain _ | fP := fuelP
    · exact absurd hP (Nat.not_lt_zero _)
    obtain _ | fT := fuelT
    · exact absurd hT (Nat.not_lt_zero _)
    have hfuel : 2 * total + 4 = (2 * total + 3) + 1 := rfl
    have hP' : rest.length < fP := Nat.lt_of_succ_lt_succ hP
    have hT' : rest.length < fT := Nat.lt_of_succ_lt_succ hT
    have htot' : rest.length ≤ total := Nat.le_of_succ_le htot
    have hc0 : dotSens m = true → c ≠ 0 := fun hd e => hcov.nul hd (e ▸ List.mem_cons_self ..)
    rw [supp_cons] at hs
    by_cases hbs : c = cBS
    · subst hbs
      cases rest with
      | nil =>
        rw [parseSeq_bs_nil, topLoop_err (by rw [hfuel, next_bs_nil])]
        exact .error
      | cons d rest' =>
        rw [if_pos rfl] at hs
        have hs := Bool.and_eq_true_iff.mp hs
        rw [parseSeq_bs, topLoop_tok (by rw [hfuel, next_bs])]
        exact (lit_agree m pos prev d hpp hs.1).cons
          (ih _ d rest' fP fT (Nat.lt_of_succ_lt hP') (Nat.lt_of_succ_lt hT') (Nat.le_of_succ_le htot') hs.2
            (PP.posAfter fun hd e => hcov.nul hd (by rw [e]; simp)) hcov.bs)
    rw [if_neg hbs] at hs
    by_cases hg : (m.ext && isExtOp c && rest.head? == some cLP) = true
    · rw [if_pos hg] at hs
      by_cases hbang : c = cBang
      · rw [if_pos hbang] at hs; cases hs
      rw [if_neg hbang] at hs
      obtain ⟨hnf, as, rest', hfr, hcov'⟩ := hcov.group hg
      obtain ⟨hlen, hsg, hn, hp, htok⟩ := group_agree m hnf total fP pos
        (if (m.filenames && !m.dotglob) = true then Pos.unknown else Pos.mid) prev hg hbang hfr htot' hP'
      rw [hsg] at hs
      rw [hp, topLoop_tok hn]
      exact htok.cons (ih _ cRP rest' fP fT (Nat.lt_trans hlen hP') (Nat.lt_trans hlen hT')
        (Nat.le_trans (Nat.le_of_lt hlen) htot') (Bool.and_eq_true_iff.mp hs).2
        (PP.of_ne (by split <;> decide) (by decide) (by decide)) hcov')
    have hg' : (m.ext && isExtOp c && rest.head? == some cLP) = false := (Bool.not_eq_true _).mp hg
    rw [if_neg hg] at hs
    by_cases hq : c = cQuest
    · subst hq
      rw [if_pos rfl] at hs
      have hs := Bool.and_eq_true_iff.mp hs
      rw [parseSeq_quest m fP prev hg', topLoop_tok (by rw [hfuel, next_quest m total _ prev hg'])]
      exact (any_agree m pos hs.1).cons (ih _ cQuest rest fP fT hP' hT' htot' hs.2
        (PP.of_ne (by decide) (by decide) (by decide)) (hcov.tail hbs (by decide) hg'))
    rw [if_neg hq] at hs
    by_cases hst : c = cStar
    · subst hst
      rw [if_pos rfl] at hs
      cases hf : m.filenames with
      | false =>
        rw [hf, if_pos (by decide)] at hs
        rw [parseSeq_star m fP prev hg' (.inl hf), topLoop_tok (by rw [hfuel, next_star_nofn m total _ prev hg' hf])]
        exact (star_agree_nofn m hf pos .mid).cons (ih _ cStar rest fP fT hP' hT' htot' hs
          (PP.of_ne (by decide) (by decide) (by decide)) (hcov.tail hbs (by decide) hg'))
      | true =>
        have hns := hcov.globstar hf
        rw [hf, hns, if_neg (by decide), Bool.not_true, Bool.false_and, Bool.false_and, Bool.false_and,
          if_neg Bool.false_ne_true, Bool.and_eq_true, Bool.and_eq_true] at hs
        obtain ⟨⟨hs1, hs2⟩, hs3⟩ := hs
        rw [parseSeq_star m fP prev hg' (.inr hns)]
        have htok := star_agree_fn m hf pos prev hpp (by rw [hf]; exact hs1)
        have hppn : PP m (if pos == Pos.mid then Pos.mid else Pos.unknown) cStar :=
          PP.of_ne (by split <;> decide) (by decide) (by decide)
        have hnx := next_star_fn m total (2 * total + 3) prev hg' hf hns
        cases rest with
        | nil => rw [topLoop_tok hnx]; exact htok.cons (top_agree_nil m total _ cStar hP' hT')
        | cons c2 rest2 =>
          by_cases h2 : c2 = cStar
          · -- `**` without globstar: pattern.go takes both stars as one, the reference reads two
            subst h2
            simp only [if_true, List.head?_cons, List.tail_cons, beq_self_eq_true, Bool.and_true,
              Bool.not_eq_true'] at hs2 hs3
            rw [topLoop_tok hnx]
            obtain _ | fP2 := fP
            · exact absurd hP' (Nat.not_lt_zero _)
            rw [parseSeq_star m fP2 cStar (by rw [show isExtOp cStar = true from rfl, Bool.and_true]; exact hs2)
              (.inr hns)]
            exact (htok.cons (ih _ cStar rest2 fP2 fT (Nat.lt_of_succ_lt_succ hP') (Nat.lt_of_succ_lt hT')
              (Nat.le_of_succ_le htot') hs3 hppn
              (hcov.suffix_fn hf ((List.suffix_cons _ _).trans (List.suffix_cons _ _))))).dup_star
          · simp only [h2, if_false] at hs3 hnx
            rw [topLoop_tok hnx]
            exact htok.cons (ih _ cStar (c2 :: rest2) fP fT hP' hT' htot' hs3 hppn
              (hcov.tail hbs (by decide) hg'))
    rw [if_neg hst] at hs
    by_cases hlb : c = cLB
    · subst hlb
      rw [if_pos rfl] at hs
      obtain ⟨hbsup, hs2⟩ := Bool.and_eq_true_iff.mp hs
      have hag := bracket_agree m.filenames rest hbsup
      rw [parseSeq_lb]
      cases hsb : scanBracket m.filenames rest with
      | notBracket =>
        rw [hsb] at hag hs2
        have hbr : bracket m.filenames rest = .literal := hag
        rw [topLoop_tok (by rw [hfuel, next_lb, hbr])]
        have htok := lit_agree m pos prev cLB hpp (by rw [show (cLB == cDot) = false by decide, Bool.and_false]; rfl)
        rw [litTok_ne_dot m prev (by decide : cLB ≠ cDot)] at htok
        exact htok.cons (ih _ cLB rest fP fT hP' hT' htot' hs2 (PP.posAfter fun _ => by decide)
          (hcov.notBracket hsb))
      | malformed e =>
        rw [hsb] at hag
        rw [topLoop_err (e := e)]
        · exact .error
        · rw [hfuel, next_lb]
          rcases (hag : _ ∨ _) with hag | ⟨neg, st, rest', hag, h1, h2⟩
          · rw [hag]
          · rw [hag]; simp only [h1, Bool.false_eq_true, if_false, h2]
      | ok neg items rest' =>
        rw [hsb] at hag hs2
        obtain ⟨st, hbr, h1, h2, hcc, hmem⟩ := hag
        simp only [Bool.and_eq_true] at hs2
        obtain ⟨⟨⟨hsl, hncls⟩, hdot⟩, hs3⟩ := hs2
        have hlen : rest'.length < rest.length := (scanBracket_suffix hsb).length_le
        rw [topLoop_tok (r := .set neg st.items) (p' := cRB) (rest' := rest')
          (by rw [hfuel, next_lb, hbr]; simp only [h1, Bool.false_eq_true, if_false, h2])]
        exact (bracket_tok m pos neg items st.items hcc (fun x => hmem m.nocase x (cls_cond hncls)) hsl hdot).cons
          (ih _ cRB rest' fP fT (Nat.lt_trans hlen hP') (Nat.lt_trans hlen hT')
            (Nat.le_trans (Nat.le_of_lt hlen) htot') hs3
            (PP.of_ne (by decide) (by decide) (by decide)) (hcov.bracket hsb))
    · rw [if_neg hlb, Bool.false_and, if_neg Bool.false_ne_true] at hs
      have hs := Bool.and_eq_true_iff.mp hs
      rw [parseSeq_lit m fP prev hbs hq hst hlb hg', topLoop_tok (by rw [hfuel, next_lit m total _ prev hbs hq hst hlb hg'])]
      exact (lit_agree m pos prev c hpp hs.1).cons
        (ih _ c rest fP fT hP' hT' htot' hs.2 (PP.posAfter hc0) (hcov.tail hbs hlb hg'))

theorem regexpOf_entire {m : Mode} (he : m.entire = true) (p : Str) :
    regexpOf m p =
      match topLoop m p.length (p.length + 1) 0 p with
      | .error e => .error e
      | .ok (body, negs) =>
        if negs.isEmpty then
          .ok { plain := false, nocase := m.nocase, shortest := m.shortest, entire := m.entire, body := body }
        else .error (.negExt negs) := by
  unfold regexpOf
  simp [he]
  rfl

theorem regexpOf_spec {m : Mode} {p : Str} (he : m.entire = true) (hs : supported m p = true)
    (hc : Cov m p) :
    (∀ e, parseGlob m p = .error e → regexpOf m p = .error e) ∧
    (∀ g, parseGlob m p = .ok g → ∃ t, regexpOf m p = .ok t ∧ goCompiles t.body = true ∧
      ∀ s, t.matches s = true ↔ GDen m g true s) := by
  have ha := top_agree m p.length (p.length + 1) .start 0 p (p.length + 1) (p.length + 1)
    (Nat.lt_succ_self _) (Nat.lt_succ_self _) (Nat.le_refl _) hs (fun _ => ⟨fun _ => .inl rfl, fun _ => rfl⟩) hc
  rw [regexpOf_entire he]
  unfold parseGlob
  generalize parseSeq m (p.length + 1) 0 p = pr at ha
  generalize topLoop m p.length (p.length + 1) 0 p = t at ha
  cases ha with
  | error => exact ⟨fun e h => by cases h; rfl, fun g h => (nomatch h)⟩
  | ok hcomp hsem =>
    refine ⟨fun e h => (nomatch h), fun g h => ?_⟩
    cases h
    refine ⟨_, rfl, hcomp, fun s => ?_⟩
    simp only [Top.matches, he, if_true]
    rw [rmatch_iff]
    exact hsem true s fun _ => ⟨fun _ => rfl, fun h => (nomatch h)⟩

/-- The three regions of the property file, as `Cov`.  Of the third region `Cov` does not need
    `cLB ∉ p ∨ cSlash ∉ p` (`supported` already keeps slashes out of bracket expressions), and needs
    `0 ∉ p` only where a leading dot is special. -/
theorem Cov.of_regions {m : Mode} {p : Str}
    (h : (m.filenames = false ∧ m.ext = false) ∨
      (m.filenames = false ∧ m.ext = true ∧ flatLists m p = true) ∨
      (m.filenames = true ∧ m.noglobstar = true ∧ (cLB ∉ p ∨ cSlash ∉ p) ∧ (m.ext = false ∨ cLP ∉ p) ∧
        (0 : Nat) ∉ p)) : Cov m p := by
  have hds : ∀ {P : Prop}, m.filenames = false → dotSens m = true → P :=
    fun hf hd => absurd ((dotSens_nofn hf).symm.trans hd) (by decide)
  rcases h with ⟨hf, hx⟩ | ⟨hf, hx, hl⟩ | ⟨hf, hns, _, hl, hz⟩
  · exact ⟨fun h => absurd (hx.symm.trans h) (by decide), fun h => absurd (hx.symm.trans h) (by decide),
      fun h => absurd (hf.symm.trans h) (by decide), hds hf⟩
  · exact ⟨fun _ _ => ⟨_, hl⟩, fun _ h => absurd (hf.symm.trans h) (by decide),
      fun h => absurd (hf.symm.trans h) (by decide), hds hf⟩
  · exact ⟨fun _ h => absurd (h.symm.trans hf) (by decide),
      fun hx _ => hl.elim (fun h => absurd (h.symm.trans hx) (by decide)) id, fun _ => hns, fun _ => hz⟩

/-! glue for the counter-examples of Props/C17.lean -/

def okTop : Except Err Top → Option Top
  | .ok t => some t
  | .error _ => none

def errOf : Except Err Top → Option Err
  | .ok _ => none
  | .error e => some e

def isPanic : MRes → Bool
  | .panic => true
  | _ => false

theorem eq_ok_of_okTop {r : Except Err Top} {t : Top} (h : okTop r = some t) : r = .ok t := by
  cases r with
  | ok t' => simp [okTop] at h; rw [h]
  | error e => simp [okTop] at h

theorem eq_error_of_errOf {r : Except Err Top} {e : Err} (h : errOf r = some e) : r = .error e := by
  cases r with
  | ok t' => simp [errOf] at h
  | error e' => simp [errOf] at h; rw [h]

end ShVerif.L3
