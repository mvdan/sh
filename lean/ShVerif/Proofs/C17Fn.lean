import ShVerif.Proofs.C17Tok
/-
  C17 — the slash invariant of the filename modes: a subject the reference matches has exactly as
  many slashes as the pattern has literal-slash tokens.
-/
namespace ShVerif.L3

/-- Patterns whose tokens are characters, `?`, `*` and bracket expressions (no `**`, no list). -/
def simpleGlob : Glob → Bool
  | .eps => true
  | .lit _ => true
  | .any => true
  | .star => true
  | .bracket _ _ => true
  | .seq a b => simpleGlob a && simpleGlob b
  | _ => false

def litSlashes : Glob → Nat
  | .lit c => if c == cSlash then 1 else 0
  | .seq a b => litSlashes a + litSlashes b
  | _ => 0

theorem count_zero_of_forall {s : Str} (h : ∀ x ∈ s, x ≠ cSlash) : s.count cSlash = 0 := by
  induction s with
  | nil => rfl
  | cons x s ih =>
    have hx : x ≠ cSlash := h x (List.mem_cons_self ..)
    have : (x == cSlash) = false := beq_false_of_ne hx
    rw [List.count_cons, ih (fun y hy => h y (List.mem_cons_of_mem _ hy))]
    simp [this]

/-- In filename mode every slash of a matched subject is consumed by a literal-slash token:
    `?`, `*` and bracket expressions consume none. -/
theorem GDen_slashes (m : Mode) (hf : m.filenames = true) : ∀ (g : Glob), simpleGlob g = true →
    ∀ b s, GDen m g b s → s.count cSlash = litSlashes g := by
  have one : ∀ b x, wildOk m b x = true → [x].count cSlash = 0 := by
    intro b x hx
    simp [((wildOk_fn hf b x).mp hx).1]
  intro g
  induction g with
  | eps => intro _ b s h; simp only [GDen] at h; subst h; rfl
  | lit c =>
    intro _ b s h
    simp only [GDen] at h
    obtain ⟨x, rfl, hx⟩ := h
    simp only [litSlashes]
    by_cases hc : c = cSlash
    · have : x = cSlash := (chEq_slash_iff hx).mpr hc
      subst this; subst hc; rfl
    · have hxs : x ≠ cSlash := fun e => hc ((chEq_slash_iff hx).mp e)
      have e1 : (c == cSlash) = false := beq_false_of_ne hc
      have e2 : (x == cSlash) = false := beq_false_of_ne hxs
      simp [e1, List.count_cons, e2]
  | any => intro _ b s h; obtain ⟨x, rfl, hx⟩ := h; exact one b x hx
  | star =>
    intro _ b s h
    exact count_zero_of_forall ((StarDen_fn hf b s).mp h).1
  | bracket neg items => intro _ b s h; obtain ⟨x, rfl, hx, _⟩ := h; exact one b x hx
  | globstar sl => intro h; simp [simpleGlob] at h
  | seq g1 g2 ih1 ih2 =>
    intro hs b s h
    simp only [simpleGlob, Bool.and_eq_true] at hs
    simp only [GDen] at h
    obtain ⟨s1, s2, rfl, h1, h2⟩ := h
    rw [List.count_append, ih1 hs.1 b s1 h1, ih2 hs.2 _ s2 h2]
    rfl
  | alt g1 g2 _ _ => intro h; simp [simpleGlob] at h
  | ext op g _ => intro h; simp [simpleGlob] at h

theorem simple_andThenG {tok : Glob} {pr : Except Err Glob} {g : Glob} (ht : simpleGlob tok = true)
    (hr : ∀ g', pr = .ok g' → simpleGlob g' = true) (h : andThenG tok pr = .ok g) : simpleGlob g = true := by
  cases pr with
  | error e => simp [andThenG] at h
  | ok g' =>
    simp only [andThenG] at h
    cases h
    simp [simpleGlob, ht, hr g' rfl]

theorem simple_litTok (m : Mode) (prev c : Rune) : simpleGlob (litTok m prev c) = true := by
  unfold litTok; split <;> rfl

theorem head_ne_of_not_mem {a : Nat} {l : Str} (h : a ∉ l) : (l.head? == some a) = false := by
  cases l with
  | nil => rfl
  | cons x r =>
    have : x ≠ a := fun e => h (by simp [e])
    simp [this]

theorem parse_simple (m : Mode) (hns : m.noglobstar = true) : ∀ (fuel : Nat) (prev : Rune) (rest : Str),
    (m.ext = false ∨ cLP ∉ rest) → ∀ g, parseSeq m fuel prev rest = .ok g → simpleGlob g = true := by
  intro fuel
  induction fuel with
  | zero => intro prev rest _ g h; rw [parseSeq.eq_def] at h; cases h; rfl
  | succ f ih =>
    intro prev rest hnl g h
    cases rest with
    | nil => rw [parseSeq_nil] at h; cases h; rfl
    | cons c rest =>
      have hsub : ∀ {r : Str}, r <:+ rest → m.ext = false ∨ cLP ∉ r := fun hs =>
        hnl.imp id fun h hm => h (List.mem_cons_of_mem _ (hs.subset hm))
      have hg : (m.ext && isExtOp c && rest.head? == some cLP) = false := by
        rcases hnl with h | h
        · rw [h]; rfl
        · rw [head_ne_of_not_mem fun hm => h (List.mem_cons_of_mem _ hm), Bool.and_false]
      have step : ∀ {tok : Glob} {p' : Rune} {r : Str}, simpleGlob tok = true → r <:+ rest →
          andThenG tok (parseSeq m f p' r) = .ok g → simpleGlob g = true :=
        fun ht hs h => simple_andThenG ht (fun g' hg' => ih _ _ (hsub hs) g' hg') h
      by_cases hbs : c = cBS
      · subst hbs
        cases rest with
        | nil => rw [parseSeq_bs_nil] at h; cases h
        | cons d rest' => rw [parseSeq_bs] at h; exact step (simple_litTok m prev d) (List.suffix_cons _ _) h
      by_cases hq : c = cQuest
      · subst hq; rw [parseSeq_quest m f prev hg] at h; exact step rfl (List.suffix_refl _) h
      by_cases hst : c = cStar
      · subst hst; rw [parseSeq_star m f prev hg (.inr hns)] at h; exact step rfl (List.suffix_refl _) h
      by_cases hlb : c = cLB
      · subst hlb
        rw [parseSeq_lb] at h
        cases hsb : scanBracket m.filenames rest with
        | notBracket => rw [hsb] at h; exact step rfl (List.suffix_refl _) h
        | malformed e => rw [hsb] at h; cases h
        | ok neg items rest' =>
          rw [hsb] at h
          exact step rfl ((List.suffix_cons _ _).trans (scanBracket_suffix hsb)) h
      rw [parseSeq_lit m f prev hbs hq hst hlb hg] at h
      exact step (simple_litTok m prev c) (List.suffix_refl _) h

end ShVerif.L3
