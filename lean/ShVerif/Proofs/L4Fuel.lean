/-
  L4: the fuel the model parser gives itself (`parseFuelFor toks = 6·|toks| + 8`) is never used up:
  `parse l src ≠ .error .outOfFuel` for every input.  Every level of the recursion consumes a
  token before the same function is entered again, and there are at most six levels between two
  such entries; the claims below bound the fuel each function needs by `6·|unread tokens| + c`.
-/
import ShVerif.Proofs.L4ParseStep
namespace ShVerif.L4

def OkLen {α : Type} (r : Except ParseErr (α × PS)) (L : Nat) : Prop :=
  r ≠ .error .outOfFuel ∧ ∀ a ps', r = .ok (a, ps') → ps'.toks.length ≤ L

def OkLenS (r : Except ParseErr (Option Stmt × PS)) (L : Nat) : Prop :=
  OkLen r L ∧ ∀ s ps', r = .ok (some s, ps') → ps'.toks.length < L

theorem OkLen.err {α : Type} {e : ParseErr} (h : e ≠ .outOfFuel) (L : Nat) :
    OkLen (.error e : Except ParseErr (α × PS)) L :=
  ⟨(fun c => h (by cases c; rfl)), (fun _ _ c => by cases c)⟩

theorem OkLen.ok {α : Type} {a : α} {ps : PS} {L : Nat} (h : ps.toks.length ≤ L) :
    OkLen (.ok (a, ps) : Except ParseErr (α × PS)) L :=
  ⟨(fun c => by cases c), (fun _ _ c => by cases c; exact h)⟩

theorem OkLen.error_ne {α : Type} {r : Except ParseErr (α × PS)} {L : Nat} {e : ParseErr} (h : OkLen r L)
    (hr : r = .error e) : e ≠ .outOfFuel :=
  fun c => h.1 (by rw [hr, c])

theorem OkLen.mono {α : Type} {r : Except ParseErr (α × PS)} {L L' : Nat} (h : OkLen r L) (hl : L ≤ L') : OkLen r L' :=
  ⟨h.1, fun a ps' e => Nat.le_trans (h.2 a ps' e) hl⟩

theorem OkLenS.err {e : ParseErr} (h : e ≠ .outOfFuel) (L : Nat) : OkLenS (.error e) L :=
  ⟨OkLen.err h L, fun _ _ c => by cases c⟩

theorem OkLenS.none {ps : PS} {L : Nat} (h : ps.toks.length ≤ L) : OkLenS (.ok (none, ps)) L :=
  ⟨OkLen.ok h, fun _ _ c => by cases c⟩

theorem OkLenS.some {s : Stmt} {ps : PS} {L : Nat} (h : ps.toks.length < L) : OkLenS (.ok (some s, ps)) L :=
  ⟨OkLen.ok (Nat.le_of_lt h), fun _ _ c => by cases c; exact h⟩

/-- the parser's `if`s are taken one at a time -/
theorem OkLen.ite {α : Type} {c : Prop} [Decidable c] {x y : Except ParseErr (α × PS)} {L : Nat}
    (hx : c → OkLen x L) (hy : ¬c → OkLen y L) : OkLen (if c then x else y) L := by
  split
  · exact hx ‹_›
  · exact hy ‹_›

theorem OkLenS.ite {c : Prop} [Decidable c] {x y : Except ParseErr (Option Stmt × PS)} {L : Nat}
    (hx : c → OkLenS x L) (hy : ¬c → OkLenS y L) : OkLenS (if c then x else y) L := by
  split
  · exact hx ‹_›
  · exact hy ‹_›

theorem PS.next_len (ps : PS) : ps.next.toks.length ≤ ps.toks.length := by
  unfold PS.next
  simp

theorem PS.next_len_lt {ps : PS} (h : ps.toks ≠ []) : ps.next.toks.length < ps.toks.length := by
  unfold PS.next
  cases ht : ps.toks with
  | nil => exact absurd ht h
  | cons a r => simp

theorem PS.gotNewl_len (ps : PS) : ps.gotNewl.2.toks.length ≤ ps.toks.length := by
  unfold PS.gotNewl
  split
  · exact PS.next_len ps
  · exact Nat.le_refl _

theorem PS.toks_ne_of_tok {ps : PS} {t : Tok} (h : ps.tok = t) (hne : t ≠ .eof) : ps.toks ≠ [] := by
  intro e
  obtain ⟨toks⟩ := ps
  simp only at e
  subst e
  simp only [PS.tok] at h
  exact hne h.symm

theorem PS.toks_ne_of_isLit {ps : PS} {v : Bytes} (h : ps.tok.isLit v = true) : ps.toks ≠ [] := by
  obtain ⟨w, p, rest, e1, _, _⟩ := PS.isLit_toks h
  rw [e1]; simp

theorem callArgs_nf : ∀ (fuel : Nat) (inSub : Bool) (ps : PS) (acc : List Word), ps.toks.length + 1 ≤ fuel →
    OkLen (callArgs fuel inSub ps acc) ps.toks.length := by
  intro fuel
  induction fuel with
  | zero => intro inSub ps acc h; omega
  | succ n ih =>
    intro inSub ps acc h
    obtain ⟨toks⟩ := ps
    cases toks with
    | nil => simp only [callArgs, PS.tok]; exact OkLen.ok (Nat.le_refl _)
    | cons tp rest =>
      obtain ⟨t, p⟩ := tp
      have hrec : ∀ a, OkLen (callArgs n inSub ⟨rest⟩ a) (rest.length + 1) :=
        fun a => (ih inSub ⟨rest⟩ a (by simp at h ⊢; omega)).mono (Nat.le_succ _)
      cases t with
      | word w lit =>
        cases lit with
        | none => simp only [callArgs, PS.tok_cons, PS.next_cons]; exact hrec _
        | some v =>
          simp only [callArgs, PS.tok_cons, PS.next_cons]
          exact .ite (fun _ => .err (by simp) _) fun _ => hrec _
      | rparen =>
        simp only [callArgs, PS.tok_cons]
        exact .ite (fun _ => .ok (Nat.le_refl _)) fun _ => .err (by simp) _
      | eof | newl | semi | amp | andAnd | orOr | pipe =>
        simp only [callArgs, PS.tok_cons]; exact OkLen.ok (Nat.le_refl _)
      | lparen | outside | unclosedQuote => simp only [callArgs, PS.tok_cons]; exact OkLen.err (by simp) _

def FuFirst (n : Nat) : Prop := ∀ (inSub : Bool) (pos : Pos) (neg : Bool) (ps : PS), 6 * ps.toks.length + 2 ≤ n →
  OkLenS (firstCmdF n inSub pos neg ps) ps.toks.length
def FuGot (n : Nat) : Prop := ∀ (inSub : Bool) (pos : Pos) (neg binCmd : Bool) (ps : PS), 6 * ps.toks.length + 3 ≤ n →
  OkLenS (gotStmtPipeF n inSub pos neg binCmd ps) ps.toks.length
def FuPipe (n : Nat) : Prop := ∀ (inSub binCmd : Bool) (s : Stmt) (ps : PS), 6 * ps.toks.length + 3 ≤ n →
  OkLen (pipeF n inSub binCmd s ps) ps.toks.length
def FuGet (n : Nat) : Prop := ∀ (inSub readEnd binCmd : Bool) (ps : PS), 6 * ps.toks.length + 4 ≤ n →
  OkLenS (getStmtF n inSub readEnd binCmd ps) ps.toks.length
def FuAndOr (n : Nat) : Prop := ∀ (inSub binCmd : Bool) (s : Stmt) (ps : PS), 6 * ps.toks.length + 4 ≤ n →
  OkLen (andOrF n inSub binCmd s ps) ps.toks.length
def FuStmts (n : Nat) : Prop := ∀ (inSub stopBrace gotEnd : Bool) (ps : PS) (acc : List Stmt), 6 * ps.toks.length + 5 ≤ n →
  OkLen (stmtsF n inSub stopBrace gotEnd ps acc) ps.toks.length

theorem fu_first (n : Nat) (hS : FuStmts n) : FuFirst (n + 1) := by
  intro inSub pos neg ps hf
  rw [firstCmdF]
  -- a statement list between an opening token and its closing token
  have compound : ∀ (sub sb : Bool) (rest : List TokPos) (mk : List Stmt → PS → Except ParseErr (Option Stmt × PS)),
      6 * (rest.length + 1) + 2 ≤ n + 1 →
      (∀ ss q, q.toks.length ≤ rest.length → OkLenS (mk ss q) (rest.length + 1)) →
      OkLenS (if ((PS.mk rest).tok == Tok.semi) = true then .error .outside
        else match stmtsF n sub sb true ⟨rest⟩ [] with
          | .error e => .error e
          | .ok (ss, q) => if ss.isEmpty = true then .error .outside else mk ss q) (rest.length + 1) := by
    intro sub sb rest mk hf hmk
    refine .ite (fun _ => .err (by simp) _) fun _ => ?_
    have hI := hS sub sb true ⟨rest⟩ [] (by simp only; omega)
    cases hr : stmtsF n sub sb true ⟨rest⟩ [] with
    | error e => exact .err (hI.error_ne hr) _
    | ok v => exact .ite (fun _ => .err (by simp) _) fun _ => hmk _ _ (hI.2 _ _ hr)
  split
  · rename_i w lit ht
    obtain ⟨p, rest, e1, e2, e3⟩ := PS.tok_toks ht (by simp)
    rw [e1] at hf ⊢
    rw [e2, e3]
    simp only [List.length_cons] at hf ⊢
    have hcall : OkLenS (match callArgs (n + 1) inSub ⟨rest⟩ [w] with
        | .error e => (.error e : Except ParseErr (Option Stmt × PS))
        | .ok (args, ps) => .ok (some (mkStmt pos neg (.call args)), ps)) (rest.length + 1) := by
      have hI := callArgs_nf (n + 1) inSub ⟨rest⟩ [w] (by simp only; omega)
      cases hr : callArgs (n + 1) inSub ⟨rest⟩ [w] with
      | error e => exact .err (hI.error_ne hr) _
      | ok v => exact .some (Nat.lt_succ_of_le (hI.2 _ _ hr))
    cases lit with
    | none => exact hcall
    | some v =>
      refine .ite (fun _ => ?_) fun _ => .ite (fun _ => .err (by simp) _) fun _ =>
        .ite (fun _ => .ite (fun _ => .err (by simp) _) fun _ => .err (by simp) _) fun _ => .ite (fun _ => .err (by simp) _) fun _ => hcall
      exact compound inSub true rest _ hf fun ss q hq =>
        .ite (fun _ => .some (Nat.lt_succ_of_le (Nat.le_trans (PS.next_len q) hq))) fun _ =>
          .ite (fun _ => .err (by simp) _) fun _ => .err (by simp) _
  · rename_i ht
    obtain ⟨p, rest, e1, e2, e3⟩ := PS.tok_toks ht (by simp)
    rw [e1] at hf ⊢
    rw [e2, e3]
    simp only [List.length_cons] at hf ⊢
    refine compound true false rest _ hf fun ss q hq => ?_
    split
    · exact .some (Nat.lt_succ_of_le (Nat.le_trans (PS.next_len q) hq))
    · exact .err (by simp) _
    · exact .err (by simp) _
  · exact .err (by simp) _
  · exact .err (by simp) _
  · exact .none (Nat.le_refl _)

theorem fu_got (n : Nat) (hF : FuFirst n) (hP : FuPipe n) : FuGot (n + 1) := by
  intro inSub pos neg binCmd ps hf
  rw [gotStmtPipeF_eq]
  have hI := hF inSub pos neg ps (by omega)
  cases hr : firstCmdF n inSub pos neg ps with
  | error e => exact OkLenS.err (hI.1.error_ne hr) _
  | ok v =>
    obtain ⟨o, q⟩ := v
    cases o with
    | none => exact OkLenS.none (hI.1.2 none q hr)
    | some s1 =>
      have hq := hI.2 s1 q hr
      have hJ := hP inSub binCmd s1 q (by omega)
      simp only [pipeWrap]
      cases hr2 : pipeF n inSub binCmd s1 q with
      | error e => exact OkLenS.err (hJ.error_ne hr2) _
      | ok v2 =>
        obtain ⟨s2, q2⟩ := v2
        exact OkLenS.some (Nat.lt_of_le_of_lt (hJ.2 s2 q2 hr2) hq)

theorem fu_pipe (n : Nat) (hG : FuGot n) (hP : FuPipe n) : FuPipe (n + 1) := by
  intro inSub binCmd s ps hf
  rw [pipeF_eq]
  refine .ite (fun hpipe => .ite (fun _ => .ok (Nat.le_refl _)) fun _ => ?_) fun _ => .ok (Nat.le_refl _)
  have hne := PS.toks_ne_of_tok (eq_of_beq hpipe) (by simp)
  have h1 : ps.next.gotNewl.2.toks.length < ps.toks.length :=
    Nat.lt_of_le_of_lt (PS.gotNewl_len _) (PS.next_len_lt hne)
  simp only
  have hI := hG inSub ps.next.gotNewl.2.pos false true ps.next.gotNewl.2 (by omega)
  cases hr : gotStmtPipeF n inSub ps.next.gotNewl.2.pos false true ps.next.gotNewl.2 with
  | error e => exact OkLen.err (hI.1.error_ne hr) _
  | ok v =>
    obtain ⟨o, q⟩ := v
    cases o with
    | none =>
      simp only
      split <;> exact OkLen.err (by simp) _
    | some y =>
      have hq := hI.2 y q hr
      simp only
      exact (hP inSub binCmd _ q (by omega)).mono (by omega)

theorem fu_get (n : Nat) (hG : FuGot n) (hA : FuAndOr n) : FuGet (n + 1) := by
  intro inSub readEnd binCmd ps hf
  rw [getStmtF_eq]
  simp only
  obtain ⟨ps1, hps1⟩ : ∃ ps1, ps1 = (if ps.tok.isLit [33] = true then ps.next else ps) := ⟨_, rfl⟩
  rw [← hps1]
  have hl1 : ps1.toks.length ≤ ps.toks.length := by
    rw [hps1]
    split
    · exact PS.next_len ps
    · exact Nat.le_refl _
  refine .ite (fun _ => .err (by simp) _) fun _ => .ite (fun _ => .err (by simp) _) fun _ => ?_
  have hI := hG inSub ps.pos (ps.tok.isLit [33]) false ps1 (by omega)
  cases hr : gotStmtPipeF n inSub ps.pos (ps.tok.isLit [33]) false ps1 with
  | error e => exact OkLenS.err (hI.1.error_ne hr) _
  | ok v =>
    obtain ⟨o, q⟩ := v
    cases o with
    | none => exact OkLenS.none (Nat.le_trans (hI.1.2 none q hr) hl1)
    | some s1 =>
      have hq : q.toks.length < ps.toks.length := Nat.lt_of_lt_of_le (hI.2 s1 q hr) hl1
      have hJ := hA inSub binCmd s1 q (by omega)
      simp only [endWrap]
      cases hr2 : andOrF n inSub binCmd s1 q with
      | error e => exact OkLenS.err (hJ.error_ne hr2) _
      | ok v2 =>
        obtain ⟨s2, q2⟩ := v2
        have hq2 : q2.toks.length < ps.toks.length := Nat.lt_of_le_of_lt (hJ.2 s2 q2 hr2) hq
        simp only
        refine .ite (fun _ => ?_) fun _ => .some hq2
        split
        · exact OkLenS.some (Nat.lt_of_le_of_lt (PS.next_len q2) hq2)
        · exact OkLenS.some (Nat.lt_of_le_of_lt (PS.next_len q2) hq2)
        · exact OkLenS.some hq2

theorem fu_andor (n : Nat) (hGet : FuGet n) (hA : FuAndOr n) : FuAndOr (n + 1) := by
  intro inSub binCmd s ps hf
  rw [andOrF_eq]
  simp only
  split
  · exact OkLen.ok (Nat.le_refl _)
  · rename_i op hop
    have hne : ps.toks ≠ [] := by
      intro e
      obtain ⟨toks⟩ := ps
      simp only at e
      subst e
      simp [PS.tok] at hop
    refine .ite (fun _ => .ok (Nat.le_refl _)) fun _ => ?_
    have h1 : ps.next.gotNewl.2.toks.length < ps.toks.length :=
      Nat.lt_of_le_of_lt (PS.gotNewl_len _) (PS.next_len_lt hne)
    have hI := hGet inSub false true ps.next.gotNewl.2 (by omega)
    cases hr : getStmtF n inSub false true ps.next.gotNewl.2 with
    | error e => exact OkLen.err (hI.1.error_ne hr) _
    | ok v =>
      obtain ⟨o, q⟩ := v
      cases o with
      | none =>
        simp only
        split <;> exact OkLen.err (by simp) _
      | some y =>
        have hq := hI.2 y q hr
        simp only
        exact (hA inSub binCmd _ q (by omega)).mono (by omega)

theorem fu_stmts (n : Nat) (hGet : FuGet n) (hS : FuStmts n) : FuStmts (n + 1) := by
  intro inSub stopBrace gotEnd ps acc hf
  rw [stmtsF_eq]
  refine .ite (fun _ => .ok (Nat.le_refl _)) fun _ => ?_
  have hl := PS.gotNewl_len ps
  rw [show ps.gotNewl = (ps.gotNewl.1, ps.gotNewl.2) from rfl]
  dsimp only
  have stop : OkLen (.ok (acc.reverse, ps.gotNewl.2) : Except ParseErr (List Stmt × PS)) ps.toks.length := .ok hl
  refine .ite (fun _ => .ite (fun _ => stop) fun _ => .err (by simp) _) fun _ => .ite (fun _ => stop) fun _ =>
    .ite (fun _ => .err (by simp) _) fun _ => .ite (fun _ => stop) fun _ => ?_
  have hI := hGet inSub true false ps.gotNewl.2 (by omega)
  cases hr : getStmtF n inSub true false ps.gotNewl.2 with
  | error e => exact .err (hI.1.error_ne hr) _
  | ok v =>
    obtain ⟨o, q⟩ := v
    cases o with
    | none =>
      dsimp only
      split <;> exact .err (by simp) _
    | some s1 =>
      have hq := hI.2 s1 q hr
      exact (hS inSub stopBrace _ q _ (by omega)).mono (by omega)

theorem fu_all : ∀ n : Nat, FuFirst n ∧ FuGot n ∧ FuPipe n ∧ FuGet n ∧ FuAndOr n ∧ FuStmts n
  | 0 => by
    refine ⟨?_, ?_, ?_, ?_, ?_, ?_⟩ <;> intro <;> omega
  | n + 1 => by
    obtain ⟨hF, hG, hP, hGet, hA, hS⟩ := fu_all n
    exact ⟨fu_first n hS, fu_got n hF hP, fu_pipe n hG hP, fu_get n hG hA, fu_andor n hGet hA, fu_stmts n hGet hS⟩

/-- `fuel_sufficient_toks` and, with `parse_fuel` below, `fuel_sufficient` of Props/C01 -/
theorem parseToks_fuel (toks : List TokPos) : parseToks toks ≠ .error .outOfFuel := by
  unfold parseToks parseToksF
  have hI := (fu_all (parseFuelFor toks)).2.2.2.2.2 false false true ⟨toks⟩ [] (by simp only [parseFuelFor]; omega)
  cases hr : stmtsF (parseFuelFor toks) false false true ⟨toks⟩ [] with
  | error e =>
    simp only
    exact fun c => hI.1 (by rw [hr]; cases c; rfl)
  | ok v =>
    obtain ⟨ss, q⟩ := v
    simp only
    split <;> simp

theorem parse_fuel (l : Lang) (src : Bytes) : parse l src ≠ .error .outOfFuel := parseToks_fuel _

end ShVerif.L4
