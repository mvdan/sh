import ShVerif.Proofs.L3Glob
import ShVerif.Proofs.L3Eqns
/-
  C18 — lemmas: a pattern made of ordinary and escaped characters only (what `quoteMeta` writes, and
  what a pattern without metacharacters is, unless it is malformed) parses to a sequence of literal
  tokens, and such a sequence matches exactly its own text (`sameText`).
-/
namespace ShVerif.L3

/-- The parse of a pattern that consists of literal characters only (`prev`: the character before). -/
def litSeq (m : Mode) : Rune → Str → Glob
  | _, [] => .eps
  | prev, c :: r => .seq (litTok m prev c) (litSeq m c r)

/-- "The same text", up to case when the mode folds case. -/
def sameText (m : Mode) : Str → Str → Prop
  | [], [] => True
  | x :: t, c :: s => chEq m.nocase c x = true ∧ sameText m t s
  | _, _ => False

theorem sameText_eq {m : Mode} (h : m.nocase = false) (t s : Str) : sameText m t s ↔ t = s := by
  induction t generalizing s with
  | nil => cases s <;> simp [sameText]
  | cons x t ih =>
    cases s with
    | nil => simp [sameText]
    | cons c s => simp [sameText, h, chEq_false_iff, ih]

theorem sameText_length {m : Mode} : ∀ {t s : Str}, sameText m t s → t.length = s.length
  | [], [], _ => rfl
  | [], _ :: _, h => by simp [sameText] at h
  | _ :: _, [], h => by simp [sameText] at h
  | _ :: t, _ :: s, h => by
    simp only [sameText] at h
    simp [sameText_length h.2]

theorem GDen_litSeq (m : Mode) (s : Str) : ∀ (prev : Rune) (b : Bool) (t : Str),
    (b = true → prev = 0 ∨ prev = cSlash) →
    (GDen m (litSeq m prev s) b t ↔ sameText m t s) := by
  induction s with
  | nil =>
    intro prev b t _
    cases t <;> simp [litSeq, GDen, sameText]
  | cons c r ih =>
    intro prev b t hb
    simp only [litSeq, GDen]
    have hnext : ∀ x, chEq m.nocase c x = true → (startAfter m x = true → c = 0 ∨ c = cSlash) := by
      intro x hx hs
      simp only [startAfter, Bool.and_eq_true, beq_iff_eq] at hs
      exact .inr ((chEq_slash_iff hx).mp hs.2)
    constructor
    · rintro ⟨s1, s2, rfl, h1, h2⟩
      obtain ⟨x, rfl, hx⟩ := (GDen_litTok m prev c b (fun _ => hb) s1).mp h1
      rw [ctxAfter_singleton] at h2
      exact ⟨hx, (ih c _ _ (hnext x hx)).mp h2⟩
    · intro h
      cases t with
      | nil => simp [sameText] at h
      | cons x t' =>
        obtain ⟨hx, hr⟩ := h
        refine ⟨[x], t', rfl, (GDen_litTok m prev c b (fun _ => hb) [x]).mpr ⟨x, rfl, hx⟩, ?_⟩
        rw [ctxAfter_singleton]
        exact (ih c _ _ (hnext x hx)).mpr hr

theorem quoteMeta_length_ge (s : Str) : s.length ≤ (quoteMeta s).length := by
  induction s with
  | nil => simp [quoteMeta]
  | cons c r ih =>
    simp only [quoteMeta]
    split <;> simp <;> omega

theorem special_ne {c : Rune} (h : isQuoteMetaSpecial c = false) :
    c ≠ cStar ∧ c ≠ cQuest ∧ c ≠ cLB ∧ c ≠ cBS := by
  simp only [isQuoteMetaSpecial, Bool.or_eq_false_iff, beq_eq_false_iff_ne] at h
  exact ⟨h.1.1.1, h.1.1.2, h.1.2, h.2⟩

theorem hasMetaAux_quoteMeta (s : Str) : hasMetaAux false (quoteMeta s) = false := by
  induction s with
  | nil => simp [quoteMeta, hasMetaAux]
  | cons c r ih =>
    rw [quoteMeta]
    cases hc : isQuoteMetaSpecial c with
    | true => rw [if_pos rfl, hasMetaAux_bs]; exact ih
    | false =>
      obtain ⟨h1, h2, h3, h4⟩ := special_ne hc
      rw [if_neg Bool.false_ne_true, hasMetaAux_cons, if_neg h4, if_neg (fun h => h.elim h1 h2), if_neg h3,
        if_neg Bool.false_ne_true, ite_self]
      exact ih

theorem head_quoteMeta_lp (r : Str) : ((quoteMeta r).head? == some cLP) = (r.head? == some cLP) := by
  cases r with
  | nil => simp [quoteMeta]
  | cons d r' =>
    simp only [quoteMeta]
    by_cases hd : isQuoteMetaSpecial d = true
    · have : d ≠ cLP := by rintro rfl; exact absurd hd (by decide)
      simp [hd]
      rw [beq_false_of_ne this]; rfl
    · simp [hd]

theorem parseSeq_quoteMeta (m : Mode) (s : Str) :
    ∀ (fuel : Nat) (prev : Rune), s.length < fuel → (m.ext = false ∨ hasExtOpener s = false) →
      parseSeq m fuel prev (quoteMeta s) = .ok (litSeq m prev s) := by
  induction s with
  | nil =>
    intro fuel prev hf _
    obtain _ | f := fuel
    · exact absurd hf (Nat.not_lt_zero _)
    · rw [quoteMeta, parseSeq_nil]; rfl
  | cons c r ih =>
    intro fuel prev hf hext
    obtain _ | f := fuel
    · exact absurd hf (Nat.not_lt_zero _)
    have hf' : r.length < f := Nat.lt_of_succ_lt_succ hf
    have hext' : m.ext = false ∨ hasExtOpener r = false := by
      refine hext.imp id fun h => ?_
      cases r with
      | nil => rfl
      | cons d r' => exact (Bool.or_eq_false_iff.mp h).2
    by_cases hc : isQuoteMetaSpecial c = true
    · rw [quoteMeta, if_pos hc, parseSeq_bs, ih f c hf' hext']; rfl
    · have hc' := (Bool.not_eq_true _).mp hc
      obtain ⟨h1, h2, h3, h4⟩ := special_ne hc'
      -- QuoteMeta leaves `!`, `+`, `@` alone: the hypothesis says none of them stands before a `(`
      have hgrp : (m.ext && isExtOp c && ((quoteMeta r).head? == some cLP)) = false := by
        rw [head_quoteMeta_lp]
        rcases hext with h | h
        · rw [h]; rfl
        · cases r with
          | nil => rw [Bool.and_assoc]; simp
          | cons d r' =>
            have := (Bool.or_eq_false_iff.mp h).1
            rw [hc', Bool.not_false, Bool.and_true] at this
            rw [Bool.and_assoc, List.head?_cons]
            simpa using fun _ => this
      rw [quoteMeta, if_neg hc, parseSeq_lit m f prev h4 h2 h1 h3 hgrp, ih f c hf' hext']; rfl

/-- Once a `[` has been seen, a `]` not directly preceded by a backslash is a metacharacter (a
    backslash in front skips one character, so the recursion goes two steps). -/
theorem hasMetaAux_close (post : Str) (x : Rune) (hx : x ≠ cBS) :
    ∀ pre : Str, hasMetaAux true (pre ++ x :: cRB :: post) = true
  | [] => by
    rw [List.nil_append, hasMetaAux_true_cons _ hx, hasMetaAux_true_cons _ (by decide)]
    simp
  | [a] => by
    by_cases ha : a = cBS
    · subst ha
      rw [List.cons_append, List.nil_append, hasMetaAux_bs, hasMetaAux_true_cons _ (by decide)]; rfl
    · rw [List.cons_append, hasMetaAux_true_cons _ ha, hasMetaAux_close post x hx [], Bool.or_true]
  | a :: b :: pre => by
    by_cases ha : a = cBS
    · subst ha
      rw [List.cons_append, List.cons_append, hasMetaAux_bs]; exact hasMetaAux_close post x hx pre
    · rw [List.cons_append, hasMetaAux_true_cons _ ha, hasMetaAux_close post x hx (b :: pre), Bool.or_true]

theorem noMeta_cons {c : Rune} {rest : Str} (h : hasMetaAux true (c :: rest) = false) (hc : c ≠ cBS) :
    c ≠ cRB ∧ c ≠ cStar ∧ c ≠ cQuest ∧ hasMetaAux true rest = false := by
  rw [hasMetaAux_true_cons _ hc] at h
  simp only [Bool.or_eq_false_iff, decide_eq_false_iff_not, not_or] at h
  exact ⟨h.1.2.2, h.1.1, h.1.2.1, h.2⟩

theorem noMeta_elemChar {s : Str} {lo : Rune} {esc : Bool} {r1 : Str}
    (h : hasMetaAux true s = false) (he : elemChar s = some (lo, esc, r1)) :
    hasMetaAux true r1 = false := by
  cases s with
  | nil => simp [elemChar] at he
  | cons c rest =>
    simp only [elemChar] at he
    by_cases hc : c = cBS
    · simp only [hc, if_true] at he
      cases rest with
      | nil => simp at he
      | cons d rest' =>
        simp at he
        obtain ⟨_, _, rfl⟩ := he
        rw [hasMetaAux_cons] at h
        simpa [hc] using h
    · simp only [hc, if_false] at he
      simp at he
      obtain ⟨_, _, rfl⟩ := he
      exact (noMeta_cons h hc).2.2.2

/-- A class-like element `[:…:]`, `[.….]`, `[=…=]` ends in `X]`, so without a later metacharacter
    there is none (or it is not terminated and has length 0). -/
theorem noMeta_class {rest : Str} {n : Nat} {r : Except ClsErr ClassName}
    (h : hasMetaAux true rest = false) (hsc : scanClass rest = some (n, r)) :
    hasMetaAux true (rest.drop n) = false := by
  have key : ∀ (x : Rune) (s1 : Str), x ≠ cBS → hasMetaAux true (x :: s1) = false →
      ∀ name after, cut2 x cRB s1 ≠ some (name, after) := by
    intro x s1 hx h name after hcut
    rw [cut2_spec _ _ _ _ _ hcut] at h
    exact absurd (hasMetaAux_close after x hx (x :: name)) (by rw [List.cons_append, h]; decide)
  unfold scanClass at hsc
  split at hsc
  · next x s1 =>
    split at hsc
    · next hx =>
      subst hx
      cases hcut : cut2 cColon cRB s1 with
      | none => rw [hcut] at hsc; cases hsc; exact h
      | some p => exact absurd hcut (key cColon s1 (by decide) h p.1 p.2)
    · split at hsc
      · next hx2 =>
        cases hcut : cut2 x cRB s1 with
        | none => rw [hcut] at hsc; cases hsc; exact h
        | some p => exact absurd hcut (key x s1 (by rcases hx2 with rfl | rfl <;> decide) h p.1 p.2)
      · cases hsc
  · cases hsc

theorem scanItems_noMeta (fn : Bool) (fuel : Nat) (first : Bool) (st : BSt) (s : Str) :
    hasMetaAux true s = false → (scanItems fn fuel first st s).2 = none := by
  fun_induction scanItems fn fuel first st s <;> intro h
  case case3 hc => exact absurd hc.1 (noMeta_cons h (by rw [hc.1]; decide)).1
  case case4 c rest _ n k hsc ih =>
    have hlb : c = cLB := by by_cases hc : c = cLB; exact hc; rw [if_neg hc] at hsc; cases hsc
    subst hlb
    exact ih (noMeta_class (noMeta_cons h (by decide)).2.2.2 hsc)
  case case5 c rest _ n e hsc _ ih =>
    have hlb : c = cLB := by by_cases hc : c = cLB; exact hc; rw [if_neg hc] at hsc; cases hsc
    subst hlb
    exact ih (noMeta_class (noMeta_cons h (by decide)).2.2.2 hsc)
  case case8 hd _ _ _ he2 _ he ih =>
    exact ih (noMeta_elemChar (noMeta_cons (noMeta_elemChar h he) (by rw [hd.1]; decide)).2.2.2 he2)
  case case9 he ih => exact ih (noMeta_elemChar h he)
  all_goals rfl

theorem scanBracket_noMeta (fn : Bool) (s : Str) (h : hasMetaAux true s = false) :
    ∀ neg items rest, scanBracket fn s ≠ .ok neg items rest := by
  intro neg items rest
  have hbody : hasMetaAux true (bodyOf s) = false := by
    unfold bodyOf
    split
    · rename_i hh
      cases s with
      | nil => simpa using h
      | cons c r =>
        simp only [List.head?_cons, Option.some.injEq] at hh
        have hc : c ≠ cBS := by rcases hh with rfl | rfl <;> decide
        exact (noMeta_cons h hc).2.2.2
    · exact h
  intro hsb
  rw [scanBracket_eq] at hsb
  have := sbOfRes_ok hsb
  rw [scanItems_noMeta fn _ true st0S _ hbody] at this
  cases this

theorem parseSeq_noMeta (m : Mode) : ∀ (fuel : Nat) (ob : Bool) (prev : Rune) (p : Str),
    p.length < fuel → hasMetaAux ob p = false → (m.ext = false ∨ hasExtGroup p = false) →
    parseSeq m fuel prev p = .ok (litSeq m prev (unescape p)) ∨ ∃ e, parseSeq m fuel prev p = .error e := by
  intro fuel
  induction fuel with
  | zero => intro ob prev p hf; exact absurd hf (Nat.not_lt_zero _)
  | succ f ih =>
    intro ob prev p hf hm hext
    cases p with
    | nil => left; rw [parseSeq_nil]; rfl
    | cons c rest =>
      have hf' : rest.length < f := Nat.lt_of_succ_lt_succ hf
      -- after one literal token: the rest parses to its literal sequence, or fails
      have step : ∀ {tok : Glob} {c' : Rune} {r : Str} (ob' : Bool), r.length < f → hasMetaAux ob' r = false →
          (m.ext = false ∨ hasExtGroup r = false) →
          andThenG tok (parseSeq m f c' r) = .ok (.seq tok (litSeq m c' (unescape r))) ∨
            ∃ e, andThenG tok (parseSeq m f c' r) = .error e :=
        fun {tok c' r} ob' hl hm' hx => (ih ob' c' r hl hm' hx).elim (fun h => .inl (by rw [h]; rfl))
          fun ⟨e, h⟩ => .inr ⟨e, by rw [h]; rfl⟩
      by_cases hbs : c = cBS
      · subst hbs
        cases rest with
        | nil => exact .inr ⟨_, parseSeq_bs_nil m f prev⟩
        | cons d rest' =>
          rw [hasMetaAux_bs] at hm
          rw [hasExtGroup_bs_cons] at hext
          rw [parseSeq_bs, unescape_bs_cons]
          exact step ob (Nat.lt_of_succ_lt hf') hm hext
      rw [hasMetaAux_cons, if_neg hbs] at hm
      rw [hasExtGroup_cons_ne rest hbs, Bool.or_eq_false_iff] at hext
      rw [unescape_cons_ne rest hbs]
      have hext' : m.ext = false ∨ hasExtGroup rest = false := hext.imp id And.right
      have hg : (m.ext && isExtOp c && rest.head? == some cLP) = false := by
        rcases hext with h | h
        · rw [h]; rfl
        · rw [Bool.and_assoc, h.1, Bool.and_false]
      by_cases hq : c = cStar ∨ c = cQuest
      · rw [if_pos hq] at hm; cases hm
      rw [if_neg hq] at hm
      by_cases hlb : c = cLB
      · subst hlb
        rw [if_pos rfl] at hm
        rw [parseSeq_lb]
        cases hsb : scanBracket m.filenames rest with
        | notBracket =>
          simp only [litSeq, litTok_ne_dot m prev (by decide : cLB ≠ cDot)]
          exact step true hf' hm hext'
        | malformed e => exact .inr ⟨e, rfl⟩
        | ok neg items rest' => exact absurd hsb (scanBracket_noMeta _ _ hm _ _ _)
      rw [if_neg hlb] at hm
      rw [parseSeq_lit m f prev hbs (fun h => hq (.inr h)) (fun h => hq (.inl h)) hlb hg]
      by_cases hrb : c = cRB
      · rw [if_pos hrb] at hm
        cases ob with
        | true => cases hm
        | false => exact step false hf' hm hext'
      · rw [if_neg hrb] at hm
        exact step ob hf' hm hext'

theorem tails_mem (t u : Str) : u ∈ tails t ↔ ∃ a, t = a ++ u := by
  induction t with
  | nil =>
    simp only [tails, List.mem_singleton]
    constructor
    · rintro rfl; exact ⟨[], rfl⟩
    · rintro ⟨a, h⟩
      exact (List.append_eq_nil_iff.mp h.symm).2
  | cons x t ih =>
    simp only [tails, List.mem_cons, ih]
    constructor
    · rintro (rfl | ⟨a, rfl⟩)
      · exact ⟨[], rfl⟩
      · exact ⟨x :: a, rfl⟩
    · rintro ⟨a, h⟩
      cases a with
      | nil => left; simpa using h.symm
      | cons y a' =>
        simp at h
        right; exact ⟨a', h.2⟩

/-- `true`: every candidate substring is read from the start of a path component, as `globMatch` does. -/
theorem search_iff (m : Mode) (g : Glob) (t : Str) :
    (tails t).any (fun u => gmatch m g true u (fun _ _ => true)) = true ↔
      ∃ a b c, t = a ++ b ++ c ∧ GDen m g true b := by
  rw [List.any_eq_true]
  constructor
  · rintro ⟨u, hu, hg⟩
    obtain ⟨a, rfl⟩ := (tails_mem t u).mp hu
    obtain ⟨s1, s2, rfl, hd, _⟩ := (gmatch_dec m g true u _).mp hg
    exact ⟨a, s1, s2, by simp, hd⟩
  · rintro ⟨a, b, c, rfl, hd⟩
    refine ⟨b ++ c, (tails_mem _ _).mpr ⟨a, by simp⟩, ?_⟩
    exact (gmatch_dec m g true (b ++ c) _).mpr ⟨b, c, rfl, hd, rfl⟩

theorem globMatch_litSeq {m : Mode} {p s : Str} (hp : parseGlob m p = .ok (litSeq m 0 s)) (t : Str) :
    globMatch m p t = true ↔
      if m.entire = true then sameText m t s else ∃ a b c, t = a ++ b ++ c ∧ sameText m b s := by
  have hd := fun t => GDen_litSeq m s 0 true t fun _ => .inl rfl
  unfold globMatch
  rw [hp]
  cases m.entire with
  | true => simp only [if_true]; rw [gmatch_full_iff, hd]
  | false => simp only [Bool.false_eq_true, if_false]; rw [search_iff]; simp only [hd]

end ShVerif.L3
