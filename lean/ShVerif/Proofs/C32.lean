import ShVerif.Model.C32
import ShVerif.Proofs.L1Heap
/-
  C32, Part A: the job system.

  A step of the parent goroutine is one of a few shapes (`PStep`); a step of a job's goroutine is
  nothing, or a write to one of its two cells, which keeps the status (`CStep`).  Each fact about
  executions is an invariant checked shape by shape: `WInv` (`closed → the status has been written`;
  the statuses of `r.bgProcs` are the statuses of the spawns executed so far, in order), `NotChild`,
  `JobsExtend` (`r.bgProcs` only grows).
-/
namespace ShVerif.C32
open ShVerif ShVerif.L1

def JobOK (j : Job) : Prop := (1 ≤ j.pc → j.exitCell = j.status) ∧ (j.closed = true → j.pc = 2)

def spawnVals : List POp → List Nat
  | [] => []
  | .spawn v :: rest => v :: spawnVals rest
  | _ :: rest => spawnVals rest

theorem spawnVals_append (a b : List POp) : spawnVals (a ++ b) = spawnVals a ++ spawnVals b := by
  induction a with
  | nil => rfl
  | cons x xs ih => cases x <;> simp only [List.cons_append, spawnVals, ih]

theorem spawnStatus_eq : ∀ (l : List POp) (pid : Nat), 1 ≤ pid → spawnStatus l pid = (spawnVals l)[pid - 1]? := by
  intro l
  induction l with
  | nil => intro pid _; rfl
  | cons x xs ih =>
    intro pid hp
    cases x with
    | spawn v =>
      match pid, hp with
      | 1, _ => rfl
      | k + 2, _ => exact (if_neg (by omega)).trans (ih (k + 1) (Nat.succ_le_succ (Nat.zero_le k)))
    | waitJob k => exact ih pid hp
    | waitAll => exact ih pid hp
    | peek k => exact ih pid hp

theorem usesPeek_append (a b : List POp) : usesPeek (a ++ b) = (usesPeek a || usesPeek b) := by
  induction a with
  | nil => rfl
  | cons x xs ih => cases x <;> simp only [List.cons_append, usesPeek, ih, Bool.true_or]

theorem map_status_set {jobs : List Job} {i : Nat} {j j' : Job} (hj : jobs[i]? = some j) (hs : j'.status = j.status) :
    (jobs.set i j').map (·.status) = jobs.map (·.status) := by
  obtain ⟨hil, e⟩ := List.getElem?_eq_some_iff.mp hj
  have key : (jobs.map (·.status))[i]'(by rw [List.length_map]; exact hil) = j.status := by rw [List.getElem_map, e]
  rw [List.map_set, hs, ← key, List.set_getElem_self]

inductive PStep (st : PState) : PState → Prop
  | stay : PStep st st
  | spawn {v rest} (hp : st.prog = .spawn v :: rest) :
      PStep st { st with jobs := st.jobs ++ [{ status := v }], prog := rest }
  | notChild {pid rest} (hp : st.prog = .waitJob pid :: rest) (h : pid = 0 ∨ st.jobs.length < pid) :
      PStep st { st with prog := rest, results := st.results ++ [.notChild pid] }
  | waited {pid rest j} (hp : st.prog = .waitJob pid :: rest) (h : ¬ (pid = 0 ∨ st.jobs.length < pid))
      (hj : st.jobs[pid - 1]? = some j) (hc : j.closed = true) :
      PStep st { st with prog := rest, results := st.results ++ [.status pid j.exitCell j.pc] }
  | allDone {rest} (hp : st.prog = .waitAll :: rest) : PStep st { st with prog := rest, waitAllAt := 0 }
  | allNext : PStep st { st with waitAllAt := st.waitAllAt + 1 }
  | peekNone {pid rest} (hp : st.prog = .peek pid :: rest) : PStep st { st with prog := rest }
  | peekSome {pid rest} (hp : st.prog = .peek pid :: rest) (j : Job) :
      PStep st { st with prog := rest, results := st.results ++ [.status pid j.exitCell j.pc] }

theorem parentStep_cases (st : PState) : PStep st (parentStep st) := by
  unfold parentStep
  split
  · exact .stay
  · next hp => exact .spawn hp
  · next hp =>
    split
    · next h => exact .notChild hp h
    · next h =>
      split
      · exact .stay
      · next j hj =>
        split
        · next hc => exact .waited hp h hj hc
        · exact .stay
  · next hp =>
    split
    · exact .allDone hp
    · split
      · exact .stay
      · split
        · exact .allNext
        · exact .stay
  · next hp =>
    split
    · exact .peekNone hp
    · exact .peekSome hp _

inductive CStep (st : PState) (i : Nat) : PState → Prop
  | stay : CStep st i st
  | move {j j'} (hj : st.jobs[i]? = some j) (hs : j'.status = j.status) (ok : JobOK j → JobOK j') :
      CStep st i { st with jobs := st.jobs.set i j' }

theorem childStep_cases (st : PState) (i : Nat) : CStep st i (childStep st i) := by
  unfold childStep
  split
  · exact .stay
  · next j hj =>
    split
    · next hpc => exact .move hj rfl fun ok => ⟨fun _ => rfl, fun hc => absurd (ok.2 hc) (by omega)⟩
    · split
      · next hpc => exact .move hj rfl fun ok => ⟨fun _ => ok.1 (by omega), fun _ => rfl⟩
      · exact .stay

theorem exec_inv {P : PState → Prop} (hp : ∀ {st st'}, P st → PStep st st' → P st')
    (hc : ∀ {st i st'}, P st → CStep st i st' → P st') : ∀ (sched : List Nat) (st : PState), P st → P (exec st sched) := by
  intro sched
  induction sched with
  | nil => intro st p; exact p
  | cons k rest ih =>
    intro st p
    cases k with
    | zero => exact ih _ (hp p (parentStep_cases st))
    | succ i => exact ih _ (hc p (childStep_cases st i))

theorem results_cstep {st st' : PState} {i : Nat} (c : CStep st i st') : st'.results = st.results := by
  cases c <;> rfl

structure WInv (prog0 : List POp) (st : PState) : Prop where
  jobs : ∀ (i : Nat) (j : Job), st.jobs[i]? = some j → JobOK j
  pre : ∃ pre, prog0 = pre ++ st.prog ∧ st.jobs.map (·.status) = spawnVals pre
  results : ∀ r ∈ st.results, ∀ pid x pc, r = .status pid x pc → pc = 2 ∧ spawnStatus prog0 pid = some x

theorem winv_init (prog : List POp) : WInv prog { prog := prog } :=
  ⟨(by intro i j h; cases h), ⟨[], rfl, rfl⟩, (by intro r hr; cases hr)⟩

theorem pre_next {prog0 pre : List POp} {op : POp} {rest : List POp} {prog : List POp} (e1 : prog0 = pre ++ prog)
    (hp : prog = op :: rest) : prog0 = (pre ++ [op]) ++ rest := by
  rw [e1, hp, List.append_assoc]; rfl

theorem winv_cstep {prog0 : List POp} {st st' : PState} {i : Nat} (w : WInv prog0 st) (c : CStep st i st') :
    WInv prog0 st' := by
  cases c with
  | stay => exact w
  | move hj hs ok =>
    refine ⟨fun i' j' h' => ?_, ?_, w.results⟩
    · rcases List.mem_or_eq_of_mem_set (List.mem_of_getElem? h') with m | rfl
      · obtain ⟨k, hk⟩ := List.getElem?_of_mem m
        exact w.jobs k j' hk
      · exact ok (w.jobs i _ hj)
    · obtain ⟨pre, e1, e2⟩ := w.pre
      exact ⟨pre, e1, (map_status_set hj hs).trans e2⟩

theorem winv_pstep {prog0 : List POp} {st st' : PState} (w : WInv prog0 st) (np : usesPeek prog0 = false)
    (c : PStep st st') : WInv prog0 st' := by
  obtain ⟨pre, e1, e2⟩ := w.pre
  have res : ∀ r0 : WaitRes, (∀ pid x pc, r0 = .status pid x pc → pc = 2 ∧ spawnStatus prog0 pid = some x) →
      ∀ r ∈ st.results ++ [r0], ∀ pid x pc, r = .status pid x pc → pc = 2 ∧ spawnStatus prog0 pid = some x := by
    intro r0 h0 r hr
    rcases List.mem_append.mp hr with hr | hr
    · exact w.results r hr
    · rw [List.mem_singleton.mp hr]; exact h0
  have noPeek : ∀ {pid rest}, st.prog = .peek pid :: rest → False := by
    intro pid rest hp
    rw [e1, hp, usesPeek_append] at np
    simp [usesPeek] at np
  cases c with
  | stay => exact w
  | spawn hp =>
    refine ⟨fun i j h => ?_, ⟨_, pre_next e1 hp, ?_⟩, w.results⟩
    · rcases List.mem_append.mp (List.mem_of_getElem? h) with m | m
      · obtain ⟨i', hi'⟩ := List.getElem?_of_mem m
        exact w.jobs i' j hi'
      · cases List.mem_singleton.mp m
        exact ⟨fun hh => absurd hh (Nat.not_succ_le_zero 0), fun hh => by cases hh⟩
    · rw [List.map_append, e2, spawnVals_append]; rfl
  | notChild hp h =>
    exact ⟨w.jobs, ⟨_, pre_next e1 hp, by rw [spawnVals_append, e2]; exact (List.append_nil _).symm⟩,
      res _ (by intro _ _ _ e; cases e)⟩
  | @waited pid rest j hp h hj hc =>
    refine ⟨w.jobs, ⟨_, pre_next e1 hp, by rw [spawnVals_append, e2]; exact (List.append_nil _).symm⟩, res _ ?_⟩
    intro pid' x pc er
    cases er
    -- the channel is closed, so the goroutine is past its write; position `pid - 1` of `r.bgProcs`
    -- holds the status of the `pid`-th spawn
    have ok := w.jobs _ j hj
    have h2 := ok.2 hc
    refine ⟨h2, ?_⟩
    have hst : (st.jobs.map (·.status))[pid - 1]? = some j.status := by rw [List.getElem?_map, hj]; rfl
    rw [spawnStatus_eq prog0 pid (by omega), e1, spawnVals_append, ← e2,
      List.getElem?_append_left (List.getElem?_eq_some_iff.mp hst).1, hst, ok.1 (by omega)]
  | allDone hp =>
    exact ⟨w.jobs, ⟨_, pre_next e1 hp, by rw [spawnVals_append, e2]; exact (List.append_nil _).symm⟩, w.results⟩
  | allNext => exact ⟨w.jobs, ⟨pre, e1, e2⟩, w.results⟩
  | peekNone hp => exact (noPeek hp).elim
  | peekSome hp => exact (noPeek hp).elim

theorem winv_exec {prog0 : List POp} (np : usesPeek prog0 = false) : ∀ (sched : List Nat) (st : PState),
    WInv prog0 st → WInv prog0 (exec st sched) :=
  exec_inv (fun w c => winv_pstep w np c) winv_cstep

/-- `wait g<pid>` answers "not a child" only where the program has a `wait g<pid>` before which
    fewer than `pid` jobs were started (or `pid` is 0) -/
def NotChild (prog0 : List POp) (st : PState) : Prop :=
  ∀ pid, .notChild pid ∈ st.results → ∃ pre rest, prog0 = pre ++ .waitJob pid :: rest ∧
    (pid = 0 ∨ (spawnVals pre).length < pid)

theorem notChild_pstep {prog0 : List POp} {st st' : PState} (w : WInv prog0 st) (nc : NotChild prog0 st)
    (c : PStep st st') : NotChild prog0 st' := by
  have res : ∀ r0 : WaitRes, (∀ pid, r0 = .notChild pid → ∃ pre rest, prog0 = pre ++ .waitJob pid :: rest ∧
      (pid = 0 ∨ (spawnVals pre).length < pid)) → NotChild prog0 { st with results := st.results ++ [r0] } := by
    intro r0 h0 pid hr
    rcases List.mem_append.mp hr with hr | hr
    · exact nc pid hr
    · exact h0 pid (List.mem_singleton.mp hr).symm
  cases c with
  | stay => exact nc
  | spawn hp => exact nc
  | notChild hp h =>
    obtain ⟨pre, e1, e2⟩ := w.pre
    refine res _ fun pid e => ?_
    cases e
    exact ⟨pre, _, by rw [e1, hp], by rw [← e2, List.length_map]; exact h⟩
  | waited hp h hj hc => exact res _ fun _ e => by cases e
  | allDone hp => exact nc
  | allNext => exact nc
  | peekNone hp => exact nc
  | peekSome hp j => exact res _ fun _ e => by cases e

theorem notChild_exec {prog0 : List POp} (np : usesPeek prog0 = false) : ∀ (sched : List Nat) (st : PState),
    WInv prog0 st → NotChild prog0 st → NotChild prog0 (exec st sched) := fun sched st w nc =>
  (exec_inv (P := fun st => WInv prog0 st ∧ NotChild prog0 st)
    (fun x c => ⟨winv_pstep x.1 np c, notChild_pstep x.1 x.2 c⟩)
    (fun x c => ⟨winv_cstep x.1 c, fun pid hr => x.2 pid (results_cstep c ▸ hr)⟩) sched st ⟨w, nc⟩).2

def JobsExtend (a b : PState) : Prop :=
  a.jobs.length ≤ b.jobs.length ∧ ∀ i, i < a.jobs.length → (b.jobs[i]?).map (·.status) = (a.jobs[i]?).map (·.status)

theorem jobsExtend_refl (a : PState) : JobsExtend a a := ⟨Nat.le_refl _, fun _ _ => rfl⟩

theorem jobsExtend_trans {a b c : PState} (x : JobsExtend a b) (y : JobsExtend b c) : JobsExtend a c :=
  ⟨Nat.le_trans x.1 y.1, fun i hi => (y.2 i (Nat.lt_of_lt_of_le hi x.1)).trans (x.2 i hi)⟩

theorem jobsExtend_cstep {st st' : PState} {i : Nat} (c : CStep st i st') : JobsExtend st st' := by
  cases c with
  | stay => exact jobsExtend_refl st
  | move hj hs ok =>
    refine ⟨Nat.le_of_eq List.length_set.symm, fun k _ => ?_⟩
    have := congrArg (·[k]?) (map_status_set hj hs)
    simpa only [List.getElem?_map] using this

theorem jobsExtend_pstep {st st' : PState} (c : PStep st st') : JobsExtend st st' := by
  cases c with
  | spawn hp =>
    exact ⟨by rw [List.length_append]; exact Nat.le_add_right _ _, fun i hi => by rw [List.getElem?_append_left hi]⟩
  | _ => exact jobsExtend_refl st

theorem jobsExtend_exec (sched : List Nat) (st : PState) : JobsExtend st (exec st sched) :=
  exec_inv (P := JobsExtend st) (fun x c => jobsExtend_trans x (jobsExtend_pstep c))
    (fun x c => jobsExtend_trans x (jobsExtend_cstep c)) sched st (jobsExtend_refl st)

end ShVerif.C32
