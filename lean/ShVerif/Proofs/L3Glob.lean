import ShVerif.Model.L3Glob
/-
  L3 — the two semantics shared by C17 and C18, and what both need of case folding.
  Part A: the language `Matches` of a `Regex`; the derivative matcher `rmatch` decides it.
  Part B: the language `GDen` of a parsed pattern (depending on whether the subject is at the start
  of a path component); the backtracking matcher `gmatch` decides it.  `Decides m step R` says that a
  continuation-passing matcher `step` decides a context-dependent language `R`; it is closed under the
  ways `gmatch` builds matchers (one character, sequence, alternative, iteration, `!(…)`, the two
  character loops of `*` and `**`), so that `gmatch_dec` has one line per constructor of `Glob`.
  Part C: what case folding (`variants`, `chEq`) does to the characters below 'A', and the language of
  the literal token `litTok` — used by both properties.
-/
namespace ShVerif.L3

/-- The language of a regular expression (`nc`: case folding on). -/
inductive Matches (nc : Bool) : Regex → Str → Prop
  | eps : Matches nc .eps []
  | chr {c x} : chEq nc c x = true → Matches nc (.chr c) [x]
  | any {x} : Matches nc .any [x]
  | set {neg items x} : setMem nc neg items x = true → Matches nc (.set neg items) [x]
  | cat {a b s t} : Matches nc a s → Matches nc b t → Matches nc (.cat a b) (s ++ t)
  | altL {a b s} : Matches nc a s → Matches nc (.alt a b) s
  | altR {a b s} : Matches nc b s → Matches nc (.alt a b) s
  | grp {a s} : Matches nc a s → Matches nc (.grp a) s
  | starNil {a} : Matches nc (.star a) []
  | starCons {a s t} : Matches nc a s → Matches nc (.star a) t → Matches nc (.star a) (s ++ t)
  | plus {a s t} : Matches nc a s → Matches nc (.star a) t → Matches nc (.plus a) (s ++ t)
  | optNil {a} : Matches nc (.opt a) []
  | optSome {a s} : Matches nc a s → Matches nc (.opt a) s

theorem nullable_iff (nc : Bool) (r : Regex) : nullable r = true ↔ Matches nc r [] := by
  induction r with
  | void => simp [nullable]; intro h; cases h
  | eps => simp [nullable]; exact .eps
  | chr c => simp [nullable]; intro h; cases h
  | any => simp [nullable]; intro h; cases h
  | set n i => simp [nullable]; intro h; cases h
  | cat a b iha ihb =>
    simp only [nullable, Bool.and_eq_true, iha, ihb]
    constructor
    · rintro ⟨h1, h2⟩; exact .cat (s := []) (t := []) h1 h2
    · intro h
      generalize hs : ([] : Str) = s at h
      cases h with
      | cat h1 h2 =>
        obtain ⟨rfl, rfl⟩ := List.append_eq_nil_iff.mp hs.symm
        exact ⟨h1, h2⟩
  | alt a b iha ihb =>
    simp only [nullable, Bool.or_eq_true, iha, ihb]
    constructor
    · rintro (h | h); exact .altL h; exact .altR h
    · intro h; cases h with
      | altL h => exact .inl h
      | altR h => exact .inr h
  | grp a iha =>
    simp only [nullable, iha]
    constructor
    · intro h; exact .grp h
    · intro h; cases h with | grp h => exact h
  | ugrp a _ => simp [nullable]; intro h; cases h
  | star a _ => simp [nullable]; exact .starNil
  | plus a iha =>
    simp only [nullable, iha]
    constructor
    · intro h; exact .plus (s := []) (t := []) h .starNil
    · intro h
      generalize hs : ([] : Str) = s at h
      cases h with
      | plus h1 h2 =>
        obtain ⟨rfl, rfl⟩ := List.append_eq_nil_iff.mp hs.symm
        exact h1
  | opt a _ => simp [nullable]; exact .optNil

theorem star_cons_split {nc a x s} (h : Matches nc (.star a) (x :: s)) :
    ∃ s1 s2, s = s1 ++ s2 ∧ Matches nc a (x :: s1) ∧ Matches nc (.star a) s2 := by
  generalize hr : Regex.star a = r at h
  generalize hxs : x :: s = w at h
  induction h generalizing x s with
  | starNil => cases hxs
  | @starCons a' s' t' h1 h2 _ ih2 =>
    cases hr
    cases s' with
    | nil => exact ih2 rfl hxs
    | cons y s'' =>
      cases hxs
      exact ⟨s'', t', rfl, h1, h2⟩
  | _ => cases hr

theorem deriv_iff (nc : Bool) (x : Rune) (r : Regex) (s : Str) :
    Matches nc (deriv nc x r) s ↔ Matches nc r (x :: s) := by
  induction r generalizing s with
  | void => simp only [deriv]; constructor <;> (intro h; cases h)
  | eps => simp only [deriv]; constructor <;> (intro h; cases h)
  | chr c =>
    simp only [deriv]
    constructor
    · intro h
      split at h
      · cases h; exact .chr ‹_›
      · cases h
    · intro h
      cases h with
      | chr hc => simp [hc]; exact .eps
  | any =>
    simp only [deriv]
    constructor
    · intro h; cases h; exact .any
    · intro h; cases h; exact .eps
  | set n i =>
    simp only [deriv]
    constructor
    · intro h
      split at h
      · cases h; exact .set ‹_›
      · cases h
    · intro h
      cases h with
      | set hc => simp [hc]; exact .eps
  | cat a b iha ihb =>
    simp only [deriv]
    constructor
    · intro h
      split at h
      · rename_i hn
        cases h with
        | altL h =>
          cases h with
          | cat h1 h2 => exact .cat (s := x :: _) ((iha _).mp h1) h2
        | altR h => exact .cat (s := []) ((nullable_iff nc a).mp hn) ((ihb _).mp h)
      · cases h with
        | cat h1 h2 => exact .cat (s := x :: _) ((iha _).mp h1) h2
    · intro h
      generalize hxs : x :: s = w at h
      cases h with
      | cat h1 h2 =>
        rename_i s1 t1
        cases s1 with
        | nil =>
          cases hxs
          have hn := (nullable_iff nc a).mpr h1
          simp only [hn, if_true]
          exact .altR ((ihb _).mpr h2)
        | cons y s1' =>
          cases hxs
          split
          · exact .altL (.cat ((iha _).mpr h1) h2)
          · exact .cat ((iha _).mpr h1) h2
  | alt a b iha ihb =>
    simp only [deriv]
    constructor
    · intro h; cases h with
      | altL h => exact .altL ((iha _).mp h)
      | altR h => exact .altR ((ihb _).mp h)
    · intro h; cases h with
      | altL h => exact .altL ((iha _).mpr h)
      | altR h => exact .altR ((ihb _).mpr h)
  | grp a iha =>
    simp only [deriv]
    constructor
    · intro h; exact .grp ((iha _).mp h)
    · intro h; cases h with | grp h => exact (iha _).mpr h
  | ugrp a _ => simp only [deriv]; constructor <;> (intro h; cases h)
  | star a iha =>
    simp only [deriv]
    constructor
    · intro h; cases h with
      | cat h1 h2 => exact .starCons (s := x :: _) ((iha _).mp h1) h2
    · intro h
      obtain ⟨s1, s2, rfl, h1, h2⟩ := star_cons_split h
      exact .cat ((iha _).mpr h1) h2
  | plus a iha =>
    simp only [deriv]
    constructor
    · intro h; cases h with
      | cat h1 h2 => exact .plus (s := x :: _) ((iha _).mp h1) h2
    · intro h
      generalize hxs : x :: s = w at h
      cases h with
      | plus h1 h2 =>
        rename_i s1 t1
        cases s1 with
        | nil =>
          cases hxs
          obtain ⟨u1, u2, rfl, g1, g2⟩ := star_cons_split h2
          exact .cat ((iha _).mpr g1) g2
        | cons y s1' =>
          cases hxs
          exact .cat ((iha _).mpr h1) h2
  | opt a iha =>
    simp only [deriv]
    constructor
    · intro h; exact .optSome ((iha _).mp h)
    · intro h
      generalize hxs : x :: s = w at h
      cases h with
      | optNil => cases hxs
      | optSome h => subst hxs; exact (iha _).mpr h

theorem derivs_iff (nc : Bool) (s t : Str) (r : Regex) :
    Matches nc (derivs nc s r) t ↔ Matches nc r (s ++ t) := by
  induction s generalizing r with
  | nil => simp [derivs]
  | cons x s ih => simp only [derivs, ih, deriv_iff, List.cons_append]

theorem rmatch_iff (nc : Bool) (r : Regex) (s : Str) : rmatch nc r s = true ↔ Matches nc r s := by
  unfold rmatch
  rw [nullable_iff nc, derivs_iff, List.append_nil]

theorem matches_cat_iff (nc : Bool) (a b : Regex) (s : Str) :
    Matches nc (.cat a b) s ↔ ∃ s1 s2, s = s1 ++ s2 ∧ Matches nc a s1 ∧ Matches nc b s2 := by
  constructor
  · intro h; cases h with
    | cat h1 h2 => exact ⟨_, _, rfl, h1, h2⟩
  · rintro ⟨s1, s2, rfl, h1, h2⟩; exact .cat h1 h2

theorem matches_eps_iff (nc : Bool) (s : Str) : Matches nc .eps s ↔ s = [] := by
  constructor
  · intro h; cases h; rfl
  · rintro rfl; exact .eps

theorem matches_chr_iff (nc : Bool) (c : Rune) (s : Str) :
    Matches nc (.chr c) s ↔ ∃ x, s = [x] ∧ chEq nc c x = true := by
  constructor
  · intro h; cases h with
    | chr hc => exact ⟨_, rfl, hc⟩
  · rintro ⟨x, rfl, hc⟩; exact .chr hc

theorem matches_any_iff (nc : Bool) (s : Str) : Matches nc .any s ↔ ∃ x, s = [x] := by
  constructor
  · intro h; cases h; exact ⟨_, rfl⟩
  · rintro ⟨x, rfl⟩; exact .any

theorem matches_set_iff (nc neg : Bool) (items : List CItem) (s : Str) :
    Matches nc (.set neg items) s ↔ ∃ x, s = [x] ∧ setMem nc neg items x = true := by
  constructor
  · intro h; cases h with
    | set hc => exact ⟨_, rfl, hc⟩
  · rintro ⟨x, rfl, hc⟩; exact .set hc

theorem matches_star_any (nc : Bool) (s : Str) : Matches nc (.star .any) s := by
  induction s with
  | nil => exact .starNil
  | cons x s ih => exact .starCons (s := [x]) .any ih

/-- What `*` may consume: characters a wildcard may consume, the first one in context `b`. -/
def StarDen (m : Mode) : Bool → Str → Prop
  | _, [] => True
  | b, x :: s => wildOk m b x = true ∧ StarDen m false s

/-- What `**` may consume: anything without a path component that begins with a dot. -/
def GstarDen (m : Mode) : Bool → Str → Prop
  | _, [] => True
  | b, x :: s => (!(!m.dotglob && b && x == cDot)) = true ∧ GstarDen m (startAfter m x) s

/-- Iteration of a context-dependent language, every round non-empty. -/
inductive IterDen (m : Mode) (R : Bool → Str → Prop) : Bool → Str → Prop
  | nil {b} : IterDen m R b []
  | cons {b s1 s2} : s1 ≠ [] → R b s1 → IterDen m R (ctxAfter m b s1) s2 → IterDen m R b (s1 ++ s2)

/-- What `!(…)` may consume at all: one path component's worth, no leading dot. -/
def negOk (m : Mode) (b : Bool) (s1 : Str) : Bool :=
  s1.all (wildOk m false) && (match s1 with
                              | x :: _ => wildOk m b x
                              | [] => true)

/-- The language of a parsed pattern, given whether we are at the start of a path component. -/
def GDen (m : Mode) : Glob → Bool → Str → Prop
  | .eps, _, s => s = []
  | .lit c, _, s => ∃ x, s = [x] ∧ chEq m.nocase c x = true
  | .any, b, s => ∃ x, s = [x] ∧ wildOk m b x = true
  | .star, b, s => StarDen m b s
  | .globstar false, b, s => GstarDen m b s
  | .globstar true, b, s => s = [] ∨ ∃ w, s = w ++ [cSlash] ∧ GstarDen m b w
  | .bracket neg items, b, s =>
    ∃ x, s = [x] ∧ wildOk m b x = true ∧ bracketMem m.nocase neg items x = true
  | .seq g1 g2, b, s => ∃ s1 s2, s = s1 ++ s2 ∧ GDen m g1 b s1 ∧ GDen m g2 (ctxAfter m b s1) s2
  | .alt g1 g2, b, s => GDen m g1 b s ∨ GDen m g2 b s
  | .ext op g, b, s =>
    if op = cAt then GDen m g b s
    else if op = cQuest then s = [] ∨ GDen m g b s
    else if op = cStar then IterDen m (GDen m g) b s
    else if op = cPlus then
      ∃ s1 s2, s = s1 ++ s2 ∧ GDen m g b s1 ∧ IterDen m (GDen m g) (ctxAfter m b s1) s2
    else negOk m b s = true ∧ ¬ GDen m g b s

theorem ctxAfter_nil (m : Mode) (b : Bool) : ctxAfter m b [] = b := rfl

theorem ctxAfter_append (m : Mode) (b : Bool) (s1 s2 : Str) :
    ctxAfter m (ctxAfter m b s1) s2 = ctxAfter m b (s1 ++ s2) := by
  unfold ctxAfter
  cases h2 : s2.getLast? with
  | none =>
    have : s2 = [] := List.getLast?_eq_none_iff.mp h2
    subst this
    simp
  | some x =>
    have : (s1 ++ s2).getLast? = some x := by
      rw [List.getLast?_append, h2]; rfl
    simp [this]

theorem ctxAfter_singleton (m : Mode) (b : Bool) (x : Rune) : ctxAfter m b [x] = startAfter m x := rfl

theorem ctxAfter_cons (m : Mode) (b : Bool) (x : Rune) (s : Str) :
    ctxAfter m b (x :: s) = ctxAfter m (startAfter m x) s := by
  have := ctxAfter_append m b [x] s
  simpa [ctxAfter_singleton] using this.symm

theorem wildOk_not_start {m b x} (h : wildOk m b x = true) : startAfter m x = false := by
  unfold wildOk at h
  unfold startAfter
  cases hf : m.filenames <;> cases hx : (x == cSlash) <;> simp_all

theorem StarDen_ctx {m b s} (h : StarDen m b s) (hne : s ≠ []) : ctxAfter m b s = false := by
  induction s generalizing b with
  | nil => exact absurd rfl hne
  | cons x s ih =>
    obtain ⟨h1, h2⟩ := h
    rw [ctxAfter_cons, wildOk_not_start h1]
    cases s with
    | nil => rfl
    | cons y s' => exact ih h2 (by simp)

theorem wildOk_nofn {m : Mode} (h : m.filenames = false) (b : Bool) (x : Rune) : wildOk m b x = true := by
  simp [wildOk, h]

theorem starDen_nofn {m : Mode} (h : m.filenames = false) (b : Bool) (s : Str) : StarDen m b s := by
  induction s generalizing b with
  | nil => trivial
  | cons x s ih => exact ⟨wildOk_nofn h b x, ih false⟩

/-- `step` decides the context-dependent language `R`: with continuation `k` it accepts `s` iff a
    prefix of `s` in `R` leaves a rest that `k` accepts, in the context that prefix leaves. -/
def Decides (m : Mode) (step : Bool → Str → (Bool → Str → Bool) → Bool) (R : Bool → Str → Prop) : Prop :=
  ∀ b s k, step b s k = true ↔ ∃ s1 s2, s = s1 ++ s2 ∧ R b s1 ∧ k (ctxAfter m b s1) s2 = true

theorem Decides.congr {m : Mode} {step R R'} (h : Decides m step R) (hR : ∀ b s, R b s ↔ R' b s) : Decides m step R' :=
  fun b s k => (h b s k).trans
    (exists_congr fun s1 => exists_congr fun _ => and_congr_right fun _ => and_congr_left fun _ => hR b s1)

theorem Decides.eps {m : Mode} : Decides m (fun b s k => k b s) (fun _ s => s = []) :=
  fun _ s _ => ⟨fun h => ⟨[], s, rfl, rfl, h⟩, fun ⟨_, _, hs, h1, hk⟩ => by subst h1; subst hs; exact hk⟩

/-- A token that consumes exactly one character `x` with `P b x`; `nb` is the context the matcher
    passes on, which must be the one `x` leaves. -/
theorem Decides.one {m : Mode} (P nb : Bool → Rune → Bool)
    (h : ∀ b x, P b x = true → nb b x = startAfter m x) :
    Decides m (fun b s k => match s with
                            | x :: s' => P b x && k (nb b x) s'
                            | [] => false)
      (fun b s => ∃ x, s = [x] ∧ P b x = true) := by
  intro b s k
  cases s with
  | nil => exact ⟨fun h => (nomatch h), fun ⟨_, _, h, ⟨x, hx, _⟩, _⟩ => by subst hx; cases h⟩
  | cons x s' =>
    simp only [Bool.and_eq_true]
    constructor
    · rintro ⟨hp, hk⟩
      exact ⟨[x], s', rfl, ⟨x, rfl, hp⟩, by rw [ctxAfter_singleton, ← h b x hp]; exact hk⟩
    · rintro ⟨_, _, hs, ⟨y, rfl, hp⟩, hk⟩
      cases hs
      rw [ctxAfter_singleton, ← h b x hp] at hk
      exact ⟨hp, hk⟩

theorem Decides.seq {m : Mode} {f1 f2 R1 R2} (h1 : Decides m f1 R1) (h2 : Decides m f2 R2) :
    Decides m (fun b s k => f1 b s (fun b' s' => f2 b' s' k))
      (fun b s => ∃ s1 s2, s = s1 ++ s2 ∧ R1 b s1 ∧ R2 (ctxAfter m b s1) s2) := by
  intro b s k
  rw [h1 b s]
  simp only [h2 _ _ k]
  constructor
  · rintro ⟨a, r, rfl, ha, c, d, rfl, hc, hk⟩
    exact ⟨a ++ c, d, (List.append_assoc ..).symm, ⟨a, c, rfl, ha, hc⟩, by rw [← ctxAfter_append]; exact hk⟩
  · rintro ⟨_, s2, rfl, ⟨a, c, rfl, ha, hc⟩, hk⟩
    exact ⟨a, c ++ s2, List.append_assoc .., ha, c, s2, rfl, hc, by rw [ctxAfter_append]; exact hk⟩

theorem Decides.alt {m : Mode} {f1 f2 R1 R2} (h1 : Decides m f1 R1) (h2 : Decides m f2 R2) :
    Decides m (fun b s k => f1 b s k || f2 b s k) (fun b s => R1 b s ∨ R2 b s) := by
  intro b s k
  simp only [Bool.or_eq_true, h1 b s, h2 b s]
  constructor
  · rintro (⟨a, r, hs, ha, hk⟩ | ⟨a, r, hs, ha, hk⟩)
    · exact ⟨a, r, hs, .inl ha, hk⟩
    · exact ⟨a, r, hs, .inr ha, hk⟩
  · rintro ⟨a, r, hs, ha | ha, hk⟩
    · exact .inl ⟨a, r, hs, ha, hk⟩
    · exact .inr ⟨a, r, hs, ha, hk⟩

theorem Decides.full {m : Mode} {step R} (h : Decides m step R) (b : Bool) (s : Str) :
    step b s (fun _ r => r.isEmpty) = true ↔ R b s := by
  rw [h]
  constructor
  · rintro ⟨a, r, rfl, ha, hr⟩
    rw [List.isEmpty_iff.mp hr, List.append_nil]; exact ha
  · intro h; exact ⟨s, [], (List.append_nil s).symm, h, rfl⟩

/-- A wildcard that consumes characters one by one: `F` is the matcher (`starK`, `gstarK`), `D` its
    language, both given by their two equations; `ok b x` lets `x` through in context `b`, and `nb b x`
    is the context the matcher goes on with. -/
theorem walk_iff {m : Mode} {F : (Bool → Str → Bool) → Bool → Str → Bool} {D : Bool → Str → Prop}
    {ok nb : Bool → Rune → Bool} (F0 : ∀ k b, F k b [] = k b [])
    (F1 : ∀ k b x s, F k b (x :: s) = (k b (x :: s) || (ok b x && F k (nb b x) s)))
    (D0 : ∀ b, D b []) (D1 : ∀ b x s, D b (x :: s) ↔ ok b x = true ∧ D (nb b x) s)
    (hnb : ∀ b x, ok b x = true → nb b x = startAfter m x) :
    Decides m (fun b s k => F k b s) D := by
  intro b s k
  show F k b s = true ↔ _
  induction s generalizing b with
  | nil =>
    rw [F0]
    exact ⟨fun h => ⟨[], [], rfl, D0 b, h⟩, fun ⟨s1, s2, h, _, hk⟩ => by
      obtain ⟨rfl, rfl⟩ := List.append_eq_nil_iff.mp h.symm; exact hk⟩
  | cons x s ih =>
    simp only [F1, Bool.or_eq_true, Bool.and_eq_true, ih]
    constructor
    · rintro (h | ⟨hw, s1, s2, rfl, hd, hk⟩)
      · exact ⟨[], x :: s, rfl, D0 b, h⟩
      · exact ⟨x :: s1, s2, rfl, (D1 ..).mpr ⟨hw, hd⟩, by rw [ctxAfter_cons, ← hnb b x hw]; exact hk⟩
    · rintro ⟨s1, s2, h, hd, hk⟩
      cases s1 with
      | nil => left; cases h; exact hk
      | cons y s1' =>
        cases h
        obtain ⟨hw, hd'⟩ := (D1 ..).mp hd
        rw [ctxAfter_cons, ← hnb b x hw] at hk
        exact .inr ⟨hw, s1', s2, rfl, hd', hk⟩

theorem starK_dec {m : Mode} : Decides m (fun b s k => starK m k b s) (StarDen m) :=
  walk_iff (ok := wildOk m) (nb := fun _ _ => false) (fun _ _ => rfl) (fun _ _ _ _ => rfl) (fun _ => trivial)
    (fun _ _ _ => Iff.rfl) (fun _ _ h => (wildOk_not_start h).symm)

theorem gstarK_dec {m : Mode} : Decides m (fun b s k => gstarK m k b s) (GstarDen m) :=
  walk_iff (ok := fun b x => !(!m.dotglob && b && x == cDot)) (nb := fun _ x => startAfter m x)
    (fun _ _ => rfl) (fun _ _ _ _ => rfl) (fun _ => trivial) (fun _ _ _ => Iff.rfl) (fun _ _ _ => rfl)

theorem splits_mem (s a c : Str) : (a, c) ∈ splits s ↔ a ++ c = s := by
  induction s generalizing a with
  | nil =>
    simp only [splits, List.mem_singleton, Prod.mk.injEq]
    constructor
    · rintro ⟨rfl, rfl⟩; rfl
    · intro h; exact List.append_eq_nil_iff.mp h
  | cons x s ih =>
    simp only [splits, List.mem_cons, List.mem_map, Prod.mk.injEq, Prod.exists]
    constructor
    · rintro (⟨rfl, rfl⟩ | ⟨a', c', hm, rfl, rfl⟩)
      · rfl
      · simp [(ih a').mp hm]
    · intro h
      cases a with
      | nil => left; exact ⟨rfl, by simpa using h⟩
      | cons y a' =>
        simp at h; obtain ⟨rfl, h⟩ := h
        right; exact ⟨a', c, (ih a').mpr h, rfl, rfl⟩

theorem iterK_iff (m : Mode) (R : Bool → Str → Prop)
    (step : Bool → Str → (Bool → Str → Bool) → Bool) (hstep : Decides m step R)
    (n : Nat) (b : Bool) (s : Str) (k : Bool → Str → Bool) (hn : s.length ≤ n) :
    iterK step n b s k = true ↔
      ∃ s1 s2, s = s1 ++ s2 ∧ IterDen m R b s1 ∧ k (ctxAfter m b s1) s2 = true := by
  induction n generalizing b s with
  | zero =>
    have : s = [] := List.length_eq_zero_iff.mp (Nat.le_zero.mp hn)
    subst this
    simp only [iterK]
    constructor
    · intro h; exact ⟨[], [], rfl, .nil, h⟩
    · rintro ⟨s1, s2, h, _, hk⟩
      obtain ⟨rfl, rfl⟩ := List.append_eq_nil_iff.mp h.symm
      exact hk
  | succ n ih =>
    simp only [iterK, Bool.or_eq_true, hstep _ _ _, Bool.and_eq_true, decide_eq_true_eq]
    constructor
    · rintro (h | ⟨a, c, rfl, hR, hlt, hit⟩)
      · exact ⟨[], s, rfl, .nil, h⟩
      · have hane : a ≠ [] := fun h0 => by subst h0; exact Nat.lt_irrefl _ hlt
        obtain ⟨s1, s2, rfl, hI, hk⟩ := (ih _ c (Nat.le_of_lt_succ (Nat.lt_of_lt_of_le hlt hn))).mp hit
        refine ⟨a ++ s1, s2, (List.append_assoc ..).symm, .cons hane hR hI, ?_⟩
        rw [← ctxAfter_append]; exact hk
    · rintro ⟨s1, s2, rfl, hI, hk⟩
      cases hI with
      | nil => left; exact hk
      | @cons _ a c hane hR hI' =>
        right
        have hlt : (c ++ s2).length < (a ++ c ++ s2).length := by
          rw [List.append_assoc, List.length_append (as := a)]
          exact Nat.lt_add_of_pos_left (List.length_pos_iff.mpr hane)
        refine ⟨a, c ++ s2, List.append_assoc .., hR, hlt, ?_⟩
        refine (ih _ _ (Nat.le_of_lt_succ (Nat.lt_of_lt_of_le hlt hn))).mpr ⟨c, s2, rfl, hI', ?_⟩
        rw [ctxAfter_append]; exact hk

theorem Decides.iter {m : Mode} {step R} (h : Decides m step R) :
    Decides m (fun b s k => iterK step s.length b s k) (IterDen m R) :=
  fun b s k => iterK_iff m R step h s.length b s k (Nat.le_refl _)

/-- `!(…)`: the matcher tries every split and asks the inner matcher for a full match of the prefix. -/
theorem Decides.neg {m : Mode} {step R} (h : Decides m step R) :
    Decides m (fun b s k => (splits s).any fun (s1, s2) =>
        negOk m b s1 && !step b s1 (fun _ r => r.isEmpty) && k (ctxAfter m b s1) s2)
      (fun b s => negOk m b s = true ∧ ¬ R b s) := by
  intro b s k
  rw [List.any_eq_true]
  constructor
  · rintro ⟨⟨a, r⟩, hmem, hh⟩
    cases (splits_mem s a r).mp hmem
    simp only [Bool.and_eq_true, Bool.not_eq_true'] at hh
    exact ⟨a, r, rfl, ⟨hh.1.1, fun hd => by rw [(h.full b a).mpr hd] at hh; cases hh.1.2⟩, hh.2⟩
  · rintro ⟨a, r, rfl, ⟨hok, hng⟩, hk⟩
    refine ⟨(a, r), (splits_mem _ a r).mpr rfl, ?_⟩
    simp only [Bool.and_eq_true, Bool.not_eq_true']
    refine ⟨⟨hok, ?_⟩, hk⟩
    cases hg : step b a (fun _ r => r.isEmpty) with
    | false => rfl
    | true => exact absurd ((h.full b a).mp hg) hng

/-- The backtracking matcher decides `GDen`: every constructor of `Glob` is one of the rules above. -/
theorem gmatch_dec (m : Mode) (g : Glob) : Decides m (gmatch m g) (GDen m g) := by
  induction g with
  | eps => exact Decides.eps
  | lit c => exact Decides.one (fun _ x => chEq m.nocase c x) (fun _ x => startAfter m x) fun _ _ _ => rfl
  | any => exact Decides.one (wildOk m) (fun _ _ => false) fun _ _ h => (wildOk_not_start h).symm
  | star => exact starK_dec
  | globstar sl =>
    cases sl with
    | false => exact gstarK_dec
    | true =>
      -- `**/`: nothing, or what `**` takes and then one slash
      refine (Decides.eps.alt (gstarK_dec.seq (Decides.one (fun _ y => y == cSlash) (fun _ y => startAfter m y)
        fun _ _ _ => rfl))).congr fun b s => or_congr_right ?_
      exact ⟨fun ⟨w, _, hs, hw, y, hy1, hy⟩ => ⟨w, by rw [hs, hy1, beq_iff_eq.mp hy], hw⟩,
        fun ⟨w, hs, hw⟩ => ⟨w, _, hs, hw, cSlash, rfl, beq_self_eq_true _⟩⟩
  | bracket neg items =>
    exact (Decides.one (fun b x => wildOk m b x && bracketMem m.nocase neg items x) (fun _ _ => false)
      fun _ _ h => (wildOk_not_start (Bool.and_eq_true_iff.mp h).1).symm).congr fun b s =>
        exists_congr fun x => and_congr_right fun _ => Bool.and_eq_true_iff
  | seq g1 g2 ih1 ih2 => exact ih1.seq ih2
  | alt g1 g2 ih1 ih2 => exact ih1.alt ih2
  | ext op g ih =>
    intro b s k
    by_cases h1 : op = cAt
    · subst h1; exact ih b s k
    by_cases h2 : op = cQuest
    · subst h2; exact Decides.eps.alt ih b s k
    by_cases h3 : op = cStar
    · subst h3; exact ih.iter b s k
    by_cases h4 : op = cPlus
    · subst h4; exact ih.seq ih.iter b s k
    · have hgm : gmatch m (.ext op g) b s k = (splits s).any fun (s1, s2) =>
          negOk m b s1 && !gmatch m g b s1 (fun _ r => r.isEmpty) && k (ctxAfter m b s1) s2 := by
        simp only [gmatch, if_neg h1, if_neg h2, if_neg h3, if_neg h4]; rfl
      have hgd : ∀ s1, GDen m (.ext op g) b s1 ↔ negOk m b s1 = true ∧ ¬ GDen m g b s1 := fun s1 => by
        simp only [GDen, if_neg h1, if_neg h2, if_neg h3, if_neg h4]
      rw [hgm, ih.neg b s k]
      exact exists_congr fun s1 => exists_congr fun _ => and_congr_right fun _ => and_congr_left fun _ => (hgd s1).symm

theorem gmatch_full_iff (m : Mode) (g : Glob) (b : Bool) (s : Str) :
    gmatch m g b s (fun _ r => r.isEmpty) = true ↔ GDen m g b s :=
  (gmatch_dec m g).full b s

theorem litTok_ne_dot (m : Mode) (prev : Rune) {c : Rune} (h : c ≠ cDot) : litTok m prev c = .lit c := by
  simp [litTok, beq_false_of_ne h]

theorem litTok_nofn {m : Mode} (h : m.filenames = false) (prev c : Rune) : litTok m prev c = .lit c := by
  simp [litTok, h]

theorem chEq_false_iff (c x : Rune) : chEq false c x = true ↔ x = c := by
  simp [chEq, variants, eq_comm]

theorem orbit_spec (x : Rune) : x ∈ orbit x ∧ ∀ y ∈ orbit x, y = x ∨ 65 ≤ y := by
  rw [orbit]
  by_cases h1 : (x == 75 || x == 107 || x == 0x212A) = true
  · rw [if_pos h1]
    simp only [Bool.or_eq_true, beq_iff_eq] at h1
    exact ⟨by rcases h1 with (h | h) | h <;> subst h <;> decide,
      fun y hy => .inr ((by decide : ∀ y ∈ [75, 107, 0x212A], 65 ≤ y) y hy)⟩
  rw [if_neg h1]
  by_cases h2 : (x == 83 || x == 115 || x == 0x17F) = true
  · rw [if_pos h2]
    simp only [Bool.or_eq_true, beq_iff_eq] at h2
    exact ⟨by rcases h2 with (h | h) | h <;> subst h <;> decide,
      fun y hy => .inr ((by decide : ∀ y ∈ [83, 115, 0x17F], 65 ≤ y) y hy)⟩
  rw [if_neg h2]
  by_cases h3 : isUpper x = true
  · rw [if_pos h3]
    simp only [isUpper, Bool.and_eq_true, decide_eq_true_eq] at h3
    refine ⟨List.mem_cons_self .., fun y hy => ?_⟩
    rcases List.mem_cons.mp hy with rfl | hy
    · exact .inl rfl
    · rw [List.mem_singleton.mp hy]; exact .inr (Nat.le_trans h3.1 (Nat.le_add_right _ _))
  rw [if_neg h3]
  by_cases h4 : isLower x = true
  · rw [if_pos h4]
    simp only [isLower, Bool.and_eq_true, decide_eq_true_eq] at h4
    refine ⟨List.mem_cons_of_mem _ (List.mem_singleton.mpr rfl), fun y hy => ?_⟩
    rcases List.mem_cons.mp hy with rfl | hy
    · exact .inr (Nat.le_sub_of_add_le h4.1)
    · exact .inl (List.mem_singleton.mp hy)
  rw [if_neg h4]
  exact ⟨List.mem_singleton.mpr rfl, fun y hy => .inl (List.mem_singleton.mp hy)⟩

/-- With or without case folding, only the character itself stands for a non-letter below 'A'. -/
theorem variants_small (nc : Bool) (x y : Nat) (hy : y < 65) (h : (variants nc x).contains y = true) :
    x = y := by
  have h := List.contains_iff_mem.mp h
  cases nc with
  | false => exact (List.mem_singleton.mp h).symm
  | true => exact ((orbit_spec x).2 y h).elim Eq.symm fun h' => absurd hy (Nat.not_lt.mpr h')

theorem chEq_small {nc : Bool} {c x : Nat} (hc : c < 65) (h : chEq nc c x = true) : x = c :=
  variants_small nc x c hc h

theorem variants_slash (nc : Bool) : variants nc cSlash = [cSlash] := by cases nc <;> decide

theorem chEq_slash_iff {nc : Bool} {c x : Nat} (h : chEq nc c x = true) : x = cSlash ↔ c = cSlash := by
  constructor
  · rintro rfl
    unfold chEq at h
    rw [variants_slash] at h
    simpa using h
  · rintro rfl
    exact chEq_small (by decide) h

theorem chEq_refl (nc : Bool) (c : Rune) : chEq nc c c = true := by
  apply List.contains_iff_mem.mpr
  cases nc with
  | false => exact List.mem_singleton.mpr rfl
  | true => exact (orbit_spec c).1

theorem any_variants_eq (nc : Bool) (x y : Nat) (hy : y < 65) :
    (variants nc x).any (fun z => z == y) = (x == y) := by
  rw [Bool.eq_iff_iff]
  constructor
  · intro h
    obtain ⟨z, hz, hzy⟩ := List.any_eq_true.mp h
    cases beq_iff_eq.mp hzy
    exact beq_iff_eq.mpr (variants_small nc x y hy (List.contains_iff_mem.mpr hz))
  · intro h
    cases beq_iff_eq.mp h
    exact List.any_eq_true.mpr ⟨x, List.contains_iff_mem.mp (chEq_refl nc x), beq_self_eq_true x⟩

theorem GDen_litTok (m : Mode) (prev c : Rune) (b : Bool)
    (hb : (m.filenames && !m.dotglob && c == cDot) = true → b = true → prev = 0 ∨ prev = cSlash)
    (s1 : Str) : GDen m (litTok m prev c) b s1 ↔ ∃ x, s1 = [x] ∧ chEq m.nocase c x = true := by
  unfold litTok
  split
  · -- a dot that does not start a component is read as `[.]`, which still matches exactly a dot
    rename_i h
    simp only [Bool.and_eq_true, Bool.not_eq_true', beq_iff_eq, Bool.or_eq_false_iff,
      beq_eq_false_iff_ne] at h
    obtain ⟨⟨⟨hfn, hdg⟩, rfl⟩, hp1, hp2⟩ := h
    have hbf : b = false := by
      cases b with
      | false => rfl
      | true => rcases hb (by rw [hfn, hdg]; rfl) rfl with h | h <;> contradiction
    subst hbf
    have hmem : ∀ x, bracketMem m.nocase false [.ch cDot] x = (x == cDot) := fun x => by
      simp only [bracketMem, List.any_cons, List.any_nil, Bool.or_false, BItem.memFold, BItem.mem]
      rw [any_variants_eq _ _ _ (by decide)]
      cases (x == cDot) <;> rfl
    have hch : ∀ x, chEq m.nocase cDot x = true ↔ x = cDot := fun x =>
      ⟨chEq_small (by decide), fun h => h ▸ chEq_refl _ _⟩
    simp only [GDen, hmem, hch, beq_iff_eq]
    constructor
    · rintro ⟨x, rfl, _, hx⟩; exact ⟨x, rfl, hx⟩
    · rintro ⟨x, rfl, hx⟩
      subst hx
      exact ⟨cDot, rfl, by simp [wildOk, show (cDot == cSlash) = false by decide], rfl⟩
  · simp only [GDen]

end ShVerif.L3
