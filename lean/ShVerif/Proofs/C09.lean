import ShVerif.Model.C09
/-
  The bit fields of `Pos` are read as arithmetic once (`line = lineCol / 16384`,
  `col = lineCol % 16384`, `l * 16384 ||| c = l * 16384 + c`); after that `newPos` and `posAddCol`
  are described by their two words and every fact about them is linear arithmetic.  The facts about
  position trees go through one induction principle, `PTree.ind`.
-/
namespace ShVerif.C09

theorem colMax_eq : colMax = 16383 := by decide
theorem lineMax_eq : lineMax = 262143 := by decide
theorem offsetMax_eq : offsetMax = 4294967284 := by decide
theorem offsetRecovered_eq : offsetRecovered = 4294967285 := by decide

theorem or_eq_add (l : Nat) {c : Nat} (hc : c < 16384) : l * 16384 ||| c = l * 16384 + c := by
  rw [Nat.mul_comm]
  exact (Nat.two_pow_add_eq_or_of_lt (i := 14) hc l).symm

theorem Pos.line_eq (p : Pos) : p.line = p.lineCol / 16384 := Nat.shiftRight_eq_div_pow _ 14

theorem Pos.col_eq (p : Pos) : p.col = p.lineCol % 16384 := Nat.and_two_pow_sub_one_eq_mod _ 14

theorem pack_line (l : Nat) {c : Nat} (hc : c < 16384) : (l * 16384 + c) / 16384 = l := by
  rw [Nat.mul_comm, Nat.mul_add_div (by decide), Nat.div_eq_of_lt hc, Nat.add_zero]

theorem pack_col (l : Nat) {c : Nat} (hc : c < 16384) : (l * 16384 + c) % 16384 = c :=
  Nat.mul_add_mod_of_lt hc

theorem pack_lt {l c : Nat} (hl : l < 262144) (hc : c < 16384) : l * 16384 + c < 4294967296 := by omega

theorem pack_ne_zero (l c : Nat) : l * 16384 + c ≠ 0 ↔ (l ≠ 0 ∨ c ≠ 0) := by
  rw [Ne, Nat.add_eq_zero_iff, Nat.mul_eq_zero, or_iff_left (by decide), Classical.not_and_iff_not_or_not]

/-- `&^ colBitMask` clears the column and, on a 32-bit word, nothing else: the mask is
    `(2 ^ 18 - 1) * 2 ^ 14`. -/
theorem clearCol_eq {lc : Nat} (h : lc < 4294967296) : clearCol lc = lc / 16384 * 16384 := by
  have hm : clearCol lc % 16384 = lc % 16384 &&& 0 := Nat.and_mod_two_pow (n := 14)
  have hd : clearCol lc / 16384 = lc / 16384 &&& 2 ^ 18 - 1 := Nat.and_div_two_pow (n := 14)
  rw [Nat.and_zero] at hm
  rw [Nat.and_two_pow_sub_one_of_lt_two_pow (Nat.div_lt_of_lt_mul h)] at hd
  rw [← Nat.div_add_mod (clearCol lc) 16384, hm, hd, Nat.add_zero, Nat.mul_comm]

theorem u32_of_lt {n : Nat} (h : n < 4294967296) : u32 n = n := Nat.mod_eq_of_lt h

theorem col_lt (p : Pos) : p.col < 16384 := by
  rw [Pos.col_eq]; exact Nat.mod_lt _ (by decide)

theorem line_lt {p : Pos} (h : p.wf) : p.line < 262144 := by
  rw [Pos.line_eq]; exact Nat.div_lt_of_lt_mul h.2

theorem lineCol_split (p : Pos) : p.lineCol = p.line <<< 14 ||| p.col := by
  rw [Nat.shiftLeft_eq, or_eq_add _ (col_lt p), Pos.line_eq, Pos.col_eq]
  exact (Nat.div_add_mod' ..).symm

theorem isValid_iff (p : Pos) : p.isValid = true ↔ (p.offs ≤ offsetMax ∧ p.lineCol ≠ 0) := by
  simp [Pos.isValid]

theorem offset_of_le {p : Pos} (h : p.offs ≤ offsetMax) : p.offset = p.offs :=
  if_neg (Nat.not_lt.2 h)

theorem offset_of_valid {p : Pos} (h : p.isValid = true) : p.offset = p.offs :=
  offset_of_le ((isValid_iff p).1 h).1

theorem after_iff (p q : Pos) : p.after q = true ↔ (p.isValid = true ∧ q.offs < p.offs) := by
  unfold Pos.after
  cases p.isValid <;> simp

theorem clampLine_lt (l : Nat) : (if l > lineMax then 0 else l) < 262144 := by
  rw [lineMax_eq]; split <;> omega

theorem clampCol_lt (c : Nat) : (if c > colMax then 0 else c) < 16384 := by
  rw [colMax_eq]; split <;> omega

theorem clamp_ne_zero (x m : Nat) : (if x > m then 0 else x) ≠ 0 ↔ x ≤ m ∧ x ≠ 0 := by
  split <;> omega

theorem newPos_offs (o l c : Nat) : (newPos o l c).offs = min o offsetMax :=
  u32_of_lt (by rw [offsetMax_eq]; omega)

theorem newPos_lineCol (o l c : Nat) :
    (newPos o l c).lineCol = (if l > lineMax then 0 else l) * 16384 + (if c > colMax then 0 else c) := by
  have hl := clampLine_lt l
  have hc := clampCol_lt c
  have hs : (if l > lineMax then 0 else l) <<< 14 = (if l > lineMax then 0 else l) * 16384 :=
    Nat.shiftLeft_eq _ 14
  have h2 : (if l > lineMax then 0 else l) * 16384 < 4294967296 := by omega
  show u32 (u32 _ <<< 14) ||| u32 _ = _
  rw [u32_of_lt (n := ite _ _ _) (Nat.lt_trans hl (by decide)), hs, u32_of_lt h2,
    u32_of_lt (n := ite _ _ _) (Nat.lt_trans hc (by decide)), or_eq_add _ hc]

theorem newPos_wf (o l c : Nat) : (newPos o l c).wf := by
  rw [Pos.wf, newPos_offs, newPos_lineCol]
  exact ⟨by rw [offsetMax_eq]; omega, pack_lt (clampLine_lt l) (clampCol_lt c)⟩

theorem newPos_offset (o l c : Nat) : (newPos o l c).offset = min o offsetMax :=
  (offset_of_le (by rw [newPos_offs]; exact Nat.min_le_right ..)).trans (newPos_offs o l c)

theorem newPos_line (o l c : Nat) : (newPos o l c).line = if l > lineMax then 0 else l := by
  rw [Pos.line_eq, newPos_lineCol, pack_line _ (clampCol_lt c)]

theorem newPos_col (o l c : Nat) : (newPos o l c).col = if c > colMax then 0 else c := by
  rw [Pos.col_eq, newPos_lineCol, pack_col _ (clampCol_lt c)]

theorem newPos_isValid (o l c : Nat) :
    (newPos o l c).isValid = true ↔ ((l ≤ lineMax ∧ l ≠ 0) ∨ (c ≤ colMax ∧ c ≠ 0)) := by
  rw [isValid_iff, newPos_offs, newPos_lineCol, pack_ne_zero, clamp_ne_zero, clamp_ne_zero]
  exact and_iff_right (Nat.min_le_right ..)

/-- no int64 wrap-around for these `n` (far more than any token length) -/
def smallInt (n : Int) : Prop := -4611686018427387904 ≤ n ∧ n ≤ 4611686018427387904

theorem wrap64_add {x : Nat} {n : Int} (hx : x < 4294967296) (hn : smallInt n) :
    wrap64 ((x : Int) + n) = x + n := by
  unfold smallInt at hn
  unfold wrap64
  omega

/-- the column after `posAddCol(p, n)` -/
def newCol (col : Nat) (n : Int) : Nat :=
  if col = 0 then 0 else if 1 ≤ (col : Int) + n ∧ (col : Int) + n ≤ 16383 then ((col : Int) + n).toNat else 0

/-- the offset word after `posAddCol(p, n)` -/
def newOffs (offs : Nat) (n : Int) : Nat :=
  (min (max ((offs : Int) + n) 0) 4294967284).toNat

theorem newCol_lt (col : Nat) (n : Int) : newCol col n < 16384 := by
  unfold newCol
  split
  · decide
  · split
    · omega
    · decide

theorem newCol_of_range {col : Nat} {n : Int} (h0 : col ≠ 0)
    (hr : 1 ≤ (col : Int) + n ∧ (col : Int) + n ≤ 16383) : (newCol col n : Int) = col + n := by
  rw [newCol, if_neg h0, if_pos hr]
  omega

theorem newCol_ne_zero {col : Nat} {n : Int} (h : newCol col n ≠ 0) :
    col ≠ 0 ∧ (newCol col n : Int) = col + n := by
  by_cases h0 : col = 0
  · exact absurd (if_pos h0) h
  · by_cases hr : 1 ≤ (col : Int) + n ∧ (col : Int) + n ≤ 16383
    · exact ⟨h0, newCol_of_range h0 hr⟩
    · exact absurd ((if_neg h0).trans (if_neg hr)) h

theorem newOffs_le (offs : Nat) (n : Int) : newOffs offs n ≤ 4294967284 :=
  Int.toNat_le.2 (Int.min_le_right ..)

theorem newOffs_of_range {offs : Nat} {n : Int} (h0 : 0 ≤ (offs : Int) + n)
    (h1 : (offs : Int) + n ≤ 4294967284) : (newOffs offs n : Int) = offs + n := by
  rw [newOffs, Int.max_eq_left h0, Int.min_eq_left h1, Int.toNat_of_nonneg h0]

/-- clamping from below, from above and `toNat` are monotone -/
theorem newOffs_mono (offs : Nat) {n m : Int} (h : n ≤ m) : newOffs offs n ≤ newOffs offs m := by
  have h1 : max ((offs : Int) + n) 0 ≤ max ((offs : Int) + m) 0 :=
    Int.max_le.2 ⟨Int.le_trans (Int.add_le_add_left h _) (Int.le_max_left ..), Int.le_max_right ..⟩
  exact Int.toNat_le_toNat (Int.le_min.2 ⟨Int.le_trans (Int.min_le_left ..) h1, Int.min_le_right ..⟩)

/-- the offset computation of `posAddCol`, for an `n` without int64 wrap-around -/
theorem addCol_offs {offs : Nat} {n : Int} (ho : offs < 4294967296) (hn : smallInt n) :
    u32 (min (max (wrap64 ((offs : Int) + n)) 0) (offsetMax : Int)).toNat = newOffs offs n := by
  rw [wrap64_add ho hn, offsetMax_eq]
  exact u32_of_lt (Nat.lt_of_le_of_lt (newOffs_le offs n) (by decide))

/-- the column computation of `posAddCol`, for an `n` without int64 wrap-around -/
theorem addCol_col {col : Nat} {n : Int} (hc : col < 16384) (hn : smallInt n) :
    u32 (if (col : Int) > 0 then
          (if wrap64 ((col : Int) + n) < 1 ∨ wrap64 ((col : Int) + n) > (colMax : Int) then 0
           else wrap64 ((col : Int) + n))
         else (col : Int)).toNat = newCol col n := by
  rw [wrap64_add (Nat.lt_trans hc (by decide)) hn, colMax_eq, Int.cast_ofNat_Int, newCol]
  by_cases h0 : col = 0
  · subst h0
    rfl
  · rw [if_pos (Int.natCast_pos.2 (Nat.pos_of_ne_zero h0)), if_neg h0]
    by_cases hr : 1 ≤ (col : Int) + n ∧ (col : Int) + n ≤ 16383
    · rw [if_pos hr, if_neg (not_or.2 ⟨Int.not_lt.2 hr.1, Int.not_lt.2 hr.2⟩)]
      exact u32_of_lt (by omega)
    · rw [if_neg hr, if_pos (by omega)]
      rfl

theorem posAddCol_invalid (p : Pos) (n : Int) (h : p.isValid = false) : posAddCol p n = p := by
  unfold posAddCol
  simp [h]

section
variable (p : Pos) (n : Int) (hw : p.wf) (hv : p.isValid = true) (hn : smallInt n)
include hw hv hn

theorem posAddCol_offs : (posAddCol p n).offs = newOffs p.offs n := by
  unfold posAddCol
  rw [if_neg (by simp [hv])]
  exact addCol_offs hw.1 hn

theorem posAddCol_lineCol : (posAddCol p n).lineCol = p.line * 16384 + newCol p.col n := by
  unfold posAddCol
  rw [if_neg (by simp [hv])]
  show _ ||| _ = _
  rw [addCol_col (col_lt p) hn, clearCol_eq hw.2, or_eq_add _ (newCol_lt ..), ← Pos.line_eq]

theorem posAddCol_line : (posAddCol p n).line = p.line := by
  rw [Pos.line_eq, posAddCol_lineCol p n hw hv hn, pack_line _ (newCol_lt ..)]

theorem posAddCol_col : (posAddCol p n).col = newCol p.col n := by
  rw [Pos.col_eq, posAddCol_lineCol p n hw hv hn, pack_col _ (newCol_lt ..)]

theorem posAddCol_wf : (posAddCol p n).wf := by
  rw [Pos.wf, posAddCol_offs p n hw hv hn, posAddCol_lineCol p n hw hv hn]
  exact ⟨Nat.lt_of_le_of_lt (newOffs_le ..) (by decide), pack_lt (line_lt hw) (newCol_lt ..)⟩

theorem posAddCol_isValid : (posAddCol p n).isValid = true ↔ (p.line ≠ 0 ∨ newCol p.col n ≠ 0) := by
  rw [isValid_iff, posAddCol_offs p n hw hv hn, posAddCol_lineCol p n hw hv hn, pack_ne_zero, offsetMax_eq]
  exact and_iff_right (newOffs_le ..)

end

theorem lineColFrom_zero (src : List UInt8) (line col : Nat) : lineColFrom line col src 0 = (line, col) := by
  cases src <;> rfl

theorem lineColFrom_cons_succ (b : UInt8) (rest : List UInt8) (off line col : Nat) :
    lineColFrom line col (b :: rest) (off + 1) =
      if b = 10 then lineColFrom (line + 1) 1 rest off else lineColFrom line (col + 1) rest off := rfl

theorem lineColFrom_succ (src : List UInt8) (off line col : Nat) (b : UInt8) (h : src[off]? = some b) :
    lineColFrom line col src (off + 1) =
      (if b = 10 then ((lineColFrom line col src off).1 + 1, 1)
       else ((lineColFrom line col src off).1, (lineColFrom line col src off).2 + 1)) := by
  induction src generalizing off line col with
  | nil => cases h
  | cons x rest ih =>
    cases off with
    | zero =>
      cases h
      rw [lineColFrom_cons_succ, lineColFrom_zero, lineColFrom_zero, lineColFrom_zero]
    | succ off =>
      rw [lineColFrom_cons_succ, lineColFrom_cons_succ]
      split <;> exact ih _ _ _ h

/-- `d` is a node of the subtree rooted at `t` (`t` itself included) -/
def Sub (t d : PTree) : Prop := d ∈ t.nodes

theorem pairwiseB_iff {r : PTree → PTree → Bool} :
    ∀ {l : List PTree}, pairwiseB r l = true ↔ List.Pairwise (fun a b => r a b = true) l
  | [] => ⟨fun _ => List.Pairwise.nil, fun _ => rfl⟩
  | a :: rest => by
    rw [pairwiseB, Bool.and_eq_true, List.all_eq_true, List.pairwise_cons, pairwiseB_iff]

theorem pairwise_pairwiseB {r : PTree → PTree → Bool} :
    ∀ {l : List PTree}, List.Pairwise (fun a b => r a b = true) l → pairwiseB r l = true :=
  pairwiseB_iff.2

mutual
  theorem PTree.ind {P : PTree → Prop} (step : ∀ t, (∀ k ∈ t.kids, P k) → P t) : ∀ t, P t
    | .node _ _ _ _ _ kids => step _ (PTree.indList step kids)
  theorem PTree.indList {P : PTree → Prop} (step : ∀ t, (∀ k ∈ t.kids, P k) → P t) :
      ∀ l : List PTree, ∀ k ∈ l, P k
    | [], _, hk => nomatch hk
    | a :: as, k, hk => by
      cases hk with
      | head => exact PTree.ind step a
      | tail _ hk => exact PTree.indList step as k hk
end

theorem mem_nodesList : ∀ {l : List PTree} {d : PTree}, d ∈ PTree.nodesList l ↔ ∃ k ∈ l, d ∈ k.nodes
  | [], d => by simp [PTree.nodesList]
  | a :: as, d => by
    simp only [PTree.nodesList, List.mem_append, List.mem_cons, exists_eq_or_imp]
    rw [mem_nodesList (l := as)]

theorem sub_iff {t d : PTree} : Sub t d ↔ d = t ∨ ∃ k ∈ t.kids, Sub k d := by
  cases t with
  | node id s p e toks kids => simp only [Sub, PTree.nodes, List.mem_cons, mem_nodesList, PTree.kids]

theorem sub_refl (t : PTree) : Sub t t := sub_iff.2 (Or.inl rfl)

theorem sub_trans {t a d : PTree} (h1 : Sub t a) (h2 : Sub a d) : Sub t d := by
  induction t using PTree.ind with
  | step t ih =>
    rcases sub_iff.1 h1 with rfl | ⟨k, hk, hka⟩
    · exact h2
    · exact sub_iff.2 (Or.inr ⟨k, hk, ih k hk hka⟩)

theorem localOkList_iff : ∀ {l : List PTree}, localOkList l = true ↔ ∀ k ∈ l, localOk k = true
  | [] => by simp [localOkList]
  | a :: as => by rw [localOkList, Bool.and_eq_true, List.forall_mem_cons, localOkList_iff]

theorem localDisjointList_iff : ∀ {l : List PTree},
    localDisjointList l = true ↔ ∀ k ∈ l, localDisjoint k = true
  | [] => by simp [localDisjointList]
  | a :: as => by rw [localDisjointList, Bool.and_eq_true, List.forall_mem_cons, localDisjointList_iff]

theorem localOk_iff {t : PTree} :
    localOk t = true ↔ localNode t = true ∧ ∀ k ∈ t.kids, localOk k = true := by
  cases t
  rw [localOk, Bool.and_eq_true, localOkList_iff, PTree.kids]

theorem localDisjoint_iff {t : PTree} :
    localDisjoint t = true ↔ pairwiseB endsBefore t.kids = true ∧ ∀ k ∈ t.kids, localDisjoint k = true := by
  cases t
  rw [localDisjoint, Bool.and_eq_true, localDisjointList_iff, PTree.kids]

theorem localNode_iff {t : PTree} : localNode t = true ↔
    t.pos ≤ t.end_ ∧ (∀ tk ∈ t.toks, t.pos ≤ tk.1 ∧ tk.1 + tk.2 ≤ t.end_) ∧
    (∀ k ∈ t.kids, t.pos ≤ k.pos ∧ k.end_ ≤ t.end_) ∧ pairwiseB startsBefore t.kids = true := by
  simp only [localNode, tokWithin, kidWithin, Bool.and_eq_true, List.all_eq_true, decide_eq_true_eq,
    and_assoc]

theorem local_sub (t : PTree) (h : localOk t = true) (d : PTree) (hd : Sub t d) :
    t.pos ≤ d.pos ∧ d.end_ ≤ t.end_ ∧ localOk d = true := by
  induction t using PTree.ind with
  | step t ih =>
    rcases sub_iff.1 hd with rfl | ⟨k, hk, hkd⟩
    · exact ⟨Nat.le_refl _, Nat.le_refl _, h⟩
    · obtain ⟨hn, hkids⟩ := localOk_iff.1 h
      obtain ⟨h1, h2, h3⟩ := ih k hk (hkids k hk) hkd
      obtain ⟨w1, w2⟩ := (localNode_iff.1 hn).2.2.1 k hk
      exact ⟨Nat.le_trans w1 h1, Nat.le_trans h2 w2, h3⟩

theorem local_subList : ∀ (l : List PTree), localOkList l = true → ∀ d, d ∈ PTree.nodesList l →
      ∃ k, k ∈ l ∧ k.pos ≤ d.pos ∧ d.end_ ≤ k.end_ ∧ localOk d = true
  | _, h, d, hd =>
    let ⟨k, hk, hkd⟩ := mem_nodesList.1 hd
    ⟨k, hk, local_sub k (localOkList_iff.1 h k hk) d hkd⟩

theorem disjoint_sub (t : PTree) (h : localDisjoint t = true) (a : PTree) (ha : Sub t a) :
    pairwiseB endsBefore a.kids = true := by
  induction t using PTree.ind with
  | step t ih =>
    obtain ⟨h0, hkids⟩ := localDisjoint_iff.1 h
    rcases sub_iff.1 ha with rfl | ⟨k, hk, hka⟩
    · exact h0
    · exact ih k hk (hkids k hk) hka

end ShVerif.C09
