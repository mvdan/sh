import ShVerif.Model.C16
import ShVerif.Proofs.C16Split
/-
  C16 — expansion of a split word: the loop of a sequence with its Int64 wrap-around runs through
  the ideal arithmetic progression (`seq_exact_core`), and `bracesSeqRec` yields the first `budget`
  words of the denotation of a well-shaped word (`bracesRec_spec`).
-/
namespace ShVerif.C16

abbrev In64 (x : Int) : Prop := minI64 ≤ x ∧ x ≤ maxI64

theorem arith_take (a d : Int) (n k : Nat) : (arith a d n).take k = arith a d (min k n) := by
  induction n generalizing a k with
  | zero => simp [arith]
  | succ n ih =>
    cases k with
    | zero => simp [arith]
    | succ k =>
      have : min (k + 1) (n + 1) = min k n + 1 := by omega
      simp [arith, ih, this]

theorem arith_length (a d : Int) (n : Nat) : (arith a d n).length = n := by
  induction n generalizing a with
  | zero => simp [arith]
  | succ n ih => simp [arith, ih]

theorem u64_sub (a b : Int) (ha : In64 a) (hb : In64 b) (h : b ≤ a) :
    u64 (u64 a - u64 b) = a - b := by
  simp only [In64, u64, minI64, maxI64] at *; omega

theorem i64_add (n t : Int) (h : In64 (n + t)) : i64 (u64 n + t) = n + t := by
  simp only [In64, u64, i64, minI64, maxI64] at *; omega

def SeqParams.delta (sp : SeqParams) : Int := if sp.upward then (sp.step : Int) else -(sp.step : Int)

/-- `d` is the distance left from `n` to `to`: `d / step` more values follow `n`. -/
theorem seqVals_arith (sp : SeqParams) (hs : 0 < sp.step) (hto : In64 sp.to) :
    ∀ (k d : Nat) (n : Int), In64 n →
      (if sp.upward then n + d = sp.to else n - d = sp.to) →
      seqVals sp k n = arith n sp.delta (min k (d / sp.step + 1)) := by
  intro k
  induction k with
  | zero => intro d n _ _; simp [seqVals, arith]
  | succ k ih =>
    intro d n hn hd
    -- one pass of the loop, in either direction: stop when the distance left is below the step
    have pass : seqVals sp (k + 1) n =
        n :: if (d : Int) < sp.step then [] else seqVals sp k (n + sp.delta) := by
      unfold SeqParams.delta
      cases hup : sp.upward <;> simp only [hup, if_true, if_false, Bool.false_eq_true] at hd ⊢
      · rw [seqVals, hup, if_neg (by decide), u64_sub n sp.to hn hto (by omega),
          show n - sp.to = d by omega]
        exact congrArg _ (ite_congr rfl (fun _ => rfl) fun h => by
          rw [Int.sub_eq_add_neg, i64_add n _ (by omega)])
      · rw [seqVals, hup, if_pos rfl, u64_sub sp.to n hto hn (by omega),
          show sp.to - n = d by omega]
        exact congrArg _ (ite_congr rfl (fun _ => rfl) fun h => by rw [i64_add n _ (by omega)])
    rw [pass]
    by_cases hlt : (d : Int) < sp.step
    · rw [if_pos hlt, Nat.div_eq_of_lt (by omega), show min (k + 1) (0 + 1) = 1 by omega]
      rfl
    · obtain ⟨d', rfl⟩ : ∃ d', d = d' + sp.step := ⟨d - sp.step, by omega⟩
      have next : In64 (n + sp.delta) ∧
          (if sp.upward then n + sp.delta + d' = sp.to else n + sp.delta - d' = sp.to) := by
        unfold SeqParams.delta
        cases hup : sp.upward <;> simp only [hup, if_true, if_false, Bool.false_eq_true] at hd ⊢ <;>
          omega
      rw [if_neg hlt, Nat.add_div_right _ hs, Nat.add_min_add_right, ih d' _ next.1 next.2]
      rfl

theorem idealStep_pos (inc : Int) : 0 < idealStep inc := by
  unfold idealStep; split <;> omega

theorem goStep_eq (inc : Int) (h : In64 inc) : goStep inc = idealStep inc := by
  unfold goStep idealStep
  by_cases hneg : inc < 0
  · -- `-uint64(n)` is the distance from `n` up to 0
    rw [if_pos hneg, if_neg (by omega), ← Int.zero_sub, show (0 : Int) = u64 0 from rfl,
      u64_sub 0 inc ⟨by decide, by decide⟩ h (by omega)]
    omega
  · rw [if_neg hneg]
    by_cases hpos : inc > 0
    · rw [if_pos hpos, if_neg (by omega), u64,
        Int.emod_eq_of_lt (by omega) (by have := h.2; simp only [maxI64] at this; omega)]
      omega
    · rw [if_neg hpos, if_pos (by omega)]

theorem seq_exact_core (sp : SeqParams) (fr inc : Int) (hfr : In64 fr) (hto : In64 sp.to)
    (hinc : In64 inc) (hup : sp.upward = decide (fr ≤ sp.to)) (hstep : sp.step = goStep inc) (k : Nat) :
    seqVals sp k fr = (idealSeq fr sp.to (idealStep inc)).take k := by
  rw [goStep_eq inc hinc] at hstep
  rw [seqVals_arith sp (hstep ▸ idealStep_pos inc) hto k (sp.to - fr).natAbs fr hfr
    (by rw [hup]; by_cases h : fr ≤ sp.to <;>
          simp only [h, decide_true, decide_false, if_true, if_false, Bool.false_eq_true] <;> omega),
    idealSeq, arith_take, SeqParams.delta, hup, hstep]
  simp only [decide_eq_true_eq]

theorem endpointKind_some (e : Word) (k : Bool) (h : endpointKind e = some k) :
    (k = false ∧ (parseInt (litOf e)).2 = true) ∨
    (k = true ∧ (parseInt (litOf e)).2 = false ∧ ∃ c, litOf e = [c] ∧ asciiLetter c = true) := by
  unfold endpointKind at h
  dsimp only at h
  split at h
  · next p => exact .inl ⟨(Option.some.inj h).symm, p⟩
  · next p =>
    split at h
    · next c hl =>
      split at h
      · next hc => exact .inr ⟨(Option.some.inj h).symm, by simpa using p, c, hl, hc⟩
      · cases h
    · cases h

theorem seqValid_cases (elems : List Word) (h : seqValid elems = true) :
    ∃ e0 e1 more k, elems = e0 :: e1 :: more ∧ endpointKind e0 = some k ∧ endpointKind e1 = some k ∧
      (more = [] ∨ ∃ e2, more = [e2] ∧ (parseInt (litOf e2)).2 = true) := by
  unfold seqValid at h
  split at h
  · rename_i e0 e1 more
    split at h
    · rename_i k0 k1 hk0 hk1
      rw [Bool.and_eq_true, beq_iff_eq] at h
      refine ⟨e0, e1, more, k0, rfl, hk0, h.2 ▸ hk1, ?_⟩
      have h1 := h.1
      split at h1
      · exact .inl rfl
      · exact .inr ⟨_, rfl, h1⟩
      · cases h1
    · cases h
  · cases h

theorem seqParams_of_valid (elems : List Word) (h : seqValid elems = true) :
    ∃ sp, seqParams elems = some sp := by
  obtain ⟨e0, e1, more, k, rfl, hk0, hk1, _⟩ := seqValid_cases elems h
  unfold seqParams
  rcases endpointKind_some e0 k hk0 with ⟨rfl, p0⟩ | ⟨rfl, p0, a, ha, _⟩
  · rcases endpointKind_some e1 _ hk1 with ⟨_, p1⟩ | ⟨hk', _⟩
    · simp only [p0, p1, Bool.and_self, if_true]; exact ⟨_, rfl⟩
    · cases hk'
  · rcases endpointKind_some e1 _ hk1 with ⟨hk', _⟩ | ⟨_, p1, b, hb, _⟩
    · cases hk'
    · rw [ha] at p0
      simp only [ha, hb, p0, Bool.false_and, Bool.false_eq_true, if_false]; exact ⟨_, rfl⟩

theorem parseDigits_in64 (neg : Bool) (ds : Bytes) : In64 (parseDigits neg ds).1 := by
  unfold parseDigits
  by_cases h1 : ds = []
  · rw [if_pos h1]; decide
  by_cases h2 : (!ds.all isDigit) = true
  · rw [if_neg h1, if_pos h2]; decide
  rw [if_neg h1, if_neg h2]
  dsimp only
  generalize (if neg = true then -(digitsVal ds : Int) else (digitsVal ds : Int)) = v
  by_cases h3 : v > maxI64
  · rw [if_pos h3]; decide
  by_cases h4 : v < minI64
  · rw [if_neg h3, if_pos h4]; decide
  rw [if_neg h3, if_neg h4]
  exact ⟨Int.not_lt.mp h4, Int.not_lt.mp h3⟩

theorem byte_in64 (a : UInt8) : In64 (a.toNat : Int) := by
  have := a.toNat_lt
  simp only [In64, minI64, maxI64]
  omega

theorem parseInt_in64 (s : Bytes) : In64 (parseInt s).1 := by
  unfold parseInt
  split
  · decide
  · split
    · exact parseDigits_in64 _ _
    · split <;> exact parseDigits_in64 _ _

theorem seqRaw_in64 (elems : List Word) : In64 (seqRaw elems) := by
  unfold seqRaw
  split
  · exact parseInt_in64 _
  · decide

theorem seqParams_facts (elems : List Word) (sp : SeqParams) (h : seqParams elems = some sp) :
    sp.upward = decide (sp.from ≤ sp.to) ∧ sp.step = goStep (seqRaw elems) ∧
    In64 sp.from ∧ In64 sp.to := by
  unfold seqParams at h
  match elems, h with
  | e0 :: e1 :: more, h =>
    simp only at h
    split at h
    · simp at h
    · rename_i chars fr to hends
      simp only [Option.some.injEq] at h
      subst h
      refine ⟨rfl, rfl, ?_⟩
      simp only
      split at hends
      · simp only [Option.some.injEq, Prod.mk.injEq] at hends
        obtain ⟨_, h1, h2⟩ := hends
        rw [← h1, ← h2]
        exact ⟨parseInt_in64 _, parseInt_in64 _⟩
      · split at hends
        · simp only [Option.some.injEq, Prod.mk.injEq] at hends
          obtain ⟨_, h1, h2⟩ := hends
          rw [← h1, ← h2]
          exact ⟨byte_in64 _, byte_in64 _⟩
        · simp at hends

theorem splitAtBrace_spec (w : List Part) :
    (splitAtBrace w).1.all Part.isLit = true ∧
    w = (splitAtBrace w).1 ++ (match (splitAtBrace w).2 with
      | none => []
      | some (s, e, r) => .brace s e :: r) := by
  induction w with
  | nil => exact ⟨rfl, rfl⟩
  | cons p ps ih =>
    cases p with
    | lit v =>
      rw [splitAtBrace]
      exact ⟨by simpa [Part.isLit] using ih.1, congrArg (Part.lit v :: ·) ih.2⟩
    | brace s e => exact ⟨rfl, rfl⟩

theorem splitAtBrace_none (w left : List Part) (h : splitAtBrace w = (left, none)) :
    left = w ∧ w.all Part.isLit = true := by
  have := splitAtBrace_spec w
  rw [h, List.append_nil] at this
  exact ⟨this.2.symm, this.2 ▸ this.1⟩

theorem splitAtBrace_some (w left : List Part) (seq : Bool) (elems : List Word) (rest : List Part)
    (h : splitAtBrace w = (left, some (seq, elems, rest))) :
    w = left ++ .brace seq elems :: rest ∧ left.all Part.isLit = true := by
  have := splitAtBrace_spec w
  rw [h] at this
  exact ⟨this.2, this.1⟩

@[simp] theorem bracesIn_nil : bracesIn [] = 0 := by simp [bracesIn]
@[simp] theorem bracesIn_cons (p : Part) (ps : List Part) :
    bracesIn (p :: ps) = bracesInPart p + bracesIn ps := by simp [bracesIn]
@[simp] theorem bracesInPart_lit (v : Bytes) : bracesInPart (.lit v) = 0 := by simp [bracesInPart]
@[simp] theorem bracesInPart_brace (seq : Bool) (elems : List Word) :
    bracesInPart (.brace seq elems) = 1 + bracesInElems elems := by simp [bracesInPart]
@[simp] theorem bracesInElems_nil : bracesInElems [] = 0 := by simp [bracesInElems]
@[simp] theorem bracesInElems_cons (e : Word) (es : List Word) :
    bracesInElems (e :: es) = bracesIn e + bracesInElems es := by simp [bracesInElems]

theorem bracesIn_append (a b : List Part) : bracesIn (a ++ b) = bracesIn a + bracesIn b := by
  induction a with
  | nil => simp
  | cons p ps ih => simp [ih]; omega

theorem bracesIn_le_elems (elems : List Word) (e : Word) (h : e ∈ elems) :
    bracesIn e ≤ bracesInElems elems := by
  induction elems with
  | nil => cases h
  | cons x xs ih =>
    simp only [List.mem_cons] at h
    rcases h with rfl | h
    · simp
    · have := ih h; simp; omega

theorem wf_of_mem_elems (elems : List Word) (e : Word) (h : e ∈ elems)
    (hw : wfElems elems = true) : wf e = true := by
  induction elems with
  | nil => cases h
  | cons x xs ih =>
    simp only [wfElems_cons, Bool.and_eq_true] at hw
    simp only [List.mem_cons] at h
    rcases h with rfl | h
    · exact hw.1
    · exact ih h hw.2

@[simp] theorem cross_nil_left (b : List Bytes) : cross [] b = [] := by simp [cross]
theorem cross_cons_left (x : Bytes) (a b : List Bytes) :
    cross (x :: a) b = b.map (x ++ ·) ++ cross a b := by simp [cross]
theorem cross_append_left (a a' b : List Bytes) : cross (a ++ a') b = cross a b ++ cross a' b := by
  simp [cross]
theorem cross_single_left (x : Bytes) (b : List Bytes) : cross [x] b = b.map (x ++ ·) := by
  simp [cross]
@[simp] theorem cross_unit_right (a : List Bytes) : cross a [[]] = a := by
  induction a with
  | nil => simp
  | cons x xs ih => simp [cross_cons_left, ih]
theorem cross_unit_left (b : List Bytes) : cross [[]] b = b := by
  simp [cross]

theorem cross_map_left (x : Bytes) (a b : List Bytes) :
    cross (a.map (x ++ ·)) b = (cross a b).map (x ++ ·) := by
  induction a with
  | nil => simp
  | cons y ys ih =>
    simp only [List.map_cons, cross_cons_left, List.map_append, ih, List.map_map]
    congr 1
    apply List.map_congr_left
    intro z _
    simp

theorem cross_assoc (a b c : List Bytes) : cross (cross a b) c = cross a (cross b c) := by
  induction a with
  | nil => simp
  | cons x xs ih =>
    simp only [cross_cons_left, cross_append_left, ih, cross_map_left]

theorem cross_length (a b : List Bytes) : (cross a b).length = a.length * b.length := by
  induction a with
  | nil => simp
  | cons x xs ih => simp [cross_cons_left, ih, Nat.succ_mul]; omega

theorem cross_ne_nil (a b : List Bytes) (ha : a ≠ []) (hb : b ≠ []) : cross a b ≠ [] := by
  rw [← List.length_pos_iff, cross_length]
  exact Nat.mul_pos (List.length_pos_iff.mpr ha) (List.length_pos_iff.mpr hb)

@[simp] theorem denot_nil : denot [] = [[]] := by simp [denot]
@[simp] theorem denot_cons (p : Part) (ps : List Part) :
    denot (p :: ps) = cross (denotPart p) (denot ps) := by simp [denot]
@[simp] theorem denotPart_lit (v : Bytes) : denotPart (.lit v) = [v] := by simp [denotPart]
@[simp] theorem denotElems_nil : denotElems [] = [] := by simp [denotElems]
@[simp] theorem denotElems_cons (e : Word) (es : List Word) :
    denotElems (e :: es) = denot e ++ denotElems es := by simp [denotElems]

theorem denot_append (a b : List Part) : denot (a ++ b) = cross (denot a) (denot b) := by
  induction a with
  | nil => simp [cross_unit_left]
  | cons p ps ih => simp [ih, cross_assoc]

theorem denot_allLit (a : List Part) (h : a.all Part.isLit = true) : denot a = [render a] := by
  induction a with
  | nil => simp
  | cons p ps ih =>
    simp only [List.all_cons, Bool.and_eq_true] at h
    cases p with
    | lit v => simp [ih h.2, cross_single_left]
    | brace s e => have := h.1; simp [Part.isLit] at this

theorem denot_split (left : List Part) (hleft : left.all Part.isLit = true) (p : Part)
    (rest : List Part) :
    denot (left ++ p :: rest) = (cross (denotPart p) (denot rest)).map (render left ++ ·) := by
  rw [denot_append, denot_allLit left hleft, cross_single_left, denot_cons]

theorem flatMap_denot_elems (elems : List Word) (rest : List Part) :
    (elems.flatMap fun e => denot (e ++ rest)) = cross (denotElems elems) (denot rest) := by
  induction elems with
  | nil => simp
  | cons e es ihe => simp [denot_append, cross_append_left, ← ihe]

theorem seqTexts_length (elems : List Word) : (seqTexts elems).length = seqCount elems := by
  unfold seqTexts seqCount
  cases seqParams elems with
  | none => simp
  | some sp => simp [idealSeq, arith_length]

mutual
theorem denotPart_length : ∀ p : Part, (denotPart p).length = countPart p
  | .lit v => by simp [countPart]
  | .brace seq elems => by
    cases seq with
    | true => simp [denotPart, countPart, seqTexts_length]
    | false => simp [denotPart, countPart, denotElems_length elems]
theorem denot_length : ∀ w : List Part, (denot w).length = count w
  | [] => by simp [count]
  | p :: ps => by simp [count, cross_length, denotPart_length p, denot_length ps]
theorem denotElems_length : ∀ es : List (List Part), (denotElems es).length = countElems es
  | [] => by simp [countElems]
  | e :: es => by simp [countElems, denot_length e, denotElems_length es]
end

theorem seqTexts_ne_nil (elems : List Word) (h : seqValid elems = true) : seqTexts elems ≠ [] := by
  obtain ⟨sp, hsp⟩ := seqParams_of_valid elems h
  simp [seqTexts, hsp, idealSeq, arith]

mutual
theorem denotPart_ne_nil : ∀ p : Part, wfPart p = true → denotPart p ≠ []
  | .lit v, _ => by simp
  | .brace seq elems, h => by
    simp only [wfPart, Bool.and_eq_true] at h
    cases seq with
    | true =>
      simp only [if_true] at h
      simp only [denotPart, if_true]
      exact seqTexts_ne_nil elems h.1
    | false =>
      simp only [Bool.false_eq_true, if_false] at h
      simp only [denotPart, Bool.false_eq_true, if_false]
      match elems, h with
      | e :: es, h =>
        simp only [wfElems_cons, Bool.and_eq_true] at h
        simp only [denotElems_cons]
        intro hcontra
        have := denot_ne_nil e h.2.1
        simp_all
theorem denot_ne_nil : ∀ w : List Part, wf w = true → denot w ≠ []
  | [], _ => by simp
  | p :: ps, h => by
    simp only [wf_cons, Bool.and_eq_true] at h
    simp only [denot_cons]
    exact cross_ne_nil _ _ (denotPart_ne_nil p h.1) (denot_ne_nil ps h.2)
end

theorem flatMap_take_take {α β : Type} (g : α → List β) (hg : ∀ x, g x ≠ []) :
    ∀ (l : List α) (n j : Nat), j ≤ n → ((l.take n).flatMap g).take j = (l.flatMap g).take j := by
  intro l
  induction l with
  | nil => intro n j _; simp
  | cons x xs ih =>
    intro n j hj
    cases n with
    | zero =>
      have : j = 0 := by omega
      subst this; simp
    | succ m =>
      simp only [List.take_succ_cons, List.flatMap_cons, List.take_append]
      congr 1
      have hlen : 1 ≤ (g x).length := by
        cases hgx : g x with
        | nil => exact absurd hgx (hg x)
        | cons a b => simp
      exact ih m (j - (g x).length) (by omega)

theorem altLoop_spec (f : Nat → Word → Option (List Word)) (rest : List Part) (elems : List Word)
    (hf : ∀ e ∈ elems, ∀ b, 0 < b → ∃ r, f b (e ++ rest) = some r ∧
      r.map render = (denot (e ++ rest)).take b) :
    ∀ budget, ∃ r, altLoop f rest elems budget = some r ∧
      r.map render = (elems.flatMap fun e => denot (e ++ rest)).take budget := by
  induction elems with
  | nil => intro b; simp [altLoop]
  | cons e es ih =>
    intro b
    simp only [altLoop]
    split
    · rename_i hb; subst hb; simp
    · rename_i hb
      obtain ⟨r, hr, hrr⟩ := hf e (by simp) b (by omega)
      obtain ⟨r', hr', hrr'⟩ := ih (fun e' he' => hf e' (by simp [he'])) (b - r.length)
      refine ⟨r ++ r', by simp [hr, hr'], ?_⟩
      simp only [List.map_append, hrr, hrr', List.flatMap_cons, List.take_append]
      congr 1
      have hlen : r.length = ((denot (e ++ rest)).take b).length := by
        rw [← hrr]; simp
      rw [hlen, List.length_take]
      by_cases hle : (denot (e ++ rest)).length ≤ b
      · rw [Nat.min_eq_right hle]
      · have h1 : min b (denot (e ++ rest)).length = b := by omega
        have h2 : b - (denot (e ++ rest)).length = 0 := by omega
        rw [h1, h2]; simp

theorem map_render_prefix (left : List Part) (r : List Word) (xs : List Bytes) (n : Nat)
    (h : r.map render = xs.take n) :
    (r.map (left ++ ·)).map render = (xs.map (render left ++ ·)).take n := by
  rw [← List.map_take, ← h, List.map_map, List.map_map]
  exact List.map_congr_left fun x _ => render_append left x

theorem bracesRec_spec : ∀ (fuel budget : Nat) (w : Word), wf w = true →
    bracesIn w < fuel → 0 < budget →
    ∃ r, bracesRec fuel budget w = some r ∧ r.map render = (denot w).take budget := by
  intro fuel
  induction fuel with
  | zero => intro _ _ _ h; omega
  | succ fuel ih =>
    intro budget w hw hfuel hbud
    simp only [bracesRec]
    cases hsp : splitAtBrace w with
    | mk left o =>
      cases o with
      | none =>
        obtain ⟨rfl, hall⟩ := splitAtBrace_none w left hsp
        refine ⟨[left], rfl, ?_⟩
        rw [denot_allLit left hall]
        cases budget with
        | zero => omega
        | succ b => simp
      | some t =>
        obtain ⟨seq, elems, rest⟩ := t
        obtain ⟨rfl, hleft⟩ := splitAtBrace_some w left seq elems rest hsp
        simp only [wf_append, wf_cons, Bool.and_eq_true] at hw
        obtain ⟨_, hbr, hrest⟩ := hw
        simp only [bracesIn_append, bracesIn_cons, bracesInPart_brace] at hfuel
        simp only [wfPart, Bool.and_eq_true] at hbr
        obtain ⟨hshape, helems⟩ := hbr
        -- the alternatives loop over `words`, whatever they are, then the literals in front
        have tail : ∀ words : List Word,
            (∀ e ∈ words, wf (e ++ rest) = true ∧ bracesIn (e ++ rest) < fuel) →
            (words.flatMap fun e => denot (e ++ rest)).take budget =
              (cross (denotPart (.brace seq elems)) (denot rest)).take budget →
            ∃ r, (match altLoop (bracesRec fuel) rest words budget with
                  | none => none
                  | some ws => some (ws.map fun w => left ++ w)) = some r ∧
              r.map render = (denot (left ++ .brace seq elems :: rest)).take budget := by
          intro words hwords hflat
          obtain ⟨r, hr, hrr⟩ := altLoop_spec (bracesRec fuel) rest words
            (fun e he b hb => ih b _ (hwords e he).1 (hwords e he).2 hb) budget
          refine ⟨r.map (left ++ ·), by rw [hr], ?_⟩
          rw [denot_split left hleft]
          exact map_render_prefix left r _ budget (hrr.trans hflat)
        simp only
        cases seq with
        | false =>
          simp only [Bool.false_eq_true, if_false]
          refine tail elems (fun e he => ⟨?_, ?_⟩) ?_
          · simp [wf_append, wf_of_mem_elems elems e he helems, hrest]
          · have := bracesIn_le_elems elems e he
            simp only [bracesIn_append]; omega
          · rw [flatMap_denot_elems]
            simp only [denotPart, Bool.false_eq_true, if_false]
        | true =>
          simp only [if_true] at hshape ⊢
          obtain ⟨sp, hsp'⟩ := seqParams_of_valid elems hshape
          simp only [hsp']
          obtain ⟨hup, hstep, hfr, hto⟩ := seqParams_facts elems sp hsp'
          have hvals := seq_exact_core sp sp.from (seqRaw elems) hfr hto (seqRaw_in64 elems) hup hstep
            budget
          refine tail _ (fun e he => ?_) ?_
          · simp only [List.mem_map] at he
            obtain ⟨n, _, rfl⟩ := he
            exact ⟨by simp [hrest], by simp; omega⟩
          · -- every value yields at least one word, so `budget` values are enough
            have hne : ∀ n : Int, (denot ([Part.lit (fmtSeq sp n)] ++ rest)) ≠ [] :=
              fun n => denot_ne_nil _ (by simp [hrest])
            rw [hvals, List.flatMap_map, flatMap_take_take _ hne _ budget budget (Nat.le_refl _)]
            congr 1
            simp only [denotPart, if_true, seqTexts, hsp', cross, List.flatMap_map]
            simp [cross]

end ShVerif.C16
