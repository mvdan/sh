/-
  L4 printer lemmas: the printer half of the round trip for all of fragment F0, on the summaries
  of `Proofs/L4Print.lean`.  Around subshells `( )` and blocks `{ }` the printer compares line
  numbers of the tree, so there the proof needs them to be non-decreasing in source order
  (`posMono`, which is what a parser assigns) and that the printer's line counter never overtakes
  them (part A); commands without subshells and blocks need nothing of the positions.
-/
import ShVerif.Proofs.L4Print
namespace ShVerif.L4

/-! ## A. The line counter never overtakes the source -/

theorem line_advanceLine (p : P) (l : Nat) : (p.advanceLine l).line = max p.line l := rfl

theorem le_advanceLine {p : P} {M l : Nat} (h : p.line ≤ M) (hl : l ≤ M) : (p.advanceLine l).line ≤ M := by
  rw [line_advanceLine]; exact Nat.max_le.mpr ⟨h, hl⟩

theorem le_newline {p : P} {M l : Nat} (h : p.line ≤ M) (hl : l ≤ M) : (p.newline l).line ≤ M := by
  unfold P.newline
  exact le_advanceLine (p := { p.gapw [10] with wantSpace := .written, wantNewline := false, mustNewline := false }) h hl

theorem le_newlines {p : P} {M l : Nat} (h : p.line ≤ M) (hl : l ≤ M) : (p.newlines l).line ≤ M := by
  unfold P.newlines
  split
  · exact h
  · split
    · exact h
    · dsimp only
      rw [line_indent]
      apply le_advanceLine _ hl
      split <;> exact h

theorem le_rightParen {p : P} {M l : Nat} (h : p.line ≤ M) (hl : l ≤ M) : (p.rightParen l).line ≤ M := by
  unfold P.rightParen
  dsimp only
  split
  · exact le_newlines h hl
  · exact h

theorem le_semiRsrv {p : P} {M l : Nat} (s : Bytes) (h : p.line ≤ M) (hl : l ≤ M) : (p.semiRsrv s l).line ≤ M := by
  unfold P.semiRsrv
  dsimp only
  have key : ∀ q : P, q.line ≤ M → ((if (!q.o.minify) = true then q.spacePad else q).tok s).line ≤ M := by
    intro q hq
    split
    · show q.spacePad.line ≤ M
      rw [spacePad_line]; exact hq
    · exact hq
  split
  · exact le_newlines h hl
  · split
    · exact key (p.tok [59]) h
    · exact key p h

theorem partLines_stop (wp : WordPart) : wp.pos.line ∈ partLines wp ∧ wp.stop.line ∈ partLines wp := by
  cases wp with
  | lit a e v => simp [partLines, WordPart.pos, WordPart.stop]
  | sgl l r v =>
    simp only [partLines, WordPart.pos, WordPart.stop]
    split <;> simp

theorem partsMax_le_of_lines {M : Nat} : ∀ (wps : List WordPart), (∀ l ∈ wps.flatMap partLines, l ≤ M) → partsMax wps ≤ M
  | [] => fun _ => Nat.zero_le _
  | wp :: r => fun h => by
    refine Nat.max_le.mpr ⟨?_, partsMax_le_of_lines r fun l m => h l (by simp only [List.flatMap_cons, List.mem_append]; exact Or.inr m)⟩
    have hr : ∀ l ∈ partLines wp, l ≤ M := fun l m => h l (by simp [m])
    cases wp with
    | lit a e v => exact hr e.line (by simp [partLines])
    | sgl a r v => exact Nat.max_le.mpr ⟨hr r.line (by simp [partLines]), hr _ (partLines_stop (.sgl a r v)).2⟩

theorem le_word {p : P} {M : Nat} (w : Word) (h : p.line ≤ M) (hl : ∀ l ∈ w.parts.flatMap partLines, l ≤ M) :
    (p.word w).line ≤ M := by
  by_cases hne : w.parts = []
  · unfold P.word P.wordParts; rw [hne]; exact h
  · rw [word_eq p w hne]
    refine Nat.max_le.mpr ⟨?_, partsMax_le_of_lines _ hl⟩
    rcases preWord_ahead p w with e | ⟨e, wp, r, hp, hgt⟩ <;> rw [e]
    · exact h
    · rw [line_bslashNewl]
      have := hl wp.pos.line (by rw [hp]; simp [(partLines_stop wp).1])
      omega

theorem Word.pos_line_mem {w : Word} {pos : Pos} (h : w.pos? = some pos) : pos.line ∈ w.parts.flatMap partLines := by
  unfold Word.pos? at h
  cases hp : w.parts with
  | nil => simp [hp] at h
  | cons wp rest =>
    simp only [hp, List.head?_cons, Option.map_some, Option.some.injEq] at h
    subst h
    simp [(partLines_stop wp).1]

theorem le_wordJoinLoop {M : Nat} : ∀ (ws : List Word) (p : P) (any : Bool), p.line ≤ M →
    (∀ l ∈ ws.flatMap (fun w => w.parts.flatMap partLines), l ≤ M) → (p.wordJoinLoop any ws).1.line ≤ M
  | [] => fun p any h _ => by unfold P.wordJoinLoop; exact h
  | w :: rest => fun p any h hl => by
    unfold P.wordJoinLoop
    have hw : ∀ l ∈ w.parts.flatMap partLines, l ≤ M := fun l hm => hl l (by simp [hm])
    have hr : ∀ l ∈ rest.flatMap (fun w => w.parts.flatMap partLines), l ≤ M :=
      fun l hm => hl l (by simp only [List.flatMap_cons, List.mem_append]; exact Or.inr hm)
    cases hpos : w.pos? with
    | none => exact h
    | some pos =>
      dsimp only
      have hpl : pos.line ≤ M := hw _ (Word.pos_line_mem hpos)
      split
      · rename_i hg
        simp only [Bool.and_eq_true, Bool.not_eq_true', decide_eq_true_eq] at hg
        apply le_wordJoinLoop rest _ _ _ hr
        apply le_word w _ hw
        rw [spacePad_line, line_bslashNewl]
        split
        · rw [incLevel_line]; omega
        · omega
      · apply le_wordJoinLoop rest _ _ _ hr
        apply le_word w _ hw
        rw [spacePad_line]
        exact h

theorem le_wordJoin {p : P} {M : Nat} (ws : List Word) (h : p.line ≤ M)
    (hl : ∀ l ∈ ws.flatMap (fun w => w.parts.flatMap partLines), l ≤ M) : (p.wordJoin ws).line ≤ M := by
  unfold P.wordJoin
  have := le_wordJoinLoop ws p false h hl
  split
  rename_i q any heq
  rw [heq] at this
  split
  · rw [decLevel_line]; exact this
  · exact this

theorem le_stmtPre {p : P} {M : Nat} (neg : Bool) (h : p.line ≤ M) : (p.stmtPre neg).line ≤ M := by
  unfold P.stmtPre
  dsimp only
  split
  · rw [line_spacedString]; exact h
  · exact h

theorem le_term {q : P} {M : Nat} (sep bg : Bool) (h : q.line ≤ M) (hs : sep = true → q.line + 1 ≤ M) :
    (q.term sep bg).line ≤ M := by
  cases sep with
  | true =>
    show q.bslashNewl.line ≤ M
    rw [line_bslashNewl]; exact hs rfl
  | false =>
    cases bg with
    | false => exact h
    | true =>
      show (if _ then q.space else q : P).line ≤ M
      split <;> exact h

theorem le_stmtEnd {p : P} {M : Nat} (semi : Pos) (bg : Bool) (h : p.line ≤ M) (hs : semi.valid = true → semi.line ≤ M) :
    (p.stmtEnd semi bg).line ≤ M := by
  rw [stmtEnd_eq, decLevel_line]
  refine le_term _ _ (by rw [incLevel_line]; exact h) (fun hsep => ?_)
  simp only [Bool.and_eq_true, decide_eq_true_eq] at hsep
  have := hs hsep.1.1
  rw [incLevel_line]
  omega

theorem le_binaryOp {p : P} {M : Nat} (opPos : Pos) (op : BinOp) (yl : Nat) (yb : Bool) (h : p.line ≤ M)
    (ho : opPos.line ≤ M) (hy : yl ≤ M) : (p.binaryOp opPos op yl yb).1.line ≤ M := by
  unfold P.binaryOp
  split
  · exact le_advanceLine (by rw [line_spacedToken]; exact h) hy
  · rename_i hc
    simp only [Bool.or_eq_true, decide_eq_true_eq, not_or, Nat.not_le] at hc
    dsimp only
    apply le_advanceLine _ hy
    have h0 : (if (!p.nestedBinary) = true then p.incLevel else p).line = p.line := by
      split
      · exact incLevel_line p
      · rfl
    obtain ⟨q, hq, hql⟩ : ∃ q : P, q = (if (!p.nestedBinary) = true then p.incLevel else p) ∧ q.line = p.line :=
      ⟨_, rfl, h0⟩
    rw [← hq]
    split
    · rw [line_spacedToken, line_bslashNewl, hql]
      omega
    · rw [line_indent]
      apply le_newline _ (Nat.zero_le M)
      apply le_advanceLine _ ho
      rw [line_spacedToken, hql]
      exact h

theorem le_stmtSep {p : P} {M : Nat} (first : Bool) (l : Nat) (h : p.line ≤ M) (hl : l ≤ M) :
    (p.stmtSep first l).line ≤ M := by
  rw [stmtSep_eq]
  apply le_advanceLine _ hl
  have hq : (p.sepSemi first).line ≤ M := by
    unfold P.sepSemi; split <;> exact h
  split
  · exact le_newlines hq hl
  · exact hq

theorem le_nestedStmtsWith {p : P} {M : Nat} (ss : Stmts) (closing : Pos) (loop : P → P)
    (hloop : ∀ q : P, q.line ≤ M → (loop q).line ≤ M) (h : p.line ≤ M) :
    (p.nestedStmtsWith ss closing loop).line ≤ M := by
  unfold P.nestedStmtsWith
  dsimp only
  rw [decLevel_line]
  unfold P.stmtListWith
  dsimp only
  have h1 : ∀ q : P, q.line ≤ M → (match ss with
      | .cons _ .nil => if (!(q.wantNewline || (match ss with | .nil => false | .cons s _ => decide (s.pos.line > q.line)))) = true
          then ({ (loop q) with wantNewline := false } : P) else loop q
      | _ => loop q).line ≤ M := by
    intro q hq
    (repeat' split) <;> exact hloop q hq
  apply h1
  split
  · rw [incLevel_line]; exact h
  · split
    · rw [incLevel_line]; exact h
    · rw [incLevel_line]; exact h

theorem Stmt.pos_mem_lines (s : Stmt) : s.pos.line ∈ s.lines := by
  obtain ⟨t, ht⟩ := Stmt.lines_cons s
  rw [ht]; simp

mutual
theorem le_stmt : ∀ (s : Stmt) (M : Nat) (p : P), p.line ≤ M → (∀ l ∈ s.lines, l ≤ M) → (p.stmt s).line ≤ M
  | .mk pos semi neg bg cmd => fun M p h hl => by
    unfold P.stmt
    apply le_stmtEnd
    · apply le_cmd cmd M _ (le_stmtPre neg h)
      intro l hm
      exact hl l (by simp [Stmt.lines, hm])
    · intro hv
      exact hl _ (by simp [Stmt.lines, hv])
theorem le_cmd : ∀ (c : Cmd) (M : Nat) (p : P), p.line ≤ M → (∀ l ∈ c.lines, l ≤ M) → (p.command c).line ≤ M
  | .call args => fun M p h hl => by
    unfold P.command
    cases args with
    | nil => exact h
    | cons w rest =>
      dsimp only
      cases hpos : w.pos? with
      | none => exact h
      | some pos =>
        dsimp only
        have hw : ∀ l ∈ w.parts.flatMap partLines, l ≤ M := fun l hm => hl l (by simp [Cmd.lines, hm])
        have hr : ∀ l ∈ rest.flatMap (fun w => w.parts.flatMap partLines), l ≤ M :=
          fun l hm => hl l (by simp only [Cmd.lines, List.flatMap_cons, List.mem_append]; exact Or.inr hm)
        have h0 : ((p.advanceLine pos.line).spacePad.incLevel.decLevel).line ≤ M := by
          rw [decLevel_line, incLevel_line, spacePad_line]
          exact le_advanceLine h (hw _ (Word.pos_line_mem hpos))
        have h1 : (((p.advanceLine pos.line).spacePad.incLevel.decLevel).wordJoin [w]).line ≤ M :=
          le_wordJoin [w] h0 (by simpa using hw)
        split
        · exact h1
        · exact le_wordJoin rest h1 hr
  | .block lb rb ss => fun M p h hl => by
    unfold P.command
    dsimp only
    apply le_semiRsrv _ _ (hl _ (by simp [Cmd.lines]))
    have hn : (P.nestedStmtsWith
        { ((p.advanceLine lb.line).spacePad.tok [123]) with
          wroteSemi := true, wantSpace := .required,
          wantNewline := ((p.advanceLine lb.line).spacePad.tok [123]).wantNewline ||
            ((p.advanceLine lb.line).spacePad.tok [123]).o.funcNextLine }
        ss rb (fun q => q.stmtListLoop true ss)).line ≤ M := by
      apply le_nestedStmtsWith
      · intro q hq
        exact le_loop ss M q true hq (fun l hm => hl l (by simp [Cmd.lines, hm]))
      · show ((p.advanceLine lb.line).spacePad).line ≤ M
        rw [spacePad_line]
        exact le_advanceLine h (hl _ (by simp [Cmd.lines]))
    split
    · exact hn
    · exact hn
  | .subshell lp rp ss => fun M p h hl => by
    unfold P.command
    dsimp only
    apply le_rightParen _ (hl _ (by simp [Cmd.lines]))
    rw [line_closingParenSpace]
    apply le_nestedStmtsWith
    · intro q hq
      exact le_loop ss M q true hq (fun l hm => hl l (by simp [Cmd.lines, hm]))
    · rw [line_subshellOpen, spacePad_line]
      exact le_advanceLine h (hl _ (by simp [Cmd.lines]))
  | .binary opPos op x y => fun M p h hl => by
    unfold P.command
    dsimp only
    rw [line_binaryEnd]
    have hx : ∀ l ∈ x.lines, l ≤ M := fun l hm => hl l (by simp [Cmd.lines, hm])
    have hy : ∀ l ∈ y.lines, l ≤ M := fun l hm => hl l (by simp [Cmd.lines, hm])
    apply le_stmt y M _ _ hy
    apply le_binaryOp _ _ _ _ _ (hl _ (by simp [Cmd.lines])) (hy _ y.pos_mem_lines)
    apply le_stmt x M _ _ hx
    rw [spacePad_line]
    exact le_advanceLine h (hx _ x.pos_mem_lines)
theorem le_loop : ∀ (ss : Stmts) (M : Nat) (p : P) (first : Bool), p.line ≤ M → (∀ l ∈ ss.lines, l ≤ M) →
    (p.stmtListLoop first ss).line ≤ M
  | .nil => fun M p first h _ => by unfold P.stmtListLoop; exact h
  | .cons s rest => fun M p first h hl => by
    unfold P.stmtListLoop
    dsimp only
    have hs : ∀ l ∈ s.lines, l ≤ M := fun l hm => hl l (by simp [Stmts.lines, hm])
    apply le_loop rest M _ false _ (fun l hm => hl l (by simp [Stmts.lines, hm]))
    exact le_stmt s M _ (le_stmtSep first _ h (hs _ s.pos_mem_lines)) hs
end

/-! ## B. More summary steps: `(` `)` `{` `}`, and operators after `)` / `}` -/

theorem step_lparen (a : Sum) (h : ∀ l, a.last = some l → needsGap l = false ∧ l ≠ .op [40]) :
    a.step (.op [40]) = { last := some (.op [40]), sk := false, toks := a.toks ++ [.lparen], ok := a.ok } := by
  refine a.step_op [40] .lparen 40 [] rfl rfl (fun l hl => ?_)
  obtain ⟨hn, hne⟩ := h l hl
  cases l with
  | word _ => simp [needsGap] at hn
  | gap _ => rfl
  | op b =>
    simp only [needsGap, Bool.or_eq_false_iff, beq_eq_false_iff_ne, ne_eq] at hn
    exact followOK_op b 40 (fun _ => rfl) (fun e => absurd e hn.2) (fun _ => rfl) (fun e => absurd (by rw [e]) hne)
      (fun e => by rcases e with e | e | e <;> simp [e] at hn)

theorem step_rparen (a : Sum) (h : ∀ l, a.last = some l → l ≠ .op [40]) :
    a.step (.op [41]) = { last := some (.op [41]), sk := false, toks := a.toks ++ [.rparen], ok := a.ok } := by
  refine a.step_op [41] .rparen 41 [] rfl rfl (fun l hl => ?_)
  cases l with
  | word _ => rfl
  | gap _ => rfl
  | op b =>
    exact followOK_op b 41 (fun _ => rfl) (fun _ => rfl) (fun _ => rfl) (fun e => absurd (by rw [e]) (h _ hl)) (fun _ => rfl)

theorem step_lbrace (a : Sum) (h : ∀ l, a.last = some l → needsGap l = false) :
    a.step (.op [123]) = { last := some (.op [123]), sk := false, toks := a.toks ++ [.lbrace], ok := a.ok } :=
  a.step_op [123] .lbrace 123 [] rfl rfl
    (fun l hl => followOK_free l 123 (h l hl) (Or.inr (Or.inr (Or.inr (Or.inl rfl)))))

/-- `}` after layout or directly after `;` / `&` -/
theorem step_rbrace (a : Sum)
    (h : ∀ l, a.last = some l → (match l with | .gap _ => True | .op b => b = [59] ∨ b = [38] | .word _ => False)) :
    a.step (.op [125]) = { last := some (.op [125]), sk := false, toks := a.toks ++ [.rbrace], ok := a.ok } := by
  refine a.step_op [125] .rbrace 125 [] rfl rfl (fun l hl => ?_)
  have hx := h l hl
  cases l with
  | word _ => exact absurd hx (by simp)
  | gap _ => rfl
  | op b => rcases hx with rfl | rfl <;> rfl

/-- a piece that ends a command: a word, `)` or `}` -/
def Closed : Piece → Prop
  | .word _ => True
  | .op b => b = [41] ∨ b = [125]
  | .gap _ => False

/-- after a piece that ends a command, `;` or `&` may follow directly (the premise of `step_term`) -/
theorem Closed.term_ok : ∀ {l : Piece}, Closed l →
    (match l with | .op x => x ≠ [59] ∧ x ≠ [38] ∧ x ≠ [124] ∧ x ≠ [40] | _ => True)
  | .word _, _ => trivial
  | .op _, hc => by rcases hc with rfl | rfl <;> decide

/-- the last piece ends a command or is layout -/
def LastCG (p : P) : Prop := ∀ l, p.sum.last = some l → (match l with | .op b => b = [41] ∨ b = [125] | _ => True)

theorem LastCG.of_quiet {p q : P} (h : LastCG p) (hq : Quiet p q) : LastCG q := by
  intro l hl
  rcases hq.last with e | ⟨g, e⟩
  · exact h l (e ▸ hl)
  · rw [e] at hl; cases hl; trivial

theorem LastCG.of_closed {p : P} (h : ∃ l, p.sum.last = some l ∧ Closed l) : LastCG p := by
  intro l hl
  obtain ⟨l', e, hc⟩ := h
  rw [e] at hl; cases hl
  cases l with
  | word _ => trivial
  | op b => exact hc
  | gap _ => trivial

/-- `&&`, `||`, `|` after a word, `)`, `}` or layout -/
theorem step_binop (a : Sum) (op : BinOp)
    (h : ∀ l, a.last = some l → (match l with | .op b => b = [41] ∨ b = [125] | _ => True)) :
    a.step (.op op.str) = { last := some (.op op.str), sk := false, toks := a.toks ++ [opA op], ok := a.ok } := by
  have key : ∀ c : UInt8, c = 38 ∨ c = 124 → ∀ l, a.last = some l → followOK l (some c) = true := by
    intro c hc l hl
    have hx := h l hl
    cases l with
    | word _ => rcases hc with rfl | rfl <;> rfl
    | gap _ => rfl
    | op x => rcases hx with rfl | rfl <;> rcases hc with rfl | rfl <;> rfl
  cases op with
  | andStmt => exact a.step_op [38, 38] .andAnd 38 [38] rfl rfl (key 38 (Or.inl rfl))
  | orStmt => exact a.step_op [124, 124] .orOr 124 [124] rfl rfl (key 124 (Or.inr rfl))
  | pipe => exact a.step_op [124] .pipe 124 [] rfl rfl (key 124 (Or.inr rfl))

/-! ## C. Printer segments around nested lists -/

def NotLp (p : P) : Prop := p.sum.last ≠ some (.op [40])

theorem NotLp.of_quiet {p q : P} (h : NotLp p) (hq : Quiet p q) : NotLp q := by
  intro e
  rcases hq.last with e' | ⟨g, e'⟩
  · exact h (e' ▸ e)
  · rw [e'] at e; cases e

theorem NotLp.of_closed {p : P} (h : ∃ l, p.sum.last = some l ∧ Closed l) : NotLp p := by
  intro e
  obtain ⟨l, e', hc⟩ := h
  rw [e] at e'; cases e'
  rcases hc with hc | hc <;> cases hc

/-- what `newlines` establishes when it writes -/
structure NlOut (p p' : P) : Prop where
  toks : p'.sum.toks = p.sum.toks ++ (if p.sum.sk then [] else [.newl])
  w : W p'
  sk : p'.sum.sk = true
  o : p'.o = p.o
  must : p'.mustNewline = false
  first : p'.firstLine = false
  ws : p'.wantSpace ≠ .required
  last : ∃ g, p'.sum.last = some (.gap g)
  wsemi : p'.wroteSemi = p.wroteSemi

theorem NlOut.advance {p p' : P} (h : NlOut p p') (l : Nat) : NlOut p (p'.advanceLine l) :=
  ⟨h.toks, ⟨h.w.ok, h.w.gap⟩, h.sk, h.o, h.must, h.first, h.ws, h.last, h.wsemi⟩

theorem newlines_gen (p : P) (hok : p.sum.ok = true) (hf : p.firstLine = false) (l : Nat) :
    (p.wantsNewline l false = false → p.newlines l = p) ∧
    (p.wantsNewline l false = true → NlOut p (p.newlines l)) := by
  constructor
  · intro h
    unfold P.newlines
    simp [hf, h]
  · intro hwn
    unfold P.newlines
    simp only [hf, Bool.false_eq_true, ↓reduceIte, hwn, Bool.not_true]
    let q1 : P := { (p.gapw [10]) with wantSpace := .written, wantNewline := false, mustNewline := false }
    have hs1 : q1.sum = p.sum.step (.gap [10]) := P.sum_push p _ _ rfl
    have hw1 : W q1 := W.push hok rfl (step_nl _) (fun h => by cases h)
    have h2 : ∃ q2 : P, q2 = (if (decide (l > q1.line + 1) && !q1.o.minify) = true then q1.gapw [10] else q1) ∧
        q2.sum.toks = q1.sum.toks ∧ q2.sum.sk = true ∧ W q2 ∧ q2.o = p.o ∧ q2.mustNewline = false ∧
        q2.firstLine = false ∧ q2.wantSpace = .written ∧ (∃ g, q2.sum.last = some (.gap g)) ∧
        q2.wroteSemi = p.wroteSemi := by
      refine ⟨_, rfl, ?_⟩
      split
      · have hs2 : (q1.gapw [10]).sum = q1.sum.step (.gap [10]) := P.sum_push q1 _ _ rfl
        have hsk1 : q1.sum.sk = true := by rw [hs1, step_nl]
        exact ⟨by rw [hs2, step_nl, hsk1]; simp, by rw [hs2, step_nl], W.push hw1.ok rfl (step_nl _) (fun h => by cases h),
          rfl, rfl, hf, rfl, ⟨[10], by rw [hs2, step_nl]⟩, rfl⟩
      · exact ⟨rfl, by rw [hs1, step_nl], hw1, rfl, rfl, hf, rfl, ⟨[10], by rw [hs1, step_nl]⟩, rfl⟩
    obtain ⟨q2, hq2, t2, k2, w2, o2, m2, f2, ws2, l2, ws2'⟩ := h2
    show NlOut p ((if (decide (l > q1.line + 1) && !q1.o.minify) = true then q1.gapw [10] else q1).advanceLine l).indent
    rw [← hq2]
    have qa := Quiet.advanceLine w2 l
    obtain ⟨qi, hiw⟩ := Quiet.indent qa.w
    have q := qa.trans qi
    refine ⟨?_, q.w, by rw [q.sk, k2], by rw [q.same.o, o2], by rw [q.same.must, m2], by rw [q.same.first, f2], ?_, ?_,
      by rw [q.same.wsemi, ws2']⟩
    · rw [q.toks, t2, hs1, step_nl]
    · rw [hiw]
      show q2.wantSpace ≠ .required
      rw [ws2]; simp
    · rcases q.last with e | e
      · obtain ⟨g, hg⟩ := l2
        exact ⟨g, e.trans hg⟩
      · exact e

/-- `( … )` up to and including the layout after `(` -/
structure OpenOut (p r : P) (lp : Pos) (s : Stmt) (restLen : Nat) : Prop where
  toks : r.sum.toks = p.sum.toks ++ [.lparen]
  w : W r
  o : r.o = p.o
  first : r.firstLine = p.firstLine
  sk : r.sum.sk = false
  line : r.line = max p.line lp.line
  opened : s.startsWithLparen = true → (∃ g, r.sum.last = some (.gap g)) ∨
    (r.o.singleLine = false ∧ (lp.line ≠ s.pos.line ∨ restLen > 0) ∧ (r.o.minify = true → r.mustNewline = true))

theorem spacePad_notLp (p : P) (_hw : W p) (hlp : p.sum.last = some (.op [40]) → p.wantSpace = .required) :
    NotLp p.spacePad := by
  unfold P.spacePad
  split
  · intro e
    have hsum : (P.sum { p.gapw [32] with wantSpace := .written }) = p.sum.step (.gap [32]) := P.sum_push p _ _ rfl
    rw [hsum, step_space] at e
    cases e
  · rename_i h
    intro e
    exact h (hlp e)

theorem subshellOpen_out (p : P) (hw : W p) (hlp : p.sum.last = some (.op [40]) → p.wantSpace = .required)
    (lp : Pos) (s : Stmt) (rest : Stmts) :
    OpenOut p ((p.advanceLine lp.line).spacePad.subshellOpen lp (.cons s rest)) lp s rest.length := by
  have qa := Quiet.advanceLine hw lp.line
  obtain ⟨qs, hqs⟩ := Quiet.spacePad qa.w
  have hnl : NotLp (p.advanceLine lp.line).spacePad := spacePad_notLp _ qa.w hlp
  have hline : (p.advanceLine lp.line).spacePad.line = max p.line lp.line := by rw [spacePad_line]; rfl
  have hq0 := qa.trans qs
  generalize (p.advanceLine lp.line).spacePad = q0 at hqs hnl hline hq0 ⊢
  have hst := step_lparen q0.sum (fun l hl => ⟨hq0.w.free hqs l hl, fun e => hnl (by rw [hl, e])⟩)
  rw [subshellOpen_eq]
  have hb : ∀ b : Bool, openBlank q0.o lp (.cons s rest) = b → ∀ q1 : P,
      q1 = ({ (q0.tok [40]) with
          wantSpace := if b then .required else .notRequired,
          mustNewline := openMust q0.o lp (.cons s rest) || q0.mustNewline } : P) →
      OpenOut p q1.spacePad lp s rest.length := by
    intro b hbl q1 hq1
    have hs1 : q1.sum = { last := some (.op [40]), sk := false, toks := q0.sum.toks ++ [.lparen], ok := q0.sum.ok } :=
      (P.sum_push q0 _ q1 (by subst hq1; rfl)).trans hst
    have ho1 : q1.o = q0.o := by subst hq1; rfl
    cases b with
    | true =>
      have hpad : q1.spacePad = { q1.gapw [32] with wantSpace := .written } := by
        unfold P.spacePad
        rw [if_pos (by subst hq1; rfl)]
      rw [hpad]
      have hsum : (P.sum { q1.gapw [32] with wantSpace := .written }) =
          { last := some (.gap [32]), sk := false, toks := q0.sum.toks ++ [.lparen], ok := q0.sum.ok } := by
        rw [P.sum_push q1 _ _ rfl, hs1, step_space]
      exact ⟨by rw [hsum, hq0.toks], ⟨by rw [hsum]; exact hq0.w.ok, fun l hl hn => by rw [hsum] at hl; cases hl; cases hn⟩,
        ho1.trans hq0.same.o, by subst hq1; exact hq0.same.first, by rw [hsum], by subst hq1; exact hline,
        fun _ => Or.inl ⟨[32], by rw [hsum]⟩⟩
    | false =>
      have hpad : q1.spacePad = q1 := by
        unfold P.spacePad
        rw [if_neg (by subst hq1; simp)]
      rw [hpad]
      refine ⟨by rw [hs1, hq0.toks], ⟨by rw [hs1]; exact hq0.w.ok, fun l hl hn => by rw [hs1] at hl; cases hl; cases hn⟩,
        ho1.trans hq0.same.o, by subst hq1; exact hq0.same.first, by rw [hs1], by subst hq1; exact hline, fun hs => Or.inr ?_⟩
      -- no blank although the statement starts with `(`: a line break is due
      simp only [openBlank, hs, Bool.true_and, Bool.not_eq_false', Bool.and_eq_true, Bool.or_eq_true, bne_iff_ne, ne_eq,
        decide_eq_true_eq, Bool.not_eq_true'] at hbl
      refine ⟨by rw [ho1]; exact hbl.2, hbl.1, fun hm => ?_⟩
      rw [ho1] at hm
      subst hq1
      show (openMust q0.o lp (.cons s rest) || q0.mustNewline) = true
      simp [openMust, hs, hbl.2, hm, hbl.1]
  exact hb _ rfl _ rfl

/-- a blank (or none) before a closing token, whatever `wantSpace` is set to -/
structure PadOut (p q : P) : Prop where
  ok : q.sum.ok = true
  toks : q.sum.toks = p.sum.toks
  sk : q.sum.sk = p.sum.sk
  last : q.sum.last = p.sum.last ∨ ∃ g, q.sum.last = some (.gap g)
  o : q.o = p.o
  first : q.firstLine = p.firstLine
  must : q.mustNewline = p.mustNewline
  wsemi : q.wroteSemi = p.wroteSemi
  wnl : q.wantNewline = p.wantNewline
  line : q.line = p.line

theorem pad_any (p : P) (hok : p.sum.ok = true) (ws : WS) : PadOut p ({ p with wantSpace := ws } : P).spacePad := by
  unfold P.spacePad
  split
  · have hsum : (P.sum { (P.gapw { p with wantSpace := ws } [32]) with wantSpace := .written }) = p.sum.step (.gap [32]) :=
      P.sum_push p _ _ rfl
    exact ⟨by rw [hsum, step_space]; exact hok, by rw [hsum, step_space], by rw [hsum, step_space],
      Or.inr ⟨[32], by rw [hsum, step_space]⟩, rfl, rfl, rfl, rfl, rfl, rfl⟩
  · exact ⟨hok, rfl, rfl, Or.inl rfl, rfl, rfl, rfl, rfl, rfl, rfl⟩

theorem PadOut.notLp {p q : P} (h : PadOut p q) (hn : NotLp p) : NotLp q := by
  intro e
  rcases h.last with e' | ⟨g, e'⟩
  · exact hn (e' ▸ e)
  · rw [e'] at e; cases e

/-- what writing a closing token (`)` or `}`) with its layout establishes -/
structure CloseOut (p r : P) (ts : List ATok) (lastB : Bytes) : Prop where
  toks : r.sum.toks = p.sum.toks ++ ts
  w : W r
  ws : r.wantSpace = .required
  sk : r.sum.sk = false
  last : r.sum.last = some (.op lastB)
  o : r.o = p.o
  first : r.firstLine = false
  must : p.mustNewline = false → r.mustNewline = false

theorem closingParenSpace_eq (p : P) (ss : Stmts) (a b : Nat) :
    ∃ ws : WS, p.closingParenSpace ss a b = ({ p with wantSpace := ws } : P).spacePad := by
  rw [closingParenSpace_eq2]
  split <;> exact ⟨_, rfl⟩

/-- a closing token `b` written right after the newline `newlines` made -/
theorem NlOut.close {p q : P} (hn : NlOut p q) (hsk : p.sum.sk = false) (b : Bytes) (t : ATok)
    (hst : q.sum.step (.op b) = { last := some (.op b), sk := false, toks := q.sum.toks ++ [t], ok := q.sum.ok }) :
    CloseOut p ({ (q.tok b) with wantSpace := .required } : P) ([.newl] ++ [t]) b := by
  have hsum : (P.sum { (q.tok b) with wantSpace := .required }) = q.sum.step (.op b) := P.sum_push _ _ _ rfl
  refine ⟨?_, ⟨by rw [hsum, hst]; exact hn.w.ok, fun _ _ _ => rfl⟩, rfl, by rw [hsum, hst], by rw [hsum, hst],
    hn.o, hn.first, fun _ => hn.must⟩
  rw [hsum, hst, hn.toks, hsk]
  simp

theorem CloseOut.of_pad {p q r : P} {ts : List ATok} {b : Bytes} (hp : PadOut p q) (h : CloseOut q r ts b) :
    CloseOut p r ts b :=
  ⟨by rw [h.toks, hp.toks], h.w, h.ws, h.sk, h.last, h.o.trans hp.o, h.first, fun m => h.must (by rw [hp.must]; exact m)⟩

/-- `closingParen`: the optional blank, the optional newline and `)` -/
theorem closeParen_out (p : P) (hw : W p) (hf : p.firstLine = false) (hsk : p.sum.sk = false) (hnl : NotLp p)
    (ss : Stmts) (a b rl : Nat) :
    ∃ nl : Bool, CloseOut p ((p.closingParenSpace ss a b).rightParen rl) (nlT nl ++ [.rparen]) [41] := by
  obtain ⟨ws, hws⟩ := closingParenSpace_eq p ss a b
  rw [hws]
  have hp := pad_any p hw.ok ws
  have hqn := hp.notLp hnl
  obtain ⟨q, hq⟩ : ∃ q : P, q = ({ p with wantSpace := ws } : P).spacePad := ⟨_, rfl⟩
  rw [← hq] at hp hqn ⊢
  have hqf : q.firstLine = false := by rw [hp.first]; exact hf
  obtain ⟨n0, n1⟩ := newlines_gen q hp.ok hqf rl
  suffices h : ∃ nl, CloseOut q (q.rightParen rl) (nlT nl ++ [.rparen]) [41] by
    obtain ⟨nl, h⟩ := h
    exact ⟨nl, h.of_pad hp⟩
  unfold P.rightParen
  dsimp only
  -- `)` written directly after `q`
  have hdirect : CloseOut q ({ (q.tok [41]) with wantSpace := .required } : P) (nlT false ++ [.rparen]) [41] := by
    have hsum : (P.sum { (q.tok [41]) with wantSpace := .required }) = q.sum.step (.op [41]) := P.sum_push q _ _ rfl
    have hst := step_rparen q.sum (fun l hl e => hqn (by rw [hl, e]))
    exact ⟨by rw [hsum, hst]; rfl, ⟨by rw [hsum, hst]; exact hp.ok, fun _ _ _ => rfl⟩, rfl, by rw [hsum, hst],
      by rw [hsum, hst], rfl, hqf, fun h => h⟩
  cases hmin : q.o.minify with
  | true =>
    simp only [Bool.not_true, Bool.false_eq_true, ↓reduceIte]
    exact ⟨false, hdirect⟩
  | false =>
    simp only [Bool.not_false, ↓reduceIte]
    cases hwn : q.wantsNewline rl false with
    | false =>
      rw [n0 hwn]
      exact ⟨false, hdirect⟩
    | true =>
      have hn := n1 hwn
      exact ⟨true, hn.close (by rw [hp.sk, hsk]) [41] .rparen (step_rparen _ (fun l hl e => by
        obtain ⟨g, hg⟩ := hn.last
        rw [hg] at hl; cases hl; cases e))⟩

/-- `}` with the optional blank before it, directly after `;` / `&` -/
theorem brace_after (q : P) (hok : q.sum.ok = true) (hqws : q.wantSpace = .required)
    (hlast : q.sum.last = some (.op [59]) ∨ q.sum.last = some (.op [38])) :
    let r : P := { ((if (!q.o.minify) = true then q.spacePad else q).tok [125]) with wantSpace := .required }
    r.sum.toks = q.sum.toks ++ [.rbrace] ∧ r.sum.ok = true ∧ r.sum.sk = false ∧ r.sum.last = some (.op [125]) ∧
      r.o = q.o ∧ r.firstLine = q.firstLine ∧ r.mustNewline = q.mustNewline := by
  intro r
  cases hmin : q.o.minify with
  | true =>
    have hr : r = { (q.tok [125]) with wantSpace := .required } := by
      show ({ ((if (!q.o.minify) = true then q.spacePad else q).tok [125]) with wantSpace := .required } : P) = _
      simp [hmin]
    have hsum : r.sum = q.sum.step (.op [125]) := by rw [hr]; exact P.sum_push q _ _ rfl
    have hst := step_rbrace q.sum (fun l hl => by
      rcases hlast with e | e <;> (rw [e] at hl; cases hl; simp))
    refine ⟨by rw [hsum, hst], by rw [hsum, hst]; exact hok, by rw [hsum, hst], by rw [hsum, hst], ?_, ?_, ?_⟩ <;>
      (rw [hr]; rfl)
  | false =>
    have hpad : q.spacePad = { q.gapw [32] with wantSpace := .written } := by
      unfold P.spacePad
      rw [if_pos hqws]
    have hr : r = { (({ q.gapw [32] with wantSpace := .written } : P).tok [125]) with wantSpace := .required } := by
      show ({ ((if (!q.o.minify) = true then q.spacePad else q).tok [125]) with wantSpace := .required } : P) = _
      simp [hmin, hpad]
    have hs1 : (P.sum { q.gapw [32] with wantSpace := .written }) = q.sum.step (.gap [32]) := P.sum_push q _ _ rfl
    have hsum : r.sum = (q.sum.step (.gap [32])).step (.op [125]) := by
      rw [hr, ← hs1]
      exact P.sum_push _ _ _ rfl
    have hst := step_rbrace (q.sum.step (.gap [32])) (fun l hl => by
      rw [step_space] at hl
      cases hl
      trivial)
    refine ⟨by rw [hsum, hst, step_space], by rw [hsum, hst, step_space]; exact hok, by rw [hsum, hst], by rw [hsum, hst],
      ?_, ?_, ?_⟩ <;> (rw [hr]; rfl)

/-- `semiRsrv("}")` after a non-empty list -/
theorem closeBrace_out (p : P) (hw : W p) (hws : p.wantSpace = .required) (hf : p.firstLine = false)
    (hsk : p.sum.sk = false)
    (hl0 : p.wroteSemi = false → ∃ l, p.sum.last = some l ∧ Closed l)
    (hl1 : p.wroteSemi = true → p.sum.last = some (.op [59]) ∨ p.sum.last = some (.op [38]))
    (rl : Nat) :
    ∃ mid : List ATok, CloseOut p (p.semiRsrv [125] rl) (mid ++ [.rbrace]) [125] ∧
      (mid = [.newl] ∨ (mid = [.semi] ∧ p.wroteSemi = false) ∨ (mid = [] ∧ p.wroteSemi = true)) := by
  obtain ⟨n0, n1⟩ := newlines_gen p hw.ok hf rl
  unfold P.semiRsrv
  dsimp only
  cases hwn : p.wantsNewline rl false with
  | true =>
    simp only [↓reduceIte]
    have hn := n1 hwn
    exact ⟨[.newl], hn.close hsk [125] .rbrace (step_rbrace _ (fun l hl => by
      obtain ⟨g, hg⟩ := hn.last
      rw [hg] at hl; cases hl; trivial)), Or.inl rfl⟩
  | false =>
    simp only [Bool.false_eq_true, ↓reduceIte]
    cases hwsemi : p.wroteSemi with
    | false =>
      simp only [Bool.not_false, ↓reduceIte]
      obtain ⟨l, hl, hc⟩ := hl0 hwsemi
      have hs1 : (p.tok [59]).sum = p.sum.step (.op [59]) := P.sum_push p _ _ rfl
      have hst1 := step_term p.sum [59] (Or.inl rfl) (fun x hx => by
        rw [hl] at hx; cases hx
        exact hc.term_ok)
      have hb := brace_after (p.tok [59]) (by rw [hs1, hst1]; exact hw.ok) hws (Or.inl (by rw [hs1, hst1]))
      obtain ⟨b1, b2, b3, b4, b5, b6, b7⟩ := hb
      refine ⟨[.semi], ⟨?_, ⟨b2, fun _ _ _ => rfl⟩, rfl, b3, b4, b5, by rw [b6]; exact hf, fun h => by rw [b7]; exact h⟩,
        by simp⟩
      rw [b1, hs1, hst1]
      simp
    | true =>
      simp only [Bool.not_true, Bool.false_eq_true, ↓reduceIte]
      have hb := brace_after p hw.ok hws (hl1 hwsemi)
      obtain ⟨b1, b2, b3, b4, b5, b6, b7⟩ := hb
      refine ⟨[], ⟨by rw [b1]; simp, ⟨b2, fun _ _ _ => rfl⟩, rfl, b3, b4, b5, by rw [b6]; exact hf,
        fun h => by rw [b7]; exact h⟩, by simp⟩

/-- `{` with the flags the block case sets -/
structure BOpenOut (p r : P) (lb : Pos) : Prop where
  toks : r.sum.toks = p.sum.toks ++ [.lbrace]
  w : W r
  o : r.o = p.o
  first : r.firstLine = p.firstLine
  sk : r.sum.sk = false
  line : r.line = max p.line lb.line
  last : r.sum.last = some (.op [123])

theorem blockOpen_out (p : P) (hw : W p) (lb : Pos) : BOpenOut p (p.blkOpen lb) lb := by
  have qa := Quiet.advanceLine hw lb.line
  obtain ⟨qs, hqs⟩ := Quiet.spacePad qa.w
  have hq0 := qa.trans qs
  have hline : (p.advanceLine lb.line).spacePad.line = max p.line lb.line := by rw [spacePad_line]; rfl
  unfold P.blkOpen
  generalize (p.advanceLine lb.line).spacePad = q0 at qs hqs hq0 hline ⊢
  have hst := step_lbrace q0.sum (qs.w.free hqs)
  dsimp only
  have hsum : ∀ r : P, r.out = .op [123] :: q0.out →
      r.sum = { last := some (.op [123]), sk := false, toks := q0.sum.toks ++ [.lbrace], ok := q0.sum.ok } :=
    fun r hr => (P.sum_push q0 _ r hr).trans hst
  exact ⟨by rw [hsum _ rfl, hq0.toks], ⟨by rw [hsum _ rfl]; exact hq0.w.ok, fun _ _ _ => rfl⟩, hq0.same.o, hq0.same.first,
    by rw [hsum _ rfl], hline, by rw [hsum _ rfl]⟩

/-- the state after a command: a word, `)` or `}` was written last -/
structure AfterCmd (p : P) : Prop where
  ws : p.wantSpace = .required
  sk : p.sum.sk = false
  last : ∃ l, p.sum.last = some l ∧ Closed l

theorem AfterWord.toCmd {p : P} (h : AfterWord p) : AfterCmd p :=
  ⟨h.ws, h.sk, by obtain ⟨parts, e⟩ := h.last; exact ⟨_, e, trivial⟩⟩

def termOf (sep bg : Bool) : Term := if bg then .amp else if sep then .semi else .none

theorem termOf_amp (sep bg : Bool) : (termOf sep bg == .amp) = bg := by cases sep <;> cases bg <;> rfl

theorem term_out (q : P) (hw : W q) (ha : AfterCmd q) (sep bg : Bool) :
    (q.term sep bg).sum.toks = q.sum.toks ++ (termOf sep bg).toks ∧ W (q.term sep bg) ∧ Same' q (q.term sep bg) ∧
      (q.term sep bg).wantSpace = .required ∧ (q.term sep bg).sum.sk = false ∧
      (q.term sep bg).wroteSemi = (termOf sep bg != .none) ∧
      (termOf sep bg = .none → (q.term sep bg).sum.last = q.sum.last) ∧
      (termOf sep bg ≠ .none →
        (q.term sep bg).sum.last = some (.op [59]) ∨ (q.term sep bg).sum.last = some (.op [38])) := by
  by_cases hc : sep = false ∧ bg = false
  · obtain ⟨rfl, rfl⟩ := hc
    exact ⟨by simp [termOf, Term.toks]; rfl, ⟨hw.ok, hw.gap⟩, ⟨rfl, rfl, rfl, rfl⟩, ha.ws, ha.sk, rfl, fun _ => rfl,
      fun h => absurd rfl h⟩
  · obtain ⟨q1, he, hq1⟩ : ∃ q1, q.term sep bg =
        { (q1.tok (if bg then [38] else [59])) with wroteSemi := true, wantSpace := .required } ∧ Quiet q q1 := by
      cases sep with
      | true => exact ⟨q.bslashNewl, rfl, (Quiet.bslashNewl hw).1⟩
      | false =>
        have hb : bg = true := by cases bg <;> simp_all
        subst hb
        refine ⟨if !q.o.minify then q.space else q, rfl, ?_⟩
        split
        · exact (Quiet.space hw).1
        · exact Quiet.rfl' hw
    have hb : (if bg then [38] else [59] : Bytes) = [59] ∨ (if bg then [38] else [59] : Bytes) = [38] := by
      cases bg <;> simp
    have hst := step_term q1.sum _ hb (fun l hl => by
      rcases hq1.last with h | ⟨g, h⟩
      · obtain ⟨l0, hl0, hc0⟩ := ha.last
        rw [h, hl0] at hl
        cases hl
        exact hc0.term_ok
      · rw [h] at hl; cases hl; trivial)
    have hsum := (P.sum_push q1 _ (q.term sep bg) (by rw [he]; rfl)).trans hst
    have hterm : termOf sep bg = if bg then .amp else .semi := by
      cases bg <;> cases sep <;> simp_all [termOf]
    refine ⟨?_, W.push hq1.w.ok (by rw [he]; rfl) hst (fun _ => by rw [he]), ?_, by rw [he], by rw [hsum], ?_, ?_, fun _ => ?_⟩
    · rw [hsum, hq1.toks, hterm]
      cases bg <;> rfl
    · rw [he]
      exact hq1.same.weak.trans ⟨rfl, rfl, rfl, rfl⟩
    · rw [he, hterm]
      cases bg <;> rfl
    · rw [hterm]
      intro h
      cases bg <;> cases h
    · rw [hsum]
      cases bg
      · exact Or.inl rfl
      · exact Or.inr rfl

/-- the terminator `stmtEnd` writes after any command; `sep`: the `;`/`&` of the source is below the printer's line -/
theorem stmtEnd_gen (p : P) (hw : W p) (ha : AfterCmd p) (semi : Pos) (bg : Bool) :
    ∃ term : Term, term = termOf (semi.valid && decide (semi.line > p.line) && !p.o.singleLine) bg ∧
      (p.stmtEnd semi bg).sum.toks = p.sum.toks ++ term.toks ∧ W (p.stmtEnd semi bg) ∧
      Same' p (p.stmtEnd semi bg) ∧ (p.stmtEnd semi bg).wantSpace = .required ∧ (p.stmtEnd semi bg).sum.sk = false ∧
      (p.stmtEnd semi bg).wroteSemi = (term != .none) ∧
      (term = .none → (p.stmtEnd semi bg).sum.last = p.sum.last) ∧
      (term ≠ .none → (p.stmtEnd semi bg).sum.last = some (.op [59]) ∨ (p.stmtEnd semi bg).sum.last = some (.op [38])) := by
  rw [stmtEnd_eq]
  obtain ⟨hi, hiw⟩ := Quiet.incLevel hw
  have hisum : p.incLevel.sum = p.sum := (Flds.incLevel p).sum
  obtain ⟨t1, t2, t3, t4, t5, t6, t7, t8⟩ := term_out p.incLevel hi.w
    ⟨hiw.trans ha.ws, by rw [hisum]; exact ha.sk, by rw [hisum]; exact ha.last⟩
    (semi.valid && decide (semi.line > p.line) && !p.o.singleLine) bg
  obtain ⟨hd, hdw⟩ := Quiet.decLevel t2
  have hdsum := decLevel_sum (p.incLevel.term (semi.valid && decide (semi.line > p.line) && !p.o.singleLine) bg)
  exact ⟨_, rfl, by rw [hd.toks, t1, hisum], hd.w, (hi.same.weak.trans t3).trans hd.same.weak, by rw [hdw, t4],
    by rw [hd.sk, t5], by rw [hd.same.wsemi, t6], fun h => by rw [hdsum, t7 h, hisum], fun h => by rw [hdsum]; exact t8 h⟩

theorem Adv.spacedToken (p : P) (hw : W p) (hl : LastCG p) (op : BinOp) :
    Adv p (p.spacedToken op.str) [opA op] ∧ (p.spacedToken op.str).sum.sk = false ∧
      (p.spacedToken op.str).sum.last = some (.op op.str) := by
  unfold P.spacedToken
  split
  · let q : P := { (p.tok op.str) with wantSpace := .notRequired }
    have hs : q.sum = p.sum.step (.op op.str) := P.sum_push p _ _ rfl
    have hst := step_binop p.sum op hl
    exact ⟨⟨rfl, fun h => h, rfl, by show q.sum.toks = _; rw [hs, hst],
        W.push hw.ok rfl hst (fun hn => by rw [needsGap_binop] at hn; cases hn)⟩,
      by show q.sum.sk = false; rw [hs, hst], by show q.sum.last = _; rw [hs, hst]⟩
  · obtain ⟨hq, _⟩ := Quiet.spacePad hw
    have hl2 := hl.of_quiet hq
    let q : P := { (p.spacePad.tok op.str) with wantSpace := .required }
    have hs : q.sum = p.spacePad.sum.step (.op op.str) := P.sum_push _ _ _ rfl
    have hst := step_binop p.spacePad.sum op hl2
    refine ⟨⟨hq.same.o, fun h => by show p.spacePad.mustNewline = false; rw [hq.same.must]; exact h, hq.same.first,
      by show q.sum.toks = _; rw [hs, hst, hq.toks], ⟨by show q.sum.ok = true; rw [hs, hst]; exact hq.w.ok, fun _ _ _ => rfl⟩⟩,
      by show q.sum.sk = false; rw [hs, hst], by show q.sum.last = _; rw [hs, hst]⟩

theorem newline_last (p : P) (l : Nat) : (p.newline l).sum.last = some (.gap [10]) := by
  have hs : (p.newline l).sum = p.sum.step (.gap [10]) := P.sum_push p _ _ rfl
  rw [hs, step_nl]

theorem binop_notLp (op : BinOp) {q : P} (h : q.sum.last = some (.op op.str)) : NotLp q := by
  intro e
  rw [h] at e
  cases op <;> cases e

/-- the operator on a line of its own or at the end of the line -/
theorem Adv.opMulti (p : P) (hw : W p) (hl : LastCG p) (opPos : Pos) (op : BinOp) (yl : Nat) :
    ∃ nl : Bool, Adv p (p.opMulti opPos op.str yl) (opA op :: nlT nl) ∧ (p.opMulti opPos op.str yl).sum.sk = nl ∧
      NotLp (p.opMulti opPos op.str yl) := by
  unfold P.opMulti
  split
  · obtain ⟨hb, _⟩ := Quiet.bslashNewl hw
    obtain ⟨h1, h2, h3⟩ := Adv.spacedToken p.bslashNewl hb.w (hl.of_quiet hb) op
    have qa := Quiet.advanceLine h1.w yl
    exact ⟨false, by simpa [nlT] using ((Adv.of_quiet hb).trans h1).trans (Adv.of_quiet qa), by rw [qa.sk, h2],
      (binop_notLp op h3).of_quiet qa⟩
  · obtain ⟨h1, h2, _⟩ := Adv.spacedToken p hw hl op
    have qa := Quiet.advanceLine h1.w opPos.line
    obtain ⟨hn, hnsk⟩ := Adv.newline _ qa.w 0
    obtain ⟨hi, _⟩ := Quiet.indent hn.w
    have hq3 := hi.trans (Quiet.advanceLine hi.w yl)
    refine ⟨true, ?_, by rw [hq3.sk, hnsk], fun e => ?_⟩
    · rw [qa.sk, h2] at hn
      simpa [nlT] using (h1.trans (Adv.of_quiet qa)).trans (hn.trans (Adv.of_quiet hq3))
    · -- a newline was written after the operator
      rcases hq3.last with e' | ⟨g, e'⟩
      · rw [e', newline_last] at e; cases e
      · rw [e'] at e; cases e

theorem Adv.binaryOp (p : P) (hw : W p) (hl : LastCG p) (opPos : Pos) (op : BinOp) (yl : Nat) (yb : Bool) :
    ∃ nl : Bool, Adv p (p.binaryOp opPos op yl yb).1 (opA op :: nlT nl) ∧ (p.binaryOp opPos op yl yb).1.sum.sk = nl ∧
      NotLp (p.binaryOp opPos op yl yb).1 := by
  rw [binaryOp_eq]
  split
  · obtain ⟨h1, h2, h3⟩ := Adv.spacedToken p hw hl op
    have qa := Quiet.advanceLine h1.w yl
    exact ⟨false, by simpa [nlT] using h1.trans (Adv.of_quiet qa), by rw [qa.sk, h2], (binop_notLp op h3).of_quiet qa⟩
  · obtain ⟨q, hq, hqq⟩ : ∃ q : P, q = (if (!p.nestedBinary) = true then p.incLevel else p) ∧ Quiet p q := by
      refine ⟨_, rfl, ?_⟩
      split
      · exact (Quiet.incLevel hw).1
      · exact Quiet.rfl' hw
    rw [← hq]
    obtain ⟨nl, h1, h2, h3⟩ := Adv.opMulti q hqq.w (hl.of_quiet hqq) opPos op yl
    have hfin := Quiet.setNested h1.w yb
    exact ⟨nl, by simpa using ((Adv.of_quiet hqq).trans h1).trans (Adv.of_quiet hfin), by rw [hfin.sk]; exact h2,
      h3.of_quiet hfin⟩

/-! ## D. Statements, commands and lists in general -/

def LStmts.finalTerm : LStmts → Term
  | .one s _ => s.term
  | .cons _ _ r => r.finalTerm

def LStmts.withFinalSemi : LStmts → LStmts
  | .one s nl => .one (s.withTerm .semi) nl
  | .cons s nl r => .cons s nl r.withFinalSemi

theorem LStmts.withFinalSemi_facts : ∀ (lt : LStmts), lt.finalTerm = .none → lt.finalNl = false →
    lt.withFinalSemi.toks = lt.toks ++ [.semi] ∧ lt.withFinalSemi.valid = lt.valid ∧
    lt.withFinalSemi.norm = lt.norm ∧ lt.withFinalSemi.closable = true
  | .one s nl => fun ht hn => by
    simp only [LStmts.finalNl] at hn
    subst hn
    obtain ⟨a1, a2, a3, a4⟩ := LStmt.withTerm_semi s ht
    refine ⟨by simp [LStmts.withFinalSemi, LStmts.toks, nlT, a1], by simp [LStmts.withFinalSemi, LStmts.valid, a2],
      by simp [LStmts.withFinalSemi, LStmts.norm, a3], ?_⟩
    obtain ⟨n, c, t⟩ := s
    simp [LStmts.withFinalSemi, LStmts.closable, LStmt.withTerm, LStmt.endsInWord]
  | .cons s nl r => fun ht hn => by
    obtain ⟨h1, h2, h3, h4⟩ := LStmts.withFinalSemi_facts r (by simpa [LStmts.finalTerm] using ht)
      (by simpa [LStmts.finalNl] using hn)
    simp [LStmts.withFinalSemi, LStmts.toks, LStmts.valid, LStmts.norm, LStmts.closable, h1, h2, h3, h4,
      List.append_assoc]

theorem LStmts.withFinalNl_closable : ∀ (lt : LStmts), lt.withFinalNl.closable = true
  | .one s nl => by simp [LStmts.withFinalNl, LStmts.closable]
  | .cons s nl r => by simpa [LStmts.withFinalNl, LStmts.closable] using LStmts.withFinalNl_closable r

theorem LStmts.withFinalNl_finalTerm : ∀ (lt : LStmts), lt.withFinalNl.finalTerm = lt.finalTerm
  | .one s nl => rfl
  | .cons s nl r => by simpa [LStmts.withFinalNl, LStmts.finalTerm] using LStmts.withFinalNl_finalTerm r

theorem LStmts.closable_of_term : ∀ (lt : LStmts), lt.finalTerm ≠ .none → lt.closable = true
  | .one s nl => fun h => by
    obtain ⟨n, c, t⟩ := s
    simp only [LStmts.finalTerm, LStmt.term] at h
    cases t <;> simp [LStmts.closable, LStmt.endsInWord] at h ⊢
  | .cons s nl r => fun h => by
    simpa [LStmts.closable] using LStmts.closable_of_term r (by simpa [LStmts.finalTerm] using h)

/-- positions as a parser assigns them, seen from the printer state: the remaining line numbers
    are sorted and none is behind the printer's line counter -/
def Pre (p : P) (lines : List Nat) : Prop := lines.Pairwise (· ≤ ·) ∧ ∀ l ∈ lines, p.line ≤ l

theorem Pre.left {p : P} {X Y : List Nat} (h : Pre p (X ++ Y)) : Pre p X :=
  ⟨(List.pairwise_append.mp h.1).1, fun l hl => h.2 l (List.mem_append_left _ hl)⟩

theorem Pre.right {p : P} {X Y : List Nat} (h : Pre p (X ++ Y)) : Pre p Y :=
  ⟨(List.pairwise_append.mp h.1).2.1, fun l hl => h.2 l (List.mem_append_right _ hl)⟩

/-- after printing what carries the lines `X`, the rest `Y` is still ahead -/
theorem Pre.next {p p' : P} {X Y : List Nat} (h : Pre p (X ++ Y))
    (hb : ∀ M, p.line ≤ M → (∀ l ∈ X, l ≤ M) → p'.line ≤ M) : Pre p' Y := by
  obtain ⟨h1, h2, h3⟩ := List.pairwise_append.mp h.1
  exact ⟨h2, fun l hl => hb l (h.2 l (List.mem_append_right _ hl)) (fun x hx => h3 x hx l hl)⟩

/-- the same when the step may also move the counter to the head of the rest -/
theorem Pre.next' {p p' : P} {X Y : List Nat} (h : Pre p (X ++ Y))
    (hb : ∀ M, p.line ≤ M → (∀ l ∈ X, l ≤ M) → (∀ a, Y.head? = some a → a ≤ M) → p'.line ≤ M) : Pre p' Y := by
  obtain ⟨h1, h2, h3⟩ := List.pairwise_append.mp h.1
  refine ⟨h2, fun l hl => hb l (h.2 l (List.mem_append_right _ hl)) (fun x hx => h3 x hx l hl) ?_⟩
  intro a ha
  cases Y with
  | nil => cases ha
  | cons b t =>
    simp only [List.head?_cons, Option.some.injEq] at ha
    subst ha
    rcases List.mem_cons.mp hl with rfl | hl'
    · exact Nat.le_refl _
    · exact (List.pairwise_cons.mp h2).1 l hl'

theorem Pre.mono {p p' : P} {X : List Nat} (h : Pre p X) (hl : p'.line ≤ p.line) : Pre p' X :=
  ⟨h.1, fun l hm => Nat.le_trans hl (h.2 l hm)⟩

theorem Pre.head_le {p : P} {a : Nat} {X : List Nat} (h : Pre p (a :: X)) : ∀ l ∈ a :: X, a ≤ l := by
  intro l hl
  rcases List.mem_cons.mp hl with rfl | hl
  · exact Nat.le_refl _
  · exact (List.pairwise_cons.mp h.1).1 l hl

theorem Pre.tail {p : P} {a : Nat} {X : List Nat} (h : Pre p (a :: X)) : Pre p X :=
  ⟨(List.pairwise_cons.mp h.1).2, fun l hl => h.2 l (List.mem_cons_of_mem _ hl)⟩

/-- a step that moves the line counter at most to the head of the remaining lines -/
theorem Pre.step {p p' : P} {X : List Nat} (h : Pre p X) (hb : ∀ M, p.line ≤ M → (∀ a, X.head? = some a → a ≤ M) → p'.line ≤ M) :
    Pre p' X := by
  refine ⟨h.1, fun l hl => hb l (h.2 l hl) ?_⟩
  intro a ha
  cases X with
  | nil => cases ha
  | cons b t =>
    simp only [List.head?_cons, Option.some.injEq] at ha
    subst ha
    exact Pre.head_le h l hl

/-- the state right after a statement of a list (and `p.wantNewline = true` set by the loop) -/
structure PostG (p : P) : Prop where
  w : W p
  ws : p.wantSpace = .required
  wnl : p.wantNewline = true
  must : p.mustNewline = false
  first : p.firstLine = false
  sk : p.sum.sk = false
  last : p.wroteSemi = false → ∃ l, p.sum.last = some l ∧ Closed l
  notLp : NotLp p
  notRefused : refuse p.o = false

theorem stmtSep_postG (p : P) (hp : PostG p) (l : Nat) :
    ∃ pre, (p.stmtSep false l).sum.toks = p.sum.toks ++ pre ∧ W (p.stmtSep false l) ∧ (p.stmtSep false l).o = p.o ∧
      (p.stmtSep false l).mustNewline = false ∧ (p.stmtSep false l).firstLine = false ∧ NotLp (p.stmtSep false l) ∧
      ((p.o.singleLine = false ∧ pre = [.newl]) ∨
       (p.o.singleLine = true ∧ pre = (if p.wroteSemi then [] else [ATok.semi]))) := by
  rw [stmtSep_eq]
  cases hsl : p.o.singleLine with
  | false =>
    rw [sepSemi_multi p false hsl, if_pos (by simp [P.sepCond, hp.ws])]
    have hwn : p.wantsNewline l false = true := by
      simp [P.wantsNewline, hp.must, hsl, hp.wnl]
    have hn := ((newlines_gen p hp.w.ok hp.first l).2 hwn).advance l
    refine ⟨[.newl], by rw [hn.toks, hp.sk]; rfl, hn.w, hn.o, hn.must, hn.first, ?_, Or.inl ⟨rfl, rfl⟩⟩
    intro e
    obtain ⟨g, hg⟩ := hn.last
    rw [hg] at e; cases e
  | true =>
    -- the `;` if none was written; `newlines` does nothing under SingleLine
    obtain ⟨q, hq, hw, ht, ho, hm, hf, hnlp⟩ : ∃ q, p.sepSemi false = q ∧ W q ∧
        q.sum.toks = p.sum.toks ++ (if p.wroteSemi then [] else [ATok.semi]) ∧ q.o = p.o ∧ q.mustNewline = false ∧
        q.firstLine = false ∧ NotLp q := by
      unfold P.sepSemi
      cases hws : p.wroteSemi with
      | true => exact ⟨p, by simp, hp.w, by simp, rfl, hp.must, hp.first, hp.notLp⟩
      | false =>
        refine ⟨{ (p.tok [59]) with wantSpace := .required }, by simp [hsl, hp.wnl], ?_⟩
        obtain ⟨l0, hl, hc⟩ := hp.last hws
        have hs1 : (P.sum { (p.tok [59]) with wantSpace := .required }) = p.sum.step (.op [59]) := P.sum_push p _ _ rfl
        rw [step_term p.sum [59] (Or.inl rfl) (fun x hx => by rw [hl] at hx; cases hx; exact hc.term_ok)] at hs1
        exact ⟨⟨by rw [hs1]; exact hp.w.ok, fun _ _ _ => rfl⟩, by rw [hs1]; simp, rfl, hp.must, hp.first,
          fun e => by rw [hs1] at e; cases e⟩
    have hnl : q.newlines l = q := by
      rw [newlines_eq]
      simp [hf, P.wantsNewline, hm, ho, hsl]
    rw [hq, hnl, ite_self]
    have qa := Quiet.advanceLine hw l
    exact ⟨_, by rw [qa.toks, ht], qa.w, by rw [qa.same.o, ho], by rw [qa.same.must, hm], by rw [qa.same.first, hf],
      hnlp.of_quiet qa, Or.inr ⟨rfl, rfl⟩⟩

/-- the separator before the first statement of a nested list: a newline or nothing -/
theorem firstSep (p : P) (hw : W p) (hf : p.firstLine = false) (l : Nat) :
    ((p.sepCond && p.wantsNewline l false) = true ∧ NlOut p (p.stmtSep true l)) ∨
    ((p.sepCond && p.wantsNewline l false) = false ∧ p.stmtSep true l = p.advanceLine l) := by
  rw [stmtSep_first_eq]
  obtain ⟨n0, n1⟩ := newlines_gen p hw.ok hf l
  cases hc : p.sepCond with
  | false => exact Or.inr ⟨by simp, by simp⟩
  | true =>
    cases hwn : p.wantsNewline l false with
    | false => exact Or.inr ⟨by simp, by simp [n0 hwn]⟩
    | true => exact Or.inl ⟨by simp, by simpa using (n1 hwn).advance l⟩

structure CmdOutG (p p' : P) (c : Cmd) (lc : LCmd) : Prop where
  adv : Adv p p' lc.toks
  valid : lc.valid = true
  norm : lc.norm = c.norm
  ao : lc.isAndOr = c.isAndOr
  bin : lc.isBinary = c.isBinary
  after : AfterCmd p'

structure StmtOutG (p p' : P) (s : Stmt) (ls : LStmt) : Prop where
  adv : Adv p p' ls.toks
  valid : ls.valid = true
  norm : ls.norm = s.norm
  neg : ls.neg = s.negated
  ao : ls.cmd.isAndOr = s.cmd.isAndOr
  bin : ls.cmd.isBinary = s.cmd.isBinary
  ws : p'.wantSpace = .required
  sk : p'.sum.sk = false
  wsemi : p'.wroteSemi = (ls.term != .none)
  bare : s.bare = true → ls.term = .none
  single : p.o.singleLine = true → s.bg = false → ls.term = .none
  amp : (ls.term == .amp) = s.bg
  last : ls.term = .none → ∃ l, p'.sum.last = some l ∧ Closed l
  lastT : ls.term ≠ .none → p'.sum.last = some (.op [59]) ∨ p'.sum.last = some (.op [38])

/-- without subshells and blocks the last piece is a word: the stronger summaries of `L4Print` -/
theorem CmdOutG.lin {p p' : P} {c : Cmd} {lc : LCmd} (h : CmdOutG p p' c lc) (after : AfterWord p')
    (wsemi : p.wroteSemi = false → p'.wroteSemi = false) (ew : lc.endsInWord = true) : CmdOut p p' c lc :=
  ⟨h.adv, h.valid, h.norm, h.ao, h.bin, after, wsemi, ew⟩

theorem StmtOutG.lin {p p' : P} {s : Stmt} {ls : LStmt} (h : StmtOutG p p' s ls)
    (last : ls.term = .none → ∃ parts, p'.sum.last = some (.word parts)) (ew : ls.cmd.endsInWord = true) :
    StmtOut p p' s ls :=
  ⟨h.adv, h.valid, h.norm, h.neg, h.ao, h.bin, h.ws, h.sk, h.wsemi, h.bare, h.single, h.amp, last, ew⟩

/-- what the statement loop establishes: tokens `pre ++ lt.toks`, and the state after the last
    statement -/
structure ListOut (p p' : P) (ss : Stmts) (pre : List ATok) (lt : LStmts) : Prop where
  toks : p'.sum.toks = p.sum.toks ++ (pre ++ lt.toks)
  valid : lt.valid = true
  norm : lt.norm = ss.norm
  fnl : lt.finalNl = false
  w : W p'
  sk : p'.sum.sk = false
  o : p'.o = p.o
  ws : p'.wantSpace = .required
  first : p'.firstLine = false
  must : p'.mustNewline = false
  wsemi : p'.wroteSemi = (lt.finalTerm != .none)
  last : lt.finalTerm = .none → ∃ l, p'.sum.last = some l ∧ Closed l
  lastT : lt.finalTerm ≠ .none → p'.sum.last = some (.op [59]) ∨ p'.sum.last = some (.op [38])

theorem ListOut.from {p q p' : P} {ss : Stmts} {pre : List ATok} {lt : LStmts} (h : ListOut q p' ss [] lt)
    (ho : q.o = p.o) (ht : q.sum.toks = p.sum.toks ++ pre) : ListOut p p' ss pre lt :=
  ⟨by rw [h.toks, ht]; simp [List.append_assoc], h.valid, h.norm, h.fnl, h.w, h.sk, h.o.trans ho, h.ws, h.first,
    h.must, h.wsemi, h.last, h.lastT⟩

theorem notLp_of_last {q : P} {t : Term} (last : t = .none → ∃ l, q.sum.last = some l ∧ Closed l)
    (lastT : t ≠ .none → q.sum.last = some (.op [59]) ∨ q.sum.last = some (.op [38])) : NotLp q := by
  cases ht : t with
  | none => exact NotLp.of_closed (last ht)
  | semi =>
    intro e
    rcases lastT (by rw [ht]; simp) with e' | e' <;> (rw [e'] at e; cases e)
  | amp =>
    intro e
    rcases lastT (by rw [ht]; simp) with e' | e' <;> (rw [e'] at e; cases e)

theorem ListOut.notLp {p p' : P} {ss : Stmts} {pre : List ATok} {lt : LStmts} (h : ListOut p p' ss pre lt) : NotLp p' :=
  notLp_of_last h.last h.lastT

/-- the separator the loop writes before a further statement -/
def SepOK (p : P) (pre : List ATok) : Prop :=
  (p.o.singleLine = false ∧ pre = [.newl]) ∨
  (p.o.singleLine = true ∧ pre = (if p.wroteSemi then [] else [ATok.semi]))

theorem postG_of_stmtOut {q : P} {s : Stmt} {ls : LStmt} (hs : StmtOutG q (q.stmt s) s ls)
    (hm : q.mustNewline = false) (hf : q.firstLine = false) (hr : refuse q.o = false) :
    PostG { (q.stmt s) with wantNewline := true } := by
  refine ⟨⟨hs.adv.w.ok, hs.adv.w.gap⟩, hs.ws, rfl, hs.adv.must hm, by show (q.stmt s).firstLine = false; rw [hs.adv.first, hf],
    hs.sk, ?_, notLp_of_last hs.last hs.lastT, by show refuse (q.stmt s).o = false; rw [hs.adv.o]; exact hr⟩
  intro h
  have h' : (q.stmt s).wroteSemi = false := h
  rw [hs.wsemi] at h'
  exact hs.last (bne_eq_false_iff_eq.mp h')

theorem list_assemble {q : P} {s : Stmt} {ls : LStmt} (hs : StmtOutG q (q.stmt s) s ls)
    (hm : q.mustNewline = false) (hf : q.firstLine = false) (rest : Stmts)
    (ih : rest ≠ .nil → ∃ pre lt, ListOut { (q.stmt s) with wantNewline := true }
        (P.stmtListLoop { (q.stmt s) with wantNewline := true } false rest) rest pre lt ∧
        SepOK { (q.stmt s) with wantNewline := true } pre) :
    ∃ lt, ListOut q (P.stmtListLoop { (q.stmt s) with wantNewline := true } false rest) (.cons s rest) [] lt := by
  have htoks : (P.sum { (q.stmt s) with wantNewline := true }).toks = q.sum.toks ++ ls.toks := hs.adv.toks
  have hwsemi : (({ (q.stmt s) with wantNewline := true } : P)).wroteSemi = (ls.term != .none) := hs.wsemi
  have hso : (({ (q.stmt s) with wantNewline := true } : P)).o = q.o := hs.adv.o
  cases rest with
  | nil =>
    rw [P.stmtListLoop]
    refine ⟨.one ls false, ?_, by simpa [LStmts.valid] using hs.valid, by simp [LStmts.norm, Stmts.norm, hs.norm], rfl,
      ⟨hs.adv.w.ok, hs.adv.w.gap⟩, hs.sk, hso, hs.ws, by show (q.stmt s).firstLine = false; rw [hs.adv.first, hf],
      hs.adv.must hm, hs.wsemi, hs.last, hs.lastT⟩
    rw [htoks]
    simp [LStmts.toks, nlT]
  | cons s2 rest2 =>
    obtain ⟨pre2, lt2, hl, hsep⟩ := ih (by simp)
    have hmk : ∀ (l1 : LStmt) (nl : Bool), l1.toks ++ nlT nl = ls.toks ++ pre2 → l1.valid = true → l1.norm = ls.norm →
        (nl || l1.term != .none) = true →
        ∃ lt, ListOut q (P.stmtListLoop { (q.stmt s) with wantNewline := true } false (.cons s2 rest2)) (.cons s (.cons s2 rest2)) [] lt := by
      intro l1 nl ht hv hn hnt
      refine ⟨.cons l1 nl lt2, ?_, by simp [LStmts.valid, hv, hnt, hl.valid],
        by simp [LStmts.norm, Stmts.norm, hn, hs.norm, hl.norm], hl.fnl, hl.w, hl.sk, hl.o.trans hso, hl.ws, hl.first, hl.must,
        hl.wsemi, hl.last, hl.lastT⟩
      rw [hl.toks, htoks, List.nil_append, LStmts.toks, ← List.append_assoc l1.toks, ht]
      simp [List.append_assoc]
    rcases hsep with ⟨_, rfl⟩ | ⟨_, rfl⟩
    · exact hmk ls true rfl hs.valid rfl rfl
    · rw [hwsemi] at hmk
      cases hterm : ls.term with
      | none =>
        obtain ⟨a1, a2, a3, a4⟩ := LStmt.withTerm_semi ls hterm
        exact hmk (ls.withTerm .semi) false (by simp [nlT, hterm, a1]) (by rw [a2]; exact hs.valid) a3 (by rw [a4]; rfl)
      | semi => exact hmk ls false (by simp [nlT, hterm]) hs.valid rfl (by rw [hterm]; rfl)
      | amp => exact hmk ls false (by simp [nlT, hterm]) hs.valid rfl (by rw [hterm]; rfl)

theorem Stmt.pos_le_lines {p : P} {s : Stmt} {Y : List Nat} (h : Pre p (s.lines ++ Y)) : ∀ l ∈ s.lines, s.pos.line ≤ l := by
  obtain ⟨t, ht⟩ := Stmt.lines_cons s
  intro l hl
  have h' := Pre.left h
  rw [ht] at h' hl
  exact Pre.head_le h' l hl

/-- the separator moves the line counter at most to the line of the statement it precedes -/
theorem Pre.sep {p : P} {s : Stmt} {Y : List Nat} {first : Bool} (h : Pre p (s.lines ++ Y)) :
    Pre (p.stmtSep first s.pos.line) (s.lines ++ Y) :=
  Pre.step h (fun M h1 h2 => le_stmtSep first _ h1 (h2 _ (by obtain ⟨t, ht⟩ := Stmt.lines_cons s; rw [ht]; rfl)))

/-- what a subshell or block needs of the state it is printed in: past the first line, no forced
    newline, an accepted option set, the line numbers ahead in order (`Pre`), and, if it starts
    with `(` itself, a blank due after a `(` written last -/
structure Nest (p : P) (lines : List Nat) (lp : Bool) : Prop where
  first : p.firstLine = false
  must : p.mustNewline = false
  ok : refuse p.o = false
  pre : Pre p lines
  blank : lp = true → p.sum.last = some (.op [40]) → p.wantSpace = .required

/-- A list from the state `q` in which its first statement is printed; `ihs`, `ihr` are the callers'
    induction hypotheses.  Line numbers matter only where there is a subshell or block. -/
theorem list_first (q : P) (s : Stmt) (rest : Stmts) (hw : W q) (hf : q.firstLine = false)
    (hm : q.mustNewline = false) (hr : refuse q.o = false)
    (hpre : (Stmts.cons s rest).lin = true ∨ Pre q (s.lines ++ rest.lines))
    (hlp : s.startsWithLparen = true → q.sum.last = some (.op [40]) → q.wantSpace = .required)
    (ihs : ∀ q : P, W q → (s.lin = true ∨ Nest q s.lines s.startsWithLparen) → ∃ ls, StmtOutG q (q.stmt s) s ls)
    (ihr : rest ≠ .nil → ∀ q : P, PostG q → (rest.lin = true ∨ Pre q rest.lines) →
      ∃ pre lt, ListOut q (q.stmtListLoop false rest) rest pre lt ∧ SepOK q pre) :
    ∃ lt, ListOut q (P.stmtListLoop { (q.stmt s) with wantNewline := true } false rest) (.cons s rest) [] lt := by
  obtain ⟨ls, hs⟩ := ihs q hw (hpre.imp (fun h => (Stmts.lin_cons h).1) (fun h => ⟨hf, hm, hr, Pre.left h, hlp⟩))
  have hrest : rest.lin = true ∨ Pre ({ (q.stmt s) with wantNewline := true } : P) rest.lines :=
    hpre.imp (fun h => (Stmts.lin_cons h).2) (fun h => Pre.next h (fun M h1 h2 => le_stmt s M _ h1 h2))
  exact list_assemble hs hm hf rest (fun hne => ihr hne _ (postG_of_stmtOut hs hm hf hr) hrest)

/-- A nested statement list, from the state after the opening token: an optional newline and a
    valid layout of the list. -/
theorem nested_list (r1 : P) (s : Stmt) (rest : Stmts) (hw1 : W r1) (hf : r1.firstLine = false)
    (hsk : r1.sum.sk = false) (hr : refuse r1.o = false) (hpre : Pre r1 (s.lines ++ rest.lines))
    (hopen : s.startsWithLparen = true → r1.sum.last = some (.op [40]) →
      r1.wantSpace = .required ∨ (r1.sepCond && r1.wantsNewline s.pos.line false) = true)
    (ihs : ∀ q : P, W q → (s.lin = true ∨ Nest q s.lines s.startsWithLparen) → ∃ ls, StmtOutG q (q.stmt s) s ls)
    (ihr : rest ≠ .nil → ∀ q : P, PostG q → (rest.lin = true ∨ Pre q rest.lines) →
      ∃ pre lt, ListOut q (q.stmtListLoop false rest) rest pre lt ∧ SepOK q pre) :
    ∃ (nl : Bool) (lt : LStmts), ListOut r1 (r1.stmtListLoop true (.cons s rest)) (.cons s rest) (nlT nl) lt := by
  rw [stmtListLoop_cons]
  have hpq : Pre (r1.stmtSep true s.pos.line) (s.lines ++ rest.lines) := Pre.sep hpre
  rcases firstSep r1 hw1 hf s.pos.line with ⟨_, hn⟩ | ⟨hc, heq⟩
  · obtain ⟨lt, hl⟩ := list_first _ s rest hn.w hn.first hn.must (by rw [hn.o]; exact hr) (Or.inr hpq)
      (fun _ e => by obtain ⟨g, hg⟩ := hn.last; rw [hg] at e; cases e) ihs ihr
    exact ⟨true, lt, hl.from hn.o (by rw [hn.toks, hsk]; rfl)⟩
  · have qa := Quiet.advanceLine hw1 s.pos.line
    have hmust : r1.mustNewline = false := by
      cases hmn : r1.mustNewline with
      | false => rfl
      | true =>
        have : (r1.sepCond && r1.wantsNewline s.pos.line false) = true := by
          simp [P.sepCond, P.wantsNewline, hmn]
        rw [this] at hc
        cases hc
    rw [heq] at hpq ⊢
    obtain ⟨lt, hl⟩ := list_first _ s rest qa.w (by rw [qa.same.first]; exact hf) (by rw [qa.same.must]; exact hmust)
      (by rw [qa.same.o]; exact hr) (Or.inr hpq)
      (fun hs e => by
        have hsum : (r1.advanceLine s.pos.line).sum = r1.sum := P.sum_same _ _ rfl
        rw [hsum] at e
        rcases hopen hs e with h | h
        · exact h
        · rw [h] at hc; cases hc) ihs ihr
    exact ⟨false, lt, hl.from qa.same.o (by rw [qa.toks]; simp [nlT])⟩

theorem nested_start {p r0 : P} {ol : Nat} {lines : List Nat} {cl : Nat} {lp : Bool} (ss : Stmts) (closing : Pos)
    (hn : Nest p (ol :: (lines ++ [cl])) lp)
    (hw0 : W r0) (ho : r0.o = p.o) (hfirst : r0.firstLine = p.firstLine) (hsk : r0.sum.sk = false)
    (hline : r0.line = max p.line ol) :
    W (r0.nestPre ss closing) ∧ (r0.nestPre ss closing).firstLine = false ∧
      (r0.nestPre ss closing).sum.sk = false ∧ refuse (r0.nestPre ss closing).o = false ∧
      (r0.nestPre ss closing).line = ol ∧ Pre (r0.nestPre ss closing) lines := by
  obtain ⟨fl1, _, _⟩ := nestPre_flds r0 ss closing
  have hl : (r0.nestPre ss closing).line = ol := by
    rw [fl1.line, hline]; exact Nat.max_eq_right (hn.pre.2 _ (by simp))
  refine ⟨fl1.w hw0, by rw [fl1.first, hfirst]; exact hn.first, by rw [fl1.sum]; exact hsk,
    by rw [fl1.o, ho]; exact hn.ok, hl, (Pre.left (Pre.tail hn.pre)).1, fun l hm => ?_⟩
  rw [hl]
  exact Pre.head_le hn.pre l (List.mem_cons_of_mem _ (List.mem_append_left _ hm))

theorem ListOut.flds {p q q' : P} {ss : Stmts} {pre : List ATok} {lt : LStmts} (h : ListOut p q ss pre lt)
    (f : Flds q q') : ListOut p q' ss pre lt :=
  ⟨by rw [f.sum]; exact h.toks, h.valid, h.norm, h.fnl, f.w h.w, by rw [f.sum]; exact h.sk, f.o.trans h.o,
    f.ws.trans h.ws, f.first.trans h.first, f.must.trans h.must, f.wsemi.trans h.wsemi, by rw [f.sum]; exact h.last,
    by rw [f.sum]; exact h.lastT⟩

theorem ListOut.from_flds {p0 p q : P} {ss : Stmts} {pre : List ATok} {lt : LStmts} (h : ListOut p q ss pre lt)
    (f : Flds p0 p) : ListOut p0 q ss pre lt :=
  ⟨by rw [h.toks, f.sum], h.valid, h.norm, h.fnl, h.w, h.sk, h.o.trans f.o, h.ws, h.first, h.must, h.wsemi, h.last,
    h.lastT⟩

theorem nested_body {p r0 : P} {ol cl : Nat} {lp : Bool} (s : Stmt) (rest : Stmts) (closing : Pos)
    (hn : Nest p (ol :: ((s.lines ++ rest.lines) ++ [cl])) lp)
    (hw0 : W r0) (ho : r0.o = p.o) (hfirst : r0.firstLine = p.firstLine) (hsk : r0.sum.sk = false)
    (hline : r0.line = max p.line ol)
    (hopen : s.startsWithLparen = true → (r0.nestPre (.cons s rest) closing).sum.last = some (.op [40]) →
      (r0.nestPre (.cons s rest) closing).wantSpace = .required ∨
        ((r0.nestPre (.cons s rest) closing).sepCond &&
          (r0.nestPre (.cons s rest) closing).wantsNewline s.pos.line false) = true)
    (ihs : ∀ q : P, W q → (s.lin = true ∨ Nest q s.lines s.startsWithLparen) → ∃ ls, StmtOutG q (q.stmt s) s ls)
    (ihr : rest ≠ .nil → ∀ q : P, PostG q → (rest.lin = true ∨ Pre q rest.lines) →
      ∃ pre lt, ListOut q (q.stmtListLoop false rest) rest pre lt ∧ SepOK q pre) :
    ∃ (nl : Bool) (lt : LStmts),
      ListOut r0 (r0.nestedStmtsWith (.cons s rest) closing (fun q => q.stmtListLoop true (.cons s rest)))
        (.cons s rest) (nlT nl) lt := by
  obtain ⟨hw1, hf1, hsk1, hr1o, _, hpre1⟩ := nested_start (.cons s rest) closing hn hw0 ho hfirst hsk hline
  obtain ⟨nl, lt, hl⟩ := nested_list _ s rest hw1 hf1 hsk1 hr1o hpre1 hopen ihs ihr
  exact ⟨nl, lt, (hl.flds (nested_flds r0 (.cons s rest) closing (fun q => q.stmtListLoop true (.cons s rest)))).from_flds
    (nestPre_flds r0 (.cons s rest) closing).1⟩

theorem subshell_out (p : P) (lp rp : Pos) (s : Stmt) (rest : Stmts) (hw : W p)
    (hn : Nest p (Cmd.subshell lp rp (.cons s rest)).lines true)
    (ihs : ∀ q : P, W q → (s.lin = true ∨ Nest q s.lines s.startsWithLparen) → ∃ ls, StmtOutG q (q.stmt s) s ls)
    (ihr : rest ≠ .nil → ∀ q : P, PostG q → (rest.lin = true ∨ Pre q rest.lines) →
      ∃ pre lt, ListOut q (q.stmtListLoop false rest) rest pre lt ∧ SepOK q pre) :
    ∃ lc, CmdOutG p (p.command (.subshell lp rp (.cons s rest))) (.subshell lp rp (.cons s rest)) lc := by
  have hlines : (Cmd.subshell lp rp (.cons s rest)).lines = lp.line :: ((s.lines ++ rest.lines) ++ [rp.line]) := by
    simp [Cmd.lines, Stmts.lines]
  rw [hlines] at hn
  have hop := subshellOpen_out p hw (hn.blank rfl) lp s rest
  rw [command_subshell2]
  unfold P.subClose
  generalize (p.advanceLine lp.line).spacePad.subshellOpen lp (.cons s rest) = r0 at hop ⊢
  have hopen : s.startsWithLparen = true → (r0.nestPre (.cons s rest) rp).sum.last = some (.op [40]) →
      (r0.nestPre (.cons s rest) rp).wantSpace = .required ∨
        ((r0.nestPre (.cons s rest) rp).sepCond && (r0.nestPre (.cons s rest) rp).wantsNewline s.pos.line false) = true := by
    obtain ⟨fl1, wn1, _⟩ := nestPre_flds r0 (.cons s rest) rp
    obtain ⟨_, _, _, _, hr1line, _⟩ := nested_start (.cons s rest) rp hn hop.w hop.o hop.first hop.sk hop.line
    generalize r0.nestPre (.cons s rest) rp = r1 at fl1 wn1 hr1line ⊢
    intro hs e
    rw [fl1.sum] at e
    rcases hop.opened hs with ⟨g, hg⟩ | ⟨h1, h2, h3⟩
    · rw [hg] at e; cases e
    · right
      have ho : r1.o = r0.o := fl1.o
      cases hmin : r0.o.minify with
      | true =>
        have hmn : r1.mustNewline = true := by rw [fl1.must]; exact h3 hmin
        simp [P.sepCond, P.wantsNewline, hmn]
      | false =>
        have hsl : r1.o.singleLine = false := by rw [ho]; exact h1
        have hmin1 : r1.o.minify = false := by rw [ho]; exact hmin
        have hwnl : (r1.wantNewline || decide (s.pos.line > r1.line)) = true := by
          rcases h2 with h2 | h2
          · have hle : lp.line ≤ s.pos.line :=
              Pre.head_le hn.pre _ (List.mem_cons_of_mem _ (List.mem_append_left _ (List.mem_append_left _ (Stmt.pos_mem_lines s))))
            rw [hr1line]
            simp only [Bool.or_eq_true, decide_eq_true_eq]
            right; omega
          · have : r1.wantNewline = true := wn1 (by simp only [Stmts.length]; omega)
            simp [this]
        simp only [P.sepCond, P.wantsNewline, hmin1, hsl, Bool.and_false, Bool.false_eq_true, ↓reduceIte, hwnl]
        cases r1.mustNewline <;> simp
  obtain ⟨nl, lt, hl⟩ := nested_body s rest rp hn hop.w hop.o hop.first hop.sk hop.line hopen ihs ihr
  generalize r0.nestedStmtsWith (.cons s rest) rp (fun q => q.stmtListLoop true (.cons s rest)) = r2 at hl ⊢
  obtain ⟨nl2, hcl⟩ := closeParen_out r2 hl.w hl.first hl.sk hl.notLp (.cons s rest) lp.line rp.line rp.line
  obtain ⟨f1, f2, f3⟩ := LStmts.withFinalNl_facts lt hl.fnl
  have htoks : ((r2.closingParenSpace (.cons s rest) lp.line rp.line).rightParen rp.line).sum.toks =
      p.sum.toks ++ (.lparen :: (nlT nl ++ (lt.toks ++ (nlT nl2 ++ [.rparen])))) := by
    rw [hcl.toks, hl.toks, hop.toks]
    simp [List.append_assoc]
  have hadv : ∀ ts, p.sum.toks ++ (.lparen :: (nlT nl ++ (lt.toks ++ (nlT nl2 ++ [.rparen])))) = p.sum.toks ++ ts →
      Adv p ((r2.closingParenSpace (.cons s rest) lp.line rp.line).rightParen rp.line) ts := by
    intro ts hts
    exact ⟨by rw [hcl.o, hl.o, hop.o], fun _ => hcl.must hl.must, by rw [hcl.first, hn.first], by rw [htoks, hts], hcl.w⟩
  have hafter : AfterCmd ((r2.closingParenSpace (.cons s rest) lp.line rp.line).rightParen rp.line) :=
    ⟨hcl.ws, hcl.sk, ⟨_, hcl.last, Or.inl rfl⟩⟩
  cases nl2 with
  | false =>
    refine ⟨.subshell nl lt, hadv _ (by simp [LCmd.toks, nlT]), by simpa [LCmd.valid] using hl.valid,
      by simp [LCmd.norm, Cmd.norm, hl.norm], rfl, rfl, hafter⟩
  | true =>
    refine ⟨.subshell nl lt.withFinalNl, hadv _ (by simp [LCmd.toks, nlT, f1, List.append_assoc]),
      by simpa [LCmd.valid, f2] using hl.valid, by simp [LCmd.norm, Cmd.norm, f3, hl.norm], rfl, rfl, hafter⟩

theorem block_out (p : P) (lb rb : Pos) (s : Stmt) (rest : Stmts) (hw : W p)
    (hn : Nest p (Cmd.block lb rb (.cons s rest)).lines false)
    (ihs : ∀ q : P, W q → (s.lin = true ∨ Nest q s.lines s.startsWithLparen) → ∃ ls, StmtOutG q (q.stmt s) s ls)
    (ihr : rest ≠ .nil → ∀ q : P, PostG q → (rest.lin = true ∨ Pre q rest.lines) →
      ∃ pre lt, ListOut q (q.stmtListLoop false rest) rest pre lt ∧ SepOK q pre) :
    ∃ lc, CmdOutG p (p.command (.block lb rb (.cons s rest))) (.block lb rb (.cons s rest)) lc := by
  have hlines : (Cmd.block lb rb (.cons s rest)).lines = lb.line :: ((s.lines ++ rest.lines) ++ [rb.line]) := by
    simp [Cmd.lines, Stmts.lines]
  rw [hlines] at hn
  have hop : BOpenOut p (p.blkOpen lb) lb := blockOpen_out p hw lb
  have hfin : p.command (.block lb rb (.cons s rest)) =
      ((p.blkOpen lb).nestedStmtsWith (.cons s rest) rb (fun q => q.stmtListLoop true (.cons s rest))).semiRsrv [125] rb.line := by
    rw [command_block2]
    unfold P.blkBody
    have : ((Stmts.cons s rest).length == 0) = false := by simp [Stmts.length]
    simp only [this, Bool.and_false, Bool.false_eq_true, ↓reduceIte]
  rw [hfin]
  generalize p.blkOpen lb = r0 at hop ⊢
  obtain ⟨nl, lt, hl⟩ := nested_body s rest rb hn hop.w hop.o hop.first hop.sk hop.line
    (fun _ e => by rw [(nestPre_flds r0 (.cons s rest) rb).1.sum, hop.last] at e; cases e) ihs ihr
  generalize r0.nestedStmtsWith (.cons s rest) rb (fun q => q.stmtListLoop true (.cons s rest)) = r2 at hl ⊢
  obtain ⟨mid, hcl, hmid⟩ := closeBrace_out r2 hl.w hl.ws hl.first hl.sk
    (fun h => by
      rw [hl.wsemi] at h
      exact hl.last (bne_eq_false_iff_eq.mp h))
    (fun h => by
      rw [hl.wsemi] at h
      exact hl.lastT (bne_iff_ne.mp h))
    rb.line
  have htoks : (r2.semiRsrv [125] rb.line).sum.toks =
      p.sum.toks ++ (.lbrace :: (nlT nl ++ (lt.toks ++ (mid ++ [.rbrace])))) := by
    rw [hcl.toks, hl.toks, hop.toks]
    simp [List.append_assoc]
  have hadv : ∀ ts, p.sum.toks ++ (.lbrace :: (nlT nl ++ (lt.toks ++ (mid ++ [.rbrace])))) = p.sum.toks ++ ts →
      Adv p (r2.semiRsrv [125] rb.line) ts := by
    intro ts hts
    exact ⟨by rw [hcl.o, hl.o, hop.o], fun _ => hcl.must hl.must, by rw [hcl.first, hn.first], by rw [htoks, hts], hcl.w⟩
  have hafter : AfterCmd (r2.semiRsrv [125] rb.line) := ⟨hcl.ws, hcl.sk, ⟨_, hcl.last, Or.inr rfl⟩⟩
  rcases hmid with rfl | ⟨rfl, hws0⟩ | ⟨rfl, hws1⟩
  · obtain ⟨f1, f2, f3⟩ := LStmts.withFinalNl_facts lt hl.fnl
    refine ⟨.block nl lt.withFinalNl, hadv _ (by simp [LCmd.toks, nlT, f1, List.append_assoc]), ?_,
      by simp [LCmd.norm, Cmd.norm, f3, hl.norm], rfl, rfl, hafter⟩
    simp [LCmd.valid, f2, hl.valid, LStmts.withFinalNl_closable]
  · have hft : lt.finalTerm = .none := by
      rw [hl.wsemi] at hws0
      exact bne_eq_false_iff_eq.mp hws0
    obtain ⟨g1, g2, g3, g4⟩ := LStmts.withFinalSemi_facts lt hft hl.fnl
    refine ⟨.block nl lt.withFinalSemi, hadv _ (by simp [LCmd.toks, nlT, g1, List.append_assoc]), ?_,
      by simp [LCmd.norm, Cmd.norm, g3, hl.norm], rfl, rfl, hafter⟩
    simp [LCmd.valid, g2, hl.valid, g4]
  · have hft : lt.finalTerm ≠ .none := by
      rw [hl.wsemi] at hws1
      exact bne_iff_ne.mp hws1
    refine ⟨.block nl lt, hadv _ (by simp [LCmd.toks, nlT]), ?_, by simp [LCmd.norm, Cmd.norm, hl.norm], rfl, rfl, hafter⟩
    simp [LCmd.valid, hl.valid, LStmts.closable_of_term lt hft]

/-! ### The mutual induction

  One induction for all of F0.  A command without subshells and blocks (`lin`) needs nothing of the
  state beyond `W`, and its output ends in a word (`CmdOut`); any other command needs the context
  `Nest`. -/

mutual
theorem core_stmt : ∀ (s : Stmt), s.wf = true → ∀ (p : P), W p →
    (s.lin = true ∨ Nest p s.lines s.startsWithLparen) →
    ∃ ls, StmtOutG p (p.stmt s) s ls ∧ (s.lin = true → StmtOut p (p.stmt s) s ls)
  | .mk pos semi neg bg cmd => fun hwf p hw hctx => by
    simp only [Stmt.wf, Bool.and_eq_true, Bool.not_eq_true'] at hwf
    obtain ⟨hcwf, hnao⟩ := hwf
    obtain ⟨h1, h2, h3, h4⟩ := Emits.stmtPre p hw neg
    have hctxc : cmd.lin = true ∨ Nest (p.stmtPre neg) cmd.lines cmd.startsWithLparen := by
      refine hctx.imp (fun h => by simpa [Stmt.lin] using h) (fun n => ⟨by rw [h3.first]; exact n.first,
        by rw [h3.must]; exact n.must, by rw [h3.o]; exact n.ok, ?_, fun hc => ?_⟩)
      · have h' : Pre p (cmd.lines ++ (if semi.valid then [semi.line] else [])) := Pre.tail n.pre
        exact (Pre.left h').mono (Nat.le_of_eq (line_stmtPre p neg))
      · cases neg with
        | false =>
          obtain ⟨a, b⟩ := h4 rfl
          rw [b, a]
          exact n.blank (by simpa [Stmt.startsWithLparen] using hc)
        | true =>
          intro _
          unfold P.stmtPre P.spacedString
          rfl
    obtain ⟨lc, hc, hcl⟩ := core_cmd cmd hcwf (p.stmtPre neg) h2 hctxc
    obtain ⟨term, hterm, e1, e2, e3, e4, e5, e6, e10, e12⟩ := stmtEnd_gen _ hc.adv.w hc.after semi bg
    have hamp : (term == Term.amp) = bg := by rw [hterm]; exact termOf_amp _ _
    have hG : StmtOutG p (p.stmt (.mk pos semi neg bg cmd)) (.mk pos semi neg bg cmd) (.mk neg lc term) := by
      unfold P.stmt
      refine ⟨⟨?_, ?_, ?_, ?_, e2⟩, ?_, ?_, rfl, ?_, ?_, e4, e5, e6, ?_, ?_, hamp, ?_, e12⟩
      · rw [e3.o, hc.adv.o, h3.o]
      · intro hm'
        rw [e3.must]
        exact hc.adv.must (by rw [h3.must]; exact hm')
      · rw [e3.first, hc.adv.first, h3.first]
      · rw [e1, hc.adv.toks, h1]
        simp [LStmt.toks, List.append_assoc]
      · simp only [LStmt.valid, hc.valid, Bool.true_and, Bool.not_eq_true', hc.ao]
        exact hnao
      · simp [LStmt.norm, Stmt.norm, hc.norm, hamp]
      · simpa [LStmt.cmd, Stmt.cmd] using hc.ao
      · simpa [LStmt.cmd, Stmt.cmd] using hc.bin
      · intro hb
        simp only [Stmt.bare, Stmt.bg, Stmt.semi, Bool.and_eq_true, Bool.not_eq_true'] at hb
        rw [hterm, hb.1, hb.2]; rfl
      · intro hsl hbg
        have ho : ((p.stmtPre neg).command cmd).o = p.o := by rw [hc.adv.o, h3.o]
        simp only [Stmt.bg] at hbg
        rw [hterm, ho, hsl, hbg, Bool.not_true, Bool.and_false]; rfl
      · intro ht
        rw [e10 ht]
        exact hc.after.last
    refine ⟨.mk neg lc term, hG, fun hl => ?_⟩
    have hcl' := hcl (by simpa [Stmt.lin] using hl)
    refine hG.lin (fun ht => ?_) hcl'.ew
    have : (P.stmt p (.mk pos semi neg bg cmd)).sum.last = ((p.stmtPre neg).command cmd).sum.last := by
      unfold P.stmt; exact e10 ht
    rw [this]
    exact hcl'.after.last
theorem core_cmd : ∀ (c : Cmd), c.wf = true → ∀ (p : P), W p →
    (c.lin = true ∨ Nest p c.lines c.startsWithLparen) →
    ∃ lc, CmdOutG p (p.command c) c lc ∧ (c.lin = true → CmdOut p (p.command c) c lc)
  | .call args => fun hwf p hw _ => by
    obtain ⟨hane, hawf⟩ := call_wf_args hwf
    obtain ⟨c1, c2⟩ := Emits.command_call args hane hawf p hw
    have hG : CmdOutG p (p.command (.call args)) (.call args) (.call (args.map Word.norm)) := by
      refine ⟨?_, ?_, ?_, rfl, rfl, c2.toCmd⟩
      · have := Adv.of_emits c1
        simpa [LCmd.toks, List.map_map, Function.comp_def] using this
      · have := mkL_valid false args .none hwf
        simpa [mkL, LStmt.valid, LCmd.isAndOr] using this
      · simp [LCmd.norm, Cmd.norm]
    exact ⟨_, hG, fun _ => hG.lin c2 (fun h => by rw [c1.same.wsemi]; exact h) rfl⟩
  | .subshell lp rp ss => fun hwf p hw hctx => by
    simp only [Cmd.wf, Bool.and_eq_true, decide_eq_true_eq] at hwf
    obtain ⟨hlen, hsswf⟩ := hwf
    have hn := hctx.resolve_left (by simp [Cmd.lin])
    cases ss with
    | nil => simp [Stmts.length] at hlen
    | cons s rest =>
      obtain ⟨hswf, hrwf⟩ := Stmts.wf_cons hsswf
      obtain ⟨lc, h⟩ := subshell_out p lp rp s rest hw hn
        (fun q hq hc => (core_stmt s hswf q hq hc).imp fun _ h => h.1) (fun hne q => core_loop rest hrwf hne q)
      exact ⟨lc, h, fun hl => by simp [Cmd.lin] at hl⟩
  | .block lb rb ss => fun hwf p hw hctx => by
    simp only [Cmd.wf, Bool.and_eq_true, decide_eq_true_eq] at hwf
    obtain ⟨hlen, hsswf⟩ := hwf
    have hn := hctx.resolve_left (by simp [Cmd.lin])
    cases ss with
    | nil => simp [Stmts.length] at hlen
    | cons s rest =>
      obtain ⟨hswf, hrwf⟩ := Stmts.wf_cons hsswf
      obtain ⟨lc, h⟩ := block_out p lb rb s rest hw hn
        (fun q hq hc => (core_stmt s hswf q hq hc).imp fun _ h => h.1) (fun hne q => core_loop rest hrwf hne q)
      exact ⟨lc, h, fun hl => by simp [Cmd.lin] at hl⟩
  | .binary opPos op x y => fun hwf p hw hctx => by
    simp only [Cmd.wf, Bool.and_eq_true] at hwf
    obtain ⟨⟨⟨⟨hxwf, hywf⟩, hxb⟩, hyb⟩, hshape⟩ := hwf
    have hlines : (Cmd.binary opPos op x y).lines = x.lines ++ (opPos.line :: y.lines) := by simp [Cmd.lines]
    rw [hlines] at hctx
    have q1 := Quiet.advanceLine hw x.pos.line
    obtain ⟨q2, _⟩ := Quiet.spacePad q1.w
    have q12 := q1.trans q2
    have hctxx : x.lin = true ∨ Nest (p.advanceLine x.pos.line).spacePad x.lines x.startsWithLparen := by
      refine hctx.imp (fun h => by simp only [Cmd.lin, Bool.and_eq_true] at h; exact h.1) (fun n =>
        ⟨by rw [q12.same.first]; exact n.first, by rw [q12.same.must]; exact n.must, by rw [q12.same.o]; exact n.ok,
          ⟨(Pre.left n.pre).1, fun l hl => ?_⟩, fun hx e => ?_⟩)
      · rw [spacePad_line]
        exact le_advanceLine ((Pre.left n.pre).2 l hl) (Stmt.pos_le_lines n.pre l hl)
      · have hlp' : (p.advanceLine x.pos.line).sum.last = some (.op [40]) → (p.advanceLine x.pos.line).wantSpace = .required := by
          intro e'
          have hsum : (p.advanceLine x.pos.line).sum = p.sum := P.sum_same _ _ rfl
          rw [hsum] at e'
          exact n.blank (by simpa [Cmd.startsWithLparen] using hx) e'
        exact absurd e (spacePad_notLp _ q1.w hlp')
    obtain ⟨lsx, hx, hxl⟩ := core_stmt x hxwf _ q12.w hctxx
    have hxt := hx.bare hxb
    have hlast : LastCG (((p.advanceLine x.pos.line).spacePad).stmt x) := LastCG.of_closed (hx.last hxt)
    obtain ⟨nl, hb, hbsk, hbnlp⟩ := Adv.binaryOp _ hx.adv.w hlast opPos op y.pos.line y.isBinaryCmd
    have hctxy : y.lin = true ∨
        Nest ((((p.advanceLine x.pos.line).spacePad).stmt x).binaryOp opPos op y.pos.line y.isBinaryCmd).1 y.lines
          y.startsWithLparen := by
      refine hctx.imp (fun h => by simp only [Cmd.lin, Bool.and_eq_true] at h; exact h.2) (fun n =>
        ⟨by rw [hb.first, hx.adv.first, q12.same.first]; exact n.first,
          hb.must (hx.adv.must (by rw [q12.same.must]; exact n.must)),
          by rw [hb.o, hx.adv.o, q12.same.o]; exact n.ok, ?_, fun _ e => absurd e hbnlp⟩)
      have h'' : Pre p ((x.lines ++ [opPos.line]) ++ y.lines) := by simpa [List.append_assoc] using n.pre
      refine Pre.next' h'' (fun M h1 h2 h3 => ?_)
      obtain ⟨t, ht⟩ := Stmt.lines_cons y
      apply le_binaryOp _ _ _ _ _ (h2 _ (by simp)) (h3 _ (by rw [ht]; rfl))
      apply le_stmt x M _ _ (fun l hl => h2 l (by simp [hl]))
      rw [spacePad_line]
      exact le_advanceLine h1 (h2 _ (by simp [Stmt.pos_mem_lines]))
    obtain ⟨lsy, hy, hyl⟩ := core_stmt y hywf _ hb.w hctxy
    have hyt := hy.bare hyb
    obtain ⟨qe, qews, qesum⟩ := Quiet.binaryEnd _ hy.adv.w
      (((p.advanceLine x.pos.line).spacePad.stmt x).binaryOp opPos op y.pos.line y.isBinaryCmd).2.1
      (((p.advanceLine x.pos.line).spacePad.stmt x).binaryOp opPos op y.pos.line y.isBinaryCmd).2.2
    have hG : CmdOutG p (p.command (.binary opPos op x y)) (.binary opPos op x y) (.binary op nl lsx lsy) := by
      unfold P.command
      dsimp only
      refine ⟨?_, ?_, ?_, ?_, rfl, ?_⟩
      · have := (((Adv.of_quiet q12).trans hx.adv).trans hb).trans (hy.adv.trans (Adv.of_quiet qe))
        simpa [LCmd.toks, List.append_assoc] using this
      · simp only [LCmd.valid, hx.valid, hy.valid, hxt, hyt, beq_self_eq_true, Bool.and_self, Bool.true_and]
        cases op with
        | pipe =>
          simp only [Bool.and_eq_true, Bool.not_eq_true'] at hshape ⊢
          obtain ⟨⟨⟨s1, s2⟩, s3⟩, s4⟩ := hshape
          exact ⟨⟨⟨by rw [hx.neg]; exact s1, by rw [hy.neg]; exact s2⟩, by rw [hx.ao]; exact s3⟩, by rw [hy.bin]; exact s4⟩
        | andStmt => simpa [hy.ao] using hshape
        | orStmt => simpa [hy.ao] using hshape
      · simp [LCmd.norm, Cmd.norm, hx.norm, hy.norm]
      · cases op <;> rfl
      · refine ⟨by rw [qews]; exact hy.ws, by rw [qesum]; exact hy.sk, ?_⟩
        obtain ⟨l, e, hcl⟩ := hy.last hyt
        exact ⟨l, by rw [qesum]; exact e, hcl⟩
    refine ⟨_, hG, fun hl => ?_⟩
    simp only [Cmd.lin, Bool.and_eq_true] at hl
    have hy' := hyl hl.2
    have hcmd := command_binary p opPos op x y
    refine hG.lin ?_ (fun _ => ?_) ?_
    · rw [hcmd]
      obtain ⟨parts, e⟩ := hy'.last hyt
      exact ⟨by rw [qews]; exact hy.ws, by rw [qesum]; exact hy.sk, ⟨parts, by rw [qesum]; exact e⟩⟩
    · rw [hcmd, qe.same.wsemi, hy.wsemi, hyt]
      rfl
    · simp only [LCmd.endsInWord]
      obtain ⟨n, c, t⟩ := lsy
      simp only [LStmt.term] at hyt
      subst hyt
      simpa [LStmt.endsInWord, LStmt.cmd] using hy'.ew
theorem core_loop : ∀ (ss : Stmts), ss.wf = true → ss ≠ .nil → ∀ (p : P), PostG p →
    (ss.lin = true ∨ Pre p ss.lines) →
    ∃ pre lt, ListOut p (p.stmtListLoop false ss) ss pre lt ∧ SepOK p pre
  | .nil => fun _ hne _ _ _ => absurd rfl hne
  | .cons s rest => fun hwf _ p hp hpre => by
    obtain ⟨hswf, hrwf⟩ := Stmts.wf_cons hwf
    obtain ⟨pre, t1, w1, o1, m1, f1, nlp, hsep⟩ := stmtSep_postG p hp s.pos.line
    obtain ⟨lt, hl⟩ := list_first (p.stmtSep false s.pos.line) s rest w1 f1 m1 (by rw [o1]; exact hp.notRefused)
      (hpre.imp id (fun h => Pre.sep (by simpa [Stmts.lines] using h))) (fun _ e => absurd e nlp)
      (fun q hq hc => (core_stmt s hswf q hq hc).imp fun _ h => h.1) (fun hne q => core_loop rest hrwf hne q)
    rw [stmtListLoop_cons]
    exact ⟨pre, lt, hl.from o1 t1, hsep⟩
end

theorem gen_stmt : ∀ (s : Stmt), s.wf = true → ∀ (p : P), W p → p.firstLine = false → p.mustNewline = false →
    refuse p.o = false → Pre p s.lines →
    (s.startsWithLparen = true → p.sum.last = some (.op [40]) → p.wantSpace = .required) →
    ∃ ls, StmtOutG p (p.stmt s) s ls :=
  fun s hwf p hw hf hm hr hpre hlp => (core_stmt s hwf p hw (Or.inr ⟨hf, hm, hr, hpre, hlp⟩)).imp fun _ h => h.1

theorem gen_loop : ∀ (ss : Stmts), ss.wf = true → ss ≠ .nil → ∀ (p : P), PostG p → Pre p ss.lines →
    ∃ pre lt, ListOut p (p.stmtListLoop false ss) ss pre lt ∧ SepOK p pre :=
  fun ss hwf hne p hp hpre => core_loop ss hwf hne p hp (Or.inr hpre)

theorem gen_cmd : ∀ (c : Cmd), c.wf = true → ∀ (p : P), W p → p.firstLine = false → p.mustNewline = false →
    refuse p.o = false → Pre p c.lines →
    (c.startsWithLparen = true → p.sum.last = some (.op [40]) → p.wantSpace = .required) →
    ∃ lc, CmdOutG p (p.command c) c lc :=
  fun c hwf p hw hf hm hr hpre hlp => (core_cmd c hwf p hw (Or.inr ⟨hf, hm, hr, hpre, hlp⟩)).imp fun _ h => h.1

theorem lin_cmd : ∀ (c : Cmd), c.lin = true → c.wf = true → ∀ (p : P), W p → p.wroteSemi = false →
    ∃ lc, CmdOut p (p.command c) c lc :=
  fun c hlin hwf p hw _ => (core_cmd c hwf p hw (Or.inl hlin)).imp fun _ h => h.2 hlin

theorem printFile_pieces {o : Opts} {f : File} {b : Bytes} (hwf : f.wf = true) (hp : printFile o f = .ok b) :
    refuse o = false ∧ b = render (((P.init o).stmtList f.stmts).newline 0).out.reverse := by
  unfold printFile at hp
  split at hp
  · cases hp
  · rename_i href
    rw [(((Inv.init o).stmtList f.stmts hwf).newline 0).finish] at hp
    exact ⟨by simpa using href, by simpa using hp.symm⟩

/-- The pieces the printer writes for a non-empty file are a concrete syntax of the tree: no two of
    them glue, and their tokens are those of a valid layout of the tree — for every option set;
    for every assignment of positions if there is no subshell or block, else for those whose line
    numbers never decrease in source order. -/
theorem print_pieces (o : Opts) (f : File) (hwf : f.wf = true) (hctx : f.stmts.lin = true ∨ posMono f)
    (hne : f.stmts ≠ .nil) (hr : refuse o = false) :
    lexChain (((P.init o).stmtList f.stmts).newline 0).out.reverse = true ∧
    ∃ lt : LStmts, lt.valid = true ∧
      expect false (((P.init o).stmtList f.stmts).newline 0).out.reverse = nlT false ++ (lt.toks ++ [.eof]) ∧
      lt.norm = f.norm := by
  obtain ⟨ss⟩ := f
  simp only at hwf hne hctx
  cases ss with
  | nil => exact absurd rfl hne
  | cons s rest =>
    obtain ⟨hswf, hrwf⟩ := Stmts.wf_cons hwf
    obtain ⟨s1, s2, s3, s4⟩ := stmtSep_first o s.pos.line
    have hsum0 : ((P.init o).stmtSep true s.pos.line).sum = {} := by simp [P.sum, s1, summarize]
    have hw0 : W ((P.init o).stmtSep true s.pos.line) :=
      ⟨by rw [hsum0], fun l hl _ => by rw [hsum0] at hl; cases hl⟩
    have hpre : (Stmts.cons s rest).lin = true ∨ Pre ((P.init o).stmtSep true s.pos.line) (s.lines ++ rest.lines) :=
      hctx.imp id (fun hm => Pre.sep ⟨by simpa [posMono, Stmts.lines] using hm, fun l _ => Nat.zero_le l⟩)
    obtain ⟨lt, hl⟩ := list_first _ s rest hw0 s2 s3 (by rw [s4]; exact hr) hpre
      (fun _ e => by rw [hsum0] at e; cases e)
      (fun q hq hc => (core_stmt s hswf q hq hc).imp fun _ h => h.1) (fun hne q => core_loop rest hrwf hne q)
    rw [← stmtListLoop_cons] at hl
    obtain ⟨pf, hpf⟩ : ∃ pf, pf = (P.init o).stmtListLoop true (.cons s rest) := ⟨_, rfl⟩
    rw [← hpf] at hl
    have ht : pf.sum.toks = lt.toks := by
      rw [hl.toks, hsum0]
      simp
    obtain ⟨f1, f2, f3⟩ := LStmts.withFinalNl_facts lt hl.fnl
    have hout : (((P.init o).stmtList (.cons s rest)).newline 0).out = .gap [10] :: pf.out := by
      have := (P.stmtListWith_out (P.init o) (.cons s rest) (fun q => q.stmtListLoop true (.cons s rest))).1
      unfold P.stmtList
      show Piece.gap [10] :: _ = _
      rw [this, hpf]
    have hsumF : summarize {} ((((P.init o).stmtList (.cons s rest)).newline 0).out.reverse) =
        pf.sum.step (.gap [10]) := by
      rw [hout]
      simp [P.sum, summarize, List.foldl_append]
    obtain ⟨c1, c2⟩ := lexChain_expect_init _ (by rw [hsumF, step_nl]; exact hl.w.ok) (by rw [hsumF, step_nl]; rfl)
    refine ⟨c1, lt.withFinalNl, by rw [f2]; exact hl.valid, ?_, by rw [f3, hl.norm]; rfl⟩
    rw [c2, hsumF, step_nl, hl.sk, ht, f1]
    simp [nlT]

theorem print_in_Prints_of (o : Opts) (f : File) (b : Bytes) (hwf : f.wf = true)
    (hctx : f.stmts.lin = true ∨ posMono f) (hne : f.stmts ≠ .nil) (hp : printFile o f = .ok b) :
    ∃ (ps : List Piece) (lt : LStmts), b = render ps ∧ lexChain ps = true ∧ lt.valid = true ∧
      expect false ps = nlT false ++ (lt.toks ++ [.eof]) ∧ lt.norm = f.norm := by
  obtain ⟨hr, rfl⟩ := printFile_pieces hwf hp
  obtain ⟨hc, lt, hv, he, hn⟩ := print_pieces o f hwf hctx hne hr
  exact ⟨_, lt, rfl, hc, hv, he, hn⟩

/-- The printer half of the round trip for all of fragment F0 (simple commands, `!`, `&`, `;`,
    `&&`, `||`, `|`, subshells and blocks): for every option set, and every assignment of
    positions whose line numbers never decrease in source order, the bytes printed are a concrete
    syntax of the tree. -/
theorem print_in_Prints_gen (o : Opts) (f : File) (b : Bytes) (hwf : f.wf = true) (hmono : posMono f)
    (hne : f.stmts ≠ .nil) (hp : printFile o f = .ok b) :
    ∃ (ps : List Piece) (lt : LStmts), b = render ps ∧ lexChain ps = true ∧ lt.valid = true ∧
      expect false ps = nlT false ++ (lt.toks ++ [.eof]) ∧ lt.norm = f.norm :=
  print_in_Prints_of o f b hwf (Or.inr hmono) hne hp

/-- `print_in_Prints_gen` with the piece list named: the bytes printed are the rendering of the
    pieces of the final printer state, and these satisfy `lexChain` -/
theorem print_chain (o : Opts) (f : File) (b : Bytes) (hwf : f.wf = true) (hmono : posMono f)
    (hne : f.stmts ≠ .nil) (hp : printFile o f = .ok b) :
    b = render (((P.init o).stmtList f.stmts).newline 0).out.reverse ∧
      lexChain (((P.init o).stmtList f.stmts).newline 0).out.reverse = true := by
  obtain ⟨hr, hb⟩ := printFile_pieces hwf hp
  exact ⟨hb, (print_pieces o f hwf (Or.inr hmono) hne hr).1⟩

/-- Both halves together: on all of F0, with monotone positions, printing and parsing again gives
    a tree with the same norm (every option set, every variant). -/
theorem roundtrip_gen (o : Opts) (l : Lang) (f : File) (b : Bytes) (hwf : f.wf = true) (hmono : posMono f)
    (hne : f.stmts ≠ .nil) (hp : printFile o f = .ok b) : ∃ f', parse l b = .ok f' ∧ f'.norm = f.norm := by
  obtain ⟨ps, lt, rfl, hc, hv, he, hn⟩ := print_in_Prints_gen o f b hwf hmono hne hp
  have hm := lexAll_pieces ps hc
  rw [he] at hm
  obtain ⟨f', h1, h2⟩ := parseToks_layout lt hv false (lexAll (render ps)) (lexAll_line _) hm
  exact ⟨f', h1, by rw [h2, hn]⟩

end ShVerif.L4
