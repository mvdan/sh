import ShVerif.Model.C10
namespace ShVerif.C10

/-- Lines that are not the stop line are collected (stripped, latest first) and scanning goes on. -/
theorem scanQuoted_skip (fixed tabs : Bool) (stop : Bytes) (s : PState) (pre rest acc : List Bytes)
    (h : ∀ l ∈ pre, (if tabs then stripTabs l else l) ≠ stop) :
    scanQuoted fixed tabs stop s (pre ++ rest) acc =
      scanQuoted fixed tabs stop s rest
        ((pre.map fun l => if tabs then stripTabs l else l).reverse ++ acc) := by
  induction pre generalizing acc with
  | nil => rfl
  | cons l ls ih =>
    rw [List.forall_mem_cons] at h
    rw [List.cons_append, scanQuoted, if_neg h.1, ih _ h.2, List.map_cons, List.reverse_cons,
      List.append_assoc]
    rfl

theorem scanUnquoted_skip (tabs : Bool) (stop : Bytes) (s : PState) (pre rest acc : List Bytes)
    (h : ∀ l ∈ pre, (if tabs then stripTabs l else l) ≠ stop) :
    scanUnquoted tabs stop s (pre ++ rest) acc =
      scanUnquoted tabs stop s rest
        ((pre.map fun l => if tabs then stripTabs l else l).reverse ++ acc) := by
  induction pre generalizing acc with
  | nil => rfl
  | cons l ls ih =>
    rw [List.forall_mem_cons] at h
    rw [List.cons_append, scanUnquoted, if_neg h.1, ih _ h.2, List.map_cons, List.reverse_cons,
      List.append_assoc]
    rfl

theorem scanQuoted_unclosed (tabs : Bool) (stop : Bytes) (s : PState) (lines : List Bytes)
    (h : ∀ l ∈ lines, (if tabs then stripTabs l else l) ≠ stop) :
    scanQuoted true tabs stop s lines [] =
      .unclosedErr (PState.errIncomplete { s with
        tok := .eof, litLen := litBytes (lines.map fun l => if tabs then stripTabs l else l).reverse }) := by
  have := scanQuoted_skip true tabs stop s lines [] [] h
  rw [List.append_nil, List.append_nil] at this
  rw [this, scanQuoted]
  rfl

theorem scanUnquoted_unclosed (tabs : Bool) (stop : Bytes) (s : PState) (lines : List Bytes)
    (h : ∀ l ∈ lines, (if tabs then stripTabs l else l) ≠ stop) :
    scanUnquoted tabs stop s lines [] =
      .unclosedErr (PState.errIncomplete { s with tok := .eof, litLen := 0 }) := by
  have := scanUnquoted_skip tabs stop s lines [] [] h
  rw [List.append_nil] at this
  rw [this, scanUnquoted]

theorem litBytes_pos {ls : List Bytes} (h : ls ≠ []) : litBytes ls > 0 := by
  cases ls with
  | nil => exact absurd rfl h
  | cons a as => simp only [litBytes, List.map_cons, List.sum_cons]; omega

/-- reachable scheduling states: nothing is buried that is not pending, and the saved values of
    the enclosing preNested calls are older (smaller) than the current one -/
def LSt.wf (s : LSt) : Prop := s.buried ≤ s.pending ∧ List.Pairwise (· ≥ ·) (s.buried :: s.saved)

theorem step_wf (s : LSt) (i : Item) (h : s.wf) : (step s i).wf := by
  obtain ⟨h1, h2⟩ := h
  cases i with
  | hdoc => exact ⟨Nat.le_succ_of_le h1, h2⟩
  | enter =>
    -- the new `buried` is `pending`, which bounds the old one and hence everything saved
    refine ⟨Nat.le_refl _, List.Pairwise.cons (fun a ha => ?_) h2⟩
    rcases List.mem_cons.1 ha with rfl | ha
    · exact h1
    · exact Nat.le_trans (List.rel_of_pairwise_cons h2 ha) h1
  | leave =>
    simp only [step]
    split
    · rename_i b r hs
      -- the restored `b` is below the old `buried`, hence below `pending`
      rw [hs] at h2
      have hb : b ≤ s.buried := List.rel_of_pairwise_cons h2 List.mem_cons_self
      have h3 := List.Pairwise.of_cons h2
      split
      · exact ⟨Nat.le_refl _, h3⟩
      · exact ⟨Nat.le_trans hb h1, h3⟩
    · exact ⟨h1, h2⟩
  | newl =>
    simp only [step]
    split
    · exact ⟨Nat.le_refl _, h2⟩
    · exact ⟨h1, h2⟩
  | tok => exact ⟨h1, h2⟩

theorem runLine_wf (items : List Item) : (runLine items).wf :=
  List.foldlRecOn items step ⟨Nat.le_refl _, List.pairwise_singleton ..⟩ fun s hs i _ => step_wf s i hs

end ShVerif.C10
