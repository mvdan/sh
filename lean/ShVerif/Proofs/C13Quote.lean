import ShVerif.Proofs.C13Utf8
/-
  C13 — Quote, forward: the first loop `scan`, the `$'…'` loop `piece`/`dollarBody`, the branches of
  `quoteCore`; at which rune and with which kind it fails (`Offending`), and that it fails exactly
  on the strings `codeFails` describes.
-/

namespace ShVerif.C13

theorem langIn_eq_of_ne_zero {l : Nat} (h : l ≠ 0) {m : Nat} (hm : m = langPOSIX ∨ m = langMksh) :
    langIn l m = (l == m) := by
  replace hm : m = 2 ∨ m = 4 := hm
  unfold langIn
  by_cases hle : l ≤ m
  · rcases hm with hm | hm <;> subst hm
    · have : l = 1 ∨ l = 2 := by omega
      rcases this with rfl | rfl <;> decide
    · have : l = 1 ∨ l = 2 ∨ l = 3 ∨ l = 4 := by omega
      rcases this with rfl | rfl | rfl | rfl <;> decide
  · have h1 : l &&& m ≤ m := Nat.and_le_right
    have h2 : (l &&& m) ≠ l := by omega
    have h3 : l ≠ m := by omega
    rw [beq_eq_false_iff_ne.mpr h2, beq_eq_false_iff_ne.mpr h3]

theorem resolve_ne_zero (l : Nat) : resolve l ≠ 0 := by
  unfold resolve
  split
  · decide
  · assumption

theorem resolve_idem (l : Nat) : resolve (resolve l) = resolve l := by
  have h := resolve_ne_zero l
  generalize resolve l = r at h
  simp [resolve, h]

theorem validLang_resolve (l : Lang) (h : validLang l = true) : validLang (resolve l) = true := by
  unfold resolve; split
  · decide
  · exact h

theorem scan_cons_null {l : Lang} {t : Tok} (h0 : t.r = 0) (ts : List Tok) (offs : Nat)
    (sc np : Bool) : scan l (t :: ts) offs sc np = .error ⟨offs, .null⟩ := by
  simp only [scan, h0, ↓reduceIte]

theorem scan_cons_posix {l : Lang} {t : Tok} (h0 : t.r ≠ 0) (h1 : nonPrint t.r = true)
    (h2 : langIn l langPOSIX = true) (ts : List Tok) (offs : Nat) (sc np : Bool) :
    scan l (t :: ts) offs sc np = .error ⟨offs, .posix⟩ := by
  simp only [scan, h0, h1, h2, ↓reduceIte]

theorem scan_cons_step {l : Lang} {t : Tok} (h0 : t.r ≠ 0)
    (h1 : ¬(nonPrint t.r = true ∧ langIn l langPOSIX = true)) (ts : List Tok) (offs : Nat)
    (sc np : Bool) :
    scan l (t :: ts) offs sc np =
      scan l ts (offs + t.size) (sc || isShellChar t.r) (np || nonPrint t.r) := by
  cases hn : nonPrint t.r
  · simp only [scan, h0, hn, Bool.false_eq_true, ↓reduceIte, Bool.or_false]
  · have h2 : ¬ langIn l langPOSIX = true := fun h2 => h1 ⟨hn, h2⟩
    simp only [scan, h0, hn, h2, Bool.false_eq_true, ↓reduceIte, Bool.or_true]

theorem scan_ok {l : Lang} {ts : List Tok} {offs : Nat} {sc np sc' np' : Bool}
    (h : scan l ts offs sc np = .ok (sc', np')) :
    (∀ t ∈ ts, t.r ≠ 0 ∧ (langIn l langPOSIX = true → nonPrint t.r = false)) ∧
    sc' = (sc || ts.any fun t => isShellChar t.r) ∧
    np' = (np || ts.any fun t => nonPrint t.r) := by
  induction ts generalizing offs sc np with
  | nil => simp only [scan] at h; cases h; simp
  | cons t ts ih =>
    by_cases c0 : t.r = 0
    · rw [scan_cons_null c0] at h; cases h
    by_cases c1 : nonPrint t.r = true ∧ langIn l langPOSIX = true
    · rw [scan_cons_posix c0 c1.1 c1.2] at h; cases h
    rw [scan_cons_step c0 c1] at h
    obtain ⟨i1, i2, i3⟩ := ih h
    refine ⟨?_, ?_, ?_⟩
    · intro t' ht'
      rcases List.mem_cons.mp ht' with rfl | ht'
      · exact ⟨c0, fun hp => Bool.eq_false_iff.mpr fun hn => c1 ⟨hn, hp⟩⟩
      · exact i1 t' ht'
    · rw [i2, List.any_cons, Bool.or_assoc]
    · rw [i3, List.any_cons, Bool.or_assoc]

def PTok (t : Tok) : Prop := ValidEnc t.raw t.r ∧ isPrint t.r = true ∧ t.r ≠ runeError

theorem scan_printable {l : Lang} {s : Bytes} {sc : Bool}
    (h : scan l (runes s) 0 false false = .ok (sc, false)) : ∀ t ∈ runes s, PTok t := by
  intro t m
  obtain ⟨-, -, i3⟩ := scan_ok h
  have hn : nonPrint t.r = false := by
    rw [Bool.false_or] at i3
    exact Bool.eq_false_iff.mpr fun hn => by
      rw [List.any_eq_true.mpr ⟨t, m, hn⟩] at i3; cases i3
  simp only [nonPrint, Bool.or_eq_false_iff, beq_eq_false_iff_ne, Bool.not_eq_false'] at hn
  rcases runes_ok s t m with ⟨h1, _⟩ | ⟨hv, _⟩
  · exact absurd h1 hn.1
  · exact ⟨hv, hn.2, hn.1⟩

theorem scan_not_posix {l : Lang} {s : Bytes} {sc : Bool}
    (h : scan l (runes s) 0 false false = .ok (sc, true)) : langIn l langPOSIX = false := by
  obtain ⟨i1, -, i3⟩ := scan_ok h
  obtain ⟨t, m, hn⟩ := List.any_eq_true.mp i3.symm
  exact Bool.eq_false_iff.mpr fun hp => by rw [(i1 t m).2 hp] at hn; cases hn

/-- `.range` never happens: a decoded rune is at most `MaxRune` (`tok_le_maxRune`). -/
def Offending (l : Lang) (k : ErrKind) (t : Tok) : Prop :=
  match k with
  | .null => t.r = 0
  | .posix => t.r ≠ 0 ∧ langIn l langPOSIX = true ∧ nonPrint t.r = true
  | .mksh => langIn l langMksh = true ∧ t.r > 0xFFFD ∧ isPrint t.r = false
  | .range => False

def sizes (ts : List Tok) : Nat := (ts.map Tok.size).sum

theorem sizes_cons (t : Tok) (ts : List Tok) : sizes (t :: ts) = t.size + sizes ts := rfl

theorem sizes_raw {ts : List Tok} (h : ∀ t ∈ ts, TokOK t) :
    sizes ts = (ts.flatMap Tok.raw).length := by
  induction ts with
  | nil => rfl
  | cons t ts ih =>
    obtain ⟨ht, h'⟩ := List.forall_mem_cons.mp h
    have ht : t.size = t.raw.length := by
      rcases ht with ⟨_, h2, b, hb, _⟩ | ⟨_, h2⟩
      · rw [h2, hb]; rfl
      · exact h2
    rw [sizes_cons, List.flatMap_cons, List.length_append, ht, ih h']

theorem scan_error_at {l : Lang} {ts : List Tok} {offs : Nat} {sc np : Bool} {e : QErr}
    (h : scan l ts offs sc np = .error e) :
    ∃ pre t post, ts = pre ++ t :: post ∧ e.offs = offs + sizes pre ∧
      (e.kind = .null ∨ e.kind = .posix) ∧ Offending l e.kind t ∧
      (∀ t' ∈ pre, ¬ Offending l .null t' ∧ ¬ Offending l .posix t') := by
  induction ts generalizing offs sc np with
  | nil => simp only [scan] at h; cases h
  | cons t ts ih =>
    by_cases c0 : t.r = 0
    · rw [scan_cons_null c0] at h; cases h
      exact ⟨[], t, ts, rfl, rfl, .inl rfl, c0, nofun⟩
    by_cases c1 : nonPrint t.r = true ∧ langIn l langPOSIX = true
    · rw [scan_cons_posix c0 c1.1 c1.2] at h; cases h
      exact ⟨[], t, ts, rfl, rfl, .inr rfl, ⟨c0, c1.2, c1.1⟩, nofun⟩
    rw [scan_cons_step c0 c1] at h
    obtain ⟨pre, t', post, e1, e2, e3, e4, e5⟩ := ih h
    refine ⟨t :: pre, t', post, by rw [e1]; rfl, by rw [e2, sizes_cons, Nat.add_assoc], e3, e4, ?_⟩
    intro t'' m
    rcases List.mem_cons.mp m with rfl | m
    · exact ⟨c0, fun ⟨_, a, b⟩ => c1 ⟨b, a⟩⟩
    · exact e5 t'' m

theorem scan_error {l : Lang} {ts : List Tok} {offs : Nat} {sc np : Bool} {e : QErr}
    (h : scan l ts offs sc np = .error e) :
    (e.kind = .null ∧ ∃ t ∈ ts, t.r = 0) ∨
    (e.kind = .posix ∧ langIn l langPOSIX = true ∧ ∃ t ∈ ts, nonPrint t.r = true) := by
  obtain ⟨pre, t, post, rfl, -, hk | hk, ho, -⟩ := scan_error_at h <;> rw [hk] at ho
  · exact .inl ⟨hk, t, List.mem_append_cons_self, ho⟩
  · exact .inr ⟨hk, ho.2.1, t, List.mem_append_cons_self, ho.2.2⟩

theorem scan_error_iff (l : Lang) (ts : List Tok) (offs : Nat) (sc np : Bool) :
    (∃ e, scan l ts offs sc np = .error e) ↔
      ∃ t ∈ ts, t.r = 0 ∨ (langIn l langPOSIX = true ∧ nonPrint t.r = true) := by
  constructor
  · rintro ⟨e, h⟩
    rcases scan_error h with ⟨_, t, m, b⟩ | ⟨_, a, t, m, b⟩
    · exact ⟨t, m, Or.inl b⟩
    · exact ⟨t, m, Or.inr ⟨a, b⟩⟩
  · rintro ⟨t, m, ht⟩
    cases hres : scan l ts offs sc np with
    | error e => exact ⟨e, rfl⟩
    | ok r =>
      obtain ⟨sc', np'⟩ := r
      obtain ⟨i1, _, _⟩ := scan_ok hres
      obtain ⟨j1, j2⟩ := i1 t m
      rcases ht with h0 | ⟨hp, hn⟩
      · exact absurd h0 j1
      · rw [j2 hp] at hn; cases hn

theorem ctlLetter_none {r : Nat} (h : 0x0e ≤ r) : ctlLetter r = none := by
  unfold ctlLetter
  rw [if_neg (by omega), if_neg (by omega), if_neg (by omega), if_neg (by omega), if_neg (by omega),
    if_neg (by omega), if_neg (by omega)]

/-- The escape letters are read back by `formatInto` as the control character they stand for, and
    are harmless for the lexer. -/
theorem ctlLetter_spec {r : Nat} {c : UInt8} (h : ctlLetter r = some c) :
    r < 0x80 ∧ simpleEscape c = some (UInt8.ofNat r) ∧
      c.toNat < 0x80 ∧ c.toNat ≠ 0 ∧ c.toNat ≠ 0x0a ∧ c.toNat ≠ 0x0d := by
  have table : ∀ r : Fin 0x0e, ∀ c ∈ ctlLetter r.val, simpleEscape c = some (UInt8.ofNat r.val) ∧
      c.toNat < 0x80 ∧ c.toNat ≠ 0 ∧ c.toNat ≠ 0x0a ∧ c.toNat ≠ 0x0d := by decide
  have hr : r < 0x0e := by
    apply Decidable.by_contra; intro hr
    rw [ctlLetter_none (by omega)] at h; cases h
  exact ⟨by omega, table ⟨r, hr⟩ c h⟩

/-- Which arm of the `$'…'` loop body ran, with what is needed of the conditions that led there. -/
inductive PieceSpec (l : Lang) (last : Bool) (t : Tok) : Except ErrKind (Bytes × Bool) → Prop
  | bsq : (t.r = 0x27 ∨ t.r = 0x5c) → PieceSpec l last t (.ok (0x5c :: encodeRune t.r, false))
  | printable : ¬(t.r = 0x27 ∨ t.r = 0x5c) → isPrint t.r = true → t.r ≠ runeError →
      PieceSpec l last t (.ok ((if last && isHexRune t.r then [0x27, 0x24, 0x27] else []) ++
        encodeRune t.r, false))
  | ctl (c : UInt8) : ctlLetter t.r = some c → PieceSpec l last t (.ok ([0x5c, c], false))
  | hexByte : (t.r < 0x80 ∨ (t.r = runeError ∧ t.size = 1)) →
      PieceSpec l last t (.ok ([0x5c, 0x78] ++ hex2 (t.raw.headD 0).toNat, langIn l langMksh))
  | range : t.r > maxRune → PieceSpec l last t (.error .range)
  | mksh : ¬(isPrint t.r = true ∧ t.r ≠ runeError) → langIn l langMksh = true → t.r > 0xFFFD →
      PieceSpec l last t (.error .mksh)
  | u4 : ¬(t.r < 0x80 ∨ (t.r = runeError ∧ t.size = 1)) →
      ¬(langIn l langMksh = true ∧ t.r > 0xFFFD) → t.r < 0x10000 →
      PieceSpec l last t (.ok ([0x5c, 0x75] ++ hex4 t.r, false))
  | u8 : ¬(langIn l langMksh = true ∧ t.r > 0xFFFD) → ¬ t.r < 0x10000 →
      PieceSpec l last t (.ok ([0x5c, 0x55] ++ hex8 t.r, false))

theorem piece_spec (l : Lang) (last : Bool) (t : Tok) : PieceSpec l last t (piece l last t) := by
  unfold piece
  by_cases h1 : t.r = 0x27 ∨ t.r = 0x5c
  · rw [if_pos h1]; exact .bsq h1
  rw [if_neg h1]
  by_cases h2 : isPrint t.r = true ∧ t.r ≠ runeError
  · rw [if_pos h2]; exact .printable h1 h2.1 h2.2
  rw [if_neg h2]
  cases h3 : ctlLetter t.r with
  | some c => exact .ctl c h3
  | none =>
    show PieceSpec l last t (ite _ _ _)
    by_cases h4 : t.r < 0x80 ∨ (t.r = runeError ∧ t.size = 1)
    · rw [if_pos h4]; exact .hexByte h4
    rw [if_neg h4]
    by_cases h5 : t.r > maxRune
    · rw [if_pos h5]; exact .range h5
    rw [if_neg h5]
    by_cases h6 : langIn l langMksh = true ∧ t.r > 0xFFFD
    · rw [if_pos h6]; exact .mksh h2 h6.1 h6.2
    rw [if_neg h6]
    by_cases h7 : t.r < 0x10000
    · rw [if_pos h7]; exact .u4 h4 h6 h7
    · rw [if_neg h7]; exact .u8 h6 h7

theorem piece_error_iff (l : Lang) (last : Bool) (t : Tok) (k : ErrKind) (h : TokOK t) :
    piece l last t = .error k ↔ (k = .mksh ∧ Offending l .mksh t) := by
  have hm := tok_le_maxRune h
  have hs := piece_spec l last t
  constructor
  · intro e; rw [e] at hs
    cases hs with
    | range c => exact absurd hm (Nat.not_le.mpr c)
    | mksh c1 c2 c3 =>
      refine ⟨rfl, c2, c3, Bool.eq_false_iff.mpr fun hq => c1 ⟨hq, ?_⟩⟩
      unfold runeError; omega
  · rintro ⟨rfl, c2, c3, c4⟩
    generalize piece l last t = res at hs
    cases hs with
    | mksh => rfl
    | bsq c => omega
    | printable _ c => rw [c4] at c; cases c
    | ctl c hc => have := (ctlLetter_spec hc).1; omega
    | hexByte c => unfold runeError at c; omega
    | range c => exact absurd hm (Nat.not_le.mpr c)
    | u4 _ c => exact absurd ⟨c2, c3⟩ c
    | u8 c => exact absurd ⟨c2, c3⟩ c

theorem dollarBody_cons_ok {l : Lang} {t : Tok} {ts : List Tok} {offs : Nat} {last : Bool}
    {body : Bytes} (h : dollarBody l (t :: ts) offs last = .ok body) :
    ∃ p nxt rest, piece l last t = .ok (p, nxt) ∧
      dollarBody l ts (offs + t.size) nxt = .ok rest ∧ body = p ++ rest := by
  simp only [dollarBody] at h
  cases hp : piece l last t with
  | error k => rw [hp] at h; cases h
  | ok r =>
    obtain ⟨p, nxt⟩ := r
    rw [hp] at h; simp only at h
    cases hd : dollarBody l ts (offs + t.size) nxt with
    | error e' => rw [hd] at h; cases h
    | ok rest => rw [hd] at h; cases h; exact ⟨p, nxt, rest, rfl, hd, rfl⟩

theorem dollarBody_cons_error {l : Lang} {t : Tok} {ts : List Tok} {offs : Nat} {last : Bool}
    {e : QErr} (h : dollarBody l (t :: ts) offs last = .error e) :
    (∃ k, piece l last t = .error k ∧ e = ⟨offs, k⟩) ∨
    ∃ p nxt, piece l last t = .ok (p, nxt) ∧ dollarBody l ts (offs + t.size) nxt = .error e := by
  simp only [dollarBody] at h
  cases hp : piece l last t with
  | error k => rw [hp] at h; cases h; exact .inl ⟨k, rfl, rfl⟩
  | ok r =>
    obtain ⟨p, nxt⟩ := r
    rw [hp] at h; simp only at h
    cases hd : dollarBody l ts (offs + t.size) nxt with
    | error e' => rw [hd] at h; cases h; exact .inr ⟨p, nxt, rfl, hd⟩
    | ok rest => rw [hd] at h; cases h

theorem dollar_error_at {l : Lang} {ts : List Tok} {offs : Nat} {last : Bool} {e : QErr}
    (hok : ∀ t ∈ ts, TokOK t) (h : dollarBody l ts offs last = .error e) :
    ∃ pre t post, ts = pre ++ t :: post ∧ e.offs = offs + sizes pre ∧ e.kind = .mksh ∧
      Offending l .mksh t ∧ (∀ t' ∈ pre, ¬ Offending l .mksh t') := by
  induction ts generalizing offs last with
  | nil => simp only [dollarBody] at h; cases h
  | cons t ts ih =>
    obtain ⟨hokt, hok'⟩ := List.forall_mem_cons.mp hok
    have hpe := piece_error_iff l last t .mksh hokt
    rcases dollarBody_cons_error h with ⟨k, hp, rfl⟩ | ⟨p, nxt, hp, hd⟩
    · obtain ⟨rfl, ho⟩ := (piece_error_iff l last t k hokt).mp hp
      exact ⟨[], t, ts, rfl, rfl, rfl, ho, nofun⟩
    · obtain ⟨pre, t', post, e1, e2, e3, e4, e5⟩ := ih hok' hd
      refine ⟨t :: pre, t', post, by rw [e1]; rfl, by rw [e2, sizes_cons, Nat.add_assoc], e3, e4, ?_⟩
      intro t'' m
      rcases List.mem_cons.mp m with rfl | m
      · intro ho; rw [hpe.mpr ⟨rfl, ho⟩] at hp; cases hp
      · exact e5 t'' m

theorem dollar_ok {l : Lang} {ts : List Tok} {offs : Nat} {last : Bool} {body : Bytes}
    (hok : ∀ t ∈ ts, TokOK t) (h : dollarBody l ts offs last = .ok body) :
    ∀ t ∈ ts, ¬ Offending l .mksh t := by
  induction ts generalizing offs last body with
  | nil => exact nofun
  | cons t ts ih =>
    obtain ⟨hokt, hok'⟩ := List.forall_mem_cons.mp hok
    obtain ⟨p, nxt, rest, hp, hd, -⟩ := dollarBody_cons_ok h
    refine List.forall_mem_cons.mpr ⟨fun ho => ?_, ih hok' hd⟩
    rw [(piece_error_iff l last t .mksh hokt).mpr ⟨rfl, ho⟩] at hp
    cases hp

inductive QuoteSpec (l : Lang) (s : Bytes) : Except QErr Bytes → Prop
  | empty : s = [] → QuoteSpec l s (.ok [0x27, 0x27])
  | scanErr (e : QErr) : scan l (runes s) 0 false false = .error e → QuoteSpec l s (.error e)
  | bare : s ≠ [] → scan l (runes s) 0 false false = .ok (false, false) → isKeyword s = false →
      QuoteSpec l s (.ok s)
  | dollarErr (sc : Bool) (e : QErr) : scan l (runes s) 0 false false = .ok (sc, true) →
      dollarBody l (runes s) 0 false = .error e → QuoteSpec l s (.error e)
  | dollar (sc : Bool) (body : Bytes) : scan l (runes s) 0 false false = .ok (sc, true) →
      dollarBody l (runes s) 0 false = .ok body → QuoteSpec l s (.ok ([0x24, 0x27] ++ body ++ [0x27]))
  | sgl (sc : Bool) : scan l (runes s) 0 false false = .ok (sc, false) → s.contains 0x27 = false →
      QuoteSpec l s (.ok ([0x27] ++ s ++ [0x27]))
  | dq (sc : Bool) : scan l (runes s) 0 false false = .ok (sc, false) →
      QuoteSpec l s (.ok ([0x22] ++ dqBody (runes s) ++ [0x22]))

theorem quoteCore_spec (l : Lang) (s : Bytes) : QuoteSpec l s (quoteCore l s) := by
  unfold quoteCore
  by_cases hs : s = []
  · rw [if_pos hs]; exact .empty hs
  rw [if_neg hs]
  dsimp only
  cases hsc : scan l (runes s) 0 false false with
  | error e => exact .scanErr e hsc
  | ok r =>
    obtain ⟨sc, np⟩ := r
    show QuoteSpec l s (ite _ _ _)
    cases np with
    | true =>
      rw [if_neg (by simp), if_pos rfl]
      cases hd : dollarBody l (runes s) 0 false with
      | error e => exact .dollarErr sc e hsc hd
      | ok body => exact .dollar sc body hsc hd
    | false =>
      by_cases hb : (!sc && !false && !isKeyword s) = true
      · rw [if_pos hb]
        simp only [Bool.not_false, Bool.and_true, Bool.and_eq_true, Bool.not_eq_true'] at hb
        rw [hb.1] at hsc; exact .bare hs hsc hb.2
      rw [if_neg hb, if_neg (by decide)]
      by_cases hq : (!s.contains 0x27) = true
      · rw [if_pos hq]; exact .sgl sc hsc (by simpa using hq)
      · rw [if_neg hq]; exact .dq sc hsc

theorem quote_error_at (l : Lang) (s : Bytes) (e : QErr) (h : quoteCore l s = .error e) :
    ∃ pre t post, runes s = pre ++ t :: post ∧ e.offs = (pre.flatMap Tok.raw).length ∧
      Offending l e.kind t ∧ ∀ t' ∈ pre, ¬ Offending l e.kind t' := by
  have hok := runes_ok s
  have hsz : ∀ pre t post, runes s = pre ++ t :: post → sizes pre = (pre.flatMap Tok.raw).length :=
    fun pre t post hr =>
      sizes_raw fun t' m => hok t' (by rw [hr]; exact List.mem_append_left _ m)
  have hs := quoteCore_spec l s
  rw [h] at hs
  cases hs with
  | scanErr _ hsc =>
    obtain ⟨pre, t, post, e1, e2, hk, e3, e4⟩ := scan_error_at hsc
    refine ⟨pre, t, post, e1, by rw [e2, hsz pre t post e1, Nat.zero_add], e3, fun t' m => ?_⟩
    rcases hk with hk | hk <;> rw [hk]
    · exact (e4 t' m).1
    · exact (e4 t' m).2
  | dollarErr _ _ _ hd =>
    obtain ⟨pre, t, post, e1, e2, e3, e4, e5⟩ := dollar_error_at hok hd
    exact ⟨pre, t, post, e1, by rw [e2, hsz pre t post e1, Nat.zero_add], e3 ▸ e4, e3 ▸ e5⟩

theorem quoteCore_ok_clean {l : Lang} {s q : Bytes} (h : quoteCore l s = .ok q) :
    ∀ t ∈ runes s, ∀ k, ¬ Offending l k t := by
  -- after a successful first loop only the mksh kind is left; it needs a non-printable rune, so
  -- the `$'…'` loop ran, and succeeded
  have key : ∀ sc np, scan l (runes s) 0 false false = .ok (sc, np) →
      (np = true → ∃ body, dollarBody l (runes s) 0 false = .ok body) →
      ∀ t ∈ runes s, ∀ k, ¬ Offending l k t := by
    intro sc np hsc hd t m k
    obtain ⟨i1, -, i3⟩ := scan_ok hsc
    cases k with
    | null => exact (i1 t m).1
    | posix => intro ho; exact Bool.noConfusion (((i1 t m).2 ho.2.1).symm.trans ho.2.2)
    | range => exact id
    | mksh =>
      intro ho
      have hn : nonPrint t.r = true := by simp only [nonPrint, ho.2.2, Bool.not_false, Bool.or_true]
      have hnp : np = true := by
        rw [i3, Bool.false_or]; exact List.any_eq_true.mpr ⟨t, m, hn⟩
      obtain ⟨body, hb⟩ := hd hnp
      exact dollar_ok (runes_ok s) hb t m ho
  have hs := quoteCore_spec l s
  rw [h] at hs
  cases hs with
  | empty hs => subst hs; exact nofun
  | bare _ hsc => exact key _ _ hsc nofun
  | dollar sc body hsc hd => exact key _ _ hsc fun _ => ⟨body, hd⟩
  | sgl sc hsc => exact key _ _ hsc nofun
  | dq sc hsc => exact key _ _ hsc nofun

theorem codeFails_iff (l : Lang) (s : Bytes) :
    codeFails l s = true ↔ ∃ t ∈ runes s, ∃ k, Offending l k t := by
  simp only [codeFails, Bool.or_eq_true, Bool.and_eq_true, List.any_eq_true, decide_eq_true_eq,
    Bool.not_eq_true', contains_zero_iff]
  constructor
  · rintro ((⟨t, m, h⟩ | ⟨hl, t, m, h⟩) | ⟨hl, t, m, h1, h2⟩)
    · exact ⟨t, m, .null, h⟩
    · by_cases h0 : t.r = 0
      · exact ⟨t, m, .null, h0⟩
      · exact ⟨t, m, .posix, h0, hl, h⟩
    · exact ⟨t, m, .mksh, hl, h1, h2⟩
  · rintro ⟨t, m, k, h⟩
    cases k with
    | null => exact .inl (.inl ⟨t, m, h⟩)
    | posix => exact .inl (.inr ⟨h.2.1, t, m, h.2.2⟩)
    | mksh => exact .inr ⟨h.1, t, m, h.2.1, h.2.2⟩
    | range => exact h.elim

theorem quote_fails_iff_codeFails (l : Lang) (s : Bytes) :
    (∃ e, quoteCore l s = .error e) ↔ codeFails l s = true := by
  rw [codeFails_iff]
  constructor
  · rintro ⟨e, h⟩
    obtain ⟨pre, t, post, hr, -, ho, -⟩ := quote_error_at l s e h
    exact ⟨t, hr ▸ List.mem_append_cons_self, e.kind, ho⟩
  · rintro ⟨t, m, k, ho⟩
    cases hq : quoteCore l s with
    | error e => exact ⟨e, rfl⟩
    | ok q => exact absurd ho (quoteCore_ok_clean hq t m k)

theorem quoteCore_error_kind (l : Lang) (s : Bytes) (e : QErr) (h : quoteCore l s = .error e) :
    (e.kind = .null ∧ s.contains 0x00 = true) ∨
    (e.kind = .posix ∧ langIn l langPOSIX = true ∧ ∃ t ∈ runes s, nonPrint t.r = true) ∨
    (e.kind = .mksh ∧ langIn l langMksh = true ∧ s.contains 0x00 = false ∧ ∃ t ∈ runes s, t.r > 0xFFFD ∧ isPrint t.r = false) := by
  have hs := quoteCore_spec l s
  rw [h] at hs
  cases hs with
  | scanErr _ hsc =>
    rcases scan_error hsc with ⟨a, t, m, b⟩ | ⟨a, a', t, m, b⟩
    · exact .inl ⟨a, (contains_zero_iff s).mpr ⟨t, m, b⟩⟩
    · exact .inr (.inl ⟨a, a', t, m, b⟩)
  | dollarErr sc _ hsc hd =>
    obtain ⟨i1, -, -⟩ := scan_ok hsc
    obtain ⟨pre, t, post, hr, -, hk, ho, -⟩ := dollar_error_at (runes_ok s) hd
    have hz : s.contains 0x00 = false :=
      Bool.eq_false_iff.mpr fun hc => by
        obtain ⟨t', m', h'⟩ := (contains_zero_iff s).mp hc
        exact (i1 t' m').1 h'
    exact .inr (.inr ⟨hk, ho.1, hz, t, hr ▸ List.mem_append_cons_self, ho.2⟩)

end ShVerif.C13
