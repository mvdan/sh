/-
  C07 — the unchunked byte source by itself: what its operations do to single fields and to the
  protocol flag `ok` (`Keeps`, and `Adv` for the pieces of `rune` that move on inside the input).
  No buffer, no schedule in this file.  Its position invariant is in Proofs/C10L2.lean.
-/
import ShVerif.Proofs.C07Prim
import ShVerif.Proofs.L2ByteSrc
namespace ShVerif.C07
open ShVerif ShVerif.L2

@[simp] theorem forget_behind (a : LSt) : a.forget.behind = none := rfl
@[simp] theorem forget_rest (a : LSt) : a.forget.rest = a.rest := rfl
@[simp] theorem forget_err (a : LSt) : a.forget.err = a.err := rfl
@[simp] theorem forget_look (a : LSt) : a.forget.look = a.look := rfl
@[simp] theorem forget_ok (a : LSt) : a.forget.ok = (a.ok && !a.halted) := rfl
@[simp] theorem forget_r (a : LSt) : a.forget.r = a.r := rfl
@[simp] theorem forget_halted (a : LSt) : a.forget.halted = a.halted := rfl

theorem forget_ok_halted {a : LSt} (h : a.forget.ok = true) : a.halted = false := by
  simp at h; exact h.2
theorem forget_ok_le {a : LSt} (h : a.forget.ok = true) : a.ok = true := by
  simp at h; exact h.1

@[simp] theorem peekEff0_rest (a : LSt) : a.peekEff0.rest = a.rest := rfl
@[simp] theorem peekEff0_err (a : LSt) : a.peekEff0.err = a.err := rfl
@[simp] theorem peekEff0_r (a : LSt) : a.peekEff0.r = a.r := rfl
@[simp] theorem peekEff0_ok (a : LSt) : a.peekEff0.ok = a.ok := rfl
@[simp] theorem peekEff0_behind (a : LSt) : a.peekEff0.behind = a.behind := rfl
@[simp] theorem peekEff0_look (a : LSt) : a.peekEff0.look = max a.look 1 := rfl
@[simp] theorem peekEff0_halted (a : LSt) : a.peekEff0.halted = a.halted := rfl

@[simp] theorem peekTwoEff0_rest (a : LSt) : a.peekTwoEff0.rest = a.rest := rfl
@[simp] theorem peekTwoEff0_err (a : LSt) : a.peekTwoEff0.err = a.err := rfl
@[simp] theorem peekTwoEff0_r (a : LSt) : a.peekTwoEff0.r = a.r := rfl
@[simp] theorem peekTwoEff0_ok (a : LSt) : a.peekTwoEff0.ok = a.ok := rfl
@[simp] theorem peekTwoEff0_behind (a : LSt) : a.peekTwoEff0.behind = a.behind := rfl
@[simp] theorem peekTwoEff0_look (a : LSt) : a.peekTwoEff0.look = max a.look 2 := rfl
@[simp] theorem peekTwoEff0_halted (a : LSt) : a.peekTwoEff0.halted = a.halted := rfl

@[simp] theorem consume_ok (a : LSt) : a.consume.ok = a.ok := by
  unfold LSt.consume; split <;> rfl
@[simp] theorem consume_err (a : LSt) : a.consume.err = a.err := by
  unfold LSt.consume; split <;> rfl
@[simp] theorem consume_r (a : LSt) : a.consume.r = a.r := by
  unfold LSt.consume; split <;> rfl
@[simp] theorem consume_behind (a : LSt) : a.consume.behind = a.behind := by
  unfold LSt.consume; split <;> rfl
@[simp] theorem consume_openBq (a : LSt) : a.consume.openBq = a.openBq := by
  unfold LSt.consume; split <;> rfl
@[simp] theorem consume_halted (a : LSt) : a.consume.halted = a.halted := by
  unfold LSt.consume; split <;> rfl
@[simp] theorem consume_col (a : LSt) : a.consume.col = a.col := by
  unfold LSt.consume; split <;> rfl
theorem consume_rest_cons {a : LSt} {c t} (h : a.rest = c :: t) : a.consume.rest = t := by
  unfold LSt.consume; simp [h]

@[simp] theorem litPush_err (a : LSt) (bs : List Byte) : (a.litPush bs).err = a.err := by
  unfold LSt.litPush; split <;> rfl
@[simp] theorem litPush_behind (a : LSt) (bs : List Byte) : (a.litPush bs).behind = a.behind := by
  unfold LSt.litPush; split <;> rfl
@[simp] theorem litPush_rest (a : LSt) (bs : List Byte) : (a.litPush bs).rest = a.rest := by
  unfold LSt.litPush; split <;> rfl
@[simp] theorem litPush_ok (a : LSt) (bs : List Byte) : (a.litPush bs).ok = a.ok := by
  unfold LSt.litPush; split <;> rfl
theorem litPush_r (a : LSt) (bs : List Byte) : (a.litPush bs).r = a.r := by
  unfold LSt.litPush; split <;> rfl

theorem consumeN_keeps {β : Type} (f : LSt → β) (hf : ∀ a, f a.consume = f a) (n : Nat) :
    ∀ a, f (LSt.consumeN n a) = f a := by
  induction n with
  | zero => exact fun _ => rfl
  | succ n ih => exact fun a => (ih a.consume).trans (hf a)

@[simp] theorem consumeN_ok (n : Nat) (a : LSt) : (LSt.consumeN n a).ok = a.ok :=
  consumeN_keeps (·.ok) consume_ok n a
theorem consumeN_err (n : Nat) (a : LSt) : (LSt.consumeN n a).err = a.err :=
  consumeN_keeps (·.err) consume_err n a
theorem consumeN_r (n : Nat) (a : LSt) : (LSt.consumeN n a).r = a.r :=
  consumeN_keeps (·.r) consume_r n a

@[simp] theorem errPass_ok (a : LSt) (e : Err) : (a.errPass e).ok = a.ok := by
  unfold LSt.errPass; split <;> rfl

/-- the spec-side effect of the `decodeRune:` loop -/
def decodeSpec (a : LSt) : LSt := { a with r := (decodeRune a.rest).1 }

theorem decodeSpec_setR (a : LSt) (x : Nat) : decodeSpec { a with r := x } = decodeSpec a := rfl
@[simp] theorem decodeSpec_err (a : LSt) : (decodeSpec a).err = a.err := rfl
@[simp] theorem decodeSpec_behind (a : LSt) : (decodeSpec a).behind = a.behind := rfl
@[simp] theorem decodeSpec_rest (a : LSt) : (decodeSpec a).rest = a.rest := rfl
@[simp] theorem decodeSpec_ok (a : LSt) : (decodeSpec a).ok = a.ok := rfl

def pk1 : List Byte → Nat
  | [] => runeSelf
  | b :: _ => b.toNat
def pk2 : List Byte → Nat
  | _ :: c :: _ => c.toNat
  | _ => runeSelf

theorem peek_eq (a : LSt) : a.peek = (pk1 a.rest, a.forget.peekEff0) := by
  unfold LSt.peek LSt.peekEff LSt.peekEff0
  cases h : a.rest <;> simp [h, pk1]

theorem peekTwo_eq (a : LSt) : a.peekTwo = (pk1 a.rest, pk2 a.rest, a.forget.peekTwoEff0) := by
  unfold LSt.peekTwo LSt.peekTwoEff LSt.peekTwoEff0
  rcases h : a.rest with _ | ⟨b, _ | ⟨c, f⟩⟩ <;> simp [h, pk1, pk2]

theorem pk1_cons {l : List Byte} {x : Nat} (h : (pk1 l == x) = true) (hx : x ≠ runeSelf) :
    ∃ c t, l = c :: t := by
  cases l with
  | nil => exact absurd (beq_iff_eq.1 h).symm hx
  | cons c t => exact ⟨c, t, rfl⟩

theorem peekTwo_1 (a : LSt) : a.peekTwo.1 = pk1 a.rest := by rw [peekTwo_eq]
theorem peekTwo_2 (a : LSt) : a.peekTwo.2.1 = pk2 a.rest := by rw [peekTwo_eq]

@[simp] theorem runeTail_ok (b : Byte) (bq : Nat) (a : LSt) : (LSt.runeTail b bq a).ok = a.ok := by
  unfold LSt.runeTail
  simp only
  split <;> exact litPush_ok _ _
@[simp] theorem runeTail_rest (b : Byte) (bq : Nat) (a : LSt) : (LSt.runeTail b bq a).rest = a.rest := by
  unfold LSt.runeTail
  simp only
  split <;> exact litPush_rest _ _

theorem runeDecode_ok (a : LSt) : (LSt.runeDecode a).ok = a.ok := by
  unfold LSt.runeDecode
  rcases decodeRune a.rest with ⟨r, w⟩
  simp only
  split <;> simp
theorem runeAtEOF_ok (a : LSt) : (LSt.runeAtEOF a).ok = a.ok := by
  unfold LSt.runeAtEOF; split <;> rfl
theorem runePre_ok (a : LSt) : a.runePre.ok = a.ok := by
  unfold LSt.runePre; simp only; split <;> rfl

def LSt.Step.st : LSt.Step → LSt
  | .done a => a
  | .retry _ a => a

/-- throughout `rune`: the protocol flag only drops, and only once the stop word has fired -/
structure Keeps (a b : LSt) : Prop where
  halted : b.halted = a.halted
  ok_le : b.ok = true → a.ok = true
  ok_live : a.ok = true → a.halted = false → b.ok = true

/-- … and everywhere but at the invalid-encoding error and at the end of input, `rune` moves on
    inside the input: no new error, every raw byte either consumed or still to come -/
structure Adv (a b : LSt) : Prop extends Keeps a b where
  err : b.err = a.err
  pos : b.consumed + b.rest.length = a.consumed + a.rest.length
  le : b.rest.length ≤ a.rest.length

theorem Keeps.of_eq {a b : LSt} (hh : b.halted = a.halted) (hk : b.ok = a.ok) : Keeps a b :=
  ⟨hh, fun h => hk ▸ h, fun h _ => hk ▸ h⟩

theorem Keeps.trans {a b c : LSt} (h1 : Keeps a b) (h2 : Keeps b c) : Keeps a c :=
  ⟨h2.halted.trans h1.halted, fun h => h1.ok_le (h2.ok_le h),
    fun hk hh => h2.ok_live (h1.ok_live hk hh) (h1.halted.trans hh)⟩

theorem Adv.of_eq {a b : LSt} (hh : b.halted = a.halted) (hk : b.ok = a.ok) (he : b.err = a.err)
    (hc : b.consumed = a.consumed) (hr : b.rest = a.rest) : Adv a b :=
  { Keeps.of_eq hh hk with err := he, pos := by rw [hc, hr], le := by rw [hr]; exact Nat.le_refl _ }

theorem Adv.refl (a : LSt) : Adv a a := .of_eq rfl rfl rfl rfl rfl

theorem Adv.trans {a b c : LSt} (h1 : Adv a b) (h2 : Adv b c) : Adv a c :=
  { h1.toKeeps.trans h2.toKeeps with
    err := h2.err.trans h1.err, pos := h2.pos.trans h1.pos, le := Nat.le_trans h2.le h1.le }

theorem adv_forget (a : LSt) (k : Nat) : Adv a { a.forget with look := k } :=
  { halted := rfl, ok_le := forget_ok_le, ok_live := fun hk hh => by simp [hk, hh],
    err := rfl, pos := rfl, le := Nat.le_refl _ }

theorem adv_peek (a : LSt) : Adv a a.peek.2 := by rw [peek_eq]; exact adv_forget a _
theorem adv_peekTwo (a : LSt) : Adv a a.peekTwo.2.2 := by rw [peekTwo_eq]; exact adv_forget a _

theorem adv_consume (a : LSt) : Adv a a.consume := by
  unfold LSt.consume
  split
  · next _ t hr =>
    exact { Keeps.of_eq rfl rfl with
            err := rfl, pos := by simp only [hr, List.length_cons]; omega,
            le := by simp only [hr, List.length_cons]; omega }
  · exact .refl a

theorem adv_consumeN (n : Nat) : ∀ (a : LSt), Adv a (LSt.consumeN n a) := by
  induction n with
  | zero => exact .refl
  | succ n ih => exact fun a => (adv_consume a).trans (ih _)

theorem adv_litPush (a : LSt) (bs : List Byte) : Adv a (a.litPush bs) := by
  unfold LSt.litPush; split <;> exact .of_eq rfl rfl rfl rfl rfl

theorem adv_tail (b : Byte) (bq : Nat) (a : LSt) : Adv a (LSt.runeTail b bq a) := by
  unfold LSt.runeTail
  refine .trans (b := if b == 96 then { a with lastBqEsc := bq } else a) ?_
    (.trans (adv_litPush _ [b]) (.of_eq rfl rfl rfl rfl rfl))
  split <;> exact .of_eq rfl rfl rfl rfl rfl

theorem adv_afterEsc (b : Byte) (bq : Nat) (a : LSt) : Adv a (LSt.runeAfterEsc b bq a).st := by
  unfold LSt.runeAfterEsc
  split
  · split
    · exact .of_eq rfl rfl rfl rfl rfl
    · exact adv_tail b bq a
  · exact adv_tail b bq a

theorem adv_backslash (b : Byte) (bq : Nat) (a : LSt) : Adv a (LSt.runeBackslash b bq a).st := by
  unfold LSt.runeBackslash
  have h1 := adv_peek a
  generalize a.peek = p at h1 ⊢
  obtain ⟨pk, a1⟩ := p
  simp only at h1 ⊢
  split
  · exact h1.trans (adv_afterEsc b bq a1)
  · split
    · exact h1.trans ((adv_consume a1).trans (.of_eq rfl rfl rfl rfl rfl))
    · have h2 := h1.trans (adv_peekTwo a1)
      generalize a1.peekTwo = p at h2 ⊢
      obtain ⟨p1, p2, a2⟩ := p
      simp only at h2 ⊢
      split
      · exact h2.trans ((adv_consumeN 2 a2).trans (.of_eq rfl rfl rfl rfl rfl))
      · exact h2.trans (adv_afterEsc b bq a2)

theorem adv_ascii (b : Byte) (bq : Nat) (a : LSt) : Adv a.consume (LSt.runeAscii b bq a).st := by
  unfold LSt.runeAscii
  simp only
  generalize a.consume = a'
  split
  · exact .of_eq rfl rfl rfl rfl rfl
  · split
    · have h1 := adv_peek a'
      generalize a'.peek = p at h1 ⊢
      obtain ⟨pk, a1⟩ := p
      simp only at h1 ⊢
      split
      · exact h1.trans (.of_eq rfl rfl rfl rfl rfl)
      · exact h1.trans (adv_tail b bq a1)
    · split
      · exact adv_backslash b bq a'
      · exact adv_tail b bq a'

theorem keeps_errPass (a : LSt) (e : Err) : Keeps a (a.errPass e) := by
  unfold LSt.errPass; split <;> exact .of_eq rfl rfl

theorem keeps_decode (a : LSt) : Keeps a (LSt.runeDecode a) := by
  unfold LSt.runeDecode
  rcases decodeRune a.rest with ⟨r, w⟩
  simp only
  have h1 : Keeps a (LSt.consumeN w (({ a with r := r } : LSt).litPush (a.rest.take w))) :=
    .trans (b := { a with r := r }) (.of_eq rfl rfl) ((adv_litPush _ _).trans (adv_consumeN w _)).toKeeps
  split
  · refine h1.trans (.trans ?_ (keeps_errPass _ _))
    exact .of_eq rfl rfl
  · exact h1.trans (.of_eq rfl rfl)

theorem keeps_atEOF (a : LSt) : Keeps a (LSt.runeAtEOF a) := by
  unfold LSt.runeAtEOF; split <;> exact .of_eq rfl rfl

theorem runeBody_eq (b : Byte) (bq : Nat) (a : LSt) : LSt.runeBody b bq a =
    if b.toNat < 0x80 then LSt.runeAscii b bq a.peekEff0 else .done (LSt.runeDecode a.peekEff0) := rfl

theorem runeStep_eq (bq : Nat) (a : LSt) : LSt.runeStep bq a =
    match a.rest with
    | [] => .done (LSt.runeAtEOF a.forget)
    | b :: _ => LSt.runeBody b bq a.forget := rfl

theorem adv_peekEff0 (a : LSt) : Adv a a.peekEff0 := .of_eq rfl rfl rfl rfl rfl

theorem keeps_step (bq : Nat) (a : LSt) : Keeps a.forget (LSt.runeStep bq a).st := by
  rw [runeStep_eq]
  split
  · exact keeps_atEOF _
  · rw [runeBody_eq]
    split
    · exact ((adv_peekEff0 _).trans ((adv_consume _).trans (adv_ascii _ bq _))).toKeeps
    · exact (adv_peekEff0 _).toKeeps.trans (keeps_decode _)

theorem keeps_loop (fuel : Nat) : ∀ (bq : Nat) (a : LSt), Keeps a (LSt.runeLoop fuel bq a) := by
  induction fuel with
  | zero => exact fun _ a => (Adv.refl a).toKeeps
  | succ fuel ih =>
    intro bq a
    unfold LSt.runeLoop
    -- `{ a.forget with look := a.look }` is `a.forget`
    have hs := (adv_forget a a.look).toKeeps.trans (keeps_step bq a)
    split
    · next a' hst => rw [hst] at hs; exact hs
    · next bq' a' hst => rw [hst] at hs; exact hs.trans (ih bq' a')

theorem keeps_runePre (a : LSt) : Keeps a a.runePre := by
  unfold LSt.runePre; simp only; split <;> exact .of_eq rfl rfl

theorem keeps_rune (a : LSt) : Keeps a a.rune.2 :=
  (keeps_runePre a).trans (keeps_loop _ 0 _)

theorem step_retry_lt {bq bq' : Nat} {a a' : LSt} (h : LSt.runeStep bq a = .retry bq' a') :
    a'.rest.length < a.rest.length := by
  rw [runeStep_eq] at h
  split at h
  · cases h
  · next b t hr =>
    rw [runeBody_eq] at h
    split at h
    · have := (adv_ascii b bq a.forget.peekEff0).le
      rw [h, consume_rest_cons (a := a.forget.peekEff0) hr] at this
      rw [hr]; exact Nat.lt_succ_of_le this
    · cases h

theorem peek_ok_le' (a : LSt) (h : a.peek.2.ok = true) : a.ok = true := (adv_peek a).ok_le h

theorem rune_ok_of_live {a : LSt} (hk : a.ok = true) (hh : a.halted = false) : a.rune.2.ok = true :=
  (keeps_rune a).ok_live hk hh
theorem peek_ok_of_live {a : LSt} (hk : a.ok = true) (hh : a.halted = false) : a.peek.2.ok = true :=
  (adv_peek a).ok_live hk hh
theorem peekTwo_ok_of_live {a : LSt} (hk : a.ok = true) (hh : a.halted = false) :
    a.peekTwo.2.2.ok = true :=
  (adv_peekTwo a).ok_live hk hh

theorem zshNum_ok_iff (a : LSt) : a.zshNum.2.ok = true ↔
    (a.ok = true ∧ a.halted = false ∧ a.r ≠ runeEOF ∧
      (St.zshScan a.rest = .yes → St.zshScan (a.rest.take 64) = .yes)) := by
  unfold LSt.zshNum
  simp [LSt.forget]
  constructor
  · rintro ⟨⟨⟨h1, h2⟩, h3⟩, h4⟩
    exact ⟨h1, h2, h3, fun hy => h4.resolve_left (fun hn => hn hy)⟩
  · rintro ⟨h1, h2, h3, h4⟩
    exact ⟨⟨⟨h1, h2⟩, h3⟩, Classical.or_iff_not_imp_left.2 fun hy => h4 (Classical.not_not.1 hy)⟩

theorem stopAt_ok (a : LSt) (r : Nat) : (a.stopAt r).2.ok = a.forget.ok := by
  unfold LSt.stopAt
  simp only
  generalize (if r ≤ 0x10FFFF then encodeRune r else []) = enc
  split <;> rfl

theorem stopAt_ok_of_live {a : LSt} (r : Nat) (hk : a.ok = true) (hh : a.halted = false) :
    (a.stopAt r).2.ok = true := by
  rw [stopAt_ok, forget_ok, hk, hh]; rfl

theorem newLit_ok (a : LSt) (r : Nat) : (a.newLit r).ok = a.ok := by
  unfold LSt.newLit
  split
  · rfl
  · split <;> rfl

theorem endLit_ok_le (a : LSt) (h : a.endLit.2.ok = true) : a.ok = true := by
  unfold LSt.endLit at h
  simp only at h
  split at h
  · exact h
  · exact (Bool.and_eq_true_iff.1 h).1

theorem endLit_ok_fits (a : LSt) (h : a.endLit.2.ok = true) :
    (a.r == runeEOF || a.r == escNewl) = true ∨ a.w ≤ (a.lit.getD []).length := by
  unfold LSt.endLit at h
  simp only at h
  split at h
  · exact .inl ‹_›
  · exact .inr (of_decide_eq_true (Bool.and_eq_true_iff.1 h).2)

/-- `ok` only ever goes down -/
theorem Prim.ok_le {β : Type} (o : Prim β) (a : LSt) (h : (o.spec a).2.ok = true) : a.ok = true := by
  cases o with
  | rune => exact (keeps_rune a).ok_le h
  | peek => exact peek_ok_le' a h
  | peekTwo => exact (adv_peekTwo a).ok_le h
  | zshNum => exact ((zshNum_ok_iff a).mp h).1
  | stopAt r => exact forget_ok_le (stopAt_ok a r ▸ h)
  | newLit r => exact newLit_ok a r ▸ h
  | endLit => exact endLit_ok_le a h
  | pos => exact (Bool.and_eq_true_iff.1 h).1
  | errPass => exact errPass_ok a .client ▸ h
  | _ => exact h

/-- a call inside the protocol is neither of the two that panic -/
theorem Prim.ok_not_panics {β : Type} (o : Prim β) (a : LSt) (h : (o.spec a).2.ok = true) :
    o.panics a = false := by
  cases o with
  | zshNum => simp [Prim.panics, ((zshNum_ok_iff a).1 h).2.2.1]
  | endLit =>
    rcases endLit_ok_fits a h with hc | hw
    · simp [Prim.panics, hc]
    · simp [Prim.panics, Nat.not_lt.2 hw]
  | _ => rfl

theorem specRun_ok {α : Type} (p : Prog α) : ∀ (a : LSt), (specRun p a).2.ok = true →
    a.ok = true ∧ specRunF p a = .done (specRun p a).1 (specRun p a).2 := by
  induction p using Prog.ind with
  | ret x => exact fun a h => ⟨h, rfl⟩
  | bind o k ih =>
    intro a h
    rw [specRun_bind] at h ⊢
    have h1 := (ih _ _ h).1
    rw [specRunF_bind, if_neg (by rw [o.ok_not_panics a h1]; exact Bool.false_ne_true)]
    exact ⟨o.ok_le a h1, (ih _ _ h).2⟩

theorem runeDecode_invalid (a : LSt) (ha : a.err = none) (hd : decodeRune a.rest = (runeError, 1)) :
    (LSt.runeDecode a).r = runeEOF ∧ (LSt.runeDecode a).err ≠ none := by
  unfold LSt.runeDecode
  simp only [hd]
  simp [LSt.errPass, consumeN_err, consumeN_r, litPush_r, ha]

end ShVerif.C07
