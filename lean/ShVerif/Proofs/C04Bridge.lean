import ShVerif.Proofs.C04Change
/-
  C04 — the typed fragments are what the whole-tree model does: `simp` on an embedded arithmetic /
  test expression is the embedding of `Arith.walk` / `Test.walk`, and on a word that is one
  double-quoted literal it is `rewriteDq`.
-/
namespace ShVerif.C04

theorem simp_succ_fst (f : Nat) (n : Node) :
    (simp (f+1) n).1 =
      (visit (f+1) n).1.setKids ((visit (f+1) n).1.kids.map fun k => (simp f k).1) := by
  simp only [simp, Node.setKids, List.map_map]; rfl

/-- The right-hand side of `simp_succ_fst` once `visit` has produced a concrete node. -/
theorem mk_setKids_map (ty : Ty) (a : List Nat) (v : Bytes) (ks : List Node) (g : Node → Node) :
    (Node.mk ty a v ks).setKids ((Node.mk ty a v ks).kids.map g) = .mk ty a v (ks.map g) := rfl

theorem simp_inert {ty : Ty} {a : List Nat} {v : Bytes} {ks : List Node}
    (hv : ∀ f, visit f (.mk ty a v ks) = (.mk ty a v ks, false))
    (hk : ∀ k ∈ ks, ∀ f, simp f k = (k, false)) : ∀ f, simp f (.mk ty a v ks) = (.mk ty a v ks, false)
  | 0 => rfl
  | f+1 => by
    simp only [simp, hv, Node.kids, Node.ty, Node.attrs, Node.val, Bool.false_or]
    rw [List.map_congr_left fun k h => hk k h f]
    simp [Function.comp_def]

theorem simp_inert_one {ty : Ty} {a : List Nat} {v : Bytes} {k : Node}
    (hv : ∀ f, visit f (.mk ty a v [k]) = (.mk ty a v [k], false)) (hk : ∀ f, simp f k = (k, false)) :
    ∀ f, simp f (.mk ty a v [k]) = (.mk ty a v [k], false) :=
  simp_inert hv fun _ h => List.mem_singleton.1 h ▸ hk

theorem simp_nil (f : Nat) : simp f nilNode = (nilNode, false) :=
  simp_inert (fun _ => rfl) (fun _ h => absurd h List.not_mem_nil) f

theorem simp_lit (f : Nat) (a : List Nat) (v : Bytes) : simp f (.mk .lit a v []) = (.mk .lit a v [], false) :=
  simp_inert (fun _ => rfl) (fun _ h => absurd h List.not_mem_nil) f

theorem simp_emptyList (f : Nat) : simp f (.mk .list [] [] []) = (.mk .list [] [] [], false) :=
  simp_inert (fun _ => rfl) (fun _ h => absurd h List.not_mem_nil) f

theorem removeParensArithm_nil (f : Nat) : removeParensArithm f nilNode = (nilNode, false) := by
  cases f <;> rfl

theorem simp_simplePE (f : Nat) (b : Bool) (n : Bytes) : simp f (simplePE b n) = (simplePE b n, false) :=
  simp_inert (fun f => by simp only [visit, removeParensArithm_nil]; rfl)
    (by simp [simp_nil, simp_lit, simp_emptyList]) f

theorem simp_litWord (f : Nat) (v : Bytes) : simp f (litWord v) = (litWord v, false) :=
  simp_inert_one (fun _ => rfl) (simp_lit · [] v) f

theorem simp_wordPE (f : Nat) (n : Bytes) : simp f (wordPE n) = (wordPE n, false) :=
  simp_inert (fun f => by simp only [visit, removeParensArithm_nil]; rfl)
    (by simp [simp_nil, simp_lit, simp_emptyList, simp_litWord]) f

/-- A word holding one inert parameter expansion, bare or in double quotes, is inert:
    `simplifyWord` only rewrites double-quoted literals. -/
theorem simp_peWord {pe : Node} (hty : pe.ty = .paramExp) (hpe : ∀ f, simp f pe = (pe, false)) (f : Nat) :
    simp f (.mk .word [] [] [pe]) = (.mk .word [] [] [pe], false) := by
  cases pe; cases hty
  exact simp_inert_one (fun _ => rfl) hpe f

theorem simp_dqPeWord {pe : Node} (hty : pe.ty = .paramExp) (hpe : ∀ f, simp f pe = (pe, false)) (f : Nat) :
    simp f (.mk .word [] [] [.mk .dbl [0] [] [pe]]) = (.mk .word [] [] [.mk .dbl [0] [] [pe]], false) := by
  cases pe; cases hty
  exact simp_inert_one (fun _ => rfl) (simp_inert_one (fun _ => rfl) hpe) f

section ArithBridge
open Arith
variable (q c : Nat)

theorem walk_inline_strip : ∀ e : Arith, (Arith.inline (strip e)).walk = e.top := by
  intro e
  induction e with
  | paren x ih => simpa [strip, Arith.top] using ih
  | lit v => rfl
  | dollar b n =>
    simp only [strip, Arith.top, Arith.inline]
    split <;> rfl
  | unary op p x _ => rfl
  | binary op x y _ _ => rfl
  | tern x a b _ _ _ => rfl

theorem walk_inline : ∀ e : Arith, (Arith.inline e).walk = e.walkInl := by
  intro e
  cases e with
  | dollar b n =>
    simp only [Arith.walkInl, Arith.inline]
    split <;> rfl
  | _ => rfl

theorem depth_pos (e : Arith) : 0 < e.depth := by cases e <;> exact Nat.succ_pos _

theorem depth_strip : ∀ e : Arith, (strip e).depth ≤ e.depth := by
  intro e
  induction e with
  | paren x ih => simp only [strip, Arith.depth]; omega
  | _ => exact Nat.le_refl _

theorem depth_inline (e : Arith) : (Arith.inline e).depth = e.depth := by
  cases e with
  | dollar b n => simp only [Arith.inline]; split <;> rfl
  | _ => rfl

theorem removeParensArithm_toNode : ∀ (e : Arith) (k : Nat), e.depth ≤ k →
    (removeParensArithm k (e.toNode q c)).1 = (strip e).toNode q c := by
  intro e
  induction e with
  | paren x ih =>
    intro k hk
    cases k with
    | zero => exact absurd hk (by simp [Arith.depth])
    | succ k =>
      simp only [Arith.depth] at hk
      exact ih k (by omega)
  | _ => intro k hk; cases k <;> rfl

theorem inlineSimpleParams_toNode (e : Arith) :
    (inlineSimpleParams (e.toNode q c)).1 = (Arith.inline e).toNode q c := by
  cases e with
  | dollar b n =>
    -- `$n` / `${n}` is simple, so only `ValidName` decides
    have hp : peSimple (simplePE b n) = true := by cases b <;> rfl
    have hpar : peParam (simplePE b n) = .mk .lit [] n [] := rfl
    have ht : (simplePE b n).ty = .paramExp := rfl
    simp only [Arith.toNode, inlineSimpleParams, hpar, ht, hp, Arith.inline]
    simp only [Node.ty, Node.val, beq_self_eq_true, Bool.true_and, Bool.and_true]
    split <;> rfl
  | _ => rfl

theorem arithTop_toNode (e : Arith) (k : Nat) (hk : e.depth ≤ k) :
    (arithTop k (e.toNode q c)).1 = (Arith.inline (strip e)).toNode q c := by
  simp only [arithTop, removeParensArithm_toNode q c e k hk, inlineSimpleParams_toNode]

/-- One step of `simp` on `$(( e ))`, `(( e ))`, `( e )`, given `simp` on the rewritten `e`. -/
theorem simp_arith_holder_step (ty : Ty) (hty : ty = .arithmExp ∨ ty = .arithmCmd ∨ ty = .parenArithm)
    (a : List Nat) (v : Bytes) (e : Arith) (f : Nat) (hf : e.depth ≤ f + 1)
    (ih : (simp f ((Arith.inline (strip e)).toNode q c)).1 = (Arith.inline (strip e)).walk.toNode q c) :
    (simp (f+1) (.mk ty a v [e.toNode q c])).1 = .mk ty a v [e.top.toNode q c] := by
  have h1 := arithTop_toNode q c e (f+1) hf
  rcases hty with h | h | h <;> subst h <;>
  simp only [simp_succ_fst, visit, mk_setKids_map, List.map_cons, List.map_nil, h1, ih, walk_inline_strip]

theorem simp_toNode : ∀ (f : Nat) (e : Arith), e.depth ≤ f →
    (simp f (e.toNode q c)).1 = e.walk.toNode q c := by
  intro f
  induction f with
  | zero => intro e h; have := depth_pos e; omega
  | succ f ih =>
    intro e hd
    have ihInl : ∀ x : Arith, x.depth ≤ f →
        (simp f ((Arith.inline x).toNode q c)).1 = x.walkInl.toNode q c := fun x hx => by
      rw [ih _ (by rw [depth_inline]; exact hx), walk_inline]
    cases e with
    | lit v => exact congrArg Prod.fst (simp_litWord _ v)
    | dollar b m => exact congrArg Prod.fst (simp_peWord rfl (simp_simplePE · b m) _)
    | paren x =>
      simp only [Arith.depth] at hd
      exact simp_arith_holder_step q c .parenArithm (.inr (.inr rfl)) [] [] x f (by omega)
        (ih _ (by rw [depth_inline]; have := depth_strip x; omega))
    | unary op p x =>
      simp only [Arith.depth] at hd
      simp only [Arith.toNode, simp_succ_fst, visit, mk_setKids_map, List.map_cons, List.map_nil,
        ih x (by omega), Arith.walk]
    | binary op x y =>
      simp only [Arith.depth] at hd
      simp only [Arith.toNode, simp_succ_fst, visit, mk_setKids_map, List.map_cons, List.map_nil,
        inlineSimpleParams_toNode, ihInl x (by omega), ihInl y (by omega), Arith.walk]
    | tern x a b =>
      simp only [Arith.depth] at hd
      -- the `:` node is an operand of the `?` node: `inlineSimpleParams` leaves it alone
      have hi := ih (.binary c a b) (by simp only [Arith.depth]; omega)
      simp only [Arith.toNode, Arith.walk] at hi
      have hin : ∀ ks, (inlineSimpleParams (.mk .binaryArithm [c] [] ks)).1 = .mk .binaryArithm [c] [] ks :=
        fun _ => rfl
      simp only [Arith.toNode, simp_succ_fst, visit, mk_setKids_map, List.map_cons, List.map_nil,
        inlineSimpleParams_toNode, hin, ihInl x (by omega), hi, Arith.walk]

/-- What `Simplify` does to `$(( e ))`, `(( e ))` and a parenthesised sub-expression: `Arith.top`. -/
theorem simplify_arith_holder (ty : Ty)
    (hty : ty = .arithmExp ∨ ty = .arithmCmd ∨ ty = .parenArithm)
    (a : List Nat) (v : Bytes) (e : Arith) :
    (simplify (.mk ty a v [e.toNode q c])).1 = .mk ty a v [e.top.toNode q c] := by
  -- any fuel above the weight will do: take one that also covers the depth of `e`
  rw [← simp_fuel_irrelevant (weight (.mk ty a v [e.toNode q c]) + e.depth + 1) _ (by omega)]
  have := depth_strip e
  exact simp_arith_holder_step q c ty hty a v e _ (by omega)
    (simp_toNode q c _ _ (by rw [depth_inline]; omega))

end ArithBridge

section TestBridge
open Test

theorem simp_twordNode (f : Nat) (w : TWord) : simp f w.toNode = (w.toNode, false) := by
  cases w with
  | bare p => exact simp_peWord rfl (simp_simplePE · false _) f
  | quoted p => exact simp_dqPeWord rfl (simp_simplePE · false _) f
  | bareW p => exact simp_peWord rfl (simp_wordPE · _) f
  | quotedW p => exact simp_dqPeWord rfl (simp_wordPE · _) f
  | other w => exact simp_litWord f _

theorem tdepth_pos (x : Test) : 0 < x.depth := by cases x <;> exact Nat.succ_pos _

theorem tdepth_strip : ∀ x : Test, (strip x).depth ≤ x.depth := by
  intro x
  induction x with
  | paren x ih => simp only [strip, Test.depth]; omega
  | _ => exact Nat.le_refl _

theorem wf_strip : ∀ x : Test, x.WF → (strip x).WF := by
  intro x
  induction x with
  | paren x ih => intro h; exact ih h
  | _ => intro h; exact h

theorem tdepth_unquote (x : Test) : (unquote x).depth = x.depth := by
  cases x <;> rfl

theorem wf_unquote (x : Test) (h : x.WF) : (unquote x).WF := by
  cases x <;> first | exact h | trivial

theorem tdepth_removeNegate (x : Test) : (removeNegate x).depth ≤ x.depth := by
  fun_cases removeNegate x <;> first | exact Nat.le_refl _ | (simp only [Test.depth]; omega)

theorem wf_removeNegate (x : Test) (h : x.WF) : (removeNegate x).WF := by
  fun_cases removeNegate x
  case case1 => exact (by decide : tsNempStr ≠ tsNot)
  case case2 => exact (by decide : tsEmpStr ≠ tsNot)
  all_goals first | exact h | trivial

theorem removeParensTest_toNode : ∀ (x : Test) (k : Nat), x.depth ≤ k →
    (removeParensTest k x.toNode).1 = (strip x).toNode := by
  intro x
  induction x with
  | paren x ih =>
    intro k hk
    cases k with
    | zero => exact absurd hk (by simp [Test.depth])
    | succ k =>
      simp only [Test.depth] at hk
      exact ih k (by omega)
  | word w => intro k hk; cases k <;> cases w <;> rfl
  | _ => intro k hk; cases k <;> rfl

theorem unquoteParams_twordNode (w : TWord) : (unquoteParams w.toNode).1 = (unqW w).toNode := by
  cases w <;> rfl

theorem unquoteParams_toNode (x : Test) : (unquoteParams x.toNode).1 = (unquote x).toNode := by
  cases x with
  | word w => exact unquoteParams_twordNode w
  | _ => rfl

theorem removeNegateTest_twordNode (w : TWord) : removeNegateTest w.toNode = (w.toNode, false) := by
  cases w <;> rfl

theorem removeNegateTest_toNode (x : Test) (h : x.WF) :
    (removeNegateTest x.toNode).1 = (removeNegate x).toNode := by
  cases x with
  | word w => exact congrArg Prod.fst (removeNegateTest_twordNode w)
  | un op w =>
    have hop : op ≠ tsNot := h
    simp only [removeNegateTest, Test.toNode, removeNegate, if_neg hop]
  | not y =>
    cases y with
    | word w => cases w <;> rfl
    | un yop w =>
      have hop : yop ≠ tsNot := h
      simp only [removeNegateTest, Test.toNode, removeNegate, if_true, if_neg hop]
      split
      · rfl
      · split <;> rfl
    | logic cc z w => cases cc <;> rfl
    | bin yop a b =>
      simp only [removeNegateTest, Test.toNode, removeNegate, if_true]
      split
      · rfl
      · split <;> rfl
    | _ => rfl
  | _ => rfl

theorem testTop_toNode (x : Test) (h : x.WF) (k : Nat) (hk : x.depth ≤ k) :
    (testTop k x.toNode).1 = (removeNegate (strip x)).toNode := by
  simp only [testTop, removeParensTest_toNode x k hk, removeNegateTest_toNode _ (wf_strip x h)]

/-- One step of `simp` on `[[ x ]]`, `( x )`, given `simp` on the rewritten `x`. -/
theorem simp_test_holder_step (ty : Ty) (hty : ty = .testClause ∨ ty = .parenTest)
    (a : List Nat) (v : Bytes) (x : Test) (h : x.WF) (f : Nat) (hf : x.depth ≤ f + 1)
    (ih : (simp f (removeNegate (strip x)).toNode).1 = (walk f (removeNegate (strip x))).toNode) :
    (simp (f+1) (.mk ty a v [x.toNode])).1 = .mk ty a v [(walk f (removeNegate (strip x))).toNode] := by
  have h1 := testTop_toNode x h (f+1) hf
  rcases hty with e | e <;> subst e <;>
  simp only [simp_succ_fst, visit, mk_setKids_map, List.map_cons, List.map_nil, h1, ih]

theorem simp_test_toNode : ∀ (f : Nat) (x : Test), x.WF → x.depth ≤ f →
    (simp f x.toNode).1 = (walk f x).toNode := by
  intro f
  induction f with
  | zero => intro x _ h; have := tdepth_pos x; omega
  | succ f ih =>
    intro x hw hd
    -- an operand of `&&` / `||`: unquoted, then its negation merged, then visited
    have ihRn : ∀ y : Test, y.WF → y.depth ≤ f →
        (simp f (removeNegateTest (unquoteParams y.toNode).1).1).1 =
          (walk f (removeNegate (unquote y))).toNode := fun y hy hf => by
      rw [unquoteParams_toNode, removeNegateTest_toNode _ (wf_unquote y hy)]
      exact ih _ (wf_removeNegate _ (wf_unquote y hy))
        (by have := tdepth_removeNegate (unquote y); rw [tdepth_unquote] at this; omega)
    cases x with
    | word w => exact congrArg Prod.fst (simp_twordNode _ w)
    | paren x =>
      simp only [Test.depth] at hd
      exact simp_test_holder_step .parenTest (.inr rfl) [] [] x hw f (by omega)
        (ih _ (wf_removeNegate _ (wf_strip x hw))
          (by have := tdepth_removeNegate (strip x); have := tdepth_strip x; omega))
    | not x =>
      simp only [Test.depth] at hd
      have hy := ih (unquote x) (wf_unquote x hw) (by rw [tdepth_unquote]; omega)
      simp only [Test.toNode, simp_succ_fst, visit, mk_setKids_map, List.map_cons, List.map_nil,
        unquoteParams_toNode, hy, walk]
    | un op w =>
      simp only [Test.toNode, simp_succ_fst, visit, mk_setKids_map, List.map_cons, List.map_nil,
        unquoteParams_twordNode, simp_twordNode, walk]
    | logic c x y =>
      simp only [Test.depth] at hd
      have hop : ∀ op, op = tsAnd ∨ op = tsOr → (op = tsMatchShort) = False ∧
          (decide (op = tsMatch) || decide (op = tsNoMatch) || decide (op = tsReMatch)) = false := by
        intro op h; rcases h with h | h <;> subst h <;> decide
      have hc := hop (if c then tsAnd else tsOr) (by cases c <;> simp)
      simp only [Test.toNode, simp_succ_fst, visit, hc.1, hc.2, if_false, Bool.false_eq_true,
        mk_setKids_map, List.map_cons, List.map_nil, ihRn x hw.1 (by omega), ihRn y hw.2 (by omega), walk]
    | bin op a b =>
      -- word operands: `removeNegateTest` and `simp` leave them alone
      have hb : ∀ (k : Bool) (w : TWord),
          (simp f (removeNegateTest (if k = true then (w.toNode, false) else unquoteParams w.toNode).1).1).1 =
            (if k = true then w else unqW w).toNode := fun k w => by
        cases k <;> simp only [if_true, if_false, Bool.false_eq_true, unquoteParams_twordNode,
          removeNegateTest_twordNode, simp_twordNode]
      have ha := hb false a
      simp only [Bool.false_eq_true, if_false] at ha
      simp only [Test.toNode, simp_succ_fst, visit, mk_setKids_map, List.map_cons, List.map_nil,
        ha, hb, walk, noUnquoteRhs]
      rfl

theorem walk_fuel : ∀ (f g : Nat) (x : Test), x.depth < f → x.depth < g → walk f x = walk g x :=
  fuel_irrelevant Test.depth walk fun f g x _ _ ih => by
    cases x with
    | paren x =>
      have := tdepth_removeNegate (strip x); have := tdepth_strip x
      simp only [walk, ih (removeNegate (strip x)) (by simp only [Test.depth]; omega)]
    | not x => simp only [walk, ih (unquote x) (by simp only [tdepth_unquote, Test.depth]; omega)]
    | logic c x y =>
      have h1 := tdepth_removeNegate (unquote x); rw [tdepth_unquote] at h1
      have h2 := tdepth_removeNegate (unquote y); rw [tdepth_unquote] at h2
      simp only [walk, ih (removeNegate (unquote x)) (by simp only [Test.depth]; omega),
        ih (removeNegate (unquote y)) (by simp only [Test.depth]; omega)]
    | _ => rfl

/-- What `Simplify` does to `[[ x ]]`: the typed `Test.top`. -/
theorem simplify_testClause (a : List Nat) (v : Bytes) (x : Test) (h : x.WF) :
    (simplify (.mk .testClause a v [x.toNode])).1 = .mk .testClause a v [(Test.top x).toNode] := by
  have := tdepth_removeNegate (strip x); have := tdepth_strip x
  have := weight_pos (.mk .testClause a v [x.toNode])
  rw [← simp_fuel_irrelevant (weight (.mk .testClause a v [x.toNode]) + x.depth + 1) _ (by omega),
    simp_test_holder_step .testClause (.inl rfl) a v x h _ (by omega)
      (simp_test_toNode _ _ (wf_removeNegate _ (wf_strip x h)) (by omega)),
    Test.top, walk_fuel _ (x.depth + 1) _ (by omega) (by omega)]

end TestBridge

def dqWord (a : List Nat) (v : Bytes) (d : Nat) (lit : Bytes) : Node :=
  .mk .word a v [.mk .dbl [d] [] [.mk .lit [] lit []]]

theorem simplifyWord_dq (d : Nat) (lit : Bytes) :
    (simplifyWord [.mk .dbl [d] [] [.mk .lit [] lit []]]).1 =
      [match rewriteDq (d != 0) lit with
       | some nv => .mk .sgl [d] nv []
       | none => .mk .dbl [d] [] [.mk .lit [] lit []]] := by
  simp only [simplifyWord, rewriteDq, List.getD_cons_zero]
  by_cases hd : d = 0
  · subst hd
    simp only [bne_self_eq_false, Bool.false_eq_true, if_false]
    cases h : dqToSq lit with
    | none => rfl
    | some nv => by_cases e : nv = lit <;> simp only [e, if_true, if_false]
  · simp [hd]

/-- What `Simplify` does to a word that is one `"lit"` (`d = 0`) or `$"lit"` (`d = 1`, left alone). -/
theorem simplify_dqWord (a : List Nat) (v : Bytes) (d : Nat) (lit : Bytes) :
    (simplify (dqWord a v d lit)).1 =
      .mk .word a v [match rewriteDq (d != 0) lit with
       | some nv => .mk .sgl [d] nv []
       | none => .mk .dbl [d] [] [.mk .lit [] lit []]] := by
  have h := simplifyWord_dq d lit
  -- either outcome is inert
  have hsgl : ∀ f nv, (simp f (.mk .sgl [d] nv [])).1 = .mk .sgl [d] nv [] := fun f nv =>
    congrArg Prod.fst (simp_inert (fun _ => rfl) (fun _ h => absurd h List.not_mem_nil) f)
  have hdbl : ∀ f, (simp f (.mk .dbl [d] [] [.mk .lit [] lit []])).1 = .mk .dbl [d] [] [.mk .lit [] lit []] :=
    fun f => congrArg Prod.fst (simp_inert_one (fun _ => rfl) (simp_lit · [] lit) f)
  cases hr : rewriteDq (d != 0) lit <;> rw [hr] at h <;>
  simp only [simplify, dqWord, simp_succ_fst, visit, h, mk_setKids_map, List.map_cons, List.map_nil,
    hsgl, hdbl]

end ShVerif.C04
