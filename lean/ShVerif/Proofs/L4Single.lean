/-
  L4 printer under SingleLine: on fragment F0 the bytes written depend on the tree only through
  its norm (no position is consulted), and they are given by a simple recursive function on norm
  trees (`NStmts.sl`).  This is what makes a second formatting pass byte-identical (C02).

  The proof runs the model printer on an *abstraction* of its state (bytes written, `wantSpace`,
  options, `mustNewline`, `firstLine`, the panic flag, the depth of `levelIncs`); every printer
  segment is an equation between abstract states, so no-panic and balance come for free.
-/
import ShVerif.Proofs.L4
import ShVerif.Proofs.L4PrintEq
namespace ShVerif.L4

/-! ## The specification: SingleLine output of a norm tree -/

def NPart.bytes : NPart → Bytes
  | .lit v => v
  | .sgl v => 39 :: (v ++ [39])

def nwordBytes (n : List NPart) : Bytes := n.flatMap NPart.bytes

/-- words separated by one blank -/
def joinSp : List Bytes → Bytes
  | [] => []
  | w :: rest => w ++ rest.flatMap (fun x => 32 :: x)

mutual
def NStmt.startsLp : NStmt → Bool
  | .mk _ _ c => c.startsLp
def NCmd.startsLp : NCmd → Bool
  | .binary _ x _ => x.startsLp
  | .subshell _ => true
  | _ => false
end

mutual
def NStmt.endsRp : NStmt → Bool
  | .mk _ bg c => if bg then false else c.endsRp
def NCmd.endsRp : NCmd → Bool
  | .binary _ _ y => y.endsRp
  | .subshell _ => true
  | _ => false
end

def NStmt.bg : NStmt → Bool
  | .mk _ b _ => b

/-- whether the last statement of the list (or, for the empty list, the one before) ended in `&` -/
def NStmts.lastBg (prev : Bool) : NStmts → Bool
  | .nil => prev
  | .cons s r => r.lastBg s.bg

mutual
def NStmt.sl : NStmt → Bytes
  | .mk neg bg c => (if neg then ([33, 32] : Bytes) else []) ++ (c.sl ++ (if bg then ([32, 38] : Bytes) else []))
def NCmd.sl : NCmd → Bytes
  | .call args => joinSp (args.map nwordBytes)
  | .subshell ss =>
    40 :: ((match ss with
      | .cons s _ => if s.startsLp then ([32] : Bytes) else []
      | .nil => ([] : Bytes)) ++ (ss.sl ++ ((match ss with
      | .cons s .nil => if s.endsRp then ([32] : Bytes) else []
      | _ => ([] : Bytes)) ++ ([41] : Bytes))))
  | .block ss => 123 :: 32 :: (ss.sl ++ (if ss.lastBg false then ([32, 125] : Bytes) else [59, 32, 125]))
  | .binary op x y => x.sl ++ (32 :: (op.str ++ (32 :: y.sl)))
/-- a list: the first statement, then the others with their separators -/
def NStmts.sl : NStmts → Bytes
  | .nil => []
  | .cons s r => s.sl ++ r.slFrom s.bg
/-- the statements of a list that follow one that did (`prev`) or did not end in `&` -/
def NStmts.slFrom (prev : Bool) : NStmts → Bytes
  | .nil => []
  | .cons s r => (if prev then ([32] : Bytes) else [59, 32]) ++ (s.sl ++ r.slFrom s.bg)
end

/-- what the printer needs of a norm tree to run without panic and to write literals verbatim:
    non-empty words, calls and nested lists; no backslash in a literal -/
def NPart.plain : NPart → Bool
  | .lit v => v.all (· != 92)
  | .sgl _ => true

def nwordOk (n : List NPart) : Bool := !n.isEmpty && n.all NPart.plain

mutual
def NStmt.ok : NStmt → Bool
  | .mk _ _ c => c.ok
def NCmd.ok : NCmd → Bool
  | .call args => !args.isEmpty && args.all nwordOk
  | .subshell ss => (match ss with | .nil => false | _ => true) && ss.ok
  | .block ss => (match ss with | .nil => false | _ => true) && ss.ok
  | .binary _ x y => x.ok && y.ok
def NStmts.ok : NStmts → Bool
  | .nil => true
  | .cons s r => s.ok && r.ok
end

theorem NStmt.sl_mk (neg bg : Bool) (c : NCmd) : (NStmt.mk neg bg c).sl =
    (if neg then ([33, 32] : Bytes) else []) ++ (c.sl ++ (if bg then ([32, 38] : Bytes) else [])) := rfl
theorem NCmd.sl_call (args : List (List NPart)) : (NCmd.call args).sl = joinSp (args.map nwordBytes) := rfl
theorem NCmd.sl_subshell (s : NStmt) (r : NStmts) : (NCmd.subshell (.cons s r)).sl =
    40 :: ((if s.startsLp then ([32] : Bytes) else []) ++ ((NStmts.cons s r).sl ++ ((match r with
      | .nil => if s.endsRp then ([32] : Bytes) else []
      | _ => ([] : Bytes)) ++ ([41] : Bytes)))) := by
  cases r <;> rfl
theorem NCmd.sl_block (ss : NStmts) : (NCmd.block ss).sl =
    123 :: 32 :: (ss.sl ++ (if ss.lastBg false then ([32, 125] : Bytes) else [59, 32, 125])) := rfl
theorem NCmd.sl_binary (op : BinOp) (x y : NStmt) : (NCmd.binary op x y).sl = x.sl ++ (32 :: (op.str ++ (32 :: y.sl))) := rfl
theorem NStmts.slFrom_cons (prev : Bool) (s : NStmt) (r : NStmts) : (NStmts.cons s r).slFrom prev =
    (if prev then ([32] : Bytes) else [59, 32]) ++ (s.sl ++ r.slFrom s.bg) := rfl
theorem NCmd.ok_call (args : List (List NPart)) : (NCmd.call args).ok = (!args.isEmpty && args.all nwordOk) := rfl
theorem NCmd.ok_binary (op : BinOp) (x y : NStmt) : (NCmd.binary op x y).ok = (x.ok && y.ok) := rfl
theorem NCmd.ok_subshell (s : NStmt) (r : NStmts) : (NCmd.subshell (.cons s r)).ok = (s.ok && r.ok) := rfl
theorem NCmd.ok_block (s : NStmt) (r : NStmts) : (NCmd.block (.cons s r)).ok = (s.ok && r.ok) := rfl
theorem NStmts.ok_cons (s : NStmt) (r : NStmts) : (NStmts.cons s r).ok = (s.ok && r.ok) := rfl

/-! ## Words: bytes from the norm -/

theorem trailingBackslashes_plain (v : Bytes) (h : v.all (· != 92) = true) : trailingBackslashes v = 0 := by
  unfold trailingBackslashes
  have : v.reverse.takeWhile (· == 92) = [] := by
    cases hr : v.reverse with
    | nil => rfl
    | cons b t =>
      have hb : b ∈ v := by
        have : b ∈ v.reverse := by rw [hr]; simp
        simpa using this
      have := List.all_eq_true.mp h b hb
      simp only [bne_iff_ne, ne_eq] at this
      have hbeq : (b == 92) = false := by simpa using this
      simp [List.takeWhile, hbeq]
  rw [this]; rfl

theorem wordBytes_norm : ∀ (parts : List WordPart), (normParts parts).all NPart.plain = true →
    wordBytes parts = nwordBytes (normParts parts)
  | [] => fun _ => rfl
  | .sgl l r v :: rest => fun h => by
    have h2 : (normParts rest).all NPart.plain = true := by
      simp only [normParts, List.all_cons, Bool.and_eq_true] at h
      exact h.2
    have ih := wordBytes_norm rest h2
    show wordBytes (.sgl l r v :: rest) = nwordBytes (.sgl v :: normParts rest)
    simp only [wordBytes, nwordBytes, List.flatMap_cons, WordPart.bytes, NPart.bytes] at ih ⊢
    rw [ih]
  | .lit a e v :: rest => fun h => by
    have key : v.all (· != 92) = true ∧ (normParts rest).all NPart.plain = true ∧
        nwordBytes (normParts (.lit a e v :: rest)) = v ++ nwordBytes (normParts rest) := by
      simp only [normParts] at h ⊢
      split at h
      · rename_i v' r hr
        simp only [List.all_cons, NPart.plain, List.all_append, Bool.and_eq_true] at h
        refine ⟨h.1.1, ?_, ?_⟩
        · rw [hr]; simp [NPart.plain, h.1.2, h.2]
        · rw [hr]; simp [nwordBytes, NPart.bytes]
      · simp only [List.all_cons, NPart.plain, Bool.and_eq_true] at h
        exact ⟨h.1, h.2, by simp [nwordBytes, NPart.bytes]⟩
    obtain ⟨k1, k2, k3⟩ := key
    rw [k3, ← wordBytes_norm rest k2]
    simp [wordBytes, WordPart.bytes, trailingBackslashes_plain v k1]

theorem pos_of_parts {w : Word} (h : w.parts ≠ []) : ∃ pos, w.pos? = some pos := by
  cases hw : w.parts with
  | nil => exact absurd hw h
  | cons wp r => exact ⟨wp.pos, by simp [Word.pos?, hw]⟩

theorem normParts_ne_nil {parts : List WordPart} (h : normParts parts ≠ []) : parts ≠ [] := by
  intro e; rw [e] at h; exact h rfl

/-! ## The abstract printer state -/

def outB (p : P) : Bytes := render p.out.reverse

structure Abs where
  out : Bytes
  ws : WS
  o : Opts
  must : Bool
  first : Bool
  pan : Bool
  incs : Nat

def P.abs (p : P) : Abs := ⟨outB p, p.wantSpace, p.o, p.mustNewline, p.firstLine, p.panicked, p.levelIncs.length⟩

/-- SingleLine, past the first line, nothing forced -/
structure SLa (a : Abs) : Prop where
  sl : a.o.singleLine = true
  mn : a.o.minify = false
  must : a.must = false
  first : a.first = false

def leadA (a : Abs) : Bytes := if a.ws = .required then [32] else []

/-- bytes appended, `wantSpace` required afterwards -/
def Abs.wrote (a : Abs) (bs : Bytes) : Abs := { a with out := a.out ++ bs, ws := .required }

theorem Abs.wrote_sla {a : Abs} (h : SLa a) (bs : Bytes) : SLa (a.wrote bs) := ⟨h.sl, h.mn, h.must, h.first⟩

theorem render_snoc (l : List Piece) (x : Piece) : render (l ++ [x]) = render l ++ x.bytes := by
  simp [render, List.flatMap_append]

theorem abs_tok (p : P) (b : Bytes) : (p.tok b).abs = { p.abs with out := p.abs.out ++ b } := by
  simp [P.abs, outB, P.tok, render_snoc, Piece.bytes]

theorem abs_gapw (p : P) (b : Bytes) : (p.gapw b).abs = { p.abs with out := p.abs.out ++ b } := by
  simp [P.abs, outB, P.gapw, render_snoc, Piece.bytes]

theorem abs_spacePad (p : P) : p.spacePad.abs =
    (if p.abs.ws = .required then { p.abs with out := p.abs.out ++ [32], ws := .written } else p.abs) := by
  unfold P.spacePad
  by_cases h : p.wantSpace = .required
  · have h' : p.abs.ws = .required := h
    rw [if_pos h, if_pos h']
    simp [P.abs, outB, P.gapw, render_snoc, Piece.bytes]
  · have h' : ¬ p.abs.ws = .required := h
    rw [if_neg h, if_neg h']

theorem abs_spacePad' (p : P) : p.spacePad.abs.out = p.abs.out ++ leadA p.abs ∧ p.spacePad.abs.ws ≠ .required ∧
    p.spacePad.abs.o = p.abs.o ∧ p.spacePad.abs.must = p.abs.must ∧ p.spacePad.abs.first = p.abs.first ∧
    p.spacePad.abs.pan = p.abs.pan ∧ p.spacePad.abs.incs = p.abs.incs := by
  rw [abs_spacePad]
  unfold leadA
  split
  · exact ⟨rfl, by simp, rfl, rfl, rfl, rfl, rfl⟩
  · rename_i h
    exact ⟨by simp, h, rfl, rfl, rfl, rfl, rfl⟩

theorem abs_incLevel (p : P) : p.incLevel.abs = { p.abs with incs := p.abs.incs + 1 } := by
  unfold P.incLevel
  split
  · simp [P.abs, outB]
  · split
    · rename_i rest heq
      simp [P.abs, outB, heq]
    · simp [P.abs, outB]

theorem abs_decLevel (p : P) (n : Nat) (h : p.abs.incs = n + 1) : p.decLevel.abs = { p.abs with incs := n } := by
  unfold P.decLevel
  have h' : p.levelIncs.length = n + 1 := h
  split
  · rename_i heq; simp [heq] at h'
  · rename_i inc rest heq
    simp only [heq, List.length_cons, Nat.add_right_cancel_iff] at h'
    simp [P.abs, outB, h']

theorem decLevel_wroteSemi (p : P) : p.decLevel.wroteSemi = p.wroteSemi := (Flds.decLevel' p).wsemi

theorem SLa.newlines {p : P} (h : SLa p.abs) (l : Nat) : p.newlines l = p := by
  have h1 : p.firstLine = false := h.first
  have h2 : p.mustNewline = false := h.must
  have h3 : p.o.singleLine = true := h.sl
  unfold P.newlines
  simp [h1, P.wantsNewline, h2, h3]

theorem SLa.wantsNewline {p : P} (h : SLa p.abs) (l : Nat) (e : Bool) : p.wantsNewline l e = false := by
  have h2 : p.mustNewline = false := h.must
  have h3 : p.o.singleLine = true := h.sl
  simp [P.wantsNewline, h2, h3]

theorem abs_wordPartsLoop (wps : List WordPart) (q : P) : (q.wordPartsLoop wps).abs = q.abs := by
  rw [wordPartsLoop_eq]; rfl

theorem abs_word (p : P) (h : SLa p.abs) (w : Word) (hne : w.parts ≠ []) :
    (p.word w).abs = { p.abs with out := p.abs.out ++ wordBytes w.parts, ws := .required } := by
  have h3 : p.o.singleLine = true := h.sl
  -- SingleLine never moves a word to a continuation line
  have e : p.preWord w = p := by
    unfold P.preWord
    split
    · rfl
    · simp [h3]
  rw [word_eq p w hne, e]
  simp [P.abs, outB, render_snoc, Piece.bytes]

/-- the bytes of a run of words after the first one -/
def moreWords (ws : List Word) : Bytes := ws.flatMap (fun w => 32 :: wordBytes w.parts)

theorem abs_wordJoinLoop : ∀ (ws : List Word) (p : P), SLa p.abs → (∀ w ∈ ws, w.parts ≠ []) →
    (p.wordJoinLoop false ws).2 = false ∧
    (ws ≠ [] → (p.wordJoinLoop false ws).1.abs =
      p.abs.wrote (leadA p.abs ++ joinSp (ws.map fun w => wordBytes w.parts))) ∧
    (ws = [] → (p.wordJoinLoop false ws).1 = p)
  | [] => fun p _ _ => by
    unfold P.wordJoinLoop
    exact ⟨rfl, fun h => absurd rfl h, fun _ => rfl⟩
  | w :: rest => fun p h hne => by
    have h3 : p.o.singleLine = true := h.sl
    have hw := hne w (by simp)
    obtain ⟨pos, hpos⟩ := pos_of_parts hw
    unfold P.wordJoinLoop
    rw [hpos]
    simp only [h3, Bool.not_true, Bool.and_false, Bool.false_eq_true, ↓reduceIte]
    obtain ⟨s1, s2, s3, s4, s5, s6, s7⟩ := abs_spacePad' p
    have hsl1 : SLa p.spacePad.abs := ⟨by rw [s3]; exact h.sl, by rw [s3]; exact h.mn, by rw [s4]; exact h.must,
      by rw [s5]; exact h.first⟩
    have hword := abs_word p.spacePad hsl1 w hw
    have hsl2 : SLa (p.spacePad.word w).abs := by
      rw [hword]
      exact ⟨hsl1.sl, hsl1.mn, hsl1.must, hsl1.first⟩
    obtain ⟨r1, r2, r3⟩ := abs_wordJoinLoop rest (p.spacePad.word w) hsl2 (fun x hx => hne x (by simp [hx]))
    refine ⟨r1, fun _ => ?_, fun e => by cases e⟩
    have hw1 : (p.spacePad.word w).abs = p.abs.wrote (leadA p.abs ++ wordBytes w.parts) := by
      rw [hword]
      simp only [Abs.wrote, Abs.mk.injEq]
      exact ⟨by rw [s1, List.append_assoc], trivial, s3, s4, s5, s6, s7⟩
    cases rest with
    | nil =>
      rw [r3 rfl, hw1]
      simp [joinSp]
    | cons w2 rest2 =>
      rw [r2 (by simp), hw1]
      simp [Abs.wrote, leadA, joinSp, List.append_assoc]

theorem abs_wordJoin (p : P) (h : SLa p.abs) (ws : List Word) (hne : ∀ w ∈ ws, w.parts ≠ []) (hws : ws ≠ []) :
    (p.wordJoin ws).abs = p.abs.wrote (leadA p.abs ++ joinSp (ws.map fun w => wordBytes w.parts)) := by
  obtain ⟨r1, r2, _⟩ := abs_wordJoinLoop ws p h hne
  unfold P.wordJoin
  split
  rename_i q any heq
  have e1 : (p.wordJoinLoop false ws).1 = q := by rw [heq]
  have e2 : (p.wordJoinLoop false ws).2 = any := by rw [heq]
  rw [← e2, r1]
  simp only [Bool.false_eq_true, ↓reduceIte]
  rw [← e1]
  exact r2 hws

/-! ## Abstract-state algebra -/

def Abs.pad (a : Abs) : Abs := if a.ws = .required then { a with out := a.out ++ [32], ws := .written } else a

theorem abs_spacePad_eq (p : P) : p.spacePad.abs = p.abs.pad := abs_spacePad p

/-- bytes appended and `wantSpace` set -/
def Abs.put (a : Abs) (bs : Bytes) (ws : WS) : Abs := { a with out := a.out ++ bs, ws := ws }

theorem Abs.wrote_eq_put (a : Abs) (bs : Bytes) : a.wrote bs = a.put bs .required := rfl

theorem Abs.put_put (a : Abs) (x y : Bytes) (w w' : WS) : (a.put x w).put y w' = a.put (x ++ y) w' := by
  simp [Abs.put, List.append_assoc]

theorem Abs.pad_wrote (a : Abs) (bs : Bytes) : a.pad.wrote bs = a.wrote (leadA a ++ bs) := by
  unfold Abs.pad leadA Abs.wrote
  split <;> simp

theorem Abs.wrote_wrote (a : Abs) (x y : Bytes) : (a.wrote x).wrote y = a.wrote (x ++ y) := by
  simp [Abs.wrote, List.append_assoc]

theorem Abs.wrote_nil {a : Abs} (h : a.ws = .required) : a.wrote [] = a := by
  obtain ⟨out, ws, o, must, first, pan, incs⟩ := a
  simp only at h
  subst h
  simp [Abs.wrote]

theorem Abs.lead_wrote (a : Abs) (bs : Bytes) : leadA (a.wrote bs) = [32] := by simp [leadA, Abs.wrote]

theorem leadA_of_ne {a : Abs} (h : a.ws ≠ .required) : leadA a = [] := by
  unfold leadA; rw [if_neg h]

theorem leadA_of_req {a : Abs} (h : a.ws = .required) : leadA a = [32] := by
  unfold leadA; rw [if_pos h]

theorem Abs.wrote_incs (a : Abs) (bs : Bytes) (n : Nat) :
    ({ a with incs := n } : Abs).wrote bs = { (a.wrote bs) with incs := n } := rfl

/-! ## Printer segments under SingleLine -/

theorem abs_stmtPre (p : P) (neg : Bool) :
    (p.stmtPre neg).abs = (if neg then p.abs.wrote (leadA p.abs ++ [33]) else p.abs) := by
  unfold P.stmtPre
  dsimp only
  cases neg with
  | false => rfl
  | true =>
    simp only [↓reduceIte]
    unfold P.spacedString
    have h1 : ({ ((P.spacePad { p with wroteSemi := false }).tok [33]) with wantSpace := .required } : P).abs =
        (P.spacePad { p with wroteSemi := false }).abs.wrote [33] := by
      simp [P.abs, outB, P.tok, render_snoc, Piece.bytes, Abs.wrote]
    rw [h1, abs_spacePad_eq, Abs.pad_wrote]
    rfl

theorem abs_stmtEnd (p : P) (h : SLa p.abs) (hws : p.abs.ws = .required) (semi : Pos) (bg : Bool) :
    (p.stmtEnd semi bg).abs = p.abs.wrote (if bg then [32, 38] else []) ∧ (p.stmtEnd semi bg).wroteSemi = bg := by
  have h3 : p.o.singleLine = true := h.sl
  have h4 : p.o.minify = false := h.mn
  have hi := abs_incLevel p
  have hmin' : p.incLevel.o.minify = false := by rw [incLevel_o]; exact h4
  rw [stmtEnd_eq, h3, Bool.not_true, Bool.and_false]
  cases bg with
  | true =>
    rw [term_bg]
    simp only [hmin', Bool.not_false, ↓reduceIte]
    have hs : p.incLevel.space.abs = { p.incLevel.abs with out := p.incLevel.abs.out ++ [32], ws := .written } := by
      simp [P.space, P.abs, outB, P.gapw, render_snoc, Piece.bytes]
    have h1 : ({ (p.incLevel.space.tok [38]) with wroteSemi := true, wantSpace := .required } : P).abs =
        { (p.abs.wrote [32, 38]) with incs := p.abs.incs + 1 } := by
      have : ({ (p.incLevel.space.tok [38]) with wroteSemi := true, wantSpace := .required } : P).abs =
          p.incLevel.space.abs.wrote [38] := by
        simp [P.abs, outB, P.tok, render_snoc, Piece.bytes, Abs.wrote]
      rw [this, hs, hi]
      simp [Abs.wrote, List.append_assoc]
    constructor
    · rw [abs_decLevel _ p.abs.incs (by rw [h1]), h1]
      rfl
    · exact decLevel_wroteSemi _
  | false =>
    rw [term_none]
    simp only [Bool.false_eq_true, ↓reduceIte]
    have h1 : ({ p.incLevel with wroteSemi := false } : P).abs = { p.abs with incs := p.abs.incs + 1 } := hi
    constructor
    · rw [abs_decLevel _ p.abs.incs (by rw [h1]), h1, Abs.wrote_nil hws]
    · exact decLevel_wroteSemi _

theorem abs_binaryOp (p : P) (h : SLa p.abs) (opPos : Pos) (op : BinOp) (yl : Nat) (yb : Bool) :
    (p.binaryOp opPos op yl yb).1.abs = p.abs.wrote (leadA p.abs ++ op.str) ∧
      (p.binaryOp opPos op yl yb).2 = (false, false) := by
  have h3 : p.o.singleLine = true := h.sl
  have h4 : p.o.minify = false := h.mn
  have hc : (p.o.minify || p.o.singleLine || decide (yl ≤ p.line)) = true := by simp [h3]
  have hst : p.spacedToken op.str = { (p.spacePad.tok op.str) with wantSpace := .required } := by
    unfold P.spacedToken
    rw [if_neg (by simp [h4])]
  unfold P.binaryOp
  rw [if_pos hc]
  refine ⟨?_, rfl⟩
  show ((p.spacedToken op.str).advanceLine yl).abs = _
  rw [hst]
  have h1 : (P.advanceLine ({ (p.spacePad.tok op.str) with wantSpace := .required } : P) yl).abs = p.spacePad.abs.wrote op.str := by
    simp [P.abs, outB, P.tok, P.advanceLine, render_snoc, Piece.bytes, Abs.wrote]
  rw [h1, abs_spacePad_eq, Abs.pad_wrote]

theorem abs_subshellOpen (p : P) (h : SLa p.abs) (lp : Pos) (s : Stmt) (rest : Stmts) :
    (p.subshellOpen lp (.cons s rest)).abs =
      p.abs.put (40 :: (if s.startsWithLparen then [32] else []))
        (if s.startsWithLparen then .written else .notRequired) := by
  have h3 : p.o.singleLine = true := h.sl
  have hm : p.mustNewline = false := h.must
  rw [subshellOpen_eq, abs_spacePad_eq]
  simp only [openBlank, openMust, h3, hm, Bool.not_true, Bool.and_false, Bool.not_false, Bool.and_true, Bool.false_and,
    Bool.or_false]
  cases s.startsWithLparen <;>
    simp [Abs.pad, Abs.put, P.abs, outB, P.tok, render_snoc, Piece.bytes, List.append_assoc, hm]

/-- the blank `closingParen` writes before `)` under SingleLine -/
def closeSp : Stmts → Bytes
  | .cons s .nil => if s.endsWithRparen then [32] else []
  | _ => []

theorem abs_closingParenSpace (p : P) (h : SLa p.abs) (ss : Stmts) (a b : Nat) :
    ∃ ws, ws ≠ WS.required ∧ (p.closingParenSpace ss a b).abs = p.abs.put (closeSp ss) ws := by
  have h3 : p.o.singleLine = true := h.sl
  rw [closingParenSpace_eq2, abs_spacePad_eq, h3]
  have hreq : ({ p with wantSpace := .required } : P).abs.pad = p.abs.put [32] .written := by
    simp [Abs.pad, Abs.put, P.abs, outB]
  have hnr : ({ p with wantSpace := .notRequired } : P).abs.pad = p.abs.put [] .notRequired := by
    simp [Abs.pad, Abs.put, P.abs, outB]
  cases ss with
  | nil => exact ⟨_, by simp, hnr⟩
  | cons s r =>
    cases r with
    | cons _ _ => exact ⟨_, by simp, hnr⟩
    | nil =>
      simp only [Stmts.singleRparen, closeSp, Bool.true_or, Bool.and_true]
      cases s.endsWithRparen
      · exact ⟨_, by simp, hnr⟩
      · exact ⟨_, by simp, hreq⟩

theorem abs_rightParen (p : P) (h : SLa p.abs) (l : Nat) : (p.rightParen l).abs = p.abs.wrote [41] := by
  have h4 : p.o.minify = false := h.mn
  unfold P.rightParen
  simp only [h4, Bool.not_false, ↓reduceIte, h.newlines]
  simp [P.abs, outB, P.tok, render_snoc, Piece.bytes, Abs.wrote]

theorem abs_semiRsrv (p : P) (h : SLa p.abs) (hws : p.abs.ws = .required) (l : Nat) :
    (p.semiRsrv [125] l).abs = p.abs.wrote ((if p.wroteSemi then [] else [59]) ++ [32, 125]) := by
  have h4 : p.o.minify = false := h.mn
  have hws' : p.wantSpace = .required := hws
  unfold P.semiRsrv
  simp only [h.wantsNewline, Bool.false_eq_true, ↓reduceIte]
  cases hsemi : p.wroteSemi with
  | true =>
    simp only [Bool.not_true, Bool.false_eq_true, ↓reduceIte, h4, Bool.not_false]
    have : ({ (p.spacePad.tok [125]) with wantSpace := .required } : P).abs = p.spacePad.abs.wrote [125] := by
      simp [P.abs, outB, P.tok, render_snoc, Piece.bytes, Abs.wrote]
    rw [this, abs_spacePad_eq, Abs.pad_wrote, leadA_of_req hws]
    simp
  | false =>
    simp only [Bool.not_false, ↓reduceIte]
    have ho : (P.tok p [59]).o = p.o := rfl
    simp only [ho, h4, Bool.not_false, ↓reduceIte]
    have : ({ ((p.tok [59]).spacePad.tok [125]) with wantSpace := .required } : P).abs = (p.tok [59]).spacePad.abs.wrote [125] := by
      simp [P.abs, outB, P.tok, render_snoc, Piece.bytes, Abs.wrote]
    rw [this, abs_spacePad_eq, Abs.pad_wrote, abs_tok]
    have hl : leadA ({ p.abs with out := p.abs.out ++ [59] } : Abs) = [32] := leadA_of_req hws
    rw [hl]
    simp [Abs.wrote, List.append_assoc]

theorem stmtSep_true_sl (p : P) (h : SLa p.abs) (l : Nat) : p.stmtSep true l = p.advanceLine l := by
  rw [stmtSep_first_eq, h.newlines, ite_self]

theorem abs_stmtSep_false (p : P) (h : SLa p.abs) (hws : p.abs.ws = .required) (hwn : p.wantNewline = true) (l : Nat) :
    (p.stmtSep false l).abs = p.abs.wrote (if p.wroteSemi then [] else [59]) := by
  have h3 : p.o.singleLine = true := h.sl
  have hq : SLa (p.sepSemi false).abs := by
    unfold P.sepSemi
    split <;> exact ⟨h.sl, h.mn, h.must, h.first⟩
  rw [stmtSep_eq, hq.newlines, ite_self]
  show (p.sepSemi false).abs = _
  unfold P.sepSemi
  cases hsemi : p.wroteSemi with
  | true =>
    simp only [h3, hwn, Bool.not_true, Bool.and_false, Bool.false_eq_true, ↓reduceIte]
    exact (Abs.wrote_nil hws).symm
  | false =>
    simp only [h3, hwn, Bool.not_false, Bool.and_self, ↓reduceIte]
    simp [P.abs, outB, P.tok, render_snoc, Piece.bytes, Abs.wrote]

theorem abs_stmtListWith (q : P) (ss : Stmts) (loop : P → P) :
    (q.stmtListWith ss loop).abs = (loop q).abs ∧ (q.stmtListWith ss loop).wroteSemi = (loop q).wroteSemi := by
  unfold P.stmtListWith
  dsimp only
  (repeat' split) <;> exact ⟨rfl, rfl⟩

/-- `nestedStmts` around a loop that only writes -/
theorem abs_nested (p : P) (ss : Stmts) (closing : Pos) (loop : P → P) (bs : P → Bytes)
    (hloop : ∀ q : P, q.abs = { p.abs with incs := p.abs.incs + 1 } → (loop q).abs = q.abs.wrote (bs q)) :
    ∃ q : P, q.abs = { p.abs with incs := p.abs.incs + 1 } ∧
      (p.nestedStmtsWith ss closing loop).abs = p.abs.wrote (bs q) ∧
      (p.nestedStmtsWith ss closing loop).wroteSemi = (loop q).wroteSemi := by
  unfold P.nestedStmtsWith
  dsimp only
  obtain ⟨q, hq, hqa⟩ : ∃ q : P, q = (if ss.length > 1 then ({ p.incLevel with wantNewline := true } : P)
      else if (decide (closing.line > p.incLevel.line) && decide (ss.length > 0) && decide (ss.endLine < closing.line)) = true
        then { p.incLevel with wantNewline := true } else p.incLevel) ∧ q.abs = { p.abs with incs := p.abs.incs + 1 } := by
    refine ⟨_, rfl, ?_⟩
    split
    · exact abs_incLevel p
    · split
      · exact abs_incLevel p
      · exact abs_incLevel p
  rw [← hq]
  obtain ⟨l1, l2⟩ := abs_stmtListWith q ss loop
  refine ⟨q, hqa, ?_, ?_⟩
  · rw [abs_decLevel _ p.abs.incs (by rw [l1, hloop q hqa, hqa]; rfl), l1, hloop q hqa, hqa]
    rfl
  · rw [← l2]
    exact decLevel_wroteSemi _

/-! ## The norm determines what the printer asks about the shape -/

mutual
theorem Stmt.startsLp_norm : ∀ s : Stmt, s.norm.startsLp = s.startsWithLparen
  | .mk _ _ _ _ c => by
    simp only [Stmt.norm, NStmt.startsLp, Stmt.startsWithLparen]
    exact Cmd.startsLp_norm c
theorem Cmd.startsLp_norm : ∀ c : Cmd, c.norm.startsLp = c.startsWithLparen
  | .call _ => rfl
  | .subshell _ _ _ => rfl
  | .block _ _ _ => rfl
  | .binary _ _ x _ => by
    simp only [Cmd.norm, NCmd.startsLp, Cmd.startsWithLparen]
    exact Stmt.startsLp_norm x
end

mutual
theorem Stmt.endsRp_norm : ∀ s : Stmt, s.norm.endsRp = s.endsWithRparen
  | .mk _ _ _ bg c => by
    simp only [Stmt.norm, NStmt.endsRp, Stmt.endsWithRparen]
    rw [Cmd.endsRp_norm c]
theorem Cmd.endsRp_norm : ∀ c : Cmd, c.norm.endsRp = c.endsWithRparen
  | .call _ => rfl
  | .subshell _ _ _ => rfl
  | .block _ _ _ => rfl
  | .binary _ _ _ y => by
    simp only [Cmd.norm, NCmd.endsRp, Cmd.endsWithRparen]
    exact Stmt.endsRp_norm y
end

theorem Abs.lead_pad (a : Abs) : leadA a.pad = [] := by
  unfold Abs.pad
  split
  · simp [leadA]
  · rename_i h; exact leadA_of_ne h

theorem Abs.pad_sla {a : Abs} (h : SLa a) : SLa a.pad := by
  unfold Abs.pad
  split
  · exact ⟨h.sl, h.mn, h.must, h.first⟩
  · exact h

/-! ## The printer under SingleLine computes `sl` of the norm -/

theorem sl_first (s : Stmt) (rest : Stmts) (q0 : P) (hsl0 : SLa q0.abs)
    (ihs : ∀ p : P, SLa p.abs →
      (p.stmt s).abs = p.abs.wrote (leadA p.abs ++ s.norm.sl) ∧ (p.stmt s).wroteSemi = s.norm.bg)
    (ihl : ∀ p : P, SLa p.abs → p.abs.ws = .required → p.wantNewline = true →
      (p.stmtListLoop false rest).abs = p.abs.wrote (rest.norm.slFrom p.wroteSemi) ∧
        (p.stmtListLoop false rest).wroteSemi = rest.norm.lastBg p.wroteSemi) :
    (P.stmtListLoop { (q0.stmt s) with wantNewline := true } false rest).abs =
        q0.abs.wrote (leadA q0.abs ++ (Stmts.cons s rest).norm.sl) ∧
      (P.stmtListLoop { (q0.stmt s) with wantNewline := true } false rest).wroteSemi =
        (Stmts.cons s rest).norm.lastBg false := by
  obtain ⟨hs, hsw⟩ := ihs q0 hsl0
  obtain ⟨hl, hlw⟩ := ihl ({ (q0.stmt s) with wantNewline := true } : P)
    (by show SLa (q0.stmt s).abs; rw [hs]; exact Abs.wrote_sla hsl0 _)
    (by show (q0.stmt s).abs.ws = .required; rw [hs]; rfl) rfl
  have habs : (({ (q0.stmt s) with wantNewline := true } : P)).abs = (q0.stmt s).abs := rfl
  have hwse : (({ (q0.stmt s) with wantNewline := true } : P)).wroteSemi = s.norm.bg := hsw
  constructor
  · rw [hl, habs, hs, hwse, Abs.wrote_wrote]
    simp [Stmts.norm, NStmts.sl, List.append_assoc]
  · rw [hlw, hwse]
    simp [Stmts.norm, NStmts.lastBg]

theorem sl_nested (s : Stmt) (rest : Stmts) (q : P) (hslq : SLa q.abs)
    (ihs : ∀ p : P, SLa p.abs →
      (p.stmt s).abs = p.abs.wrote (leadA p.abs ++ s.norm.sl) ∧ (p.stmt s).wroteSemi = s.norm.bg)
    (ihl : ∀ p : P, SLa p.abs → p.abs.ws = .required → p.wantNewline = true →
      (p.stmtListLoop false rest).abs = p.abs.wrote (rest.norm.slFrom p.wroteSemi) ∧
        (p.stmtListLoop false rest).wroteSemi = rest.norm.lastBg p.wroteSemi) :
    (q.stmtListLoop true (.cons s rest)).abs = q.abs.wrote (leadA q.abs ++ (Stmts.cons s rest).norm.sl) ∧
      (q.stmtListLoop true (.cons s rest)).wroteSemi = (Stmts.cons s rest).norm.lastBg false := by
  rw [stmtListLoop_cons, stmtSep_true_sl q hslq]
  exact sl_first s rest (q.advanceLine s.pos.line) hslq ihs ihl

mutual
theorem sl_stmt : ∀ (s : Stmt), s.norm.ok = true → ∀ (p : P), SLa p.abs →
    (p.stmt s).abs = p.abs.wrote (leadA p.abs ++ s.norm.sl) ∧ (p.stmt s).wroteSemi = s.norm.bg
  | .mk pos semi neg bg cmd => fun hok p h => by
    have hcok : cmd.norm.ok = true := hok
    rw [stmt_mk]
    have hpre := abs_stmtPre p neg
    have hsl1 : SLa (p.stmtPre neg).abs := by
      rw [hpre]
      split
      · exact Abs.wrote_sla h _
      · exact h
    have hc := sl_cmd cmd hcok (p.stmtPre neg) hsl1
    have hsl2 : SLa ((p.stmtPre neg).command cmd).abs := by rw [hc]; exact Abs.wrote_sla hsl1 _
    have hws2 : ((p.stmtPre neg).command cmd).abs.ws = .required := by rw [hc]; rfl
    obtain ⟨e1, e2⟩ := abs_stmtEnd _ hsl2 hws2 semi bg
    refine ⟨?_, by rw [e2]; rfl⟩
    rw [e1, hc, hpre]
    cases neg <;> cases bg <;>
      simp [Stmt.norm_mk, NStmt.sl_mk, Abs.wrote_wrote, Abs.lead_wrote, List.append_assoc]
theorem sl_cmd : ∀ (c : Cmd), c.norm.ok = true → ∀ (p : P), SLa p.abs →
    (p.command c).abs = p.abs.wrote (leadA p.abs ++ c.norm.sl)
  | .call args => fun hok p h => by
    simp only [Cmd.norm_call, NCmd.ok_call, Bool.and_eq_true, Bool.not_eq_true', List.isEmpty_eq_false_iff, List.all_eq_true,
      List.mem_map, forall_exists_index, and_imp, forall_apply_eq_imp_iff₂, ne_eq, List.map_eq_nil_iff] at hok
    obtain ⟨hane, hall⟩ := hok
    have hparts : ∀ w ∈ args, w.parts ≠ [] := by
      intro w hw
      have := hall w hw
      simp only [nwordOk, Bool.and_eq_true, Bool.not_eq_true', List.isEmpty_eq_false_iff] at this
      exact normParts_ne_nil this.1
    have hbytes : ∀ w ∈ args, wordBytes w.parts = nwordBytes w.norm := by
      intro w hw
      have := hall w hw
      simp only [nwordOk, Bool.and_eq_true] at this
      exact wordBytes_norm w.parts this.2
    cases args with
    | nil => exact absurd rfl hane
    | cons w rest =>
      obtain ⟨pos, hpos⟩ := pos_of_parts (hparts w (by simp))
      rw [command_call p w rest pos hpos]
      -- the state before the words
      obtain ⟨q, hq, hqa⟩ : ∃ q : P, q = (p.advanceLine pos.line).spacePad.incLevel.decLevel ∧ q.abs = p.abs.pad := by
        refine ⟨_, rfl, ?_⟩
        have h1 : (p.advanceLine pos.line).spacePad.abs = p.abs.pad := abs_spacePad_eq (p.advanceLine pos.line)
        have h2 := abs_incLevel (p.advanceLine pos.line).spacePad
        rw [abs_decLevel _ (p.advanceLine pos.line).spacePad.abs.incs (by rw [h2]), h2, h1]
      rw [← hq]
      have hslq : SLa q.abs := by rw [hqa]; exact Abs.pad_sla h
      have hj1 := abs_wordJoin q hslq [w] (fun x hx => by
        simp only [List.mem_singleton] at hx
        rw [hx]; exact hparts w (by simp)) (by simp)
      have hw1 : (q.wordJoin [w]).abs = p.abs.wrote (leadA p.abs ++ wordBytes w.parts) := by
        rw [hj1, hqa, Abs.lead_pad]
        simp [joinSp, Abs.pad_wrote]
      have hnormw : wordBytes w.parts = nwordBytes w.norm := hbytes w (by simp)
      cases rest with
      | nil =>
        rw [wordJoin_nil, hw1, hnormw]
        simp [Cmd.norm_call, NCmd.sl_call, joinSp]
      | cons w2 rest2 =>
        have hsl2 : SLa (q.wordJoin [w]).abs := by rw [hw1]; exact Abs.wrote_sla h _
        have hj2 := abs_wordJoin (q.wordJoin [w]) hsl2 (w2 :: rest2) (fun x hx => hparts x (by simp [hx])) (by simp)
        rw [hj2, hw1, Abs.lead_wrote, Abs.wrote_wrote]
        have hmap : (w2 :: rest2).map (fun w => wordBytes w.parts) = (w2 :: rest2).map (fun w => nwordBytes w.norm) :=
          List.map_congr_left (fun x hx => hbytes x (by simp [hx]))
        rw [hmap, hnormw]
        simp [Cmd.norm_call, NCmd.sl_call, joinSp, List.append_assoc, List.flatMap_cons, Function.comp_def, List.flatMap_map]
  | .binary opPos op x y => fun hok p h => by
    simp only [Cmd.norm_binary, NCmd.ok_binary, Bool.and_eq_true] at hok
    rw [command_binary]
    have h1 : (p.advanceLine x.pos.line).spacePad.abs = p.abs.pad := abs_spacePad_eq (p.advanceLine x.pos.line)
    have hsl1 : SLa (p.advanceLine x.pos.line).spacePad.abs := by rw [h1]; exact Abs.pad_sla h
    obtain ⟨hx, _⟩ := sl_stmt x hok.1 _ hsl1
    have hx' : ((p.advanceLine x.pos.line).spacePad.stmt x).abs = p.abs.wrote (leadA p.abs ++ x.norm.sl) := by
      rw [hx, h1, Abs.lead_pad]
      simp [Abs.pad_wrote]
    have hsl2 : SLa ((p.advanceLine x.pos.line).spacePad.stmt x).abs := by rw [hx']; exact Abs.wrote_sla h _
    obtain ⟨hb, hb2⟩ := abs_binaryOp _ hsl2 opPos op y.pos.line y.isBinaryCmd
    have hsl3 : SLa (((p.advanceLine x.pos.line).spacePad.stmt x).binaryOp opPos op y.pos.line y.isBinaryCmd).1.abs := by
      rw [hb]; exact Abs.wrote_sla hsl2 _
    obtain ⟨hy, _⟩ := sl_stmt y hok.2 _ hsl3
    have e21 : (((p.advanceLine x.pos.line).spacePad.stmt x).binaryOp opPos op y.pos.line y.isBinaryCmd).2.1 = false := by
      rw [hb2]
    have e22 : (((p.advanceLine x.pos.line).spacePad.stmt x).binaryOp opPos op y.pos.line y.isBinaryCmd).2.2 = false := by
      rw [hb2]
    rw [e21, e22, binaryEnd_ff, hy, hb, hx']
    simp [Cmd.norm_binary, NCmd.sl_binary, Abs.wrote_wrote, Abs.lead_wrote, List.append_assoc]
  | .subshell lp rp ss => fun hok p h => by
    cases ss with
    | nil => cases hok
    | cons s rest =>
      simp only [Cmd.norm_subshell, Stmts.norm_cons, NCmd.ok_subshell, Bool.and_eq_true] at hok
      obtain ⟨hsok, hrok⟩ := hok
      rw [command_subshell2]
      unfold P.subClose
      have h1 : (p.advanceLine lp.line).spacePad.abs = p.abs.pad := abs_spacePad_eq (p.advanceLine lp.line)
      have hsl1 : SLa (p.advanceLine lp.line).spacePad.abs := by rw [h1]; exact Abs.pad_sla h
      have h2 := abs_subshellOpen _ hsl1 lp s rest
      obtain ⟨q1, hq1⟩ : ∃ q1, q1 = (p.advanceLine lp.line).spacePad.subshellOpen lp (.cons s rest) := ⟨_, rfl⟩
      rw [← hq1] at h2 ⊢
      have hws1 : q1.abs.ws ≠ .required := by
        rw [h2]
        show (if s.startsWithLparen = true then WS.written else WS.notRequired) ≠ .required
        split <;> simp
      have hsl2 : SLa q1.abs := by rw [h2]; exact ⟨hsl1.sl, hsl1.mn, hsl1.must, hsl1.first⟩
      obtain ⟨q, hqa, hn1, _⟩ := abs_nested q1 (.cons s rest) rp (fun q => q.stmtListLoop true (.cons s rest))
        (fun q => leadA q.abs ++ (Stmts.cons s rest).norm.sl)
        (fun q hq => (sl_nested s rest q (by rw [hq]; exact ⟨hsl2.sl, hsl2.mn, hsl2.must, hsl2.first⟩)
          (sl_stmt s hsok) (sl_loop rest hrok)).1)
      -- no blank is pending after `(` and its layout
      rw [leadA_of_ne (by rw [hqa]; exact hws1), List.nil_append] at hn1
      obtain ⟨q2, hq2⟩ : ∃ q2, q2 = q1.nestedStmtsWith (.cons s rest) rp (fun q => q.stmtListLoop true (.cons s rest)) := ⟨_, rfl⟩
      rw [← hq2] at hn1 ⊢
      have hsl4 : SLa q2.abs := by rw [hn1]; exact Abs.wrote_sla hsl2 _
      obtain ⟨ws2, _, h3⟩ := abs_closingParenSpace q2 hsl4 (.cons s rest) lp.line rp.line
      have hsl5 : SLa (q2.closingParenSpace (.cons s rest) lp.line rp.line).abs := by
        rw [h3]; exact ⟨hsl4.sl, hsl4.mn, hsl4.must, hsl4.first⟩
      rw [abs_rightParen _ hsl5, h3, hn1, h2, h1]
      simp only [Abs.wrote_eq_put, Abs.put_put]
      rw [← Abs.wrote_eq_put, ← Abs.wrote_eq_put, Abs.pad_wrote]
      congr 2
      cases rest <;>
        simp [Cmd.norm_subshell, Stmts.norm_cons, Stmts.norm_nil, NCmd.sl_subshell, closeSp, Stmt.startsLp_norm, Stmt.endsRp_norm]
  | .block lb rb ss => fun hok p h => by
    cases ss with
    | nil => cases hok
    | cons s rest =>
      simp only [Cmd.norm_block, Stmts.norm_cons, NCmd.ok_block, Bool.and_eq_true] at hok
      obtain ⟨hsok, hrok⟩ := hok
      have h4 : p.o.minify = false := h.mn
      unfold P.command
      dsimp only
      have h1 : (p.advanceLine lb.line).spacePad.abs = p.abs.pad := abs_spacePad_eq (p.advanceLine lb.line)
      obtain ⟨q1, hq1, h2⟩ : ∃ q1 : P, q1 = { ((p.advanceLine lb.line).spacePad.tok [123]) with
          wroteSemi := true, wantSpace := .required,
          wantNewline := ((p.advanceLine lb.line).spacePad.tok [123]).wantNewline ||
            ((p.advanceLine lb.line).spacePad.tok [123]).o.funcNextLine } ∧
          q1.abs = p.abs.wrote (leadA p.abs ++ [123]) := by
        refine ⟨_, rfl, ?_⟩
        have : ({ ((p.advanceLine lb.line).spacePad.tok [123]) with
            wroteSemi := true, wantSpace := .required,
            wantNewline := ((p.advanceLine lb.line).spacePad.tok [123]).wantNewline ||
              ((p.advanceLine lb.line).spacePad.tok [123]).o.funcNextLine } : P).abs =
            (p.advanceLine lb.line).spacePad.abs.wrote [123] := by
          simp [P.abs, outB, P.tok, render_snoc, Piece.bytes, Abs.wrote]
        rw [this, h1, Abs.pad_wrote]
      rw [← hq1]
      have hsl2 : SLa q1.abs := by rw [h2]; exact Abs.wrote_sla h _
      have hloop : ∀ q : P, q.abs = { q1.abs with incs := q1.abs.incs + 1 } →
          (q.stmtListLoop true (.cons s rest)).abs = q.abs.wrote (leadA q.abs ++ (Stmts.cons s rest).norm.sl) ∧
          (q.stmtListLoop true (.cons s rest)).wroteSemi = (Stmts.cons s rest).norm.lastBg false :=
        fun q hq => sl_nested s rest q (by rw [hq]; exact ⟨hsl2.sl, hsl2.mn, hsl2.must, hsl2.first⟩)
          (sl_stmt s hsok) (sl_loop rest hrok)
      obtain ⟨q, hqa, hn1, hn2⟩ := abs_nested q1 (.cons s rest) rb (fun q => q.stmtListLoop true (.cons s rest))
        (fun q => leadA q.abs ++ (Stmts.cons s rest).norm.sl) (fun q hq => (hloop q hq).1)
      rw [leadA_of_req (by rw [hqa, h2]; rfl)] at hn1
      have hn3 := (hloop q hqa).2
      obtain ⟨q2, hq2⟩ : ∃ q2, q2 = q1.nestedStmtsWith (.cons s rest) rb (fun q => q.stmtListLoop true (.cons s rest)) := ⟨_, rfl⟩
      rw [← hq2] at hn1 hn2 ⊢
      have hsl4 : SLa q2.abs := by rw [hn1]; exact Abs.wrote_sla hsl2 _
      have hmin2 : q2.o.minify = false := hsl4.mn
      simp only [hmin2, Bool.false_and, Bool.false_eq_true, ↓reduceIte]
      rw [abs_semiRsrv q2 hsl4 (by rw [hn1]; rfl), hn1, h2, hn2, hn3]
      simp only [Abs.wrote_wrote, Cmd.norm_block, Stmts.norm_cons, NCmd.sl_block]
      by_cases hb : NStmts.lastBg false (NStmts.cons s.norm rest.norm) = true
      · simp [hb, List.append_assoc]
      · simp [hb, List.append_assoc]
theorem sl_loop : ∀ (ss : Stmts), ss.norm.ok = true → ∀ (p : P), SLa p.abs → p.abs.ws = .required → p.wantNewline = true →
    (p.stmtListLoop false ss).abs = p.abs.wrote (ss.norm.slFrom p.wroteSemi) ∧
      (p.stmtListLoop false ss).wroteSemi = ss.norm.lastBg p.wroteSemi
  | .nil => fun _ p _ hws _ => by
    rw [stmtListLoop_nil]
    exact ⟨(Abs.wrote_nil hws).symm, rfl⟩
  | .cons s rest => fun hok p h hws hwn => by
    simp only [Stmts.norm_cons, NStmts.ok_cons, Bool.and_eq_true] at hok
    obtain ⟨hsok, hrok⟩ := hok
    rw [stmtListLoop_cons]
    have hsep := abs_stmtSep_false p h hws hwn s.pos.line
    have hsl1 : SLa (p.stmtSep false s.pos.line).abs := by rw [hsep]; exact Abs.wrote_sla h _
    obtain ⟨hs, hsw⟩ := sl_stmt s hsok (p.stmtSep false s.pos.line) hsl1
    have hsl3 : SLa (({ ((p.stmtSep false s.pos.line).stmt s) with wantNewline := true } : P)).abs := by
      show SLa ((p.stmtSep false s.pos.line).stmt s).abs
      rw [hs]; exact Abs.wrote_sla hsl1 _
    obtain ⟨hl, hlw⟩ := sl_loop rest hrok ({ ((p.stmtSep false s.pos.line).stmt s) with wantNewline := true } : P) hsl3
      (by show ((p.stmtSep false s.pos.line).stmt s).abs.ws = .required; rw [hs]; rfl) rfl
    have habs : (({ ((p.stmtSep false s.pos.line).stmt s) with wantNewline := true } : P)).abs =
        ((p.stmtSep false s.pos.line).stmt s).abs := rfl
    have hwse : (({ ((p.stmtSep false s.pos.line).stmt s) with wantNewline := true } : P)).wroteSemi = s.norm.bg := hsw
    constructor
    · rw [hl, habs, hs, hwse, hsep, Abs.lead_wrote, Abs.wrote_wrote, Abs.wrote_wrote]
      cases p.wroteSemi <;> simp [Stmts.norm_cons, NStmts.slFrom_cons]
    · rw [hlw, hwse]
      rfl
end

/-! ## The whole file -/

/-- what SingleLine writes for a non-empty file: a function of its norm only -/
def slFile (n : NStmts) : Bytes := n.sl ++ [10]

theorem printFile_singleLine (o : Opts) (hsl : o.singleLine = true) (hmn : o.minify = false) (f : File)
    (hok : f.norm.ok = true) (hne : f.stmts ≠ .nil) : printFile o f = .ok (slFile f.norm) := by
  obtain ⟨ss⟩ := f
  simp only at hne
  cases ss with
  | nil => exact absurd rfl hne
  | cons s rest =>
    simp only [File.norm, Stmts.norm, NStmts.ok, Bool.and_eq_true] at hok
    obtain ⟨hsok, hrok⟩ := hok
    have href : refuse o = false := by simp [refuse, hmn]
    unfold printFile
    simp only [href, Bool.false_eq_true, ↓reduceIte]
    -- the state in which the first statement is printed
    obtain ⟨q0, hq0, ha0⟩ : ∃ q0 : P, q0 = (P.init o).stmtSep true s.pos.line ∧
        q0.abs = ⟨[], .written, o, false, false, false, 0⟩ := by
      refine ⟨_, rfl, ?_⟩
      simp [stmtSep_first_eq, P.sepCond, P.init, hmn, P.newlines, P.advanceLine, P.abs, outB, render]
    have hsl0 : SLa q0.abs := by rw [ha0]; exact ⟨hsl, hmn, rfl, rfl⟩
    obtain ⟨hl, _⟩ := sl_first s rest q0 hsl0 (sl_stmt s hsok) (sl_loop rest hrok)
    obtain ⟨pf, hpf⟩ : ∃ pf, pf = (P.init o).stmtList (.cons s rest) := ⟨_, rfl⟩
    have hpfa : pf.abs = q0.abs.wrote ((NStmts.cons s.norm rest.norm).sl) := by
      rw [hpf]
      unfold P.stmtList
      rw [(abs_stmtListWith _ _ _).1, stmtListLoop_cons, ← hq0, hl]
      have : leadA q0.abs = [] := by rw [ha0]; rfl
      rw [this]
      rfl
    rw [← hpf]
    have hpan : pf.panicked = false := by
      have := congrArg Abs.pan hpfa
      rw [ha0] at this
      exact this
    have hout : outB pf = (NStmts.cons s.norm rest.norm).sl := by
      have := congrArg Abs.out hpfa
      rw [ha0] at this
      have e : pf.abs.out = outB pf := rfl
      rw [e] at this
      simpa [Abs.wrote] using this
    unfold P.finish
    have hpan2 : (pf.newline 0).panicked = false := hpan
    rw [hpan2]
    simp only [Bool.false_eq_true, ↓reduceIte, Except.ok.injEq]
    have : render (pf.newline 0).out.reverse = outB pf ++ [10] := by
      show render (Piece.gap [10] :: pf.out).reverse = _
      simp [outB, render_snoc, Piece.bytes]
    rw [this, hout]
    rfl

end ShVerif.L4
