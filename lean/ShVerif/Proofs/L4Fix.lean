/-
  L4: the printer is a fixpoint on transcripts of its own output (all of F0, every option set
  without SingleLine; only the executable check `trFileB` is limited to programs without subshells
  and blocks).

  `Tr… p x x'` says that the tree `x'` carries, as line numbers, the lines on which the printer —
  started in state `p` on the tree `x` — actually writes the corresponding tokens (this is what
  parsing the printed text gives).  `R p q` relates the first run (state `p`, arbitrary line
  counter) with the second run (state `q`): same flags and levels, same bytes written, and the
  second run's line counter *is* the current output line.  Every printer segment preserves `R`
  when the second run prints the transcript, hence both runs write the same bytes.  The lines the
  first run reaches (`cur_X`) are those of `Proofs/L4Lines.lean`.
-/
import ShVerif.Proofs.L4Lines
namespace ShVerif.L4

/-- first run `p`, second run `q` -/
structure R (p q : P) : Prop where
  o : q.o = p.o
  wantSpace : q.wantSpace = p.wantSpace
  wantNewline : q.wantNewline = p.wantNewline
  mustNewline : q.mustNewline = p.mustNewline
  wroteSemi : q.wroteSemi = p.wroteSemi
  firstLine : q.firstLine = p.firstLine
  lastLevel : q.lastLevel = p.lastLevel
  level : q.level = p.level
  levelIncs : q.levelIncs = p.levelIncs
  nestedBinary : q.nestedBinary = p.nestedBinary
  panicked : q.panicked = p.panicked
  out : outB q = outB p
  line : q.line = p.cur
  sl : p.o.singleLine = false

theorem R.set_wantSpace {p q : P} (h : R p q) (v : _) : R { p with wantSpace := v } { q with wantSpace := v } :=
  ⟨h.o, rfl, h.wantNewline, h.mustNewline, h.wroteSemi, h.firstLine, h.lastLevel, h.level, h.levelIncs, h.nestedBinary, h.panicked, h.out, h.line, h.sl⟩
theorem R.set_wantNewline {p q : P} (h : R p q) (v : _) : R { p with wantNewline := v } { q with wantNewline := v } :=
  ⟨h.o, h.wantSpace, rfl, h.mustNewline, h.wroteSemi, h.firstLine, h.lastLevel, h.level, h.levelIncs, h.nestedBinary, h.panicked, h.out, h.line, h.sl⟩
theorem R.set_mustNewline {p q : P} (h : R p q) (v : _) : R { p with mustNewline := v } { q with mustNewline := v } :=
  ⟨h.o, h.wantSpace, h.wantNewline, rfl, h.wroteSemi, h.firstLine, h.lastLevel, h.level, h.levelIncs, h.nestedBinary, h.panicked, h.out, h.line, h.sl⟩
theorem R.set_wroteSemi {p q : P} (h : R p q) (v : _) : R { p with wroteSemi := v } { q with wroteSemi := v } :=
  ⟨h.o, h.wantSpace, h.wantNewline, h.mustNewline, rfl, h.firstLine, h.lastLevel, h.level, h.levelIncs, h.nestedBinary, h.panicked, h.out, h.line, h.sl⟩
theorem R.set_firstLine {p q : P} (h : R p q) (v : _) : R { p with firstLine := v } { q with firstLine := v } :=
  ⟨h.o, h.wantSpace, h.wantNewline, h.mustNewline, h.wroteSemi, rfl, h.lastLevel, h.level, h.levelIncs, h.nestedBinary, h.panicked, h.out, h.line, h.sl⟩
theorem R.set_lastLevel {p q : P} (h : R p q) (v : _) : R { p with lastLevel := v } { q with lastLevel := v } :=
  ⟨h.o, h.wantSpace, h.wantNewline, h.mustNewline, h.wroteSemi, h.firstLine, rfl, h.level, h.levelIncs, h.nestedBinary, h.panicked, h.out, h.line, h.sl⟩
theorem R.set_level {p q : P} (h : R p q) (v : _) : R { p with level := v } { q with level := v } :=
  ⟨h.o, h.wantSpace, h.wantNewline, h.mustNewline, h.wroteSemi, h.firstLine, h.lastLevel, rfl, h.levelIncs, h.nestedBinary, h.panicked, h.out, h.line, h.sl⟩
theorem R.set_levelIncs {p q : P} (h : R p q) (v : _) : R { p with levelIncs := v } { q with levelIncs := v } :=
  ⟨h.o, h.wantSpace, h.wantNewline, h.mustNewline, h.wroteSemi, h.firstLine, h.lastLevel, h.level, rfl, h.nestedBinary, h.panicked, h.out, h.line, h.sl⟩
theorem R.set_nestedBinary {p q : P} (h : R p q) (v : _) : R { p with nestedBinary := v } { q with nestedBinary := v } :=
  ⟨h.o, h.wantSpace, h.wantNewline, h.mustNewline, h.wroteSemi, h.firstLine, h.lastLevel, h.level, h.levelIncs, rfl, h.panicked, h.out, h.line, h.sl⟩
theorem R.set_panicked {p q : P} (h : R p q) (v : _) : R { p with panicked := v } { q with panicked := v } :=
  ⟨h.o, h.wantSpace, h.wantNewline, h.mustNewline, h.wroteSemi, h.firstLine, h.lastLevel, h.level, h.levelIncs, h.nestedBinary, rfl, h.out, h.line, h.sl⟩

/-- a piece written by both runs: the second run's counter follows the newlines in it -/
theorem R.push' {p q : P} (h : R p q) (x y : Piece) (hb : y.bytes = x.bytes) (l1 l2 : Nat)
    (hl2 : l2 = q.line + nls x.bytes) :
    R { p with out := x :: p.out, line := l1 } { q with out := y :: q.out, line := l2 } := by
  subst hl2
  refine ⟨h.o, h.wantSpace, h.wantNewline, h.mustNewline, h.wroteSemi, h.firstLine, h.lastLevel, h.level, h.levelIncs, h.nestedBinary, h.panicked, ?_, ?_, h.sl⟩
  · rw [outB_cons q y { q with out := y :: q.out, line := q.line + nls x.bytes } rfl, outB_cons p x { p with out := x :: p.out, line := l1 } rfl, h.out, hb]
  · show q.line + nls x.bytes = 1 + nls (outB { p with out := x :: p.out, line := l1 })
    rw [outB_cons p x { p with out := x :: p.out, line := l1 } rfl, nls_app, h.line]
    rw [P.cur_eq]
    omega

/-- a piece without newline, written by both runs -/
theorem R.push {p q : P} (h : R p q) (x y : Piece) (hb : y.bytes = x.bytes) (hn : nls x.bytes = 0) :
    R { p with out := x :: p.out } { q with out := y :: q.out } :=
  h.push' x y hb p.line q.line (by rw [hn]; rfl)

theorem R.tok {p q : P} (h : R p q) (b : Bytes) (hn : nls b = 0) : R (p.tok b) (q.tok b) := h.push _ _ rfl hn
theorem R.gapw {p q : P} (h : R p q) (b : Bytes) (hn : nls b = 0) : R (p.gapw b) (q.gapw b) := h.push _ _ rfl hn

/-- the first run's line counter is irrelevant -/
theorem R.line1 {p q : P} (h : R p q) (l : Nat) : R { p with line := l } q :=
  ⟨h.o, h.wantSpace, h.wantNewline, h.mustNewline, h.wroteSemi, h.firstLine, h.lastLevel, h.level, h.levelIncs, h.nestedBinary, h.panicked, h.out, h.line, h.sl⟩

theorem R.advance {p q : P} (h : R p q) (l1 l2 : Nat) (hl : l2 ≤ p.cur) : R (p.advanceLine l1) (q.advanceLine l2) := by
  refine ⟨h.o, h.wantSpace, h.wantNewline, h.mustNewline, h.wroteSemi, h.firstLine, h.lastLevel, h.level, h.levelIncs, h.nestedBinary, h.panicked, h.out, ?_, h.sl⟩
  show max q.line l2 = p.cur
  rw [h.line]
  exact Nat.max_eq_left hl

/-! ### `R` along the primitives -/

theorem R.panic {p q : P} (h : R p q) : R p.panic q.panic := h.set_panicked true

theorem R.space {p q : P} (h : R p q) : R p.space q.space :=
  (h.gapw [32] rfl).set_wantSpace .written

theorem R.spacePad {p q : P} (h : R p q) : R p.spacePad q.spacePad := by
  unfold P.spacePad
  rw [h.wantSpace]
  split
  · exact (h.gapw [32] rfl).set_wantSpace .written
  · exact h

theorem R.elim {p q : P} (h : R p q) : ∃ o l, q = { p with out := o, line := l } := by
  refine ⟨q.out, q.line, ?_⟩
  obtain ⟨h1, h2, h3, h4, h5, h6, h7, h8, h9, h10, h11, _, _⟩ := h
  cases p; cases q
  simp only at h1 h2 h3 h4 h5 h6 h7 h8 h9 h10 h11
  subst h1 h2 h3 h4 h5 h6 h7 h8 h9 h10 h11
  rfl

theorem R.indent {p q : P} (h : R p q) : R p.indent q.indent := by
  obtain ⟨o, l, rfl⟩ := h.elim
  have h1 := h.set_lastLevel p.level
  unfold P.indent
  simp only []
  split
  · exact h
  · split
    · exact h1
    · split
      · exact h1.gapw _ (nls_replicate _ 9 (by decide))
      · exact h1.gapw _ (nls_replicate _ 32 (by decide))

theorem R.bslashNewl {p q : P} (h : R p q) : R p.bslashNewl q.bslashNewl := by
  unfold P.bslashNewl
  simp only [h.wantSpace]
  apply R.indent
  split
  · exact h.space.push' (.gap [92, 10]) (.gap [92, 10]) rfl _ _ rfl
  · exact h.push' (.gap [92, 10]) (.gap [92, 10]) rfl _ _ rfl

theorem R.spacedString {p q : P} (h : R p q) (s : Bytes) (hs : nls s = 0) : R (p.spacedString s) (q.spacedString s) :=
  (h.spacePad.tok s hs).set_wantSpace .required

theorem R.spacedToken {p q : P} (h : R p q) (s : Bytes) (hs : nls s = 0) : R (p.spacedToken s) (q.spacedToken s) := by
  unfold P.spacedToken
  rw [h.o]
  split
  · exact (h.tok s hs).set_wantSpace .notRequired
  · exact (h.spacePad.tok s hs).set_wantSpace .required

theorem R.incLevel {p q : P} (h : R p q) : R p.incLevel q.incLevel := by
  obtain ⟨o, l, rfl⟩ := h.elim
  unfold P.incLevel
  simp only []
  split
  · exact (h.set_level (p.level + 1)).set_levelIncs (true :: p.levelIncs)
  · split
    · rename_i rest _
      exact h.set_levelIncs (true :: false :: rest)
    · exact h.set_levelIncs (false :: p.levelIncs)

theorem R.decLevel {p q : P} (h : R p q) : R p.decLevel q.decLevel := by
  obtain ⟨o, l, rfl⟩ := h.elim
  unfold P.decLevel
  simp only []
  split
  · exact h.panic
  · rename_i inc rest _
    exact (h.set_level (if inc then p.level - 1 else p.level)).set_levelIncs rest

/-! ### words -/

/-- `w'` is the word `w` as read back from where `p.word w` writes it -/
structure TrWord (p : P) (w w' : Word) : Prop where
  ne : w.parts ≠ []
  bytes : wordBytes w'.parts = wordBytes w.parts
  first : ∃ wp' r, w'.parts = wp' :: r ∧ wp'.pos.line = (p.preWord w).cur
  last : partsMax w'.parts = (p.preWord w).cur + nls (wordBytes w.parts)

/-- the second run breaks the line before the word iff the first did -/
theorem R.preWord {p q : P} (h : R p q) {w w' : Word} (t : TrWord p w w') : R (p.preWord w) (q.preWord w') := by
  obtain ⟨wp', r', hw', hfirst⟩ := t.first
  obtain ⟨pos, hp⟩ := pos_of_parts t.ne
  rw [preWord_of_pos p hp] at hfirst ⊢
  rw [preWord_of_pos q (show w'.pos? = some wp'.pos by simp [Word.pos?, hw']), h.o]
  simp only [h.sl, Bool.not_false, Bool.true_and, decide_eq_true_eq] at hfirst ⊢
  by_cases c1 : pos.line > p.line
  · rw [if_pos c1] at hfirst ⊢
    rw [cur_bslashNewl] at hfirst
    rw [if_pos (by rw [h.line]; omega)]
    exact h.bslashNewl
  · rw [if_neg c1] at hfirst ⊢
    rw [if_neg (by rw [h.line]; omega)]
    exact h

theorem R.word {p q : P} (h : R p q) {w w' : Word} (t : TrWord p w w') :
    R (p.word w) (q.word w') := by
  have hne' : w'.parts ≠ [] := by obtain ⟨wp', r', hw', _⟩ := t.first; rw [hw']; simp
  have h1 := h.preWord t
  rw [word_eq p w t.ne, word_eq q w' hne']
  refine (h1.push' (.word w.parts) (.word w'.parts) t.bytes _ _ ?_).set_wantSpace .required
  -- the word ends no earlier than the second run's counter stands
  have hle : (q.preWord w').line ≤ partsMax w'.parts := by rw [t.last, h1.line]; omega
  rw [Nat.max_eq_right hle, t.last, h1.line]
  rfl

/-! ### argument lists -/

def TrArgs (p : P) (any : Bool) : List Word → List Word → Prop
  | [], [] => True
  | w :: rest, w' :: rest' =>
    ∃ pos, w.pos? = some pos ∧
      TrWord (p.joinStep any pos).1.spacePad w w' ∧
      TrArgs ((p.joinStep any pos).1.spacePad.word w) (p.joinStep any pos).2 rest rest'
  | _, _ => False

theorem R.joinStep {p q : P} (h : R p q) (any : Bool) (pos pos' : Pos) (w : Word)
    (hp : w.pos? = some pos)
    (hfirst : pos'.line = ((p.joinStep any pos).1.spacePad.preWord w).cur) :
    R (p.joinStep any pos).1 (q.joinStep any pos').1 ∧ (q.joinStep any pos').2 = (p.joinStep any pos).2 := by
  have hsl := h.sl
  have hge := cur_preWord_ge (p.joinStep any pos).1.spacePad w
  rw [cur_spacePad] at hge
  unfold P.joinStep at hfirst hge ⊢
  simp only [h.o, hsl, Bool.not_false, Bool.and_true, decide_eq_true_eq] at hfirst hge ⊢
  by_cases d1 : pos.line > p.line
  · simp only [d1, ↓reduceIte] at hfirst hge ⊢
    rw [cur_bslashNewl] at hge
    cases any
    · simp only [Bool.not_false, ↓reduceIte] at hfirst hge ⊢
      rw [cur_incLevel] at hge
      have d2 : pos'.line > q.line := by rw [h.line, hfirst]; omega
      simp only [d2, ↓reduceIte, and_true]
      exact h.incLevel.bslashNewl
    · simp only [Bool.not_true, Bool.false_eq_true, ↓reduceIte] at hfirst hge ⊢
      have d2 : pos'.line > q.line := by rw [h.line, hfirst]; omega
      simp only [d2, ↓reduceIte, and_true]
      exact h.bslashNewl
  · simp only [d1, ↓reduceIte] at hfirst hge ⊢
    have d2 : ¬ pos'.line > q.line := by
      rw [h.line, hfirst, preWord_of_pos _ hp]
      simp only [spacePad_line, spacePad_o, hsl, d1, Bool.not_false, Bool.true_and, decide_false, Bool.false_eq_true, ↓reduceIte, cur_spacePad]
      omega
    simp only [d2, ↓reduceIte, and_true]
    exact h

theorem R.wordJoinLoop {p q : P} (h : R p q) (any : Bool) (ws ws' : List Word) (t : TrArgs p any ws ws') :
    R (p.wordJoinLoop any ws).1 (q.wordJoinLoop any ws').1 ∧
      (q.wordJoinLoop any ws').2 = (p.wordJoinLoop any ws).2 := by
  induction ws generalizing p q any ws' with
  | nil =>
    cases ws' with
    | nil => exact ⟨h, rfl⟩
    | cons _ _ => simp [TrArgs] at t
  | cons w rest ih =>
    cases ws' with
    | nil => simp [TrArgs] at t
    | cons w' rest' =>
      simp only [TrArgs] at t
      obtain ⟨pos, hp, tw, tr⟩ := t
      obtain ⟨wp', r', hw', hfirst⟩ := tw.first
      have hp' : w'.pos? = some wp'.pos := by simp [Word.pos?, hw']
      rw [wordJoinLoop_cons p any w rest pos hp, wordJoinLoop_cons q any w' rest' wp'.pos hp']
      have key := h.joinStep any pos wp'.pos w hp hfirst
      rw [key.2]
      exact ih (key.1.spacePad.word tw) _ _ tr

/-- `ws'`: the words `ws` as read back from where `p.wordJoin ws` writes them -/
theorem R.wordJoin {p q : P} (h : R p q) (ws ws' : List Word) (t : TrArgs p false ws ws') :
    R (p.wordJoin ws) (q.wordJoin ws') := by
  have k := h.wordJoinLoop false ws ws' t
  unfold P.wordJoin
  simp only []
  rw [k.2]
  split
  · exact k.1.decLevel
  · exact k.1

/-! ### statements -/

theorem R.stmtPre {p q : P} (h : R p q) (neg : Bool) : R (p.stmtPre neg) (q.stmtPre neg) := by
  unfold P.stmtPre
  cases neg
  · exact h.set_wroteSemi false
  · exact (h.set_wroteSemi false).spacedString [33] rfl

/-- the terminator of the re-read statement sits where `p.stmtEnd semi bg` writes it -/
structure TrSemiS (p : P) (semi : Pos) (bg : Bool) (semi' : Pos) : Prop where
  valid : semi'.valid = ((semi.valid && decide (semi.line > p.line)) || bg)
  sepLine : semi.valid = true → semi.line > p.line → semi'.line = p.cur + 1
  bgLine : ¬ (semi.valid = true ∧ semi.line > p.line) → bg = true → semi'.line = p.cur

/-- the weaker form the printer needs: a terminator the first run moved to a continuation line is
    there, one line down; any other terminator of the re-read statement (also the `;` that
    `semiRsrv` writes before `}` and the parser gives to the last statement) is on the current
    line -/
structure TrSemi (p : P) (semi : Pos) (bg : Bool) (semi' : Pos) : Prop where
  sepV : semi.valid = true → semi.line > p.line → semi'.valid = true ∧ semi'.line = p.cur + 1
  nosep : ¬ (semi.valid = true ∧ semi.line > p.line) → semi'.valid = true → semi'.line = p.cur

theorem TrSemiS.weak {p : P} {semi semi' : Pos} {bg : Bool} (t : TrSemiS p semi bg semi') : TrSemi p semi bg semi' := by
  refine ⟨fun hv hl => ⟨?_, t.sepLine hv hl⟩, fun hn hv' => ?_⟩
  · rw [t.valid]; simp [hv, hl]
  · have hv := t.valid
    rw [sep_false hn, hv'] at hv
    have hb : bg = true := by simpa using hv.symm
    exact t.bgLine hn hb

theorem R.term {p q : P} (h : R p q) (sep bg : Bool) : R (p.term sep bg) (q.term sep bg) := by
  cases sep with
  | true =>
    exact ((h.bslashNewl.tok _ (by cases bg <;> rfl)).set_wroteSemi true).set_wantSpace .required
  | false =>
    cases bg with
    | false => exact h.set_wroteSemi false
    | true =>
      rw [term_bg, term_bg, h.o]
      split
      · exact ((h.space.tok [38] rfl).set_wroteSemi true).set_wantSpace .required
      · exact ((h.tok [38] rfl).set_wroteSemi true).set_wantSpace .required

theorem R.stmtEnd {p q : P} (h : R p q) {semi semi' : Pos} {bg : Bool} (t : TrSemi p semi bg semi') :
    R (p.stmtEnd semi bg) (q.stmtEnd semi' bg) := by
  have hl := h.line
  rw [stmtEnd_eq, stmtEnd_eq, h.o, h.sl]
  -- the two runs make the same decision about a continuation line
  have hsep : (semi'.valid && decide (semi'.line > q.line)) = (semi.valid && decide (semi.line > p.line)) := by
    by_cases c : semi.valid = true ∧ semi.line > p.line
    · obtain ⟨hv, hln⟩ := t.sepV c.1 c.2
      simp only [hv, c.1, c.2, Bool.true_and, decide_true, decide_eq_true_eq]
      omega
    · rw [sep_false c]
      cases hv' : semi'.valid
      · rfl
      · have := t.nosep c hv'
        simp only [Bool.true_and, decide_eq_false_iff_not]
        omega
  rw [hsep]
  exact (h.incLevel.term _ bg).decLevel

/-! ### binary commands -/

theorem R.opNewline {p q : P} (h : R p q) (a1 a2 y1 y2 : Nat) (ha : a2 ≤ y2) (hy : y2 = p.cur + 1) :
    R ((((p.advanceLine a1).newline 0).indent).advanceLine y1)
      ((((q.advanceLine a2).newline 0).indent).advanceLine y2) := by
  rw [indent_advanceLine, indent_advanceLine]
  apply R.indent
  have hq := h.line
  exact (((h.push' (.gap [10]) (.gap [10]) rfl (max (max (max p.line a1) 0) y1) (max (max (max q.line a2) 0) y2)
    (by show _ = q.line + 1; omega)).set_wantSpace .written).set_wantNewline false).set_mustNewline false

theorem R.opMulti {p q : P} (h : R p q) (opPos opPos' : Pos) (s : Bytes) (hs : nls s = 0) (yLine yLine' : Nat)
    (hy : yLine' = p.cur + 1) (hop : opPos'.line ≤ yLine') :
    R (p.opMulti opPos s yLine) (q.opMulti opPos' s yLine') := by
  unfold P.opMulti
  rw [h.o]
  split
  · refine (h.bslashNewl.spacedToken s hs).advance _ _ ?_
    rw [cur_spacedToken _ _ hs, cur_bslashNewl, hy]
    exact Nat.le_refl _
  · exact (h.spacedToken s hs).opNewline _ _ _ _ hop (by rw [cur_spacedToken _ _ hs, hy])

theorem R.binaryOp {p q : P} (h : R p q) (opPos opPos' : Pos) (op : BinOp) (yLine yLine' : Nat) (yb : Bool)
    (hy : yLine' = (p.binaryOp opPos op yLine yb).1.cur) (hop : opPos'.line ≤ yLine') :
    R (p.binaryOp opPos op yLine yb).1 (q.binaryOp opPos' op yLine' yb).1 ∧
      (q.binaryOp opPos' op yLine' yb).2 = (p.binaryOp opPos op yLine yb).2 := by
  have hsl := h.sl
  rw [binaryOp_eq] at hy ⊢
  rw [binaryOp_eq]
  simp only [h.o, h.nestedBinary, hsl, Bool.or_false] at hy ⊢
  by_cases c : p.o.minify = true ∨ yLine ≤ p.line
  · have e1 : (p.o.minify || decide (yLine ≤ p.line)) = true := by simpa using c
    simp only [e1, ↓reduceIte] at hy
    rw [cur_advanceLine, cur_spacedToken _ _ (nls_opstr op)] at hy
    have e2 : (p.o.minify || decide (yLine' ≤ q.line)) = true := by rw [h.line, hy]; simp
    simp only [e1, e2, ↓reduceIte, and_true]
    exact (h.spacedToken _ (nls_opstr op)).advance _ _
      (by rw [cur_spacedToken _ _ (nls_opstr op), hy]; exact Nat.le_refl _)
  · have hm : p.o.minify = false := by
      cases hh : p.o.minify
      · rfl
      · exact absurd (Or.inl hh) c
    have hgt : ¬ yLine ≤ p.line := fun hh => c (Or.inr hh)
    have e1 : (p.o.minify || decide (yLine ≤ p.line)) = false := by simp [hm, hgt]
    simp only [e1, Bool.false_eq_true, ↓reduceIte] at hy ⊢
    have hy' : yLine' = p.cur + 1 := by
      rw [hy]
      show ((if (!p.nestedBinary) = true then p.incLevel else p).opMulti opPos op.str yLine).cur = _
      rw [cur_opMulti _ _ _ _ (nls_opstr op)]
      cases p.nestedBinary
      · simp [cur_incLevel]
      · simp
    have e2 : (p.o.minify || decide (yLine' ≤ q.line)) = false := by
      rw [h.line, hy', hm]; simp
    simp only [e2, Bool.false_eq_true, ↓reduceIte, and_true]
    apply R.set_nestedBinary
    cases p.nestedBinary
    · simp only [Bool.not_false, ↓reduceIte]
      exact h.incLevel.opMulti _ _ _ (nls_opstr op) _ _ (by rw [cur_incLevel]; exact hy') hop
    · simp only [Bool.not_true, Bool.false_eq_true, ↓reduceIte]
      exact h.opMulti _ _ _ (nls_opstr op) _ _ hy' hop

theorem R.binaryEnd {p q : P} (h : R p q) (indent multi : Bool) :
    R (p.binaryEnd indent multi) (q.binaryEnd indent multi) := by
  unfold P.binaryEnd
  cases multi
  · exact h
  · cases indent
    · exact h.set_nestedBinary false
    · exact h.decLevel.set_nestedBinary false

/-! ### statement separators -/

/-- The layout decision is idempotent.  The second run's counter is the output line `p.cur`, and it
    is given the line the first run reached after `n` newlines: its two comparisons ask whether
    `n > 0` and `n > 1`, and a count of `0`, `1` or `2` newlines asks for itself again. -/
theorem R.nlCount {p q : P} (h : R p q) (l1 l2 : Nat) (hl : l2 = p.cur + p.nlCount l1) :
    q.nlCount l2 = p.nlCount l1 := by
  show (if _ then _ else _) = _
  rw [h.mustNewline, h.wantNewline, h.o, h.line, hl]
  rcases nlCount_cases p l1 with ⟨e, hm, hw⟩ | e | ⟨e, hm⟩
  · rw [e, hm, hw]; simp
  · rw [e]; simp
  · rw [e, hm]; simp

/-- a newline written by both runs; the second run's counter moves on with it -/
theorem R.nl {p q : P} (h : R p q) (a1 a2 : Nat) (ha : a2 = q.line + 1) :
    R { p.nl with line := a1 } { q.nl with line := a2 } :=
  (((h.push' (.gap [10]) (.gap [10]) rfl a1 a2 ha).set_wantSpace .written).set_wantNewline false).set_mustNewline false

theorem R.nlN {p q : P} (h : R p q) (n l1 l2 : Nat) (hn : n ≤ 2) (hl : l2 = p.cur + n) :
    R (p.nlN n l1) (q.nlN n l2) := by
  have hq := h.line
  match n, hn with
  | 0, _ => exact h
  | 1, _ => exact (h.nl (max p.line l1) (max q.line l2) (by omega)).indent
  | 2, _ =>
    exact ((h.nl p.line (q.line + 1) rfl).push' (.gap [10]) (.gap [10]) rfl (max p.line l1) (max q.line l2)
      (by show _ = q.line + 1 + 1; omega)).indent

/-- `newlines` alone: the second run is told the line on which the next token goes -/
theorem R.newlines {p q : P} (h : R p q) (l1 l2 : Nat) (hl : l2 = (p.newlines l1).cur) :
    R (p.newlines l1) (q.newlines l2) := by
  rw [cur_newlines p l1 h.sl] at hl
  rw [newlines_count p l1 h.sl, newlines_count q l2 (h.o ▸ h.sl), h.firstLine]
  split
  · exact h.set_firstLine false
  · rename_i hf
    rw [if_neg hf] at hl
    rw [h.nlCount l1 l2 hl]
    exact h.nlN _ l1 l2 (nlCount_le p l1) hl

theorem R.newlinesAdv {p q : P} (h : R p q) (l1 l2 : Nat) (hl : l2 = ((p.newlines l1).advanceLine l1).cur) :
    R ((p.newlines l1).advanceLine l1) ((q.newlines l2).advanceLine l2) :=
  (h.newlines l1 l2 hl).advance l1 l2 (Nat.le_of_eq hl)

theorem R.stmtSep {p q : P} (h : R p q) (first : Bool) (l1 l2 : Nat) (hl : l2 = (p.stmtSep first l1).cur) :
    R (p.stmtSep first l1) (q.stmtSep first l2) := by
  have hc : q.sepCond = p.sepCond := by
    unfold P.sepCond
    rw [h.mustNewline, h.o, h.wantSpace]
  rw [stmtSep_eq, sepSemi_multi p first h.sl] at hl
  rw [stmtSep_eq, stmtSep_eq, sepSemi_multi p first h.sl, sepSemi_multi q first (h.o ▸ h.sl), hc]
  split
  · rename_i c
    rw [if_pos c] at hl
    exact h.newlinesAdv l1 l2 hl
  · rename_i c
    rw [if_neg c] at hl
    exact h.advance l1 l2 (Nat.le_of_eq hl)

/-! ### commands, statements, lists -/

/-- the arguments of a call, as read back -/
def TrCall (p : P) : List Word → List Word → Prop
  | w :: rest, w' :: rest' =>
      ∃ pos, w.pos? = some pos ∧
        TrArgs ((p.advanceLine pos.line).spacePad.incLevel.decLevel) false [w] [w'] ∧
        TrArgs (((p.advanceLine pos.line).spacePad.incLevel.decLevel).wordJoin [w]) false rest rest'
  | _, _ => False

mutual
/-- `s'` is the statement `s` as read back from where `p.stmt s` writes it -/
def TrStmt (p : P) : Stmt → Stmt → Prop
  | .mk _ semi neg bg cmd, .mk pos' semi' neg' bg' cmd' =>
      neg' = neg ∧ bg' = bg ∧ pos'.line = p.cur ∧
      TrCmd (p.stmtPre neg) cmd cmd' ∧
      TrSemi ((p.stmtPre neg).command cmd) semi bg semi'
def TrCmd (p : P) : Cmd → Cmd → Prop
  | .call args, c' =>
      match c' with
      | .call args' => TrCall p args args'
      | _ => False
  | .binary opPos op x y, c' =>
      match c' with
      | .binary opPos' op' x' y' =>
        op' = op ∧ TrStmt ((p.advanceLine x.pos.line).spacePad) x x' ∧
        opPos'.line ≤ y'.pos.line ∧
        TrStmt ((((p.advanceLine x.pos.line).spacePad).stmt x).binaryOp opPos op y.pos.line y.isBinaryCmd).1 y y'
      | _ => False
  | .subshell lp rp ss, c' =>
      match c' with
      | .subshell lp' rp' ss' =>
        -- same shape; `(` where it was written
        ss'.length = ss.length ∧ ss'.headLparen = ss.headLparen ∧ ss'.singleRparen = ss.singleRparen ∧
        lp'.line = p.cur ∧
        -- the position comparisons of the printer give the same answers on the re-read tree
        (ss.headLparen = true → (lp'.line != ss'.headLine) = (lp.line != ss.headLine)) ∧
        (ss.length ≤ 1 →
          nestB (((p.advanceLine lp.line).spacePad).subshellOpen lp ss).cur ss' rp' =
            nestB (((p.advanceLine lp.line).spacePad).subshellOpen lp ss).line ss rp) ∧
        (ss.single = true →
          (((((p.advanceLine lp.line).spacePad).subshellOpen lp ss).nestPre ss rp).wantNewline ||
              decide (ss'.headLine > ((((p.advanceLine lp.line).spacePad).subshellOpen lp ss).nestPre ss rp).cur)) =
            ((((p.advanceLine lp.line).spacePad).subshellOpen lp ss).nestPre ss rp).listSep ss) ∧
        (ss.singleRparen = true → (lp'.line == rp'.line) = (lp.line == rp.line)) ∧
        -- the statements, and `)` where it was written
        TrLoop ((((p.advanceLine lp.line).spacePad).subshellOpen lp ss).nestPre ss rp) true ss ss' ∧
        rp'.line = ((p.subClose lp rp ss).rparenPre rp.line).cur
      | _ => False
  | .block lb rb ss, c' =>
      match c' with
      | .block lb' rb' ss' =>
        ss'.length = ss.length ∧ lb'.line = p.cur ∧
        (ss.length ≤ 1 → nestB (p.blkOpen lb).cur ss' rb' = nestB (p.blkOpen lb).line ss rb) ∧
        (ss.single = true →
          (((p.blkOpen lb).nestPre ss rb).wantNewline ||
              decide (ss'.headLine > ((p.blkOpen lb).nestPre ss rb).cur)) =
            ((p.blkOpen lb).nestPre ss rb).listSep ss) ∧
        TrLoop ((p.blkOpen lb).nestPre ss rb) true ss ss' ∧
        (p.blkBody lb rb ss).firstLine = false ∧
        rb'.line = ((p.blkBody lb rb ss).semiPre rb.line).cur
      | _ => False
/-- the statements of a list, as read back from where the `stmtList` loop writes them -/
def TrLoop (p : P) (first : Bool) : Stmts → Stmts → Prop
  | .nil, .nil => True
  | .cons s rest, .cons s' rest' =>
      TrStmt (p.stmtSep first s.pos.line) s s' ∧
      TrLoop { ((p.stmtSep first s.pos.line).stmt s) with wantNewline := true } false rest rest'
  | .nil, .cons _ _ => False
  | .cons _ _, .nil => False
end

theorem TrStmt.pos {p : P} {s s' : Stmt} (t : TrStmt p s s') : s'.pos.line = p.cur := by
  cases s; cases s'
  simp only [TrStmt] at t
  exact t.2.2.1

theorem TrStmt.isBinary {p : P} {s s' : Stmt} (t : TrStmt p s s') : s'.isBinaryCmd = s.isBinaryCmd := by
  cases s with
  | mk _ _ _ _ c =>
    cases s' with
    | mk _ _ _ _ c' =>
      simp only [TrStmt] at t
      have tc := t.2.2.2.1
      cases c <;> cases c' <;> simp [TrCmd] at tc <;> rfl

theorem R.call {p q : P} (h : R p q) (args args' : List Word) (t : TrCall p args args') :
    R (p.command (.call args)) (q.command (.call args')) := by
  cases args with
  | nil => simp [TrCall] at t
  | cons w rest =>
    cases args' with
    | nil => simp [TrCall] at t
    | cons w' rest' =>
      simp only [TrCall] at t
      obtain ⟨pos, hp, t1, t2⟩ := t
      have t1' := t1
      simp only [TrArgs] at t1'
      obtain ⟨pos2, hp2, tw, _⟩ := t1'
      obtain ⟨wp', r', hw', hfirst⟩ := tw.first
      have hp' : w'.pos? = some wp'.pos := by simp [Word.pos?, hw']
      rw [command_call p w rest pos hp, command_call q w' rest' wp'.pos hp']
      have e : pos2 = pos := by rw [hp] at hp2; exact (Option.some.inj hp2).symm
      subst e
      obtain ⟨hj, hpw⟩ := call_first p w pos2 hp
      rw [hj, hpw] at hfirst
      have h0 : R ((p.advanceLine pos2.line).spacePad.incLevel.decLevel)
          ((q.advanceLine wp'.pos.line).spacePad.incLevel.decLevel) :=
        (h.advance _ _ (by rw [hfirst]; exact Nat.le_refl _)).spacePad.incLevel.decLevel
      exact (h0.wordJoin [w] [w'] t1).wordJoin rest rest' t2

/-! ### subshells and blocks -/

theorem single_of_length {ss ss' : Stmts} (h : ss'.length = ss.length) : ss'.single = ss.single := by
  cases ss with
  | nil => cases ss' with
    | nil => rfl
    | cons _ _ => simp [Stmts.length] at h
  | cons s r => cases ss' with
    | nil => simp [Stmts.length] at h
    | cons s' r' =>
      cases r with
      | nil => cases r' with
        | nil => rfl
        | cons _ _ => simp [Stmts.length] at h
      | cons _ _ => cases r' with
        | nil => simp [Stmts.length] at h
        | cons _ _ => rfl

theorem R.rightParen {p q : P} (h : R p q) (l1 l2 : Nat)
    (hl : l2 = (p.rparenPre l1).cur) : R (p.rightParen l1) (q.rightParen l2) := by
  unfold P.rparenPre at hl
  unfold P.rightParen
  simp only []
  rw [h.o]
  apply R.set_wantSpace
  refine R.tok ?_ [41] rfl
  cases hm : p.o.minify
  · simp only [hm, Bool.false_eq_true, ↓reduceIte, Bool.not_false] at hl ⊢
    exact h.newlines l1 l2 hl
  · simp only [Bool.not_true, Bool.false_eq_true, ↓reduceIte]
    exact h

theorem R.closingParenSpace {p q : P} (h : R p q) (ss ss' : Stmts) (ol cl ol' cl' : Nat)
    (hs : ss'.singleRparen = ss.singleRparen) (hag : ss.singleRparen = true → (ol' == cl') = (ol == cl)) :
    R (p.closingParenSpace ss ol cl) (q.closingParenSpace ss' ol' cl') := by
  have hsl := h.sl
  obtain ⟨o, l, rfl⟩ := h.elim
  rw [closingParenSpace_eq2, closingParenSpace_eq2, hs]
  simp only [hsl, Bool.false_or]
  apply R.spacePad
  cases hsr : ss.singleRparen
  · simp only [Bool.false_and, Bool.false_eq_true, ↓reduceIte]
    exact h.set_wantSpace _
  · rw [hag hsr]
    simp only [Bool.true_and]
    split
    · exact h.set_wantSpace _
    · exact h.set_wantSpace _

theorem R.nestPre {p q : P} (h : R p q) (ss ss' : Stmts) (c c' : Pos) (hlen : ss'.length = ss.length)
    (hag : ss.length ≤ 1 → nestB p.cur ss' c' = nestB p.line ss c) :
    R (p.nestPre ss c) (q.nestPre ss' c') := by
  have h1 := h.incLevel
  have l1 : p.incLevel.line = p.line := incLevel_line p
  have c1 : p.incLevel.cur = p.cur := cur_incLevel p
  unfold P.nestPre
  simp only []
  generalize p.incLevel = p1 at h1 l1 c1 ⊢
  generalize q.incLevel = q1 at h1 ⊢
  have hq0 := h1.line
  obtain ⟨o, l, rfl⟩ := h1.elim
  have hq : l = p1.cur := hq0
  simp only [hlen]
  by_cases hgt : ss.length > 1
  · simp only [hgt, ↓reduceIte]
    exact h1.set_wantNewline true
  · simp only [hgt, ↓reduceIte]
    have hh := hag (by omega)
    unfold nestB at hh
    rw [hlen, ← c1, ← hq, ← l1] at hh
    rw [hh]
    split
    · exact h1.set_wantNewline true
    · exact h1

theorem R.stmtListWith {p q : P} (h : R p q) (ss ss' : Stmts) (loop loop' : P → P)
    (hlen : ss'.length = ss.length)
    (hag : ss.single = true → (p.wantNewline || decide (ss'.headLine > p.cur)) = p.listSep ss)
    (hl : R (loop p) (loop' q)) : R (p.stmtListWith ss loop) (q.stmtListWith ss' loop') := by
  rw [stmtListWith_eq2, stmtListWith_eq2, single_of_length hlen]
  cases hs : ss.single
  · simp only [Bool.false_and, Bool.false_eq_true, ↓reduceIte]
    exact hl
  · have e : q.listSep ss' = p.listSep ss := by
      rw [← hag hs]
      have hs' : ss'.single = true := by rw [single_of_length hlen, hs]
      unfold P.listSep
      rw [h.wantNewline, h.line]
      cases ss' with
      | nil => simp [Stmts.single] at hs'
      | cons s' r' => simp [Stmts.headLine]
    rw [e]
    simp only [Bool.true_and]
    split
    · exact hl.set_wantNewline false
    · exact hl

theorem R.nested {p q : P} (h : R p q) (ss ss' : Stmts) (c c' : Pos) (loop loop' : P → P)
    (hlen : ss'.length = ss.length)
    (hagB : ss.length ≤ 1 → nestB p.cur ss' c' = nestB p.line ss c)
    (hagS : ss.single = true →
      ((p.nestPre ss c).wantNewline || decide (ss'.headLine > (p.nestPre ss c).cur)) = (p.nestPre ss c).listSep ss)
    (hl : R (loop (p.nestPre ss c)) (loop' (q.nestPre ss' c'))) :
    R (p.nestedStmtsWith ss c loop) (q.nestedStmtsWith ss' c' loop') := by
  rw [nestedStmtsWith_eq2, nestedStmtsWith_eq2]
  exact ((h.nestPre ss ss' c c' hlen hagB).stmtListWith ss ss' loop loop' hlen hagS hl).decLevel

theorem R.subshellOpen {p q : P} (h : R p q) (lp lp' : Pos) (ss ss' : Stmts) (hlen : ss'.length = ss.length)
    (hhl : ss'.headLparen = ss.headLparen)
    (hag : ss.headLparen = true → (lp'.line != ss'.headLine) = (lp.line != ss.headLine)) :
    R (p.subshellOpen lp ss) (q.subshellOpen lp' ss') := by
  -- the two runs make the same decisions
  have hdec : openBlank q.o lp' ss' = openBlank p.o lp ss ∧ openMust q.o lp' ss' = openMust p.o lp ss := by
    rw [h.o]
    cases ss with
    | nil =>
      cases ss' with
      | nil => exact ⟨rfl, rfl⟩
      | cons _ _ => simp [Stmts.length] at hlen
    | cons s rest =>
      cases ss' with
      | nil => simp [Stmts.length] at hlen
      | cons s' rest' =>
        simp only [Stmts.headLparen, Stmts.headLine] at hhl hag
        have hr : rest'.length = rest.length := by simpa [Stmts.length] using hlen
        simp only [openBlank, openMust, hhl, hr]
        cases hs : s.startsWithLparen
        · exact ⟨rfl, rfl⟩
        · rw [hag hs]; exact ⟨rfl, rfl⟩
  rw [subshellOpen_eq, subshellOpen_eq, hdec.1, hdec.2, h.mustNewline]
  exact (((h.tok [40] rfl).set_wantSpace _).set_mustNewline _).spacePad

theorem R.blkOpen {p q : P} (h : R p q) (lb lb' : Pos) (hl : lb'.line = p.cur) : R (p.blkOpen lb) (q.blkOpen lb') := by
  unfold P.blkOpen
  simp only []
  have h1 := (h.advance lb.line lb'.line (by rw [hl]; exact Nat.le_refl _)).spacePad.tok [123] rfl
  generalize (p.advanceLine lb.line).spacePad.tok [123] = p1 at h1 ⊢
  generalize (q.advanceLine lb'.line).spacePad.tok [123] = q1 at h1 ⊢
  obtain ⟨o, l, rfl⟩ := h1.elim
  exact ((h1.set_wroteSemi true).set_wantSpace .required).set_wantNewline (p1.wantNewline || p1.o.funcNextLine)

theorem R.semiPre {p q : P} (h : R p q) (l1 l2 : Nat) (hf : p.firstLine = false) (hl : l2 = (p.semiPre l1).cur) :
    R (p.semiPre l1) (q.semiPre l2) := by
  have hsl := h.sl
  rw [cur_semiPre p l1 hsl hf] at hl
  unfold P.semiPre
  rw [wantsNewline_count p l1 hsl, wantsNewline_count q l2 (h.o ▸ hsl), h.nlCount l1 l2 hl]
  split
  · exact h.newlines l1 l2 (by rw [cur_newlines p l1 hsl, hf]; exact hl)
  · have hx : R (if (!p.wroteSemi) = true then p.tok [59] else p) (if (!q.wroteSemi) = true then q.tok [59] else q) := by
      rw [h.wroteSemi]
      split
      · exact h.tok [59] rfl
      · exact h
    generalize (if (!p.wroteSemi) = true then p.tok [59] else p) = px at hx ⊢
    generalize (if (!q.wroteSemi) = true then q.tok [59] else q) = qx at hx ⊢
    simp only [hx.o]
    split
    · exact hx.spacePad
    · exact hx

mutual
theorem fix_stmt : ∀ (s s' : Stmt) (p q : P), R p q → TrStmt p s s' → R (p.stmt s) (q.stmt s')
  | .mk pos semi neg bg cmd, .mk pos' semi' neg' bg' cmd' => fun p q h t => by
    simp only [TrStmt] at t
    obtain ⟨rfl, rfl, _, tc, ts⟩ := t
    rw [P.stmt, P.stmt]
    exact (fix_cmd cmd cmd' _ _ (h.stmtPre neg') tc).stmtEnd ts
theorem fix_cmd : ∀ (c c' : Cmd) (p q : P), R p q → TrCmd p c c' → R (p.command c) (q.command c')
  | .call args => fun c' p q h t => by
    cases c' with
    | call args' =>
      simp only [TrCmd] at t
      exact h.call args args' t
    | subshell _ _ _ => simp [TrCmd] at t
    | block _ _ _ => simp [TrCmd] at t
    | binary _ _ _ _ => simp [TrCmd] at t
  | .binary opPos op x y => fun c' p q h t => by
    cases c' with
    | call _ => simp [TrCmd] at t
    | subshell _ _ _ => simp [TrCmd] at t
    | block _ _ _ => simp [TrCmd] at t
    | binary opPos' op' x' y' =>
      simp only [TrCmd] at t
      obtain ⟨rfl, tx, hop, ty⟩ := t
      rw [P.command, P.command]
      have hx0 : x'.pos.line = p.cur := by rw [tx.pos, cur_spacePad]; rfl
      have h0 : R ((p.advanceLine x.pos.line).spacePad) ((q.advanceLine x'.pos.line).spacePad) :=
        (h.advance _ _ (by rw [hx0]; exact Nat.le_refl _)).spacePad
      have h1 := fix_stmt x x' _ _ h0 tx
      have k := h1.binaryOp opPos opPos' op' y.pos.line y'.pos.line y.isBinaryCmd ty.pos hop
      rw [ty.isBinary, k.2]
      exact (fix_stmt y y' _ _ k.1 ty).binaryEnd _ _
  | .subshell lp rp ss => fun c' p q h t => by
    cases c' with
    | call _ => simp [TrCmd] at t
    | block _ _ _ => simp [TrCmd] at t
    | binary _ _ _ _ => simp [TrCmd] at t
    | subshell lp' rp' ss' =>
      simp only [TrCmd] at t
      obtain ⟨hlen, hhl, hsr, hlp, hagO, hagB, hagS, hagE, tl, hrp⟩ := t
      rw [command_subshell2, command_subshell2]
      have h0 : R ((p.advanceLine lp.line).spacePad) ((q.advanceLine lp'.line).spacePad) :=
        (h.advance _ _ (by rw [hlp]; exact Nat.le_refl _)).spacePad
      have h1 := h0.subshellOpen lp lp' ss ss' hlen hhl hagO
      have hloop := fix_loop ss ss' _ _ true (h1.nestPre ss ss' rp rp' hlen hagB) tl
      have h4 := h1.nested ss ss' rp rp' (fun x => x.stmtListLoop true ss) (fun x => x.stmtListLoop true ss')
        hlen hagB hagS hloop
      have h5 := h4.closingParenSpace ss ss' lp.line rp.line lp'.line rp'.line hsr hagE
      exact h5.rightParen rp.line rp'.line hrp
  | .block lb rb ss => fun c' p q h t => by
    cases c' with
    | call _ => simp [TrCmd] at t
    | subshell _ _ _ => simp [TrCmd] at t
    | binary _ _ _ _ => simp [TrCmd] at t
    | block lb' rb' ss' =>
      simp only [TrCmd] at t
      obtain ⟨hlen, hlb, hagB, hagS, tl, hf, hrb⟩ := t
      rw [command_block2, command_block2, semiRsrv_eq2, semiRsrv_eq2]
      have h1 := h.blkOpen lb lb' hlb
      have hloop := fix_loop ss ss' _ _ true (h1.nestPre ss ss' rb rb' hlen hagB) tl
      have h4 := h1.nested ss ss' rb rb' (fun x => x.stmtListLoop true ss) (fun x => x.stmtListLoop true ss')
        hlen hagB hagS hloop
      have h5 : R (p.blkBody lb rb ss) (q.blkBody lb' rb' ss') := by
        unfold P.blkBody
        rw [h4.o, hlen]
        split
        · exact h4.space
        · exact h4
      exact ((h5.semiPre rb.line rb'.line hf hrb).tok [125] rfl).set_wantSpace _
theorem fix_loop : ∀ (ss ss' : Stmts) (p q : P) (first : Bool), R p q → TrLoop p first ss ss' →
    R (p.stmtListLoop first ss) (q.stmtListLoop first ss')
  | .nil, .nil => fun p q first h _ => by
    rw [P.stmtListLoop, P.stmtListLoop]; exact h
  | .nil, .cons _ _ => fun _ _ _ _ t => by simp [TrLoop] at t
  | .cons _ _, .nil => fun _ _ _ _ t => by simp [TrLoop] at t
  | .cons s rest, .cons s' rest' => fun p q first h t => by
    simp only [TrLoop] at t
    obtain ⟨ts, tr⟩ := t
    rw [P.stmtListLoop, P.stmtListLoop]
    have h1 := h.stmtSep first s.pos.line s'.pos.line ts.pos
    have h2 := fix_stmt s s' _ _ h1 ts
    exact fix_loop rest rest' _ _ false (h2.set_wantNewline true) tr
end

/-! ### files -/

/-- the second run may as well start with its line counter on line 1 -/
def P.init1 (o : Opts) : P := { P.init o with line := 1 }

theorem R.init (o : Opts) (hsl : o.singleLine = false) : R (P.init o) (P.init1 o) :=
  ⟨rfl, rfl, rfl, rfl, rfl, rfl, rfl, rfl, rfl, rfl, rfl, rfl, rfl, hsl⟩

theorem init_sep (o : Opts) (l : Nat) (hl : 1 ≤ l) :
    (P.init o).stmtSep true l = (P.init1 o).stmtSep true l := by
  have e : max 0 l = max 1 l := by omega
  cases hm : o.minify <;>
    simp [stmtSep_first_eq, P.sepCond, P.init, P.init1, hm, P.newlines, P.advanceLine, e]

theorem init_loop (o : Opts) (ss : Stmts) (h : ∀ s r, ss = .cons s r → 1 ≤ s.pos.line) :
    ((P.init o).stmtListLoop true ss).out = ((P.init1 o).stmtListLoop true ss).out ∧
    ((P.init o).stmtListLoop true ss).panicked = ((P.init1 o).stmtListLoop true ss).panicked := by
  cases ss with
  | nil => rw [P.stmtListLoop, P.stmtListLoop]; exact ⟨rfl, rfl⟩
  | cons s r =>
    rw [P.stmtListLoop, P.stmtListLoop, init_sep o _ (h s r rfl)]
    exact ⟨rfl, rfl⟩

theorem stmtList_fin (p : P) (ss : Stmts) :
    ((p.stmtList ss).newline 0).finish = ((p.stmtListLoop true ss).newline 0).finish := by
  unfold P.stmtList P.stmtListWith
  simp only []
  split
  · split <;> split <;> rfl
  · rfl

theorem fin_congr (a b : P) (ho : a.out = b.out) (hp : a.panicked = b.panicked) :
    (a.newline 0).finish = (b.newline 0).finish := by
  unfold P.finish P.newline P.advanceLine P.gapw
  simp only [ho, hp]

theorem fin_R {p q : P} (h : R p q) : (q.newline 0).finish = (p.newline 0).finish := by
  have e : render (Piece.gap [10] :: q.out).reverse = render (Piece.gap [10] :: p.out).reverse := by
    have := h.out
    unfold outB at this
    simp only [List.reverse_cons, render_snoc, this]
  unfold P.finish P.newline P.advanceLine P.gapw
  simp only [h.panicked, e]

/-- `f'` carries the lines on which printing `f` puts its tokens -/
def TrFile (o : Opts) (f f' : File) : Prop := TrLoop (P.init o) true f.stmts f'.stmts

/-- **The printer is a fixpoint on transcripts of its own output.** -/
theorem printFile_fix (o : Opts) (f f' : File) (hsl : o.singleLine = false) (t : TrFile o f f') :
    printFile o f' = printFile o f := by
  unfold printFile
  split
  · rfl
  · rw [stmtList_fin, stmtList_fin]
    have h1 : ∀ s r, f'.stmts = .cons s r → 1 ≤ s.pos.line := by
      intro s r hs
      unfold TrFile at t
      rw [hs] at t
      cases hf : f.stmts with
      | nil => rw [hf] at t; simp [TrLoop] at t
      | cons s0 r0 =>
        rw [hf] at t
        simp only [TrLoop] at t
        rw [t.1.pos]
        exact cur_pos _
    have e := init_loop o f'.stmts h1
    rw [fin_congr _ _ e.1 e.2]
    exact fin_R (fix_loop f.stmts f'.stmts _ _ true (R.init o hsl) t)

/-! ### the executable transcript check is sound -/

theorem trWordB_sound {p : P} {w w' : Word} (h : trWordB p w w' = true) : TrWord p w w' := by
  unfold trWordB at h
  simp only [Bool.and_eq_true, beq_iff_eq] at h
  obtain ⟨⟨⟨h1, h2⟩, h3⟩, h4⟩ := h
  refine ⟨?_, h2, ?_, h4⟩
  · intro e; rw [e] at h1; simp at h1
  · cases hw : w'.parts with
    | nil => rw [hw] at h3; simp at h3
    | cons wp' r => rw [hw] at h3; exact ⟨wp', r, rfl, by simpa using h3⟩

theorem trArgsB_sound : ∀ (ws ws' : List Word) (p : P) (any : Bool), trArgsB p any ws ws' = true → TrArgs p any ws ws'
  | [], [] => fun _ _ _ => by simp [TrArgs]
  | [], _ :: _ => fun _ _ h => by simp [trArgsB] at h
  | _ :: _, [] => fun _ _ h => by simp [trArgsB] at h
  | w :: rest, w' :: rest' => fun p any h => by
    rw [trArgsB] at h
    simp only [TrArgs]
    cases hp : w.pos? with
    | none => rw [hp] at h; simp at h
    | some pos =>
      rw [hp] at h
      simp only [Bool.and_eq_true] at h
      exact ⟨pos, rfl, trWordB_sound h.1, trArgsB_sound rest rest' _ _ h.2⟩

theorem trCallB_sound {p : P} {args args' : List Word} (h : trCallB p args args' = true) : TrCall p args args' := by
  cases args with
  | nil => simp [trCallB] at h
  | cons w rest =>
    cases args' with
    | nil => simp [trCallB] at h
    | cons w' rest' =>
      rw [trCallB] at h
      simp only [TrCall]
      cases hp : w.pos? with
      | none => rw [hp] at h; simp at h
      | some pos =>
        rw [hp] at h
        simp only [Bool.and_eq_true] at h
        exact ⟨pos, rfl, trArgsB_sound _ _ _ _ h.1, trArgsB_sound _ _ _ _ h.2⟩

theorem trSemiB_sound {p : P} {semi semi' : Pos} {bg : Bool} (h : trSemiB p semi bg semi' = true) :
    TrSemiS p semi bg semi' := by
  unfold trSemiB at h
  simp only [Bool.and_eq_true, beq_iff_eq] at h
  obtain ⟨h1, h2⟩ := h
  refine ⟨h1, ?_, ?_⟩
  · intro hv hl
    have : semi.valid = true ∧ decide (semi.line > p.line) = true := ⟨hv, by simpa using hl⟩
    rw [if_pos this] at h2
    simpa using h2
  · intro hn hb
    have : ¬ (semi.valid = true ∧ decide (semi.line > p.line) = true) := by
      intro hh
      exact hn ⟨hh.1, by simpa using hh.2⟩
    rw [if_neg this, if_pos hb] at h2
    simpa using h2

mutual
theorem trStmtB_sound : ∀ (s s' : Stmt) (p : P), trStmtB p s s' = true → TrStmt p s s'
  | .mk _ semi neg bg cmd, .mk pos' semi' neg' bg' cmd' => fun p h => by
    rw [trStmtB] at h
    simp only [Bool.and_eq_true, beq_iff_eq] at h
    obtain ⟨⟨⟨⟨h1, h2⟩, h3⟩, h4⟩, h5⟩ := h
    simp only [TrStmt]
    exact ⟨h1, h2, h3, trCmdB_sound cmd cmd' _ h4, (trSemiB_sound h5).weak⟩
theorem trCmdB_sound : ∀ (c c' : Cmd) (p : P), trCmdB p c c' = true → TrCmd p c c'
  | .call args => fun c' p h => by
    cases c' with
    | call args' =>
      rw [trCmdB] at h
      simp only [TrCmd]
      exact trCallB_sound h
    | subshell _ _ _ => simp [trCmdB] at h
    | block _ _ _ => simp [trCmdB] at h
    | binary _ _ _ _ => simp [trCmdB] at h
  | .binary opPos op x y => fun c' p h => by
    cases c' with
    | call _ => simp [trCmdB] at h
    | subshell _ _ _ => simp [trCmdB] at h
    | block _ _ _ => simp [trCmdB] at h
    | binary opPos' op' x' y' =>
      rw [trCmdB] at h
      simp only [Bool.and_eq_true, beq_iff_eq, decide_eq_true_eq] at h
      obtain ⟨⟨⟨h1, h2⟩, h3⟩, h4⟩ := h
      simp only [TrCmd]
      exact ⟨h1, trStmtB_sound x x' _ h2, h3, trStmtB_sound y y' _ h4⟩
  | .subshell _ _ _ => fun _ _ h => by simp [trCmdB] at h
  | .block _ _ _ => fun _ _ h => by simp [trCmdB] at h
end

theorem trLoopB_sound : ∀ (ss ss' : Stmts) (p : P) (first : Bool), trLoopB p first ss ss' = true → TrLoop p first ss ss'
  | .nil, .nil => fun _ _ _ => by simp [TrLoop]
  | .nil, .cons _ _ => fun _ _ h => by simp [trLoopB] at h
  | .cons _ _, .nil => fun _ _ h => by simp [trLoopB] at h
  | .cons s rest, .cons s' rest' => fun p first h => by
    rw [trLoopB] at h
    simp only [Bool.and_eq_true] at h
    simp only [TrLoop]
    exact ⟨trStmtB_sound s s' _ h.1, trLoopB_sound rest rest' _ _ h.2⟩

theorem trFileB_sound {o : Opts} {f f' : File} (h : trFileB o f f' = true) : TrFile o f f' :=
  trLoopB_sound _ _ _ _ h

/-- **The printer is a fixpoint on transcripts of its own output** (executable hypothesis). -/
theorem printFile_transcript (o : Opts) (f f' : File) (hsl : o.singleLine = false) (t : trFileB o f f' = true) :
    printFile o f' = printFile o f :=
  printFile_fix o f f' hsl (trFileB_sound t)

end ShVerif.L4
